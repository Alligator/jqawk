/-
  C05 — operators compute the documented result for every combination of operand kinds.
  The code-shaped value-level functions (`binaryOp`, `Val.compare`, `Val.asNum`, `Val.truthy`)
  are proved equal to the tables of DESIGN.md section 3 (Spec/Ops.lean), for every BINARY
  operator and all operand values; the error conditions and the short-circuit behaviour are
  stated outright.
  The last two sections state that the evaluator applies these tables: `evalBinary`
  hands the values of its two operands to `binaryOp` (every operator tag is covered by exactly one
  of the evaluator-level theorems, `binary_tag_exhaustive`), and the unary operators (`!`, prefix
  `-` `+`, `++` `--`) with their value-level table and the evaluator-level statement.
-/
import Jqawk.Spec.Ops
import Jqawk.Model.Driver
import Jqawk.Lemmas.BlameSites
import Jqawk.Lemmas.ParserOps
import Jqawk.Lemmas.PrattFinite

namespace Jqawk.C05
open Jqawk

/-! ### coercions (§3.1) -/

theorem asNum_eq_spec (v : Val) : v.asNum = Spec.num v := by
  cases v <;> try rfl
  rename_i b; cases b <;> rfl

theorem str_eq_spec (v : Val) : v.str! = Spec.str v := by
  cases v <;> rfl

theorem truthy_eq_spec (v : Val) : v.truthy = Spec.truthy v := by
  cases v <;> try rfl
  rename_i s _; cases s <;> rfl

/-- falsy values are exactly: false, 0 (either sign), "", null, unset, regex -/
theorem falsy_iff (v : Val) :
    v.truthy = false ↔
      (v = .bool false ∨ (∃ x, v = .num x ∧ x.isZero = true) ∨ (∃ sp, v = .str [] sp) ∨
       v.kind = .nil ∨ v.kind = .unknown ∨ v.kind = .regex) := by
  cases v <;> simp [Val.truthy, Val.kind]

/-! ### comparison (§3.5) -/

theorem compare_eq_spec (a b : Val) :
    a.compare b = (match Spec.cmp a b with | some c => .ok c | none => .error "cannot compare") := by
  simp only [Spec.cmp, ← asNum_eq_spec, ← str_eq_spec]
  cases a <;> cases b <;> rfl

def toBinOut (_op : Tag) : Spec.Result → BinOut
  | .value v => .val v
  | .divideByZero => .err false "divide by zero"
  | .cannotCompare => .err false "cannot compare"
  | .notAPattern => .err true "a regex or a string must appear on the right hand side of ~"
  | .invalidPattern => .err true "invalid regex"
  | .unmodelled => .unmodelled "regex outside the modelled subset"

/-- §3.5: the six comparison operators -/
theorem binaryOp_compare (op : Tag) (h : isCompareOp op = true) (a b : Val) :
    binaryOp op a b = toBinOut op (Spec.compareOp op a b) := by
  simp only [binaryOp, h, ↓reduceIte, Spec.compareOp, compare_eq_spec,
    show cmpResult = Spec.relHolds from rfl]
  split
  · rfl
  · cases Spec.cmp a b <;> rfl

/-- §3.6: `+ - * / %` -/
theorem binaryOp_arith (op : Tag) (h : isArithOp op = true) (a b : Val) :
    binaryOp op a b = toBinOut op (Spec.arithOp op a b) := by
  rcases (BlameSites.isArithOp_iff op).mp h with rfl | rfl | rfl | rfl | rfl <;>
    simp only [Spec.arithOp, ← asNum_eq_spec, ← str_eq_spec, apply_ite (toBinOut _)] <;> rfl

/-- §3.6: `~` and `!~` -/
theorem binaryOp_match (op : Tag) (h : op = .tilde ∨ op = .bangTilde) (a b : Val) :
    binaryOp op a b = toBinOut op (Spec.matchOp op a b) := by
  have hc : isCompareOp op = false ∧ isArithOp op = false := by
    rcases h with rfl | rfl <;> exact ⟨rfl, rfl⟩
  simp only [binaryOp, hc.1, hc.2, Bool.false_eq_true, ↓reduceIte, Spec.matchOp, ← str_eq_spec]
  cases b <;> first | rfl | (dsimp only; cases Re.compile _ <;> rfl)

/-! ### the conditions the property states outright -/

/-- `/` is a runtime error exactly when the divisor coerces to zero (either sign) -/
theorem divide_error_iff (a b : Val) :
    (∃ r m, binaryOp .divide a b = .err r m) ↔ b.asNum.isZero = true := by
  show (∃ r m, (if b.asNum.isZero then BinOut.err false "divide by zero" else .val _) = .err r m) ↔ _
  split <;> simp [*]

/-- `%` is a runtime error exactly when the integer-truncated divisor is zero -/
theorem percent_error_iff (a b : Val) :
    (∃ r m, binaryOp .percent a b = .err r m) ↔ b.asNum.toGoInt = 0 := by
  show (∃ r m, (if b.asNum.toGoInt == 0 then BinOut.err false "divide by zero" else .val _) = .err r m) ↔ _
  split <;> simp_all

/-- `+` concatenates string forms as soon as one operand is a string -/
theorem plus_concat (a b : Val) (h : a.kind = .str ∨ b.kind = .str) :
    binaryOp .plus a b = .val (.str (a.str! ++ b.str!) none) := by
  rcases h with h | h <;> simp [binaryOp, isCompareOp, isArithOp, h]

/-- `+` adds numeric coercions when neither operand is a string -/
theorem plus_add (a b : Val) (ha : a.kind ≠ .str) (hb : b.kind ≠ .str) :
    binaryOp .plus a b = .val (.num (F64.add a.asNum b.asNum)) := by
  simp [binaryOp, isCompareOp, isArithOp, ha, hb]

/-- an unset operand: `<` and `>` are true, the other four comparisons false -/
theorem compare_unset (op : Tag) (hop : isCompareOp op = true) (a b : Val)
    (h : a.kind = .unknown ∨ b.kind = .unknown) :
    binaryOp op a b = .val (.bool (op == .lessThan || op == .greaterThan)) := by
  rcases h with h | h <;> simp [binaryOp, hop, h]

/-- comparing an array or object with anything but null/unset is a runtime error -/
theorem compare_container_error (op : Tag) (hop : isCompareOp op = true) (a b : Val)
    (hc : a.kind = .arr ∨ a.kind = .obj ∨ b.kind = .arr ∨ b.kind = .obj)
    (hn : a.kind ≠ .nil ∧ b.kind ≠ .nil ∧ a.kind ≠ .unknown ∧ b.kind ≠ .unknown) :
    ∃ m, binaryOp op a b = .err false m := by
  rw [binaryOp_compare op hop]
  obtain ⟨h1, h2, h3, h4⟩ := hn
  have : Spec.cmp a b = none := by
    unfold Spec.cmp
    split <;> simp_all
  simp [Spec.compareOp, h3, h4, this, toBinOut]

/-- null ranks below everything except null (and unset, which is special) -/
theorem null_below (b : Val) (sp : Option SpecRef) (h1 : b.kind ≠ .nil) (h2 : b.kind ≠ .unknown) :
    binaryOp .lessThan (.nil sp) b = .val (.bool true) ∧
    binaryOp .equalEqual (.nil sp) b = .val (.bool false) := by
  cases b <;> first | exact absurd rfl h1 | exact absurd rfl h2 | exact ⟨rfl, rfl⟩

/-- two strings compare bytewise -/
theorem strings_bytewise (x y : Bytes) (s1 s2 : Option SpecRef) :
    binaryOp .lessThan (.str x s1) (.str y s2) = .val (.bool (Bytes.lt x y)) := by
  simp [binaryOp, isCompareOp, Val.compare, Val.kind, cmpResult, Bytes.lt]
  cases Bytes.cmp x y <;> simp

/-! ### short-circuit evaluation: the right operand contributes nothing when not needed -/

variable (prog : Program)

theorem and_shortcircuit (n : Nat) (l r : Expr) (op : Token) (hop : op.tag = .ampAmp)
    (s s1 : St) (c : CellId) (hl : evalExpr prog n l s = .ok c s1)
    (hf : (s1.heap.get c).truthy = false) :
    evalBinary prog (n + 1) l r op s = newCell (.bool false) s1 := by
  rw [evalBinary_eq, EM.bind_ok hl]
  simp only [binaryTail, hop, readCell_bind, hf, Bool.false_eq_true, ↓reduceIte]

theorem or_shortcircuit (n : Nat) (l r : Expr) (op : Token) (hop : op.tag = .pipePipe)
    (s s1 : St) (c : CellId) (hl : evalExpr prog n l s = .ok c s1)
    (ht : (s1.heap.get c).truthy = true) :
    evalBinary prog (n + 1) l r op s = newCell (.bool true) s1 := by
  rw [evalBinary_eq, EM.bind_ok hl]
  simp only [binaryTail, hop, readCell_bind, ht, ↓reduceIte]

/-- `l is T` with an identifier node `T` on the right: the result is `isType` of the left
    operand's value, and `T` is not evaluated (any other right operand: `is_not_type_name`) -/
theorem is_spec (n : Nat) (l : Expr) (t : Token) (op : Token) (hop : op.tag = .is)
    (s s1 : St) (c : CellId) (hl : evalExpr prog n l s = .ok c s1) :
    evalBinary prog (n + 1) l (.ident t) op s = newCell (.bool (isType (s1.heap.get c) t)) s1 := by
  rw [evalBinary_eq, EM.bind_ok hl]
  simp only [binaryTail, hop, readCell_bind]

example : binaryOp .divide (.num F64.one) (.str b!"abc" none) = .err false "divide by zero" := by decide
example : binaryOp .plus (.num F64.one) (.str b!"1" none) = .val (.str b!"11" none) := by decide +kernel
/-- `binaryOp_compare`, `binaryOp_arith`: the operator classes are inhabited -/
example : isCompareOp .lessEqual = true ∧ isArithOp .percent = true := by decide
/-- `plus_add` (neither operand a string), `percent_error_iff` (0.9 truncates to 0) -/
example : binaryOp .plus (.bool true) (.nil none) = .val (.num F64.one) := by decide +kernel
example : binaryOp .percent (.num F64.one) (.str b!"0.9" none) = .err false "divide by zero" := by
  decide +kernel
/-- `compare_unset`, `compare_container_error`, `null_below` -/
example : binaryOp .lessThan .unknown (.num F64.one) = .val (.bool true)
    ∧ binaryOp .equalEqual .unknown .unknown = .val (.bool false) := by decide +kernel
example : binaryOp .lessThan (.arr 0) (.num F64.one) = .err false "cannot compare" := by decide +kernel
example : binaryOp .lessThan (.nil none) (.bool false) = .val (.bool true) := by decide +kernel
/-- `and_shortcircuit`, `or_shortcircuit`, `is_spec`: a left operand that evaluates to a falsy /
    truthy value -/
example : (match evalExpr Program.empty 1 (.lit ⟨.false_, 0, []⟩) default,
      evalExpr Program.empty 1 (.lit ⟨.true_, 0, []⟩) default with
    | .ok c1 s1, .ok c2 s2 => !(s1.heap.get c1).truthy && (s2.heap.get c2).truthy
    | _, _ => false) = true := by decide +kernel


/-! ### the evaluator applies the binary operator table (§3.3)

  For a node `l op r` evaluated by `evalBinary prog (n + 1) l r op` from state `s`: the left
  operand is evaluated first (from `s`, giving cell `cl` and state `s1`), the right operand next
  (from `s1`, giving `cr` and `s2`), and the operator is applied to the VALUES the two cells hold
  in `s2` (so a left operand that is a variable sees side effects of the right operand).
  `evalExpr prog (n + 2) (.binary l r op) = evalBinary prog (n + 1) l r op`
  (`evalExpr_binary`), so all statements are statements about the node. -/

open BlameSites

/-- what `newCell` does: the new cell's id is the old number of cells, it holds `v`, and nothing
    else in the state changes (one value pushed to `heap.cells`) -/
theorem newCell_spec (v : Val) (s : St) :
    newCell v s =
      .ok s.heap.cells.size { s with heap := { s.heap with cells := s.heap.cells.push v } } := rfl

/-- the new cell holds `v`, every old cell keeps its value -/
theorem newCell_get (v : Val) (s : St) :
    ∃ s', newCell v s = .ok s.heap.cells.size s' ∧ s'.heap.get s.heap.cells.size = v ∧
      (∀ c, c < s.heap.cells.size → s'.heap.get c = s.heap.get c) ∧
      s'.heap.arrs = s.heap.arrs ∧ s'.heap.objs = s.heap.objs ∧ s'.frames = s.frames ∧
      s'.out = s.out ∧ s'.faults = s.faults :=
  ⟨_, rfl, Heap.get_push_new _ _, fun c hc => Heap.get_push_old _ _ c hc, rfl, rfl, rfl, rfl, rfl⟩

/-- what raising a runtime error does: the outcome is `Err.runtime pos msg`, and the state is
    unchanged except for the two ghost fields -/
theorem throwRt_spec (pos : Nat) (msg : String) (s : St) :
    (throwRt pos msg s : Res CellId) =
      .err (.runtime pos msg) { s with faults := s.faults + 1, faultOut := s.out.length } := rfl

/-- C05, §3.3 + §3.5/3.6, code-shaped: **for each of the 13 operators `== != < <= > >=`,
    `+ - * / %`, `~ !~`, `evalBinary` returns exactly what `binaryOp` prescribes for the values
    of the two operand cells**: a fresh cell holding the value (the only state change,
    `newCell_spec`), or a runtime error raised in `s2` — at the right operand's token for the two
    regex errors, at the LEFT operand's token for "cannot compare", at the operator token for
    "divide by zero" — or the model declines (regex outside the modelled subset).
    The state threading `s → s1 → s2` shows the left operand is evaluated before the right. -/
theorem evalBinary_applies_binaryOp (n : Nat) (l r : Expr) (op : Token)
    (hop : isCompareOp op.tag = true ∨ isArithOp op.tag = true ∨ op.tag = .tilde ∨ op.tag = .bangTilde)
    (s s1 s2 : St) (cl cr : CellId)
    (hl : evalExpr prog n l s = .ok cl s1) (hr : evalExpr prog n r s1 = .ok cr s2) :
    evalBinary prog (n + 1) l r op s =
      (match binaryOp op.tag (s2.heap.get cl) (s2.heap.get cr) with
       | .val v => newCell v s2
       | .err atRight m =>
         throwRt (if atRight then r.token.pos
                  else if isCompareOp op.tag then l.token.pos else op.pos) m s2
       | .unmodelled why => throwUnmodelled why s2) := by
  have ht : isTableOp op.tag = true := by rcases hop with h | h | h | h <;> simp [isTableOp, h]
  rw [evalBinary_both prog n l r op (eager_of_table ht) hl hr, applyBinary_table ht]
  rfl

/-- the outcome of a table operator in terms of the documented result (Spec/Ops.lean) -/
def applyResult (l r : Expr) (op : Token) (s2 : St) : Spec.Result → Res CellId
  | .value v => newCell v s2
  | .divideByZero => throwRt op.pos "divide by zero" s2
  | .cannotCompare => throwRt l.token.pos "cannot compare" s2
  | .notAPattern =>
    throwRt r.token.pos "a regex or a string must appear on the right hand side of ~" s2
  | .invalidPattern => throwRt r.token.pos "invalid regex" s2
  | .unmodelled => throwUnmodelled "regex outside the modelled subset" s2

theorem compareOp_range (op : Tag) (a b : Val) :
    (∃ v, Spec.compareOp op a b = .value v) ∨ Spec.compareOp op a b = .cannotCompare := by
  unfold Spec.compareOp
  split
  · exact .inl ⟨_, rfl⟩
  · split
    · exact .inr rfl
    · exact .inl ⟨_, rfl⟩

theorem arithOp_range (op : Tag) (a b : Val) :
    (∃ v, Spec.arithOp op a b = .value v) ∨ Spec.arithOp op a b = .divideByZero := by
  unfold Spec.arithOp
  split
  · split <;> exact .inl ⟨_, rfl⟩
  · exact .inl ⟨_, rfl⟩
  · exact .inl ⟨_, rfl⟩
  · split
    · exact .inr rfl
    · exact .inl ⟨_, rfl⟩
  · dsimp only
    split
    · exact .inr rfl
    · exact .inl ⟨_, rfl⟩

theorem matchOp_range (op : Tag) (a b : Val) :
    (∃ v, Spec.matchOp op a b = .value v) ∨ Spec.matchOp op a b = .notAPattern ∨
    Spec.matchOp op a b = .invalidPattern ∨ Spec.matchOp op a b = .unmodelled := by
  unfold Spec.matchOp
  split
  · split
    · exact .inr (.inr (.inl rfl))
    · exact .inr (.inr (.inr rfl))
    · exact .inl ⟨_, rfl⟩
  · split
    · exact .inr (.inr (.inl rfl))
    · exact .inr (.inr (.inr rfl))
    · exact .inl ⟨_, rfl⟩
  · exact .inr (.inl rfl)

/-- C05, §3.5 at evaluator level: the six comparisons yield the documented boolean in a fresh
    cell, or "cannot compare" at the left operand's token -/
theorem evalBinary_compare (n : Nat) (l r : Expr) (op : Token) (hop : isCompareOp op.tag = true)
    (s s1 s2 : St) (cl cr : CellId)
    (hl : evalExpr prog n l s = .ok cl s1) (hr : evalExpr prog n r s1 = .ok cr s2) :
    evalBinary prog (n + 1) l r op s =
      applyResult l r op s2 (Spec.compareOp op.tag (s2.heap.get cl) (s2.heap.get cr)) := by
  rw [evalBinary_applies_binaryOp prog n l r op (.inl hop) s s1 s2 cl cr hl hr,
    binaryOp_compare op.tag hop]
  rcases compareOp_range op.tag (s2.heap.get cl) (s2.heap.get cr) with ⟨v, h⟩ | h <;>
    simp [h, toBinOut, applyResult, hop]

/-- C05, §3.6 at evaluator level: `+ - * / %` yield the documented value in a fresh cell, or
    "divide by zero" at the operator token -/
theorem evalBinary_arith (n : Nat) (l r : Expr) (op : Token) (hop : isArithOp op.tag = true)
    (s s1 s2 : St) (cl cr : CellId)
    (hl : evalExpr prog n l s = .ok cl s1) (hr : evalExpr prog n r s1 = .ok cr s2) :
    evalBinary prog (n + 1) l r op s =
      applyResult l r op s2 (Spec.arithOp op.tag (s2.heap.get cl) (s2.heap.get cr)) := by
  have hn := isCompareOp_of_isArithOp hop
  rw [evalBinary_applies_binaryOp prog n l r op (.inr (.inl hop)) s s1 s2 cl cr hl hr,
    binaryOp_arith op.tag hop]
  rcases arithOp_range op.tag (s2.heap.get cl) (s2.heap.get cr) with ⟨v, h⟩ | h <;>
    simp [h, toBinOut, applyResult, hn]

/-- C05, §3.6 at evaluator level: `~` and `!~` yield the documented boolean in a fresh cell, or
    one of the two pattern errors at the RIGHT operand's token, or the model declines -/
theorem evalBinary_regex (n : Nat) (l r : Expr) (op : Token)
    (hop : op.tag = .tilde ∨ op.tag = .bangTilde)
    (s s1 s2 : St) (cl cr : CellId)
    (hl : evalExpr prog n l s = .ok cl s1) (hr : evalExpr prog n r s1 = .ok cr s2) :
    evalBinary prog (n + 1) l r op s =
      applyResult l r op s2 (Spec.matchOp op.tag (s2.heap.get cl) (s2.heap.get cr)) := by
  rw [evalBinary_applies_binaryOp prog n l r op (.inr (.inr hop)) s s1 s2 cl cr hl hr,
    binaryOp_match op.tag hop]
  rcases matchOp_range op.tag (s2.heap.get cl) (s2.heap.get cr) with ⟨v, h⟩ | h | h | h <;>
    simp [h, toBinOut, applyResult]

/-- C05, §3.4: `a && b` with `a` truthy evaluates `b` (after `a`) and yields `truthy(b)` as a
    boolean in a fresh cell -/
theorem and_rhs_evaluated (n : Nat) (l r : Expr) (op : Token) (hop : op.tag = .ampAmp)
    (s s1 s2 : St) (cl cr : CellId)
    (hl : evalExpr prog n l s = .ok cl s1) (ht : (s1.heap.get cl).truthy = true)
    (hr : evalExpr prog n r s1 = .ok cr s2) :
    evalBinary prog (n + 1) l r op s = newCell (.bool (s2.heap.get cr).truthy) s2 := by
  rw [evalBinary_eq, EM.bind_ok hl]
  simp only [binaryTail, hop, readCell_bind, ht, ↓reduceIte, EM.bind_ok hr]

/-- C05, §3.4: `a || b` with `a` falsy evaluates `b` (after `a`) and yields `truthy(b)` -/
theorem or_rhs_evaluated (n : Nat) (l r : Expr) (op : Token) (hop : op.tag = .pipePipe)
    (s s1 s2 : St) (cl cr : CellId)
    (hl : evalExpr prog n l s = .ok cl s1) (ht : (s1.heap.get cl).truthy = false)
    (hr : evalExpr prog n r s1 = .ok cr s2) :
    evalBinary prog (n + 1) l r op s = newCell (.bool (s2.heap.get cr).truthy) s2 := by
  rw [evalBinary_eq, EM.bind_ok hl]
  simp only [binaryTail, hop, readCell_bind, ht, Bool.false_eq_true, ↓reduceIte, EM.bind_ok hr]

/-- `is` with anything but an identifier node on the right (the parser never builds this:
    `Expr.nodeOK` / `parse_wf` of Lemmas/ParserWF.lean) is a
    runtime error at the right operand's token; the right operand is not evaluated -/
theorem is_not_type_name (n : Nat) (l r : Expr) (op : Token) (hop : op.tag = .is)
    (hr : ∀ t, r ≠ .ident t) (s s1 : St) (cl : CellId) (hl : evalExpr prog n l s = .ok cl s1) :
    evalBinary prog (n + 1) l r op s = throwRt r.token.pos "expected a type name" s1 := by
  rw [evalBinary_eq, EM.bind_ok hl]
  simp only [binaryTail, hop]

/-- §3.7: `a.b` and `a[b]` evaluate both operands in order and take the member step on the two
    cells (what that yields is C09's subject) -/
theorem member_applies (n : Nat) (l r : Expr) (op : Token)
    (hop : op.tag = .dot ∨ op.tag = .lsquare) (s s1 s2 : St) (cl cr : CellId)
    (hl : evalExpr prog n l s = .ok cl s1) (hr : evalExpr prog n r s1 = .ok cr s2) :
    evalBinary prog (n + 1) l r op s = memberStep l.token.pos cl cr s2 := by
  rw [evalBinary_both prog n l r op (eager_of_member hop) hl hr, applyBinary_member hop]

/-- `a = b` evaluates both operands in order (left first!) and assigns the right cell's value
    to the left cell (C09's subject) -/
theorem assign_applies (n : Nat) (l r : Expr) (op : Token) (hop : op.tag = .equal)
    (s s1 s2 : St) (cl cr : CellId)
    (hl : evalExpr prog n l s = .ok cl s1) (hr : evalExpr prog n r s1 = .ok cr s2) :
    evalBinary prog (n + 1) l r op s = evalAssignment l.token.pos cl cr s2 := by
  rw [evalBinary_both prog n l r op (eager_of_assign hop) hl hr, applyBinary_assign hop]

/-- any other operator token in a binary node: both operands are evaluated, then "unknown
    operator" at the operator token (the parser never builds such a node, see
    `table_binary_tags_covered`) -/
theorem unknown_binary_operator (n : Nat) (l r : Expr) (op : Token)
    (hop : isBinaryTag op.tag = false) (s s1 s2 : St) (cl cr : CellId)
    (hl : evalExpr prog n l s = .ok cl s1) (hr : evalExpr prog n r s1 = .ok cr s2) :
    evalBinary prog (n + 1) l r op s = throwRt op.pos "unknown operator" s2 := by
  rw [evalBinary_both prog n l r op (eager_of_unknown hop) hl hr, applyBinary_unknown hop]

/-- §3.3: a runtime error (or any other abnormal end) of the left operand is the result, whatever
    the operator; the right operand is not evaluated -/
theorem left_operand_error (n : Nat) (l r : Expr) (op : Token) (s s1 : St) (e : Err)
    (hl : evalExpr prog n l s = .err e s1) : evalBinary prog (n + 1) l r op s = .err e s1 := by
  rw [evalBinary_eq, EM.bind_err hl]

/-- §3.3: an abnormal end of the right operand is the result too, for every operator that evaluates
    it unconditionally (all but `&&`, `||`, `is`); the operator is not applied -/
theorem right_operand_error (n : Nat) (l r : Expr) (op : Token)
    (hop : op.tag ≠ .ampAmp ∧ op.tag ≠ .pipePipe ∧ op.tag ≠ .is) (s s1 s2 : St) (cl : CellId)
    (e : Err) (hl : evalExpr prog n l s = .ok cl s1) (hr : evalExpr prog n r s1 = .err e s2) :
    evalBinary prog (n + 1) l r op s = .err e s2 := by
  rw [evalBinary_eager prog n l r op hop, EM.bind_ok hl, EM.bind_err hr]

/-- the node dispatch: a binary / unary node is evaluated by `evalBinary` / `evalUnary` with one
    unit of fuel less -/
theorem node_dispatch (n : Nat) (l r e : Expr) (op : Token) (p : Bool) :
    evalExpr prog (n + 1) (.binary l r op) = evalBinary prog n l r op ∧
    evalExpr prog (n + 1) (.unary e op p) = evalUnary prog n e op p :=
  ⟨evalExpr_binary prog n l r op, evalExpr_unary prog n e op p⟩

/-- **the case split is exhaustive**: every `Tag` falls under exactly the hypotheses of one of
    `and_shortcircuit`/`and_rhs_evaluated`, `or_shortcircuit`/`or_rhs_evaluated`,
    `is_spec`/`is_not_type_name`, `member_applies`, `assign_applies`, `evalBinary_compare`,
    `evalBinary_arith`, `evalBinary_regex`, `unknown_binary_operator` -/
theorem binary_tag_exhaustive (t : Tag) :
    t = .ampAmp ∨ t = .pipePipe ∨ t = .is ∨ (t = .dot ∨ t = .lsquare) ∨ t = .equal ∨
    isCompareOp t = true ∨ isArithOp t = true ∨ (t = .tilde ∨ t = .bangTilde) ∨
    isBinaryTag t = false := by
  revert t; exact C06.forall_tag (by decide +kernel)

/-- the classes of `binary_tag_exhaustive` are disjoint -/
theorem binary_tag_disjoint (t : Tag) :
    ((t == .ampAmp).toNat + (t == .pipePipe).toNat + (t == .is).toNat +
      (t == .dot || t == .lsquare).toNat + (t == .equal).toNat + (isCompareOp t).toNat +
      (isArithOp t).toNat + (t == .tilde || t == .bangTilde).toNat + (!isBinaryTag t).toNat) = 1 := by
  revert t; exact C06.forall_tag (by decide +kernel)

/-- the operators the rule table of src/parser.go parses as infix `binary` are the 13 table
    operators and `&&`, `||`; `member`, `computedMember`, `is`, `assign` nodes get `.`, `[`, `is`
    and `=` (compound assignments are rewritten to `=` and an arithmetic node).  So no node built
    by the parser reaches `unknown_binary_operator`. -/
theorem table_binary_tags_covered :
    ∀ p ∈ expectedRuleTable, p.2.inf = some .binary →
      isTableOp p.1 = true ∨ p.1 = .ampAmp ∨ p.1 = .pipePipe := by
  decide

/-- **the parser only builds operator nodes the evaluator knows**: in a program parsed with the
    rule table of src/parser.go, every binary node (at any depth: rule patterns, rule bodies,
    function bodies, match arms) carries an operator of `isBinaryTag` — so one of the eight
    non-error classes of `binary_tag_exhaustive` — and every unary node one of `! + - ++ --`
    (compound assignments are rewritten to `=` and an arithmetic node).  Hence
    `unknown_binary_operator` / `unknown_unary_operator` never apply to parsed text.
    (Proved for every rule table satisfying `TblOps`: `parseProgramSrc_ops`.) -/
theorem parsed_operators_known (src : Bytes) (p : Program)
    (h : parseProgramSrc expectedRuleTable src = .ok p) :
    ∀ x ∈ p.subExprs,
      (∀ l r op, x = .binary l r op → isBinaryTag op.tag = true) ∧
      (∀ e op q, x = .unary e op q → isUnaryTag op.tag = true) := by
  intro x hx
  have := Program.opKnown_of_opsB p (parse_ops src p h) x hx
  exact ⟨fun l r op he => by subst he; exact this, fun e op q he => by subst he; exact this⟩

/-- the same for a parsed `-r` selector expression -/
theorem parsed_selector_operators_known (sel : Bytes) (e : Expr)
    (h : parseExpressionSrc expectedRuleTable sel = .ok e) :
    ∀ x ∈ e.subs,
      (∀ l r op, x = .binary l r op → isBinaryTag op.tag = true) ∧
      (∀ e' op q, x = .unary e' op q → isUnaryTag op.tag = true) := by
  intro x hx
  have := Expr.opKnown_of_opsB e (parseExpr_ops sel e h) x hx
  exact ⟨fun l r op he => by subst he; exact this, fun e' op q he => by subst he; exact this⟩

/-- non-vacuity: a program that parses, with a compound assignment, a postfix and a prefix
    operator, `is`, member access and a regex match among its 21 expression nodes -/
example : (match parseProgramSrc expectedRuleTable b!"$.a ~ /x/ { n += -$.b[0]; n++; print !(n is number) }" with
    | .ok p => p.subExprs.length == 21 | _ => false) = true := by decide +kernel

/-- non-vacuity of `evalBinary_applies_binaryOp` and its three readings: `1 / 0` (error at the
    operator token, offset 7), `[] < 1` (error at the left operand's token, offset 3), `1 ~ 2`
    (error at the right operand's token, offset 9), `1 + 2` (a fresh cell holding 3); both operand
    evaluations succeed in each -/
example : (match evalExpr Program.empty 1 (.lit ⟨.num, 5, b!"1"⟩) default with
    | .ok cl s1 => (match evalExpr Program.empty 1 (.lit ⟨.num, 9, b!"0"⟩) s1 with
      | .ok cr s2 => cl == 0 && cr == 1 && s2.heap.get cr == .num F64.zero | _ => false)
    | _ => false) = true := by decide +kernel
example : (match evalExpr Program.empty 5
      (.binary (.lit ⟨.num, 5, b!"1"⟩) (.lit ⟨.num, 9, b!"0"⟩) ⟨.divide, 7, []⟩) default with
    | .err (.runtime pos msg) _ => pos == 7 && msg == "divide by zero" | _ => false) = true := by
  decide +kernel
example : (match evalExpr Program.empty 5
      (.binary (.arr ⟨.lsquare, 3, []⟩ []) (.lit ⟨.num, 9, b!"1"⟩) ⟨.lessThan, 7, []⟩) default with
    | .err (.runtime pos msg) _ => pos == 3 && msg == "cannot compare" | _ => false) = true := by
  decide +kernel
example : (match evalExpr Program.empty 5
      (.binary (.lit ⟨.num, 5, b!"1"⟩) (.lit ⟨.num, 9, b!"2"⟩) ⟨.tilde, 7, []⟩) default with
    | .err (.runtime pos _) _ => pos == 9 | _ => false) = true := by
  decide +kernel
example : (match evalExpr Program.empty 5
      (.binary (.lit ⟨.num, 5, b!"1"⟩) (.lit ⟨.num, 9, b!"2"⟩) ⟨.plus, 7, []⟩) default with
    | .ok c s => c == 2 && s.heap.cells.size == 3 &&
        s.heap.get c == .num (F64.add F64.one (F64.add F64.one F64.one))
    | _ => false) = true := by
  decide +kernel
/-- the right operand's side effect is seen by the left operand's VALUE: with `x` unset,
    `x + (x = 5)` is 10, not 5 (Go prints 10) -/
example : (match (evalProgram expectedRuleTable b!"BEGIN { print x + (x = 5) }" [] []).outcome,
      (evalProgram expectedRuleTable b!"BEGIN { print x + (x = 5) }" [] []).out with
    | .ok, out => out == b!"10\n" | _, _ => false) = true := by decide +kernel
/-- `and_rhs_evaluated`, `or_rhs_evaluated`: `1 && 2` is `true`, `0 || ""` is `false` -/
example : (match evalExpr Program.empty 5
      (.binary (.lit ⟨.num, 0, b!"1"⟩) (.lit ⟨.num, 5, b!"2"⟩) ⟨.ampAmp, 2, []⟩) default,
      evalExpr Program.empty 5
      (.binary (.lit ⟨.num, 0, b!"0"⟩) (.lit ⟨.str, 6, b!""⟩) ⟨.pipePipe, 2, []⟩) default with
    | .ok c1 s1, .ok c2 s2 => s1.heap.get c1 == .bool true && s2.heap.get c2 == .bool false
    | _, _ => false) = true := by decide +kernel
/-- `right_operand_error`: `1 + 2x` fails at the right operand (offset 5) -/
example : (match evalExpr Program.empty 5
      (.binary (.lit ⟨.num, 0, b!"1"⟩) (.lit ⟨.num, 5, b!"2x"⟩) ⟨.plus, 3, []⟩) default with
    | .err (.runtime p _) _ => p == 5 | _ => false) = true := by decide +kernel
/-- `is_not_type_name`, `unknown_binary_operator`, `left_operand_error`: hand-built nodes -/
example : (match evalExpr Program.empty 5
      (.binary (.lit ⟨.num, 0, b!"1"⟩) (.lit ⟨.num, 5, b!"2"⟩) ⟨.is, 2, []⟩) default,
      evalExpr Program.empty 5
      (.binary (.lit ⟨.num, 0, b!"1"⟩) (.lit ⟨.num, 5, b!"2"⟩) ⟨.comma, 2, []⟩) default,
      evalExpr Program.empty 5
      (.binary (.lit ⟨.num, 0, b!"1x"⟩) (.lit ⟨.num, 5, b!"2"⟩) ⟨.plus, 3, []⟩) default with
    | .err (.runtime p1 m1) _, .err (.runtime p2 m2) _, .err (.runtime p3 _) _ =>
      p1 == 5 && m1 == "expected a type name" && p2 == 2 && m2 == "unknown operator" && p3 == 0
    | _, _, _ => false) = true := by decide +kernel

/-! ### the unary operators (§3.2) -/

/-- the documented result of `!v`, `+v`, `-v` (DESIGN §3.2) -/
def specUnary (op : Tag) (v : Val) : Val :=
  match op with
  | .bang => .bool (!Spec.truthy v)
  | .plus => .num (Spec.num v)
  | _ => .num (F64.neg (Spec.num v))

/-- C05, §3.2, value level: `unaryOp` — the value `evalUnary` puts into the result cell for `!`,
    prefix `+`, prefix `-` (`evalUnary_applies_unaryOp` below, through this theorem) — is the
    documented table, for every operand value -/
theorem unaryOp_eq_spec (op : Tag) (v : Val) : unaryOp op v = specUnary op v := by
  simp only [unaryOp, specUnary, asNum_eq_spec, truthy_eq_spec]
  rfl

/-- C05, §3.2 row by row, for every operand KIND: `!v` -/
theorem not_table (v : Val) :
    unaryOp .bang v = .bool (match v with
      | .nil _ | .unknown | .regex _ => true            -- null, unset, regex: falsy
      | .arr _ | .obj _ | .fn _ | .native .. => false   -- array, object, function: truthy
      | .bool b => !b
      | .num x => x.isZero                              -- 0 and -0 (NaN is truthy)
      | .str s _ => s.isEmpty) := by
  cases v <;> simp [unaryOp, Val.truthy]

/-- C05, §3.2 row by row, for every operand KIND: `+v` is `num(v)` -/
theorem plus_table (v : Val) :
    unaryOp .plus v = .num (match v with
      | .num x => x
      | .bool b => if b then F64.one else F64.zero
      | .str s _ => (F64.parse s).getD F64.zero          -- numeric strings; 0 otherwise
      | _ => F64.zero) := by                             -- null, unset, regex, array, object, function
  cases v <;> simp [unaryOp, Val.asNum]
  split <;> simp_all

/-- C05, §3.2: `-v` is the negation of `+v` (sign bit flipped: `-null` is `-0`) -/
theorem minus_table (v : Val) :
    unaryOp .minus v = .num (F64.neg (match unaryOp .plus v with | .num x => x | _ => F64.zero)) := by
  simp [unaryOp]

/-- C05, §3.2 at evaluator level: **`!e`, `+e`, `-e` evaluate the operand and return a fresh cell
    holding `unaryOp` of the operand cell's value; nothing else changes** (`newCell_spec`) -/
theorem evalUnary_applies_unaryOp (n : Nat) (e : Expr) (op : Token) (p : Bool)
    (hop : op.tag = .bang ∨ op.tag = .plus ∨ op.tag = .minus) (s s1 : St) (c : CellId)
    (he : evalExpr prog n e s = .ok c s1) :
    evalUnary prog (n + 1) e op p s = newCell (specUnary op.tag (s1.heap.get c)) s1 := by
  rw [← unaryOp_eq_spec, evalUnary_eq, EM.bind_ok he, applyUnary_value hop]

/-- C05, §3.2, `++` / `--` (prefix when `p = false`, postfix when `p = true`), in general: with
    `x = num(v)` of the operand cell's value, a fresh cell holding `x ± 1` is ASSIGNED to the
    operand's cell (`evalAssignment`, at the operator token's position: creation of missing
    members and the errors of assignment are C09's subject); the result is a fresh cell holding
    `x` (postfix) or the value of the cell assigned to (prefix) -/
theorem evalUnary_incdec (n : Nat) (e : Expr) (op : Token) (p : Bool)
    (hop : op.tag = .plusPlus ∨ op.tag = .minusMinus) (s s1 : St) (c : CellId)
    (he : evalExpr prog n e s = .ok c s1) :
    evalUnary prog (n + 1) e op p s =
      (do let nc ← newCell (.num (stepOp op.tag (s1.heap.get c)))
          let assigned ← evalAssignment op.pos c nc
          if p then newCell (.num (s1.heap.get c).asNum)
          else newCell (← readCell assigned) : EM CellId) s1 := by
  rw [evalUnary_eq, EM.bind_ok he, applyUnary_step hop]

/-- `stepOp`: `num(v) + 1` for `++`, `num(v) - 1` for `--` -/
theorem stepOp_spec (v : Val) :
    stepOp .plusPlus v = F64.add (Spec.num v) F64.one ∧
    stepOp .minusMinus v = F64.sub (Spec.num v) F64.one := by
  simp [stepOp, asNum_eq_spec]

/-- C05, §3.2, `++` / `--` on an operand that denotes an EXISTING location (a variable, or a
    member that exists: its cell is allocated and carries no speculative reference): the
    operand's cell is set to the number `num(v) ± 1`, the result is a fresh cell holding
    `num(v)` (postfix) or `num(v) ± 1` (prefix); the only other change is one scratch cell. -/
theorem evalUnary_incdec_existing (n : Nat) (e : Expr) (op : Token) (p : Bool)
    (hop : op.tag = .plusPlus ∨ op.tag = .minusMinus) (s s1 : St) (c : CellId)
    (he : evalExpr prog n e s = .ok c s1) (hlt : c < s1.heap.cells.size)
    (hn : needsCreate (s1.heap.get c) = false) :
    ∃ s', evalUnary prog (n + 1) e op p s = .ok (s1.heap.cells.size + 1) s' ∧
      s'.heap.get c = .num (stepOp op.tag (s1.heap.get c)) ∧
      s'.heap.get (s1.heap.cells.size + 1) =
        .num (if p then (s1.heap.get c).asNum else stepOp op.tag (s1.heap.get c)) ∧
      (∀ c', c' < s1.heap.cells.size → c' ≠ c → s'.heap.get c' = s1.heap.get c') ∧
      s'.heap.cells.size = s1.heap.cells.size + 2 ∧
      s'.heap.arrs = s1.heap.arrs ∧ s'.heap.objs = s1.heap.objs ∧ s'.frames = s1.frames ∧
      s'.out = s1.out ∧ s'.faults = s1.faults := by
  obtain ⟨h1, h2, h3, h4⟩ := incdec_heap s1.heap c hlt (.num (stepOp op.tag (s1.heap.get c)))
    (.num (if p then (s1.heap.get c).asNum else stepOp op.tag (s1.heap.get c)))
  exact ⟨_, evalUnary_step_plain prog n e op p hop s s1 c he hlt hn, h1, h2, h3, h4, rfl, rfl, rfl,
    rfl, rfl⟩

/-- any other operator token in a unary node: the operand is evaluated, then "unknown operator"
    at the operator token (the parser never builds such a node: `parsed_operators_known`) -/
theorem unknown_unary_operator (n : Nat) (e : Expr) (op : Token) (p : Bool)
    (hop : isUnaryTag op.tag = false) (s s1 : St) (c : CellId)
    (he : evalExpr prog n e s = .ok c s1) :
    evalUnary prog (n + 1) e op p s = throwRt op.pos "unknown operator" s1 := by
  rw [evalUnary_eq, EM.bind_ok he, applyUnary_unknown hop]

/-- the case split over unary operator tags is exhaustive -/
theorem unary_tag_exhaustive (t : Tag) :
    (t = .bang ∨ t = .plus ∨ t = .minus) ∨ (t = .plusPlus ∨ t = .minusMinus) ∨
      isUnaryTag t = false := by
  revert t; exact C06.forall_tag (by decide +kernel)

/-- the tags the rule table of src/parser.go parses as prefix `unary` or as `postfixOp` -/
theorem table_unary_tags_covered :
    ∀ p ∈ expectedRuleTable, (p.2.pre = some .unary ∨ p.2.inf = some .postfixOp) →
      isUnaryTag p.1 = true := by
  decide

/-- non-vacuity / instances of the unary tables: every kind -/
example : unaryOp .bang (.nil none) = .bool true ∧ unaryOp .bang .unknown = .bool true ∧
    unaryOp .bang (.regex b!"a") = .bool true ∧ unaryOp .bang (.arr 0) = .bool false ∧
    unaryOp .bang (.obj 0) = .bool false ∧ unaryOp .bang (.fn 0) = .bool false ∧
    unaryOp .bang (.native .json none none) = .bool false ∧
    unaryOp .bang (.str b!"0" none) = .bool false ∧ unaryOp .bang (.str [] none) = .bool true ∧
    unaryOp .bang (.num F64.zero) = .bool true ∧ unaryOp .bang (.bool false) = .bool true := by
  decide +kernel
example : unaryOp .plus (.str b!"1" none) = .num F64.one ∧ unaryOp .plus (.str b!"x" none) = .num F64.zero ∧
    unaryOp .plus (.bool true) = .num F64.one ∧ unaryOp .plus (.arr 3) = .num F64.zero ∧
    unaryOp .minus (.nil none) = .num (F64.neg F64.zero) ∧ F64.neg F64.zero ≠ F64.zero ∧
    (F64.neg F64.zero).format = b!"-0" := by
  decide +kernel
/-- `-"1"` is -1; `!-"1"` is false; an unknown unary operator token -/
example : (match evalExpr Program.empty 5 (.unary (.lit ⟨.str, 2, b!"1"⟩) ⟨.minus, 0, []⟩ false) default with
    | .ok c s => c == 1 && s.heap.get c == .num (F64.neg F64.one) | _ => false) = true := by
  decide +kernel
example : (match evalExpr Program.empty 5 (.unary (.lit ⟨.str, 2, b!"1"⟩) ⟨.comma, 7, []⟩ false) default with
    | .err (.runtime pos msg) _ => pos == 7 && msg == "unknown operator" | _ => false) = true := by
  decide +kernel
/-- `x = 5; y = x++` leaves x = 6, y = 5; `y = ++x` gives 6; `--x` on an unset variable is -1; the
    operand of the first is an existing location (`evalUnary_incdec_existing`) -/
example : (match (evalProgram expectedRuleTable
      b!"BEGIN { x = 5; y = x++; print x, y; z = ++x; print x, z; print --u, u }" [] []).outcome,
      (evalProgram expectedRuleTable
      b!"BEGIN { x = 5; y = x++; print x, y; z = ++x; print x, z; print --u, u }" [] []).out with
    | .ok, out => out == b!"6 5\n7 7\n-1 -1\n" | _, _ => false) = true := by decide +kernel
example : (match getVariable b!"x" { (default : St) with frames := [⟨b!"<root>", []⟩] } with
    | .ok (.ok c) s1 => c < s1.heap.cells.size && !needsCreate (s1.heap.get c) | _ => false) = true := by
  decide +kernel

end Jqawk.C05
