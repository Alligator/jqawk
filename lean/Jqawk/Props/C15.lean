/-
  C15 — array methods behave like an ideal list.
  `absArr h a` is the list of values the array `a` denotes in the heap `h`; each native is shown
  to commute with it and to return what `Spec.ListArr` returns.  The SEQUENCE theorems
  (`ops_refine_list`, `ops_refine_lists`) range over push / pop / popfirst only; length, contains,
  sort and index reads have one-step theorems; index WRITES (`a[i] = v`) are in sections 8
  to 11 at the end (`index_write_refines`, `index_assign_refines`, `ops_refine_list_w`,
  `ops_refine_lists_w`: sequences of push / pop / popfirst / length / index write); calls nested
  in each other's arguments have no theorem in this file.  Sections 1-11 assume well-formed heaps
  (`Heap.WF`: cell ids stored in containers are allocated) and, for index writes, unshared element
  cells holding plain values; section 12 proves these are invariants of the whole evaluator and
  of every run (`evaluator_keeps_inv`, `run_end_unshared_plain`, `reachable_inv`) and restates the
  index-write theorems for every reachable state (`…_reachable`).  The receiver must be an
  allocated array (`a < h.arrs.size`).
-/
import Jqawk.Lemmas.Arr
import Jqawk.Lemmas.IndexWrite
import Jqawk.Lemmas.HeapInvDriver
import Jqawk.Lemmas.HeapInvNest

namespace Jqawk.C15
open Jqawk Spec

/-- `s'` differs from `s` only in the heap; there the array `a` now denotes `l'`, every other
    array denotes what it did, objects are untouched, and the heap stays well-formed -/
structure ArrStep (a : ArrId) (s s' : St) (l' : List Val) : Prop where
  this : absArr s'.heap a = l'
  others : ∀ b, b ≠ a → absArr s'.heap b = absArr s.heap b
  wf : s'.heap.WF
  arrs : s'.heap.arrs.size = s.heap.arrs.size
  objs : s'.heap.objs = s.heap.objs
  rest : s' = { s with heap := s'.heap }

theorem ArrStep.refl (a : ArrId) (s : St) (wf : s.heap.WF) : ArrStep a s s (absArr s.heap a) :=
  { this := rfl, others := fun _ _ => rfl, wf := wf, arrs := rfl, objs := rfl, rest := rfl }

theorem ArrStep.trans {a : ArrId} {s s1 s2 : St} {l1 l2 : List Val} (st1 : ArrStep a s s1 l1)
    (st2 : ArrStep a s1 s2 l2) : ArrStep a s s2 l2 :=
  { this := st2.this
    others := fun b hb => by rw [st2.others b hb, st1.others b hb]
    wf := st2.wf
    arrs := by rw [st2.arrs, st1.arrs]
    objs := by rw [st2.objs, st1.objs]
    rest := by
      have e1 := st1.rest; have e2 := st2.rest
      rw [e2]; rw [e1] }

/-! ### 1. push -/

/-- `a.push(v)` appends `v`, returns the array itself, and touches no other array: the fresh
    cell aliases no existing one -/
theorem push_refines (a : ArrId) (v : Val) (s : St) (wf : s.heap.WF) (ha : a < s.heap.arrs.size) :
    ∃ s', callNative .arrPush [v] (some (.arr a)) s = .ok (.ok (some (.arr a))) s' ∧
      ArrStep a s s' (ListArr.push (absArr s.heap a) v) := by
  refine ⟨_, callNative_arrPush a v s, ?_⟩
  exact {
    this := absArr_pushHeap_same s.heap wf a v ha
    others := fun b hb => absArr_pushHeap_other s.heap wf a b v hb
    wf := wf.pushHeap a v
    arrs := pushHeap_arrs_size _ _ _
    objs := rfl
    rest := rfl }

/-- `push` with another number of arguments is an error and changes nothing -/
theorem push_arity (a : ArrId) (args : List Val) (s : St) (h : args.length ≠ 1) :
    ∃ m, callNative .arrPush args (some (.arr a)) s = .ok (.error m) s := by
  simp [callNative, bind, EM.bind, getHeap, checkArgCount, h, pure, EM.pure]

/-! ### 2. pop, popfirst, length -/

/-- `a.pop()` returns the last element (null when empty) and removes it -/
theorem pop_refines (a : ArrId) (s : St) (wf : s.heap.WF) (ha : a < s.heap.arrs.size) :
    ∃ s', callNative .arrPop [] (some (.arr a)) s
        = .ok (.ok (some (ListArr.pop (absArr s.heap a)).1)) s' ∧
      ArrStep a s s' (ListArr.pop (absArr s.heap a)).2 := by
  rw [callNative_arrPop]
  by_cases he : (s.heap.arr a).size = 0
  · have hnil := absArr_eq_nil s.heap a he
    refine ⟨s, by simp [he, hnil, ListArr.pop], ?_⟩
    have st := ArrStep.refl a s wf
    rw [hnil] at st ⊢
    exact st
  · have hl := absArr_last s.heap a he
    refine ⟨{ s with heap := s.heap.setArr a (s.heap.arr a).pop }, by simp only [he, ↓reduceIte, ListArr.pop, hl], ?_⟩
    exact {
      this := by simp only [ListArr.pop, hl]; exact absArr_pop s.heap a ha
      others := fun b hb => absArr_setArr_other _ _ _ _ hb
      wf := wf.pop a
      arrs := by simp [Heap.setArr]
      objs := rfl
      rest := rfl }

/-- `a.popfirst()` returns the first element (null when empty) and removes it -/
theorem popfirst_refines (a : ArrId) (s : St) (wf : s.heap.WF) (ha : a < s.heap.arrs.size) :
    ∃ s', callNative .arrPopfirst [] (some (.arr a)) s
        = .ok (.ok (some (ListArr.popfirst (absArr s.heap a)).1)) s' ∧
      ArrStep a s s' (ListArr.popfirst (absArr s.heap a)).2 := by
  rw [callNative_arrPopfirst]
  by_cases he : (s.heap.arr a).size = 0
  · have hnil := absArr_eq_nil s.heap a he
    refine ⟨s, by simp [he, hnil, ListArr.popfirst], ?_⟩
    have st := ArrStep.refl a s wf
    rw [hnil] at st ⊢
    exact st
  · have hh := absArr_head s.heap a he
    have hpf : ListArr.popfirst (absArr s.heap a)
        = (s.heap.get ((s.heap.arr a).getD 0 0), (absArr s.heap a).drop 1) := by
      cases hl : absArr s.heap a with
      | nil => rw [hl] at hh; simp at hh
      | cons x xs => rw [hl] at hh; simp at hh; simp [ListArr.popfirst, hh]
    refine ⟨{ s with heap := s.heap.setArr a ((s.heap.arr a).extract 1 (s.heap.arr a).size) },
      by simp only [he, ↓reduceIte, hpf], ?_⟩
    exact {
      this := by rw [hpf]; exact absArr_popfirst s.heap a ha
      others := fun b hb => absArr_setArr_other _ _ _ _ hb
      wf := wf.popfirst a
      arrs := by simp [Heap.setArr]
      objs := rfl
      rest := rfl }

/-- `pop` / `popfirst` with arguments are errors and change nothing -/
theorem pop_arity (a : ArrId) (args : List Val) (s : St) (h : args.length ≠ 0) :
    (∃ m, callNative .arrPop args (some (.arr a)) s = .ok (.error m) s) ∧
    (∃ m, callNative .arrPopfirst args (some (.arr a)) s = .ok (.error m) s) := by
  constructor <;> simp [callNative, bind, EM.bind, getHeap, checkArgCount, h, pure, EM.pure]

/-- `a.length` counts the elements and changes nothing (arguments are not looked at) -/
theorem length_refines (a : ArrId) (args : List Val) (s : St) :
    callNative .arrLength args (some (.arr a)) s
      = .ok (.ok (some (.num (F64.ofNat (ListArr.length (absArr s.heap a)))))) s := by
  simp [callNative, bind, EM.bind, getHeap, pure, EM.pure, ListArr.length, absArr]

/-! ### 3. every sequence of push / pop / popfirst -/

def callOp (a : ArrId) : ListArr.Op → EM NativeRes
  | .push v => callNative .arrPush [v] (some (.arr a))
  | .pop => callNative .arrPop [] (some (.arr a))
  | .popfirst => callNative .arrPopfirst [] (some (.arr a))

def runOps (a : ArrId) : List ListArr.Op → EM (List NativeRes)
  | [] => pure []
  | op :: ops => do
    let r ← callOp a op
    let rs ← runOps a ops
    return r :: rs

/-- the implementation's result for an ideal result (`none` = the array itself) -/
def resOf (a : ArrId) : Option Val → NativeRes
  | none => .ok (some (.arr a))
  | some v => .ok (some v)

theorem op_refines (a : ArrId) (op : ListArr.Op) (s : St) (wf : s.heap.WF) (ha : a < s.heap.arrs.size) :
    ∃ s', callOp a op s = .ok (resOf a (ListArr.step (absArr s.heap a) op).1) s' ∧
      ArrStep a s s' (ListArr.step (absArr s.heap a) op).2 := by
  cases op with
  | push v => exact push_refines a v s wf ha
  | pop => exact pop_refines a s wf ha
  | popfirst => exact popfirst_refines a s wf ha

/-- for any sequence of push/pop/popfirst through the same array id, every result and the final
    contents are those of the ideal list, and no other array changes -/
theorem ops_refine_list (a : ArrId) (ops : List ListArr.Op) (s : St) (wf : s.heap.WF)
    (ha : a < s.heap.arrs.size) :
    ∃ s', runOps a ops s = .ok ((ListArr.results (absArr s.heap a) ops).map (resOf a)) s' ∧
      ArrStep a s s' (ListArr.run (absArr s.heap a) ops) := by
  induction ops generalizing s with
  | nil =>
    exact ⟨s, rfl, ArrStep.refl a s wf⟩
  | cons op ops ih =>
    obtain ⟨s1, h1, st1⟩ := op_refines a op s wf ha
    obtain ⟨s2, h2, st2⟩ := ih s1 st1.wf (by rw [st1.arrs]; exact ha)
    refine ⟨s2, ?_, ?_⟩
    · simp only [runOps, bind, EM.bind, h1, h2, pure, EM.pure, ListArr.results, List.map_cons, st1.this]
    · rw [st1.this] at st2
      exact st1.trans st2

/-! ### 4. several arrays, interleaved -/

def stepAll (m : ArrId → List Val) (aop : ArrId × ListArr.Op) : ArrId → List Val :=
  fun b => if b = aop.1 then (ListArr.step (m aop.1) aop.2).2 else m b

def resultsAll : (ArrId → List Val) → List (ArrId × ListArr.Op) → List NativeRes
  | _, [] => []
  | m, aop :: ops => resOf aop.1 (ListArr.step (m aop.1) aop.2).1 :: resultsAll (stepAll m aop) ops

def runOpsOn : List (ArrId × ListArr.Op) → EM (List NativeRes)
  | [] => pure []
  | aop :: ops => do
    let r ← callOp aop.1 aop.2
    let rs ← runOpsOn ops
    return r :: rs

/-- operations interleaved on several arrays: every array denotes what its ideal list holds after
    the operations addressed to it, and every result is the ideal one -/
theorem ops_refine_lists (ops : List (ArrId × ListArr.Op)) (s : St) (wf : s.heap.WF)
    (hids : ∀ aop ∈ ops, aop.1 < s.heap.arrs.size) :
    ∃ s', runOpsOn ops s = .ok (resultsAll (absArr s.heap) ops) s' ∧
      (∀ b, absArr s'.heap b = ops.foldl stepAll (absArr s.heap) b) ∧
      s'.heap.WF ∧ s'.heap.arrs.size = s.heap.arrs.size ∧ s' = { s with heap := s'.heap } := by
  induction ops generalizing s with
  | nil => exact ⟨s, rfl, fun _ => rfl, wf, rfl, rfl⟩
  | cons aop ops ih =>
    obtain ⟨s1, h1, st1⟩ := op_refines aop.1 aop.2 s wf (hids aop List.mem_cons_self)
    have habs : absArr s1.heap = stepAll (absArr s.heap) aop := by
      funext b
      unfold stepAll
      by_cases hb : b = aop.1
      · subst hb; simp [st1.this]
      · simp [hb, st1.others b hb]
    obtain ⟨s2, h2, hall, wf2, hsz, hrest⟩ := ih s1 st1.wf (fun x hx => by
      rw [st1.arrs]; exact hids x (List.mem_cons_of_mem _ hx))
    refine ⟨s2, ?_, ?_, wf2, by rw [hsz, st1.arrs], ?_⟩
    · simp only [runOpsOn, bind, EM.bind, h1, h2, pure, EM.pure, resultsAll, habs]
    · intro b; rw [hall b, habs]; rfl
    · have e1 := st1.rest
      rw [hrest]; rw [e1]

/-! ### 5. contains agrees with `==` element by element, in order -/

/-- the scan of `contains` is the scan with `binaryOp .equalEqual v item` (`Spec.ListArr.contains`):
    same answer, same error (an unset value equals nothing) -/
theorem contains_eq (h : Heap) (v : Val) (cells : List CellId) :
    containsLoop h v cells =
      match ListArr.contains v (cells.map h.get) with
      | .ok b => .ok (some (.bool b))
      | .error m => .error m :=
  containsLoop_eq h v cells

/-- `a.contains(v)` on the array: the ideal list's answer, state unchanged -/
theorem contains_refines (a : ArrId) (v : Val) (s : St) :
    callNative .arrContains [v] (some (.arr a)) s =
      .ok (match ListArr.contains v (absArr s.heap a) with
        | .ok b => .ok (some (.bool b))
        | .error m => .error m) s := by
  simp only [callNative, bind, EM.bind, getHeap, checkArgCount, List.length_cons, List.length_nil,
    Nat.zero_add, beq_self_eq_true, ↓reduceIte, pure, EM.pure, List.getD_cons_zero, contains_eq]
  rfl

/-- when the scan answers, the answer is `true` exactly if some element is equal to `v` under
    `Value.Compare` (neither side unset) -/
theorem contains_iff (h : Heap) (v : Val) (cells : List CellId) (b : Bool)
    (hres : containsLoop h v cells = .ok (some (.bool b))) :
    b = true ↔ ∃ c ∈ cells, v.kind ≠ .unknown ∧ (h.get c).kind ≠ .unknown ∧
      v.compare (h.get c) = .ok 0 := by
  induction cells with
  | nil => simp [containsLoop] at hres; simp [← hres]
  | cons c cs ih =>
    simp only [containsLoop] at hres
    split at hres
    · rename_i hu
      rw [ih hres]
      simp only [Bool.or_eq_true, beq_iff_eq] at hu
      constructor
      · rintro ⟨c', hc', h1, h2, h3⟩; exact ⟨c', List.mem_cons_of_mem _ hc', h1, h2, h3⟩
      · rintro ⟨c', hc', h1, h2, h3⟩
        rcases List.mem_cons.mp hc' with rfl | hc'
        · rcases hu with hu | hu
          · exact absurd hu h1
          · exact absurd hu h2
        · exact ⟨c', hc', h1, h2, h3⟩
    · rename_i hu
      simp only [Bool.or_eq_true, beq_iff_eq, not_or] at hu
      split at hres
      · cases hres
      · rename_i r hcmp
        split at hres
        · rename_i hr
          simp only [beq_iff_eq] at hr
          cases hres
          simp only [true_iff]
          exact ⟨c, List.mem_cons_self, hu.1, hu.2, by rw [hcmp, hr]⟩
        · rename_i hr
          simp only [beq_iff_eq] at hr
          rw [ih hres]
          constructor
          · rintro ⟨c', hc', h1, h2, h3⟩; exact ⟨c', List.mem_cons_of_mem _ hc', h1, h2, h3⟩
          · rintro ⟨c', hc', h1, h2, h3⟩
            rcases List.mem_cons.mp hc' with rfl | hc'
            · rw [hcmp] at h3; cases h3; exact absurd rfl hr
            · exact ⟨c', hc', h1, h2, h3⟩

/-- the scan errs exactly when the ideal scan with `==` errs: a container comparison reached
    before any match -/
theorem contains_error_iff (h : Heap) (v : Val) (cells : List CellId) (m : String) :
    containsLoop h v cells = .error m ↔ ListArr.contains v (cells.map h.get) = .error m := by
  rw [contains_eq]
  cases ListArr.contains v (cells.map h.get) <;> simp

example : (containsLoop ⟨#[.num F64.one, .arr 0], #[], #[]⟩ (.num F64.one) [0, 1]).toOption = some (some (.bool true))
    ∧ (containsLoop ⟨#[.num F64.one, .arr 0], #[], #[]⟩ (.num F64.one) [1, 0]).toOption = none := by
  decide +kernel

/-! ### 6. sort -/

/-- the copies `sort` orders keep the string form, and a number stays the same number -/
theorem sortCopy_str (v : Val) : (ListArr.sortCopy v).str! = v.str! := by
  cases v <;> rfl

theorem sortCopy_num (x : F64) : ListArr.sortCopy (.num x) = .num x := rfl

/-- on an all-numbers list the copies are the elements themselves -/
theorem sortCopy_all_num (l : List Val) (h : l.all (fun v => v.kind == .num) = true) :
    l.map ListArr.sortCopy = l := by
  induction l with
  | nil => rfl
  | cons v l ih =>
    simp only [List.all_cons, Bool.and_eq_true, beq_iff_eq] at h
    rw [List.map_cons, ih h.2]
    cases v <;> first | rfl | exact absurd h.1 (by simp [Val.kind])

/-- the two orders are total preorders (what a stable sort needs to be meaningful) -/
theorem sortLe_total_preorder (l : List Val) :
    (∀ x y, (ListArr.sortLe l x y || ListArr.sortLe l y x) = true) ∧
    (∀ x y z, ListArr.sortLe l x y = true → ListArr.sortLe l y z = true → ListArr.sortLe l x z = true) :=
  ⟨sortLe_total l, sortLe_trans l⟩

/-- `a.sort()`: the receiver and every other allocated array are unchanged; the result is a NEW
    array (id = the old number of arrays) denoting a stably sorted permutation of the copied
    elements — numerically (`f64Le`) if all elements are numbers, otherwise by `Bytes.le` on the
    string forms (`ListArr.sortLe`).  Arguments are ignored. -/
theorem sort_spec (a : ArrId) (args : List Val) (s : St) (wf : s.heap.WF) :
    ∃ s' r, callNative .arrSort args (some (.arr a)) s = .ok (.ok (some (.arr s.heap.arrs.size))) s' ∧
      (∀ b, b < s.heap.arrs.size → absArr s'.heap b = absArr s.heap b) ∧
      absArr s'.heap s.heap.arrs.size = r ∧
      ListArr.IsStableSort (ListArr.sortLe (absArr s.heap a)) ((absArr s.heap a).map ListArr.sortCopy) r ∧
      s'.heap.WF ∧ s'.heap.objs = s.heap.objs ∧ s' = { s with heap := s'.heap } := by
  refine ⟨_, _, callNative_arrSort a args s, ?_, absArr_sortHeap_new _ _, ?_, wf.sortHeap _, rfl, rfl⟩
  · intro b hb; exact absArr_sortHeap_old s.heap wf _ b hb
  · exact mergeSort_isStableSort _ _

/-- numeric instance: an all-numbers array is sorted by `f64Le`, and stays a permutation of itself -/
theorem sort_numbers (a : ArrId) (args : List Val) (s : St) (wf : s.heap.WF)
    (hn : (absArr s.heap a).all (fun v => v.kind == .num) = true) :
    ∃ s', callNative .arrSort args (some (.arr a)) s = .ok (.ok (some (.arr s.heap.arrs.size))) s' ∧
      (absArr s'.heap s.heap.arrs.size).Perm (absArr s.heap a) ∧
      (absArr s'.heap s.heap.arrs.size).Pairwise (fun x y => f64Le x.asNum y.asNum = true) := by
  obtain ⟨s', r, h1, -, h3, h4, -⟩ := sort_spec a args s wf
  refine ⟨s', h1, ?_, ?_⟩
  · rw [h3]; have := h4.perm; rwa [sortCopy_all_num _ hn] at this
  · rw [h3]; have := h4.sorted; simpa [ListArr.sortLe, hn] using this

/-! ### 7. index reads: `a[-k]` is the k-th element from the end -/

/-- `a[x]` resolves like the ideal list: before the start is an error, past the end is absent,
    otherwise the member cell holds the list element -/
theorem get_refines (h : Heap) (a : ArrId) (x : F64) :
    match ListArr.get (absArr h a) x.toGoInt with
    | none => getMember h (.arr a) (.num x) = .error "index out of range"
    | some none => getMember h (.arr a) (.num x) = .ok .missing
    | some (some v) => ∃ c, getMember h (.arr a) (.num x) = .ok (.cell c) ∧ h.get c = v :=
  getMember_arr_num h a x

example : ListArr.get [.bool true, .bool false] (-1) = some (some (.bool false))
    ∧ ListArr.get [.bool true, .bool false] (-3) = none
    ∧ ListArr.get [.bool true, .bool false] 2 = some none := by decide

/-- non-vacuity: a well-formed heap with an allocated array -/
example : (⟨#[], #[#[]], #[]⟩ : Heap).WF ∧ 0 < (⟨#[], #[#[]], #[]⟩ : Heap).arrs.size := by
  refine ⟨⟨?_, ?_⟩, by simp⟩
  · intro a c hc
    rcases a with _ | a <;> simp [Heap.arr] at hc
  · intro o k c hc
    simp [Heap.obj] at hc

/-- non-vacuity with contents (for `sort_numbers`, `pop_refines`, …): a well-formed heap whose
    allocated array 0 holds the numbers 1, 0 -/
example : (⟨#[.num F64.one, .num F64.zero], #[#[0, 1]], #[]⟩ : Heap).WF ∧
    0 < (⟨#[.num F64.one, .num F64.zero], #[#[0, 1]], #[]⟩ : Heap).arrs.size ∧
    (absArr ⟨#[.num F64.one, .num F64.zero], #[#[0, 1]], #[]⟩ 0).all (fun v => v.kind == .num) = true ∧
    absArr ⟨#[.num F64.one, .num F64.zero], #[#[0, 1]], #[]⟩ 0 ≠ [] := by
  refine ⟨⟨?_, ?_⟩, by decide, by decide, by decide⟩
  · intro a c hc
    rcases a with _ | a
    · have : c = 0 ∨ c = 1 := by simpa [Heap.arr] using hc
      rcases this with rfl | rfl <;> decide
    · simp [Heap.arr] at hc
  · intro o k c hc
    simp [Heap.obj] at hc

/-! ### 8. index writes `a[i] = v`

The ideal operation is `IndexWrite.setIdx l i w` on `List Val` (`i` = the index truncated to an
integer the way Go's `int(x)` does, `F64.toGoInt`; `w` = the copy of the value that is stored).
The clauses of the property are first proved about `setIdx` (what the ideal list does for each
class of index), then the model is shown to refine `setIdx`: at the level of the primitives the
evaluator runs for `a[i] = e` (`index_write_refines`), at the level of `evalExpr` when `e` is a
variable (`index_assign_var_refines`) or any expression whose evaluation only allocates cells
(section 10: `index_assign_refines`, `index_assign_fresh_refines` for literals), and inside
arbitrary sequences of operations on one array (`ops_refine_list_w`) or several (section 11:
`ops_refine_lists_w`).

Besides `Heap.WF` the index-write theorems assume `Unshared` (no cell is an element of two arrays or
twice of one array) and `ElemsPlain` (no element is a stand-in for a missing member or a method
value).  Both are kept by push / pop / popfirst / index write (shown here); that every store of the
evaluator keeps them is section 12. -/

open IndexWrite

/-- an index inside the list overwrites exactly that element: same length, element `i` is the new
    value, every other position is unchanged -/
theorem index_inside (l : List Val) (i : Int) (w : Val) (h0 : 0 ≤ i) (hlt : i.toNat < l.length) :
    ∃ l', setIdx l i w = .ok l' ∧ l'.length = l.length ∧ l'[i.toNat]? = some w ∧
      ∀ j, j ≠ i.toNat → l'[j]? = l[j]? := by
  refine ⟨l.set i.toNat w, by simp [setIdx, h0, hlt], by simp, by simp [hlt], fun j hj => ?_⟩
  simp [Ne.symm hj]

/-- an index at or past the end (up to the padding limit `fillLimit` = 1024·1024) pads with nulls
    and appends: the length becomes `i + 1`, the old elements are unchanged, the positions between
    the old end and `i` hold null, position `i` holds the new value -/
theorem index_past_end (l : List Val) (i : Int) (w : Val) (h0 : 0 ≤ i) (hge : l.length ≤ i.toNat)
    (hlim : i.toNat ≤ fillLimit) :
    ∃ l', setIdx l i w = .ok l' ∧ l'.length = i.toNat + 1 ∧
      (∀ j, j < l.length → l'[j]? = l[j]?) ∧
      (∀ j, l.length ≤ j → j < i.toNat → l'[j]? = some (.nil none)) ∧
      l'[i.toNat]? = some w := by
  have h1 : ¬ i.toNat < l.length := Nat.not_lt.mpr hge
  have h2 : ¬ fillLimit < i.toNat := Nat.not_lt.mpr hlim
  refine ⟨l ++ List.replicate (i.toNat - l.length) (.nil none) ++ [w], by simp [setIdx, h0, h1, h2],
    by simp; omega, fun j hj => ?_, fun j hj1 hj2 => ?_, ?_⟩
  · rw [List.append_assoc, List.getElem?_append_left hj]
  · rw [List.append_assoc, List.getElem?_append_right hj1,
      List.getElem?_append_left (by simp; omega), List.getElem?_replicate]
    simp; omega
  · rw [List.getElem?_append_right (by simp; omega)]
    have : i.toNat - (l ++ List.replicate (i.toNat - l.length) (Val.nil none)).length = 0 := by
      simp; omega
    rw [this]; rfl

/-- a padding beyond the limit is refused (src/value.go SetMember: "index too large to auto-fill
    array"); there is no new list -/
theorem index_too_large (l : List Val) (i : Int) (w : Val) (h0 : 0 ≤ i) (hge : l.length ≤ i.toNat)
    (hlim : fillLimit < i.toNat) :
    setIdx l i w = .error "index too large to auto-fill array" := by
  have h1 : ¬ i.toNat < l.length := Nat.not_lt.mpr hge
  simp [setIdx, h0, h1, hlim]

/-- a negative index `-k` with `k ≤ length` counts from the end: it overwrites exactly element
    `length - k` (never pads), everything else and the length unchanged -/
theorem index_negative (l : List Val) (i : Int) (w : Val) (hneg : i < 0) (hk : (-i).toNat ≤ l.length) :
    ∃ l', setIdx l i w = .ok l' ∧ l'.length = l.length ∧ l'[l.length - (-i).toNat]? = some w ∧
      ∀ j, j ≠ l.length - (-i).toNat → l'[j]? = l[j]? := by
  have h0 : ¬ 0 ≤ i := by omega
  have hlt : l.length - (-i).toNat < l.length := by omega
  refine ⟨l.set (l.length - (-i).toNat) w, by simp [setIdx, h0, hk], by simp, by simp [hlt],
    fun j hj => ?_⟩
  simp [Ne.symm hj]

/-- a negative index before the start (`-k` with `k > length`) is an error, as for reads
    (src/value.go GetMember, which SetMember calls first: "index out of range") -/
theorem index_before_start (l : List Val) (i : Int) (w : Val) (hneg : i < 0) (hk : l.length < (-i).toNat) :
    setIdx l i w = .error "index out of range" := by
  have h0 : ¬ 0 ≤ i := by omega
  have h1 : ¬ (-i).toNat ≤ l.length := by omega
  simp [setIdx, h0, h1]

/-- whenever the ideal write succeeds, the ideal read `ListArr.get` at the same index returns the
    written value -/
theorem get_after_setIdx (l l' : List Val) (i : Int) (w : Val) (h : setIdx l i w = .ok l') :
    ListArr.get l' i = some (some w) := by
  unfold setIdx at h
  unfold ListArr.get
  by_cases h0 : 0 ≤ i
  · simp only [h0, ↓reduceIte] at h ⊢
    by_cases hlt : i.toNat < l.length
    · simp only [hlt, ↓reduceIte, Except.ok.injEq] at h
      subst h; simp [hlt]
    · simp only [hlt, ↓reduceIte] at h
      split at h
      · cases h
      · simp only [Except.ok.injEq] at h
        subst h
        rw [List.getElem?_append_right (by simp; omega)]
        have : i.toNat - (l ++ List.replicate (i.toNat - l.length) (Val.nil none)).length = 0 := by
          simp; omega
        rw [this]; rfl
  · simp only [h0, ↓reduceIte] at h ⊢
    split at h
    · rename_i hk
      simp only [Except.ok.injEq] at h
      subst h
      have hlt : l.length - (-i).toNat < l.length := by omega
      simp [hk, hlt]
    · cases h

/-- fractional indices are truncated toward zero before anything else (Go `int(x)`), and NaN is
    an index before the start -/
example : (F64.parse b!"1.5").map F64.toGoInt = some 1
    ∧ (F64.parse b!"0.9").map F64.toGoInt = some 0
    ∧ (F64.parse b!"1.5").map (fun x => (F64.neg x).toGoInt) = some (-1)
    ∧ (F64.parse b!"0.9").map (fun x => (F64.neg x).toGoInt) = some 0 := by decide +kernel

example : setIdx [.bool true, .bool false] 1 (.nil none) = .ok [.bool true, .nil none]
    ∧ setIdx [.bool true, .bool false] (-2) (.nil none) = .ok [.nil none, .bool false]
    ∧ setIdx [.bool true] 3 (.bool false) = .ok [.bool true, .nil none, .nil none, .bool false]
    ∧ setIdx [.bool true] (-2) (.bool false) = .error "index out of range" := by
  refine ⟨?_, ?_, ?_, ?_⟩ <;> rfl

/-- the conclusions of `writeAt_refines` / `writeAtVia_refines` (about heaps) in terms of states -/
theorem arrStep_of_hstep (pos : Nat) (a : ArrId) (s : St) (w : Val) (run : Res CellId)
    (r : Except String (List Val)) :
    (match r with
      | .ok l' => ∃ c h', run = .ok c { s with heap := h' } ∧ h'.get c = w ∧ HStep a s.heap h' l'
      | .error m => ∃ h', run = Jqawk.throwRt pos m { s with heap := h' } ∧
          ∀ b, absArr h' b = absArr s.heap b) →
    match r with
    | .ok l' => ∃ c s', run = .ok c s' ∧ s'.heap.get c = w ∧ ArrStep a s s' l' ∧
        Unshared s'.heap ∧ ElemsPlain s'.heap
    | .error m => ∃ s', run = .err (.runtime pos m) s' ∧ ∀ b, absArr s'.heap b = absArr s.heap b := by
  cases r with
  | ok l' =>
    rintro ⟨c, h', e, g, st⟩
    exact ⟨c, _, e, g, ⟨st.this, st.others, st.wf, st.arrs, st.objs, rfl⟩, st.unshared, st.plain⟩
  | error m =>
    rintro ⟨h', e, g⟩
    exact ⟨_, e, g⟩

/-- **the index write refines the ideal list**, at the level of the primitives the evaluator runs
    for `a[i] = e`: `writeAt pos ac ic rc` = `memberStep pos ac ic` then `evalAssignment pos · rc`,
    where the cell `ac` holds the array `a`, `ic` holds the number `x` and `rc` the value whose copy
    is `w`.  If the ideal `setIdx` on the list `a` denotes gives a list, the write succeeds, the
    cell it returns holds `w`, `a` denotes that list and no other array changes (`ArrStep`); if the
    ideal operation is an error, the write raises the runtime error with that message and no
    array changes.  All index classes are covered by `x.toGoInt` being arbitrary (inside, past the
    end, negative in range, before the start, fractional, NaN/±Inf = -2^63). -/
theorem index_write_refines (pos : Nat) (ac ic rc : CellId) (s : St) (a : ArrId) (x : F64) (w : Val)
    (wf : s.heap.WF) (un : Unshared s.heap) (pl : ElemsPlain s.heap) (ha : a < s.heap.arrs.size)
    (hac : s.heap.get ac = .arr a) (hic : s.heap.get ic = .num x) (hrc : rc < s.heap.cells.size)
    (hw : copyVal (s.heap.get rc) = .ok w) :
    match setIdx (absArr s.heap a) x.toGoInt w with
    | .ok l' => ∃ c s', writeAt pos ac ic rc s = .ok c s' ∧ s'.heap.get c = w ∧ ArrStep a s s' l' ∧
        Unshared s'.heap ∧ ElemsPlain s'.heap
    | .error m => ∃ s', writeAt pos ac ic rc s = .err (.runtime pos m) s' ∧
        ∀ b, absArr s'.heap b = absArr s.heap b := by
  exact arrStep_of_hstep pos a s w _ _ (writeAt_refines pos ac ic rc s a x w wf un pl ha hac hic hrc hw)

/-- the same at the level of the evaluator, for `ea[ei] = v` where `v` is a variable (or `$`):
    `ea` evaluates to a cell holding the array `a` (e.g. `ea` is the variable that holds it), then
    `ei` to a cell holding the number `x`; in the state `s2` reached then, the assignment expression
    behaves like `setIdx` on the list `a` denotes.  (A right-hand side that is not a variable is run
    BETWEEN the member step and the store: `index_assign_refines` covers those that only allocate;
    `a[5] = a.pop()` has no theorem.) -/
theorem index_assign_var_refines (prog : Program) (n : Nat) (ea ei : Expr) (lsq eq tv : Token)
    (s s1 s2 : St) (ac ic rc : CellId) (a : ArrId) (x : F64) (w : Val)
    (hl : lsq.tag = .lsquare) (he : eq.tag = .equal)
    (h1 : evalExpr prog n ea s = .ok ac s1) (h2 : evalExpr prog n ei s1 = .ok ic s2)
    (h3 : ∀ h', getIdentifier prog tv { s2 with heap := h' } = .ok rc { s2 with heap := h' })
    (wf : s2.heap.WF) (un : Unshared s2.heap) (pl : ElemsPlain s2.heap) (ha : a < s2.heap.arrs.size)
    (hac : s2.heap.get ac = .arr a) (hic : s2.heap.get ic = .num x) (hrc : rc < s2.heap.cells.size)
    (hw : copyVal (s2.heap.get rc) = .ok w) :
    match setIdx (absArr s2.heap a) x.toGoInt w with
    | .ok l' => ∃ c s', evalExpr prog (n + 4) (.binary (.binary ea ei lsq) (.ident tv) eq) s = .ok c s' ∧
        s'.heap.get c = w ∧ ArrStep a s2 s' l' ∧ Unshared s'.heap ∧ ElemsPlain s'.heap
    | .error m => ∃ s', evalExpr prog (n + 4) (.binary (.binary ea ei lsq) (.ident tv) eq) s
          = .err (.runtime ea.token.pos m) s' ∧
        ∀ b, absArr s'.heap b = absArr s2.heap b := by
  rw [evalExpr_index_assign prog n ea ei lsq eq tv s s1 s2 ac ic rc hl he h1 h2 h3]
  exact index_write_refines ea.token.pos ac ic rc s2 a x w wf un pl ha hac hic hrc hw


/-! ### 9. every sequence of push / pop / popfirst / length / index write -/

/-- the operations of the extended sequence theorem: those of `ListArr.Op`, `length`, and the
    index write `a[x] = v` -/
inductive OpW
  | op (o : ListArr.Op)
  | length
  | set (x : F64) (v : Val)

/-- what may be pushed / stored for the sequence theorem: a pushed value is as array elements are
    (`Plain`; the evaluator only ever pushes copies), a stored value can be copied (is not a
    function) -/
def OpW.valid : OpW → Prop
  | .op (.push v) => Plain v
  | .op _ => True
  | .length => True
  | .set _ v => ∃ w, copyVal v = .ok w

/-- one operation on the ideal list: result and new list, or the error message.  An index write
    stores (and returns) the copy of the value, `ListArr.sortCopy v` = `copyVal v` -/
def stepW (l : List Val) : OpW → Except String (Option Val × List Val)
  | .op o => .ok (ListArr.step l o)
  | .length => .ok (some (.num (F64.ofNat (ListArr.length l))), l)
  | .set x v =>
    match setIdx l x.toGoInt (ListArr.sortCopy v) with
    | .ok l' => .ok (some (ListArr.sortCopy v), l')
    | .error m => .error m

def runW : List Val → List OpW → Except String (List (Option Val) × List Val)
  | l, [] => .ok ([], l)
  | l, op :: ops =>
    match stepW l op with
    | .error m => .error m
    | .ok (r, l1) =>
      match runW l1 ops with
      | .error m => .error m
      | .ok (rs, l2) => .ok (r :: rs, l2)

/-- one operation of the model through the array id `a`.  The index write is `writeAt` (the member
    step and the assignment the evaluator runs for `a[i] = e`) on three fresh cells holding the
    array reference, the index and the value — what evaluating the operands yields; its result is
    the value of the cell the assignment returns -/
def callOpW (a : ArrId) : OpW → EM NativeRes
  | .op o => callOp a o
  | .length => callNative .arrLength [] (some (.arr a))
  | .set x v => do
    let ac ← newCell (.arr a)
    let ic ← newCell (.num x)
    let rc ← newCell v
    let c ← writeAt 0 ac ic rc
    return .ok (some (← readCell c))

def runOpsW (a : ArrId) : List OpW → EM (List NativeRes)
  | [] => pure []
  | op :: ops => do
    let r ← callOpW a op
    let rs ← runOpsW a ops
    return r :: rs

/-- push / pop / popfirst keep `Unshared` and `ElemsPlain` -/
theorem op_keeps (a : ArrId) (o : ListArr.Op) (s s' : St) (r : NativeRes) (wf : s.heap.WF)
    (un : Unshared s.heap) (pl : ElemsPlain s.heap) (ha : a < s.heap.arrs.size)
    (hv : (OpW.op o).valid) (h : callOp a o s = .ok r s') :
    Unshared s'.heap ∧ ElemsPlain s'.heap := by
  cases o with
  | push v =>
    simp only [callOp, callNative_arrPush] at h
    cases h
    exact ⟨unshared_pushHeap s.heap wf un a ha v, elemsPlain_pushHeap s.heap wf pl a ha v hv⟩
  | pop =>
    simp only [callOp, callNative_arrPop] at h
    split at h
    · cases h; exact ⟨un, pl⟩
    · cases h; exact ⟨unshared_pop s.heap un a ha, elemsPlain_pop s.heap pl a ha⟩
  | popfirst =>
    simp only [callOp, callNative_arrPopfirst] at h
    split at h
    · cases h; exact ⟨un, pl⟩
    · cases h; exact ⟨unshared_popfirst s.heap un a ha, elemsPlain_popfirst s.heap pl a ha⟩

/-- one operation of the extended set refines the ideal step, and keeps the invariants -/
theorem opW_refines (a : ArrId) (op : OpW) (s : St) (wf : s.heap.WF) (un : Unshared s.heap)
    (pl : ElemsPlain s.heap) (ha : a < s.heap.arrs.size) (hv : op.valid) :
    match stepW (absArr s.heap a) op with
    | .ok (r, l') => ∃ s', callOpW a op s = .ok (resOf a r) s' ∧ ArrStep a s s' l' ∧
        Unshared s'.heap ∧ ElemsPlain s'.heap
    | .error m => ∃ s', callOpW a op s = .err (.runtime 0 m) s' := by
  cases op with
  | op o =>
    obtain ⟨s', e, st⟩ := op_refines a o s wf ha
    exact ⟨s', e, st, op_keeps a o s s' _ wf un pl ha hv e⟩
  | length =>
    exact ⟨s, length_refines a [] s, ArrStep.refl a s wf, un, pl⟩
  | set x v =>
    obtain ⟨w, hw⟩ := hv
    have hsc : ListArr.sortCopy v = w := by simp [ListArr.sortCopy, hw]
    let h1 := (s.heap.alloc (.arr a)).2
    let h2 := (h1.alloc (.num x)).2
    let h3 := (h2.alloc v).2
    have wf1 : h1.WF := wf_alloc _ wf _
    have wf2 : h2.WF := wf_alloc _ wf1 _
    have wf3 : h3.WF := wf_alloc _ wf2 _
    have pl3 : ElemsPlain h3 :=
      elemsPlain_alloc _ wf2 (elemsPlain_alloc _ wf1 (elemsPlain_alloc _ wf pl _) _) _
    have habs : ∀ b, absArr h3 b = absArr s.heap b := fun b => by
      rw [absArr_alloc h2 wf2, absArr_alloc h1 wf1, absArr_alloc s.heap wf]
    have hsz1 : h1.cells.size = s.heap.cells.size + 1 := by simp [h1, Heap.alloc]
    have hsz2 : h2.cells.size = s.heap.cells.size + 2 := by simp [h2, Heap.alloc, hsz1]
    have hsz3 : h3.cells.size = s.heap.cells.size + 3 := by simp [h3, Heap.alloc, hsz2]
    have g3 : h3.get h2.cells.size = v := Heap.get_push_new h2 v
    have g2 : h3.get h1.cells.size = .num x := by
      rw [show h3.get h1.cells.size = h2.get h1.cells.size from
        Heap.get_push_old h2 v _ (by rw [hsz2, hsz1]; nomega)]
      exact Heap.get_push_new h1 _
    have g1 : h3.get s.heap.cells.size = .arr a := by
      rw [show h3.get s.heap.cells.size = h2.get s.heap.cells.size from
        Heap.get_push_old h2 v _ (by rw [hsz2]; nomega)]
      rw [show h2.get s.heap.cells.size = h1.get s.heap.cells.size from
        Heap.get_push_old h1 _ _ (by rw [hsz1]; nomega)]
      exact Heap.get_push_new s.heap _
    have hrun : callOpW a (.set x v) s =
        (match writeAt 0 s.heap.cells.size h1.cells.size h2.cells.size { s with heap := h3 } with
         | .ok c s' => .ok (.ok (some (s'.heap.get c))) s'
         | .err e s' => .err e s'
         | .oof => .oof) := by
      simp only [callOpW, bind, EM.bind, newCell_eq]
      cases writeAt 0 s.heap.cells.size h1.cells.size h2.cells.size { s with heap := h3 } <;> rfl
    have hr := index_write_refines 0 s.heap.cells.size h1.cells.size h2.cells.size
      { s with heap := h3 } a x w wf3 (un : Unshared h3) pl3 ha g1 g2
      (by show @LT.lt Nat _ h2.cells.size h3.cells.size; rw [hsz3, hsz2]; omega)
      (by show copyVal (h3.get h2.cells.size) = _; rw [g3]; exact hw)
    simp only [stepW, hsc]
    rw [show absArr ({ s with heap := h3 } : St).heap a = absArr s.heap a from habs a] at hr
    cases hs : setIdx (absArr s.heap a) x.toGoInt w with
    | ok l' =>
      rw [hs] at hr
      obtain ⟨c, s', e, g, st, un', pl'⟩ := hr
      refine ⟨s', ?_, ?_, un', pl'⟩
      · rw [hrun, e]; simp only [g, resOf]
      · exact {
          this := st.this
          others := fun b hb => by rw [st.others b hb]; exact habs b
          wf := st.wf
          arrs := st.arrs
          objs := st.objs
          rest := by have := st.rest; rw [this] }
    | error m =>
      rw [hs] at hr
      obtain ⟨s', e, -⟩ := hr
      exact ⟨s', by rw [hrun, e]⟩

/-- **for any sequence of push / pop / popfirst / length / index write through the same array id,
    every result and the final contents are those of the ideal list, and no other array changes**;
    if the ideal sequence stops with an error (an index before the start, a padding beyond the
    limit), the model's run stops with the runtime error carrying the same message -/
theorem ops_refine_list_w (a : ArrId) (ops : List OpW) (s : St) (wf : s.heap.WF) (un : Unshared s.heap)
    (pl : ElemsPlain s.heap) (ha : a < s.heap.arrs.size) (hv : ∀ op ∈ ops, op.valid) :
    match runW (absArr s.heap a) ops with
    | .ok (rs, l') => ∃ s', runOpsW a ops s = .ok (rs.map (resOf a)) s' ∧ ArrStep a s s' l'
    | .error m => ∃ s', runOpsW a ops s = .err (.runtime 0 m) s' := by
  induction ops generalizing s with
  | nil =>
    exact ⟨s, rfl, ArrStep.refl a s wf⟩
  | cons op ops ih =>
    have h1 := opW_refines a op s wf un pl ha (hv op List.mem_cons_self)
    simp only [runW]
    cases hs : stepW (absArr s.heap a) op with
    | error m =>
      rw [hs] at h1
      obtain ⟨s', e⟩ := h1
      exact ⟨s', by simp only [runOpsW, bind, EM.bind, e]⟩
    | ok rl =>
      obtain ⟨r, l1⟩ := rl
      rw [hs] at h1
      obtain ⟨s1, e1, st1, un1, pl1⟩ := h1
      have h2 := ih s1 st1.wf un1 pl1 (by rw [st1.arrs]; exact ha)
        (fun o ho => hv o (List.mem_cons_of_mem _ ho))
      rw [st1.this] at h2
      simp only
      cases hr : runW l1 ops with
      | error m =>
        rw [hr] at h2
        obtain ⟨s', e⟩ := h2
        exact ⟨s', by simp only [runOpsW, bind, EM.bind, e1, e]⟩
      | ok rsl =>
        obtain ⟨rs, l2⟩ := rsl
        rw [hr] at h2
        obtain ⟨s2, e2, st2⟩ := h2
        refine ⟨s2, by simp only [runOpsW, bind, EM.bind, e1, e2, pure, EM.pure, List.map_cons], ?_⟩
        exact st1.trans st2


/-! #### non-vacuity: a concrete state meeting the hypotheses of the index-write theorems -/

/-- cells 0, 1, 2 hold the array reference, the index `1` and the value `true`; the array 0 is
    `[true, false]` (cells 3, 4); the variables `a`, `i`, `v` name cells 0, 1, 2 -/
def exW : St :=
  { heap := ⟨#[.arr 0, .num F64.one, .bool true, .bool true, .bool false], #[#[3, 4]], #[]⟩,
    frames := [⟨b!"<root>", [(b!"a", 0), (b!"i", 1), (b!"v", 2)]⟩], out := [], root := none,
    ruleRoot := none, returnVal := none, faults := 0 }

theorem exW_arr (a : ArrId) : exW.heap.arr (a + 1) = #[] := by
  simp [exW, Heap.arr]

theorem exW_wf : exW.heap.WF := by
  refine ⟨?_, ?_⟩
  · intro a c hc
    rcases a with _ | a
    · have : c = 3 ∨ c = 4 := by simpa [exW, Heap.arr] using hc
      rcases this with rfl | rfl <;> decide
    · rw [exW_arr] at hc; simp at hc
  · intro o k c hc
    simp [exW, Heap.obj] at hc

theorem exW_unshared : Unshared exW.heap := by
  intro a b i j hi hj e
  rcases a with _ | a
  · rcases b with _ | b
    · have hi' : i < 2 := hi
      have hj' : j < 2 := hj
      refine ⟨rfl, ?_⟩
      rcases i with _ | _ | i <;> rcases j with _ | _ | j <;> first | rfl | omega | (revert e; decide)
    · rw [exW_arr] at hj; simp at hj
  · rw [exW_arr] at hi; simp at hi

theorem exW_plain : ElemsPlain exW.heap := by
  intro a c hc
  rcases a with _ | a
  · have : c = 3 ∨ c = 4 := by simpa [exW, Heap.arr] using hc
    rcases this with rfl | rfl <;> exact ⟨rfl, fun _ _ _ e => by cases e⟩
  · rw [exW_arr] at hc; simp at hc

/-- `a[i] = v` -/
def exWAssign : Expr :=
  .binary (.binary (.ident ⟨.ident, 0, b!"a"⟩) (.ident ⟨.ident, 2, b!"i"⟩) ⟨.lsquare, 1, b!"["⟩)
    (.ident ⟨.ident, 7, b!"v"⟩) ⟨.equal, 5, b!"="⟩

/-- the hypotheses of `index_write_refines` and of `index_assign_var_refines` hold in `exW` for
    `a[i] = v`, and the conclusion gives: the assignment succeeds and `a` denotes `[true, true]` -/
example : ∃ c s', evalExpr Program.empty 5 exWAssign exW = .ok c s' ∧
    absArr s'.heap 0 = [.bool true, .bool true] ∧ s'.heap.get c = .bool true := by
  have h := index_assign_var_refines Program.empty 1 (.ident ⟨.ident, 0, b!"a"⟩) (.ident ⟨.ident, 2, b!"i"⟩)
    ⟨.lsquare, 1, b!"["⟩ ⟨.equal, 5, b!"="⟩ ⟨.ident, 7, b!"v"⟩ exW exW exW 0 1 2 0 F64.one (.bool true)
    rfl rfl (by with_unfolding_all rfl) (by with_unfolding_all rfl)
    (fun _ => by with_unfolding_all rfl) exW_wf exW_unshared exW_plain (by decide) rfl rfl (by decide) rfl
  have hs : setIdx (absArr exW.heap 0) F64.one.toGoInt (.bool true) = .ok [.bool true, .bool true] := by
    rfl
  rw [hs] at h
  obtain ⟨c, s', e, g, st, -⟩ := h
  exact ⟨c, s', e, st.this, g⟩

/-- a sequence mixing all five operations on `exW`'s array `[true, false]`:
    `a[3] = 1; a.pop(); a[-1] = 0; a.popfirst(); a.length; a.push(1)` -/
example : runW [.bool true, .bool false]
      [.set (F64.ofNat 3) (.num F64.one), .op .pop, .set (F64.neg F64.one) (.num F64.zero),
       .op .popfirst, .length, .op (.push (.num F64.one))]
    = .ok ([some (.num F64.one), some (.num F64.one), some (.num F64.zero), some (.bool true),
            some (.num (F64.ofNat 2)), none],
           [.bool false, .num F64.zero, .num F64.one]) := by
  rfl


/-! ### 10. `ea[ei] = er` with a right-hand side that is not a variable -/

/-- **the assignment expression `ea[ei] = er` refines the ideal list, for every right-hand side whose
    evaluation only allocates cells** (`RhsYields`: run in the state after the member step it
    yields a cell whose value copies to `w`, keeping every existing cell, array and object —
    literals, variables, arithmetic on them, reads of existing members; NOT method calls that
    change an array, `a[5] = a.pop()`, nor array / object literals, which allocate containers).
    `ea` evaluates to a cell holding the array `a`, then `ei` to a cell holding the number `x`;
    `s2` is the state reached then. -/
theorem index_assign_refines (prog : Program) (n : Nat) (ea ei er : Expr) (lsq eq : Token)
    (s s1 s2 : St) (ac ic : CellId) (a : ArrId) (x : F64) (w : Val)
    (hl : lsq.tag = .lsquare) (he : eq.tag = .equal)
    (h1 : evalExpr prog n ea s = .ok ac s1) (h2 : evalExpr prog n ei s1 = .ok ic s2)
    (wf : s2.heap.WF) (un : Unshared s2.heap) (pl : ElemsPlain s2.heap) (ha : a < s2.heap.arrs.size)
    (hac : s2.heap.get ac = .arr a) (hic : s2.heap.get ic = .num x)
    (hr : ∀ m sm, memberStep ea.token.pos ac ic s2 = .ok m sm →
      RhsYields (evalExpr prog (n + 2) er) w sm) :
    match setIdx (absArr s2.heap a) x.toGoInt w with
    | .ok l' => ∃ c s', evalExpr prog (n + 4) (.binary (.binary ea ei lsq) er eq) s = .ok c s' ∧
        s'.heap.get c = w ∧ ArrStep a s2 s' l' ∧ Unshared s'.heap ∧ ElemsPlain s'.heap
    | .error m => ∃ s', evalExpr prog (n + 4) (.binary (.binary ea ei lsq) er eq) s
          = .err (.runtime ea.token.pos m) s' ∧
        ∀ b, absArr s'.heap b = absArr s2.heap b := by
  rw [evalExpr_index_assign_any prog n ea ei er lsq eq s s1 s2 ac ic hl he h1 h2]
  exact arrStep_of_hstep _ a s2 w _ _
    (writeAtVia_refines ea.token.pos ac ic (evalExpr prog (n + 2) er) s2 a x w wf un pl ha hac hic hr)

/-- instance: the right-hand side is a literal (or anything else that evaluates, in every state,
    to a fresh cell holding the value `v`), `w` the copy of `v` -/
theorem index_assign_fresh_refines (prog : Program) (n : Nat) (ea ei er : Expr) (lsq eq : Token)
    (s s1 s2 : St) (ac ic : CellId) (a : ArrId) (x : F64) (v w : Val)
    (hl : lsq.tag = .lsquare) (he : eq.tag = .equal)
    (h1 : evalExpr prog n ea s = .ok ac s1) (h2 : evalExpr prog n ei s1 = .ok ic s2)
    (wf : s2.heap.WF) (un : Unshared s2.heap) (pl : ElemsPlain s2.heap) (ha : a < s2.heap.arrs.size)
    (hac : s2.heap.get ac = .arr a) (hic : s2.heap.get ic = .num x)
    (hv : ∀ s', evalExpr prog (n + 2) er s' = newCell v s') (hw : copyVal v = .ok w) :
    match setIdx (absArr s2.heap a) x.toGoInt w with
    | .ok l' => ∃ c s', evalExpr prog (n + 4) (.binary (.binary ea ei lsq) er eq) s = .ok c s' ∧
        s'.heap.get c = w ∧ ArrStep a s2 s' l' ∧ Unshared s'.heap ∧ ElemsPlain s'.heap
    | .error m => ∃ s', evalExpr prog (n + 4) (.binary (.binary ea ei lsq) er eq) s
          = .err (.runtime ea.token.pos m) s' ∧
        ∀ b, absArr s'.heap b = absArr s2.heap b := by
  apply index_assign_refines prog n ea ei er lsq eq s s1 s2 ac ic a x w hl he h1 h2 wf un pl ha hac hic
  intro m sm _
  refine ⟨sm.heap.cells.size, (sm.heap.alloc v).2, ?_, Ext.alloc sm.heap v, ?_, ?_⟩
  · rw [hv, newCell_eq]
  · show @LT.lt Nat _ sm.heap.cells.size (sm.heap.cells.push v).size
    simp
  · rw [show (sm.heap.alloc v).2.get sm.heap.cells.size = v from Heap.get_push_new sm.heap v]
    exact hw

def three : F64 := (F64.parse b!"3").getD F64.zero

theorem three_toGoInt : three.toGoInt = 3 := by decide +kernel

/-- the literal `3` evaluates, in any state, to a fresh cell holding `three` -/
theorem evalExpr_lit_three (s : St) : evalExpr Program.empty 1 (.lit ⟨.num, 2, b!"3"⟩) s
    = .ok s.heap.cells.size { s with heap := (s.heap.alloc (.num three)).2 } := by
  have hp : F64.parse b!"3" = some three := by decide +kernel
  unfold evalExpr
  simp only [hp]
  rfl

/-- `a[3] = null` on `exW` (`a` = `[true, false]`, the index and the value are literals): the
    hypotheses of `index_assign_fresh_refines` hold and it gives `[true, false, null, null]` -/
example : ∃ c s', evalExpr Program.empty 5
      (.binary (.binary (.ident ⟨.ident, 0, b!"a"⟩) (.lit ⟨.num, 2, b!"3"⟩) ⟨.lsquare, 1, b!"["⟩)
        (.lit ⟨.null, 7, b!"null"⟩) ⟨.equal, 5, b!"="⟩) exW = .ok c s' ∧
    absArr s'.heap 0 = [.bool true, .bool false, .nil none, .nil none] := by
  have ext : Ext exW.heap (exW.heap.alloc (.num three)).2 := Ext.alloc _ _
  have h := index_assign_fresh_refines Program.empty 1 (.ident ⟨.ident, 0, b!"a"⟩) (.lit ⟨.num, 2, b!"3"⟩)
    (.lit ⟨.null, 7, b!"null"⟩) ⟨.lsquare, 1, b!"["⟩ ⟨.equal, 5, b!"="⟩ exW exW
    { exW with heap := (exW.heap.alloc (.num three)).2 } 0 5 0 three (.nil none) (.nil none)
    rfl rfl (by with_unfolding_all rfl) (evalExpr_lit_three exW)
    (ext.wf exW_wf) (ext.unshared exW_unshared) (ext.plain exW_wf exW_plain) (by decide)
    (Heap.get_push_old exW.heap _ 0 (by decide)) (Heap.get_push_new exW.heap _)
    (fun _ => by with_unfolding_all rfl) rfl
  rw [three_toGoInt, ext.absArr exW_wf 0] at h
  have hs : setIdx (absArr exW.heap 0) 3 (.nil none) = .ok [.bool true, .bool false, .nil none, .nil none] := by
    rfl
  rw [hs] at h
  obtain ⟨c, s', e, g, st, -⟩ := h
  exact ⟨c, s', e, st.this⟩

/-! ### 11. several arrays, interleaved, with index writes -/

def runAllW : (ArrId → List Val) → List (ArrId × OpW) → Except String (List NativeRes × (ArrId → List Val))
  | m, [] => .ok ([], m)
  | m, aop :: ops =>
    match stepW (m aop.1) aop.2 with
    | .error e => .error e
    | .ok (r, l') =>
      match runAllW (fun b => if b = aop.1 then l' else m b) ops with
      | .error e => .error e
      | .ok (rs, m') => .ok (resOf aop.1 r :: rs, m')

def runOpsOnW : List (ArrId × OpW) → EM (List NativeRes)
  | [] => pure []
  | aop :: ops => do
    let r ← callOpW aop.1 aop.2
    let rs ← runOpsOnW ops
    return r :: rs

/-- **operations — index writes included — interleaved on several arrays**: every result is the
    ideal one and every array denotes what its ideal list holds after the operations addressed to
    it; an error of the ideal run is the runtime error of the model's run -/
theorem ops_refine_lists_w (ops : List (ArrId × OpW)) (s : St) (wf : s.heap.WF) (un : Unshared s.heap)
    (pl : ElemsPlain s.heap) (hids : ∀ aop ∈ ops, aop.1 < s.heap.arrs.size)
    (hv : ∀ aop ∈ ops, aop.2.valid) :
    match runAllW (absArr s.heap) ops with
    | .ok (rs, m') => ∃ s', runOpsOnW ops s = .ok rs s' ∧ (∀ b, absArr s'.heap b = m' b) ∧
        s'.heap.WF ∧ s'.heap.arrs.size = s.heap.arrs.size ∧ s' = { s with heap := s'.heap }
    | .error e => ∃ s', runOpsOnW ops s = .err (.runtime 0 e) s' := by
  induction ops generalizing s with
  | nil => exact ⟨s, rfl, fun _ => rfl, wf, rfl, rfl⟩
  | cons aop ops ih =>
    have h1 := opW_refines aop.1 aop.2 s wf un pl (hids aop List.mem_cons_self) (hv aop List.mem_cons_self)
    simp only [runAllW]
    cases hs : stepW (absArr s.heap aop.1) aop.2 with
    | error e =>
      rw [hs] at h1
      obtain ⟨s', e'⟩ := h1
      exact ⟨s', by simp only [runOpsOnW, bind, EM.bind, e']⟩
    | ok rl =>
      obtain ⟨r, l1⟩ := rl
      rw [hs] at h1
      obtain ⟨s1, e1, st1, un1, pl1⟩ := h1
      have habs : absArr s1.heap = fun b => if b = aop.1 then l1 else absArr s.heap b := by
        funext b
        by_cases hb : b = aop.1
        · subst hb; simp [st1.this]
        · simp [hb, st1.others b hb]
      have h2 := ih s1 st1.wf un1 pl1
        (fun x hx => by rw [st1.arrs]; exact hids x (List.mem_cons_of_mem _ hx))
        (fun x hx => hv x (List.mem_cons_of_mem _ hx))
      rw [habs] at h2
      simp only
      cases hr : runAllW (fun b => if b = aop.1 then l1 else absArr s.heap b) ops with
      | error e =>
        rw [hr] at h2
        obtain ⟨s', e'⟩ := h2
        exact ⟨s', by simp only [runOpsOnW, bind, EM.bind, e1, e']⟩
      | ok rsm =>
        obtain ⟨rs, m'⟩ := rsm
        rw [hr] at h2
        obtain ⟨s2, e2, hall, wf2, hsz, hrest⟩ := h2
        refine ⟨s2, by simp only [runOpsOnW, bind, EM.bind, e1, e2, pure, EM.pure], hall, wf2,
          by rw [hsz, st1.arrs], ?_⟩
        have e1' := st1.rest
        rw [hrest]; rw [e1']


/-- non-vacuity of `ops_refine_list_w` / `ops_refine_lists_w`: the sequence
    `a[3] = 1; a.pop(); a[-1] = 0; a.popfirst(); a.length; a.push(1)` is valid, `exW` meets the
    hypotheses, and the theorem gives the results and the final contents `[false, 0, 1]` -/
def exOps : List OpW :=
  [.set (F64.ofNat 3) (.num F64.one), .op .pop, .set (F64.neg F64.one) (.num F64.zero),
   .op .popfirst, .length, .op (.push (.num F64.one))]

theorem exOps_valid : ∀ op ∈ exOps, op.valid := by
  intro op hop
  simp only [exOps, List.mem_cons, List.not_mem_nil, or_false] at hop
  rcases hop with rfl | rfl | rfl | rfl | rfl | rfl
  · exact ⟨_, rfl⟩
  · trivial
  · exact ⟨_, rfl⟩
  · trivial
  · trivial
  · exact ⟨rfl, fun _ _ _ e => by cases e⟩

example : ∃ s', runOpsW 0 exOps exW =
      .ok ([some (.num F64.one), some (.num F64.one), some (.num F64.zero), some (.bool true),
            some (.num (F64.ofNat 2)), none].map (resOf 0)) s' ∧
    absArr s'.heap 0 = [.bool false, .num F64.zero, .num F64.one] := by
  have h := ops_refine_list_w 0 exOps exW exW_wf exW_unshared exW_plain (by decide) exOps_valid
  have hr : runW (absArr exW.heap 0) exOps
      = .ok ([some (.num F64.one), some (.num F64.one), some (.num F64.zero), some (.bool true),
            some (.num (F64.ofNat 2)), none], [.bool false, .num F64.zero, .num F64.one]) := rfl
  rw [hr] at h
  obtain ⟨s', e, st⟩ := h
  exact ⟨s', e, st.this⟩


/-- why `Unshared` is assumed: in a heap (not reachable by the evaluator, `reachable_unshared_plain`:
    every store into an array goes through a fresh cell) where one cell is an element twice, `a[1] = false`
    on `[true, true]` changes BOTH elements, where the ideal list gives `[true, false]` -/
example : (match writeAt 0 0 1 2
      { exW with heap := ⟨#[.arr 0, .num F64.one, .bool false, .bool true], #[#[3, 3]], #[]⟩ } with
    | .ok _ s' => absArr s'.heap 0
    | _ => []) = [.bool false, .bool false]
    ∧ setIdx [.bool true, .bool true] F64.one.toGoInt (.bool false) = .ok [.bool true, .bool false] := by
  constructor <;> with_unfolding_all rfl



/-! ### 12. `Unshared` and `ElemsPlain` are invariants of evaluation

  Sections 8 to 11 take `Heap.WF`, `Unshared` and `ElemsPlain` as hypotheses on the start state.  Here
  they are shown to hold in every state evaluation goes on from.  The invariant that is actually
  inductive is `HeapInv.Inv h` = `h.WF ∧ Unshared h ∧ ElemsPlain h ∧ MembersPlain h` (object members
  are plain too: `for (v, k in obj)` copies a member's raw value into the index variable, whose cell
  may be an array element through a match binding), together with the two-state relation
  `HeapInv.Trans h h'` (the heap only grows; a cell holding a plain value keeps holding plain values;
  no cell existing in `h` becomes an array element unless it was one).

  What is claimed (`HeapInv.Post`): when an evaluation started in a state satisfying `Inv` ends
  NORMALLY or with a CONTROL SIGNAL (break / continue / return / next / exit — the cases after which
  evaluation goes on), the end state satisfies `Inv` and is `Trans`-related to the start.  For the
  end state of an evaluation that stops with a runtime error (or panic / unmodelled construct) only
  the weak invariant `HeapInv.Weak h` = `h.WF ∧ Unshared h` is claimed
  (`evalExpr_error_keeps_unshared`, `evalStmt_error_keeps_unshared`, `run_end_unshared` at the end of
  this section), and no more can be: FINDING `elemsPlain_fails_after_runtime_error` below —
  `a[5] = printf` stores the stand-in value into the padded array and only then fails to copy the
  function (the Go code does the same: `SetMember` runs `item.Value = cell.Value` before `copyValue`
  fails), so `ElemsPlain` is false in that final state; no evaluation goes on from it.  An
  evaluation that runs out of fuel has no end state; a run that does reports no state or an earlier
  one satisfying `Inv`. -/

open HeapInv

/-- the three hypotheses of the index-write theorems are part of the invariant -/
theorem inv_gives {h : Heap} (i : HeapInv.Inv h) : h.WF ∧ Unshared h ∧ ElemsPlain h := ⟨i.wf, i.un, i.ep⟩

/-- **the invariant is kept by every one of the 15 mutually recursive evaluator functions, at every
    fuel** (`AllGood`: `evalExpr`, `evalUnary`, `evalBinary`, `evalMatchCases`, `evalCaseMatch`,
    `evalArrayCaseMatch`, `matchElems`, `evalStmt`, `evalBlock`, `whileLoop`, `forLoop` from any state
    satisfying `Inv`; `evalExprList … true` moreover returns pairwise different fresh plain cells that
    are nobody's elements; `evalObjItems` plain allocated member cells if it was given such;
    `callFunction` needs argument cells holding plain values (what `evalExprList … true` yields);
    `forInLoop` needs an item list whose cells hold plain values (what the `for … in` statement builds
    from an array, an object or a string)), including the natives they call (`Good.callNative`),
    `evalAssignment` / `createSpeculative` / `setMember` (`Good.evalAssignment`), `memberStep`,
    `copyValue` and array / object literals -/
theorem evaluator_keeps_inv (prog : Program) (n : Nat) : AllGood prog n := allGood prog n

/-- an expression evaluated from a state satisfying the invariant: if it yields a value, the end state
    satisfies the invariant (in particular `Heap.WF`, `Unshared`, `ElemsPlain`) -/
theorem evalExpr_keeps_inv (prog : Program) (n : Nat) (e : Expr) (s s' : St) (c : CellId)
    (i : HeapInv.Inv s.heap) (h : evalExpr prog n e s = .ok c s') : HeapInv.Inv s'.heap ∧ HeapInv.Trans s.heap s'.heap :=
  ((allGood prog n).expr e).okInv i h

/-- … and if it ends with a control signal (a `return`/`break`/… inside a match body) -/
theorem evalExpr_signal_keeps_inv (prog : Program) (n : Nat) (e : Expr) (s s' : St) (g : Sig)
    (i : HeapInv.Inv s.heap) (h : evalExpr prog n e s = .err (.sig g) s') :
    HeapInv.Inv s'.heap ∧ HeapInv.Trans s.heap s'.heap :=
  ((allGood prog n).expr e).sigInv i h

/-- a statement run from a state satisfying the invariant: if it completes, the end state satisfies
    the invariant -/
theorem evalStmt_keeps_inv (prog : Program) (n : Nat) (st : Stmt) (s s' : St)
    (i : HeapInv.Inv s.heap) (h : evalStmt prog n st s = .ok () s') : HeapInv.Inv s'.heap ∧ HeapInv.Trans s.heap s'.heap :=
  ((allGood prog n).stmt st).okInv i h

/-- … and if it ends with a control signal (break / continue / return / next / exit) -/
theorem evalStmt_signal_keeps_inv (prog : Program) (n : Nat) (st : Stmt) (s s' : St) (g : Sig)
    (i : HeapInv.Inv s.heap) (h : evalStmt prog n st s = .err (.sig g) s') :
    HeapInv.Inv s'.heap ∧ HeapInv.Trans s.heap s'.heap :=
  ((allGood prog n).stmt st).sigInv i h

/-- every native, called with plain argument values (what `callFunction` passes: the values of the
    copied argument cells), keeps the invariant: `push` stores a fresh cell, `pop`/`popfirst` shrink,
    `sort`/`split` build an array of fresh cells holding copies, `pluck` an object of fresh cells -/
theorem native_keeps_inv (f : Native) (args : List Val) (this : Option Val) (s s' : St) (r : NativeRes)
    (hargs : ∀ v ∈ args, Plain v) (i : HeapInv.Inv s.heap) (h : callNative f args this s = .ok r s') :
    HeapInv.Inv s'.heap ∧ HeapInv.Trans s.heap s'.heap :=
  (Good.callNative f args this hargs).okInv i h

/-- the store `evalAssignment` (with `createSpeculative` and `setMember`: padding, materialising
    parents, object members) keeps the invariant whenever it succeeds -/
theorem evalAssignment_keeps_inv (pos : Nat) (l r : CellId) (s s' : St) (c : CellId)
    (i : HeapInv.Inv s.heap) (h : evalAssignment pos l r s = .ok c s') : HeapInv.Inv s'.heap ∧ HeapInv.Trans s.heap s'.heap :=
  (Good.evalAssignment pos l r).okInv i h

/-- the heap the driver builds from decoded JSON input satisfies the invariant, and the value it
    returns is plain -/
theorem newValueJson_keeps_inv (j : JVal) (s s' : St) (v : Val) (i : HeapInv.Inv s.heap)
    (h : newValueJson j s = .ok v s') : HeapInv.Inv s'.heap ∧ HeapInv.Trans s.heap s'.heap ∧ Plain v := by
  have := ht_newValueJson j s i trivial
  rw [h] at this; exact this

/-- the start state of a run (empty heap plus the builtins' and functions' cells) satisfies the
    invariant -/
theorem initial_state_inv (prog : Program) : HeapInv.Inv (newEvaluator prog Heap.empty [] 0).heap :=
  newEvaluator_empty_inv prog

/-- **a whole run** (`EvalProgram`: BEGIN rules, every input file — decoding, selectors with their
    nested evaluators, BEGINFILE / pattern / ENDFILE rules per root —, END rules): the state a
    successful run ends in has a well-formed heap in which no cell is an element twice and every
    array element is plain.  (`HeapInv.evalProgram_invRun` says the same for runs that end with a
    surfaced signal, a JSON error or a syntax error; runs stopped by a runtime error are excluded,
    see the finding below.) -/
theorem run_end_unshared_plain (tbl : RuleTable) (src : Bytes) (sels : List Bytes) (files : List InputFile)
    (st : St) (hst : (evalProgram tbl src sels files).st = some st)
    (ho : (evalProgram tbl src sels files).outcome = .ok) :
    st.heap.WF ∧ Unshared st.heap ∧ ElemsPlain st.heap :=
  inv_gives (evalProgram_inv tbl src sels files st hst ho)

/-- a closure of states, meant to contain those a run goes through (no theorem says it contains them
    all; whole runs are `run_end_unshared_plain`): the start state of an evaluator (on the empty heap,
    or nested on a reached heap, as selectors do), closed under what the driver and the evaluator do
    between two evaluations — converting decoded JSON, allocating a cell, changing frames / roots /
    output / counters — and under every evaluation of an expression or a statement (of any program,
    at any fuel) that ends normally or with a control signal, every successful store
    (`evalAssignment`), member step and native call with plain arguments -/
inductive Reachable : St → Prop
  | init (prog : Program) : Reachable (newEvaluator prog Heap.empty [] 0)
  | nested (prog : Program) (s : St) (out : List Bytes) (faults : Nat) :
      Reachable s → Reachable (newEvaluator prog s.heap out faults)
  | sameHeap (s s' : St) : Reachable s → s'.heap = s.heap → Reachable s'
  | alloc (s : St) (v : Val) : Reachable s → Reachable { s with heap := (s.heap.alloc v).2 }
  | json (j : JVal) (s s' : St) (v : Val) : Reachable s → newValueJson j s = .ok v s' → Reachable s'
  | expr (prog : Program) (n : Nat) (e : Expr) (s s' : St) (c : CellId) :
      Reachable s → evalExpr prog n e s = .ok c s' → Reachable s'
  | exprSig (prog : Program) (n : Nat) (e : Expr) (s s' : St) (g : Sig) :
      Reachable s → evalExpr prog n e s = .err (.sig g) s' → Reachable s'
  | stmt (prog : Program) (n : Nat) (st : Stmt) (s s' : St) :
      Reachable s → evalStmt prog n st s = .ok () s' → Reachable s'
  | stmtSig (prog : Program) (n : Nat) (st : Stmt) (s s' : St) (g : Sig) :
      Reachable s → evalStmt prog n st s = .err (.sig g) s' → Reachable s'
  | assign (pos : Nat) (l r : CellId) (s s' : St) (c : CellId) :
      Reachable s → evalAssignment pos l r s = .ok c s' → Reachable s'
  | member (pos : Nat) (l r : CellId) (s s' : St) (c : CellId) :
      Reachable s → memberStep pos l r s = .ok c s' → Reachable s'
  | native (f : Native) (args : List Val) (this : Option Val) (s s' : St) (r : NativeRes) :
      Reachable s → (∀ v ∈ args, Plain v) → callNative f args this s = .ok r s' → Reachable s'

/-- **every reachable state satisfies the invariant** -/
theorem reachable_inv {s : St} (h : Reachable s) : HeapInv.Inv s.heap := by
  induction h with
  | init prog => exact newEvaluator_empty_inv prog
  | nested prog s out faults _ ih => exact newEvaluator_inv prog s.heap out faults ih
  | sameHeap s s' _ e ih => rw [e]; exact ih
  | alloc s v _ ih => exact inv_alloc ih v
  | json j s s' v _ e ih => exact (newValueJson_keeps_inv j s s' v ih e).1
  | expr prog n e s s' c _ he ih => exact (evalExpr_keeps_inv prog n e s s' c ih he).1
  | exprSig prog n e s s' g _ he ih => exact (evalExpr_signal_keeps_inv prog n e s s' g ih he).1
  | stmt prog n st s s' _ he ih => exact (evalStmt_keeps_inv prog n st s s' ih he).1
  | stmtSig prog n st s s' g _ he ih => exact (evalStmt_signal_keeps_inv prog n st s s' g ih he).1
  | assign pos l r s s' c _ he ih => exact (evalAssignment_keeps_inv pos l r s s' c ih he).1
  | member pos l r s s' c _ he ih =>
    exact ((Good.memberStep pos l r).okInv ih he).1
  | native f args this s s' r _ ha he ih => exact (native_keeps_inv f args this s s' r ha ih he).1

/-- … so in every reachable state no cell is an element of two arrays or twice of one, and no array
    element is a stand-in or a method value: the hypotheses of sections 8 to 11 -/
theorem reachable_unshared_plain {s : St} (h : Reachable s) :
    s.heap.WF ∧ Unshared s.heap ∧ ElemsPlain s.heap := inv_gives (reachable_inv h)

/-- `index_write_refines` in a reachable state, without the hypotheses `Heap.WF`, `Unshared`,
    `ElemsPlain`: the primitive index write refines `setIdx` on the list the array denotes -/
theorem index_write_refines_reachable (pos : Nat) (ac ic rc : CellId) (s : St) (a : ArrId) (x : F64)
    (w : Val) (hs : Reachable s) (ha : a < s.heap.arrs.size)
    (hac : s.heap.get ac = .arr a) (hic : s.heap.get ic = .num x) (hrc : rc < s.heap.cells.size)
    (hw : copyVal (s.heap.get rc) = .ok w) :
    match setIdx (absArr s.heap a) x.toGoInt w with
    | .ok l' => ∃ c s', writeAt pos ac ic rc s = .ok c s' ∧ s'.heap.get c = w ∧ ArrStep a s s' l' ∧
        Unshared s'.heap ∧ ElemsPlain s'.heap
    | .error m => ∃ s', writeAt pos ac ic rc s = .err (.runtime pos m) s' ∧
        ∀ b, absArr s'.heap b = absArr s.heap b :=
  have i := reachable_inv hs
  index_write_refines pos ac ic rc s a x w i.wf i.un i.ep ha hac hic hrc hw

/-- `index_assign_refines` for an assignment expression `ea[ei] = er` evaluated in a reachable state
    `s`, without the three hypotheses (the state `s2` after `ea` and `ei` is reachable too) -/
theorem index_assign_refines_reachable (prog : Program) (n : Nat) (ea ei er : Expr) (lsq eq : Token)
    (s s1 s2 : St) (ac ic : CellId) (a : ArrId) (x : F64) (w : Val) (hs : Reachable s)
    (hl : lsq.tag = .lsquare) (he : eq.tag = .equal)
    (h1 : evalExpr prog n ea s = .ok ac s1) (h2 : evalExpr prog n ei s1 = .ok ic s2)
    (ha : a < s2.heap.arrs.size)
    (hac : s2.heap.get ac = .arr a) (hic : s2.heap.get ic = .num x)
    (hr : ∀ m sm, memberStep ea.token.pos ac ic s2 = .ok m sm →
      RhsYields (evalExpr prog (n + 2) er) w sm) :
    match setIdx (absArr s2.heap a) x.toGoInt w with
    | .ok l' => ∃ c s', evalExpr prog (n + 4) (.binary (.binary ea ei lsq) er eq) s = .ok c s' ∧
        s'.heap.get c = w ∧ ArrStep a s2 s' l' ∧ Unshared s'.heap ∧ ElemsPlain s'.heap
    | .error m => ∃ s', evalExpr prog (n + 4) (.binary (.binary ea ei lsq) er eq) s
          = .err (.runtime ea.token.pos m) s' ∧
        ∀ b, absArr s'.heap b = absArr s2.heap b :=
  have i := reachable_inv (.expr prog n ei s1 s2 ic (.expr prog n ea s s1 ac hs h1) h2)
  index_assign_refines prog n ea ei er lsq eq s s1 s2 ac ic a x w hl he h1 h2 i.wf i.un i.ep ha hac hic hr

/-- `ops_refine_list_w` from a reachable state: every sequence of push / pop / popfirst / length /
    index write through one array id behaves like the ideal list, with no hypothesis on the heap
    but the receiver being allocated -/
theorem ops_refine_list_w_reachable (a : ArrId) (ops : List OpW) (s : St) (hs : Reachable s)
    (ha : a < s.heap.arrs.size) (hv : ∀ op ∈ ops, op.valid) :
    match runW (absArr s.heap a) ops with
    | .ok (rs, l') => ∃ s', runOpsW a ops s = .ok (rs.map (resOf a)) s' ∧ ArrStep a s s' l'
    | .error m => ∃ s', runOpsW a ops s = .err (.runtime 0 m) s' :=
  have i := reachable_inv hs
  ops_refine_list_w a ops s i.wf i.un i.ep ha hv

/-- `ops_refine_lists_w` (several arrays, interleaved) from a reachable state -/
theorem ops_refine_lists_w_reachable (ops : List (ArrId × OpW)) (s : St) (hs : Reachable s)
    (hids : ∀ aop ∈ ops, aop.1 < s.heap.arrs.size) (hv : ∀ aop ∈ ops, aop.2.valid) :
    match runAllW (absArr s.heap) ops with
    | .ok (rs, m') => ∃ s', runOpsOnW ops s = .ok rs s' ∧ (∀ b, absArr s'.heap b = m' b) ∧
        s'.heap.WF ∧ s'.heap.arrs.size = s.heap.arrs.size ∧ s' = { s with heap := s'.heap }
    | .error e => ∃ s', runOpsOnW ops s = .err (.runtime 0 e) s' :=
  have i := reachable_inv hs
  ops_refine_lists_w ops s i.wf i.un i.ep hids hv

/-- `index_assign_fresh_refines` (the right-hand side evaluates to a fresh cell holding `v`: every
    literal) for an assignment evaluated in a reachable state, without the three hypotheses -/
theorem index_assign_fresh_refines_reachable (prog : Program) (n : Nat) (ea ei er : Expr) (lsq eq : Token)
    (s s1 s2 : St) (ac ic : CellId) (a : ArrId) (x : F64) (v w : Val) (hs : Reachable s)
    (hl : lsq.tag = .lsquare) (he : eq.tag = .equal)
    (h1 : evalExpr prog n ea s = .ok ac s1) (h2 : evalExpr prog n ei s1 = .ok ic s2)
    (ha : a < s2.heap.arrs.size)
    (hac : s2.heap.get ac = .arr a) (hic : s2.heap.get ic = .num x)
    (hv : ∀ s', evalExpr prog (n + 2) er s' = newCell v s') (hw : copyVal v = .ok w) :
    match setIdx (absArr s2.heap a) x.toGoInt w with
    | .ok l' => ∃ c s', evalExpr prog (n + 4) (.binary (.binary ea ei lsq) er eq) s = .ok c s' ∧
        s'.heap.get c = w ∧ ArrStep a s2 s' l' ∧ Unshared s'.heap ∧ ElemsPlain s'.heap
    | .error m => ∃ s', evalExpr prog (n + 4) (.binary (.binary ea ei lsq) er eq) s
          = .err (.runtime ea.token.pos m) s' ∧
        ∀ b, absArr s'.heap b = absArr s2.heap b :=
  have i := reachable_inv (.expr prog n ei s1 s2 ic (.expr prog n ea s s1 ac hs h1) h2)
  index_assign_fresh_refines prog n ea ei er lsq eq s s1 s2 ac ic a x v w hl he h1 h2 i.wf i.un i.ep ha
    hac hic hv hw

/-! #### non-vacuity of section 12, and the finding -/

/-- the example state of section 9 satisfies the invariant -/
theorem exW_inv : HeapInv.Inv exW.heap :=
  ⟨exW_wf, exW_unshared, exW_plain, fun o k c hc => by simp [exW, Heap.obj] at hc⟩

example : exW.heap.WF ∧ Unshared exW.heap ∧ ElemsPlain exW.heap := inv_gives exW_inv

def isOkR {α : Type} : Res α → Bool
  | .ok _ _ => true
  | _ => false

def isSigR {α : Type} : Res α → Bool
  | .err (.sig _) _ => true
  | _ => false

def stOf {α : Type} : Res α → St
  | .ok _ s => s
  | .err _ s => s
  | .oof => default

theorem exists_of_isOkR {α : Type} {r : Res α} (h : isOkR r = true) : ∃ a s', r = .ok a s' := by
  cases r with
  | ok a s' => exact ⟨a, s', rfl⟩
  | err e s' => cases h
  | oof => cases h

theorem exists_of_isSigR {α : Type} {r : Res α} (h : isSigR r = true) : ∃ g s', r = .err (.sig g) s' := by
  cases r with
  | ok a s' => cases h
  | err e s' =>
    cases e with
    | sig g => exact ⟨g, s', rfl⟩
    | runtime p m => cases h
    | panic m => cases h
    | unmodelled w => cases h
  | oof => cases h

/-- `a[i] = v` on `exW`: `evalExpr_keeps_inv` applies -/
example : ∃ c s', evalExpr Program.empty 5 exWAssign exW = .ok c s' ∧ HeapInv.Inv s'.heap := by
  obtain ⟨c, s', e⟩ := exists_of_isOkR (r := evalExpr Program.empty 5 exWAssign exW) (by decide +kernel)
  exact ⟨c, s', e, (evalExpr_keeps_inv _ _ _ _ _ _ exW_inv e).1⟩

/-- the statement `a[i] = v` on `exW`: `evalStmt_keeps_inv` applies -/
example : ∃ s', evalStmt Program.empty 6 (.expr exWAssign) exW = .ok () s' ∧ HeapInv.Inv s'.heap := by
  obtain ⟨u, s', e⟩ := exists_of_isOkR (r := evalStmt Program.empty 6 (.expr exWAssign) exW)
    (by decide +kernel)
  exact ⟨s', e, (evalStmt_keeps_inv _ _ _ _ _ exW_inv e).1⟩

/-- `{ a[i] = v; break }` ends with the signal `break`: `evalStmt_signal_keeps_inv` applies -/
example : ∃ g s', evalStmt Program.empty 8
      (.block ⟨.lcurly, 0, b!"{"⟩ [.expr exWAssign, .brk ⟨.break_, 9, b!"break"⟩]) exW = .err (.sig g) s' ∧
    HeapInv.Inv s'.heap := by
  obtain ⟨g, s', e⟩ := exists_of_isSigR (r := evalStmt Program.empty 8
      (.block ⟨.lcurly, 0, b!"{"⟩ [.expr exWAssign, .brk ⟨.break_, 9, b!"break"⟩]) exW) (by decide +kernel)
  exact ⟨g, s', e, (evalStmt_signal_keeps_inv _ _ _ _ _ _ exW_inv e).1⟩

/-- `match a { x => { a[i] = v; break } }` (an expression) ends with the signal `break`:
    `evalExpr_signal_keeps_inv` applies -/
example : ∃ g s', evalExpr Program.empty 10
      (.match_ ⟨.match_, 0, b!"match"⟩ (.ident ⟨.ident, 6, b!"a"⟩)
        [.mk [.ident ⟨.ident, 10, b!"x"⟩]
          (.block ⟨.lcurly, 0, b!"{"⟩ [.expr exWAssign, .brk ⟨.break_, 9, b!"break"⟩])]) exW
        = .err (.sig g) s' ∧ HeapInv.Inv s'.heap := by
  obtain ⟨g, s', e⟩ := exists_of_isSigR (r := evalExpr Program.empty 10
      (.match_ ⟨.match_, 0, b!"match"⟩ (.ident ⟨.ident, 6, b!"a"⟩)
        [.mk [.ident ⟨.ident, 10, b!"x"⟩]
          (.block ⟨.lcurly, 0, b!"{"⟩ [.expr exWAssign, .brk ⟨.break_, 9, b!"break"⟩])]) exW)
    (by decide +kernel)
  exact ⟨g, s', e, (evalExpr_signal_keeps_inv _ _ _ _ _ _ exW_inv e).1⟩

/-- `a.push(true)` on `exW`: `native_keeps_inv` applies -/
example : ∃ r s', callNative .arrPush [.bool true] (some (.arr 0)) exW = .ok r s' ∧ HeapInv.Inv s'.heap := by
  obtain ⟨r, s', e⟩ := exists_of_isOkR (r := callNative .arrPush [.bool true] (some (.arr 0)) exW)
    (by decide +kernel)
  exact ⟨r, s', e, (native_keeps_inv _ _ _ _ _ _
    (fun v hv => by simp at hv; subst hv; exact ⟨rfl, fun _ _ _ e => by cases e⟩) exW_inv e).1⟩

/-- storing the value of cell 2 into the element cell 3: `evalAssignment_keeps_inv` applies -/
example : ∃ c s', evalAssignment 0 3 2 exW = .ok c s' ∧ HeapInv.Inv s'.heap := by
  obtain ⟨c, s', e⟩ := exists_of_isOkR (r := evalAssignment 0 3 2 exW) (by decide +kernel)
  exact ⟨c, s', e, (evalAssignment_keeps_inv _ _ _ _ _ _ exW_inv e).1⟩

/-- converting `[null, {"k": true}]` on `exW`: `newValueJson_keeps_inv` applies -/
example : ∃ v s', newValueJson (.arr [.null, .obj [(b!"k", .bool true)]]) exW = .ok v s' ∧
    HeapInv.Inv s'.heap ∧ Plain v := by
  obtain ⟨v, s', e⟩ := exists_of_isOkR (r := newValueJson (.arr [.null, .obj [(b!"k", .bool true)]]) exW)
    (by decide +kernel)
  have h := newValueJson_keeps_inv _ _ _ _ exW_inv e
  exact ⟨v, s', e, h.1, h.2.2⟩

theorem outcome_ok_of {o : Outcome} (h : (match o with | .ok => true | _ => false) = true) : o = .ok := by
  cases o <;> first | rfl | cases h

/-- a run checked (by evaluation) to end successfully with a reported state -/
theorem run_ok_state (r : RunResult) (P : St → Prop)
    (ob : (match r with | ⟨.ok, _, some _⟩ => true | _ => false) = true)
    (hw : ∀ st, r.st = some st → r.outcome = .ok → P st) : ∃ st, r.st = some st ∧ P st := by
  obtain ⟨o, out, st?⟩ := r
  cases o <;> cases st? <;> first | exact ⟨_, rfl, hw _ rfl rfl⟩ | cases ob

/-- a whole run with padding writes, push, pop, popfirst, an array literal holding an element's value and
    input converted from JSON: `run_end_unshared_plain` applies -/
example : ∃ st, (evalProgram expectedRuleTable
      b!"BEGIN { a[2] = 1; a.push(a.pop()); b = [a[0], a] } { $.x[3] = $.y; b.push($); b[5] = b.popfirst() }" []
      [⟨b!"in", b!"{\"y\": [1, 2]}", .eof⟩]).st = some st ∧
    st.heap.WF ∧ Unshared st.heap ∧ ElemsPlain st.heap :=
  run_ok_state _ _ (by decide +kernel) (run_end_unshared_plain _ _ _ _)

/-- a reachable state: the start state of the empty program, the input `[true, false]` converted,
    three cells allocated (the array reference, the index 1, the value `true`), and the variables
    `a`, `i`, `v` naming them -/
def sR0 : St := newEvaluator Program.empty Heap.empty [] 0
def sR1 : St := stOf (newValueJson (.arr [.bool true, .bool false]) sR0)
def sR2 : St := { sR1 with heap := (sR1.heap.alloc (.arr 0)).2 }
def sR3 : St := { sR2 with heap := (sR2.heap.alloc (.num F64.one)).2 }
def sR4 : St := { sR3 with heap := (sR3.heap.alloc (.bool true)).2 }
def sR : St := { sR4 with frames := [⟨b!"<root>", [(b!"a", 5), (b!"i", 6), (b!"v", 7)]⟩] }

theorem sR_reachable : Reachable sR := by
  have h1 : Reachable sR1 :=
    .json (.arr [.bool true, .bool false]) sR0 sR1 (.arr 0) (.init _) (by with_unfolding_all rfl)
  exact .sameHeap sR4 sR (.alloc sR3 _ (.alloc sR2 _ (.alloc sR1 _ h1))) rfl

example : sR.heap.WF ∧ Unshared sR.heap ∧ ElemsPlain sR.heap := reachable_unshared_plain sR_reachable

/-- `index_write_refines_reachable` on `sR`: the write `a[1] = true` gives `[true, true]` -/
example : ∃ c s', writeAt 0 5 6 7 sR = .ok c s' ∧ absArr s'.heap 0 = [.bool true, .bool true] := by
  have h := index_write_refines_reachable 0 5 6 7 sR 0 F64.one (.bool true) sR_reachable
    (by decide +kernel) (by with_unfolding_all rfl) (by with_unfolding_all rfl) (by decide +kernel)
    (by with_unfolding_all rfl)
  have hs : setIdx (absArr sR.heap 0) F64.one.toGoInt (.bool true) = .ok [.bool true, .bool true] := by
    with_unfolding_all rfl
  rw [hs] at h
  obtain ⟨c, s', e, g, st, -⟩ := h
  exact ⟨c, s', e, st.this⟩

example : HeapInv.Inv sR.heap := reachable_inv sR_reachable

/-- `a[3] = null` evaluated in the reachable state `sR` (`a` = `[true, false]`): the hypotheses of
    `index_assign_fresh_refines_reachable` hold — none about sharing or plainness is left — and it
    gives `[true, false, null, null]` -/
example : ∃ c s', evalExpr Program.empty 5
      (.binary (.binary (.ident ⟨.ident, 0, b!"a"⟩) (.lit ⟨.num, 2, b!"3"⟩) ⟨.lsquare, 1, b!"["⟩)
        (.lit ⟨.null, 7, b!"null"⟩) ⟨.equal, 5, b!"="⟩) sR = .ok c s' ∧
    absArr s'.heap 0 = [.bool true, .bool false, .nil none, .nil none] := by
  have ext : Ext sR.heap (sR.heap.alloc (.num three)).2 := Ext.alloc _ _
  have h := index_assign_fresh_refines_reachable Program.empty 1 (.ident ⟨.ident, 0, b!"a"⟩)
    (.lit ⟨.num, 2, b!"3"⟩) (.lit ⟨.null, 7, b!"null"⟩) ⟨.lsquare, 1, b!"["⟩ ⟨.equal, 5, b!"="⟩ sR sR
    { sR with heap := (sR.heap.alloc (.num three)).2 } 5 8 0 three (.nil none) (.nil none) sR_reachable
    rfl rfl (by with_unfolding_all rfl) (evalExpr_lit_three sR) (by decide +kernel)
    ((Heap.get_push_old sR.heap _ 5 (by decide +kernel)).trans (by with_unfolding_all rfl))
    (Heap.get_push_new sR.heap _)
    (fun _ => by with_unfolding_all rfl) rfl
  rw [three_toGoInt, ext.absArr (reachable_inv sR_reachable).wf 0] at h
  have hs : setIdx (absArr sR.heap 0) 3 (.nil none) = .ok [.bool true, .bool false, .nil none, .nil none] := by
    with_unfolding_all rfl
  rw [hs] at h
  obtain ⟨c, s', e, g, st, -⟩ := h
  exact ⟨c, s', e, st.this⟩

/-- the same through `index_assign_refines_reachable`: its hypothesis `RhsYields` holds for the
    literal `null` -/
example : ∃ c s', evalExpr Program.empty 5
      (.binary (.binary (.ident ⟨.ident, 0, b!"a"⟩) (.lit ⟨.num, 2, b!"3"⟩) ⟨.lsquare, 1, b!"["⟩)
        (.lit ⟨.null, 7, b!"null"⟩) ⟨.equal, 5, b!"="⟩) sR = .ok c s' ∧
    absArr s'.heap 0 = [.bool true, .bool false, .nil none, .nil none] := by
  have ext : Ext sR.heap (sR.heap.alloc (.num three)).2 := Ext.alloc _ _
  have h := index_assign_refines_reachable Program.empty 1 (.ident ⟨.ident, 0, b!"a"⟩)
    (.lit ⟨.num, 2, b!"3"⟩) (.lit ⟨.null, 7, b!"null"⟩) ⟨.lsquare, 1, b!"["⟩ ⟨.equal, 5, b!"="⟩ sR sR
    { sR with heap := (sR.heap.alloc (.num three)).2 } 5 8 0 three (.nil none) sR_reachable
    rfl rfl (by with_unfolding_all rfl) (evalExpr_lit_three sR) (by decide +kernel)
    ((Heap.get_push_old sR.heap _ 5 (by decide +kernel)).trans (by with_unfolding_all rfl))
    (Heap.get_push_new sR.heap _)
    (fun m sm _ => ⟨sm.heap.cells.size, (sm.heap.alloc (.nil none)).2, by with_unfolding_all rfl,
      Ext.alloc sm.heap _, by
        show @LT.lt Nat _ sm.heap.cells.size (sm.heap.cells.push (.nil none)).size
        simp, by
        rw [show (sm.heap.alloc (.nil none)).2.get sm.heap.cells.size = .nil none from
          Heap.get_push_new sm.heap _]
        rfl⟩)
  rw [three_toGoInt, ext.absArr (reachable_inv sR_reachable).wf 0] at h
  have hs : setIdx (absArr sR.heap 0) 3 (.nil none) = .ok [.bool true, .bool false, .nil none, .nil none] := by
    with_unfolding_all rfl
  rw [hs] at h
  obtain ⟨c, s', e, g, st, -⟩ := h
  exact ⟨c, s', e, st.this⟩

/-- `ops_refine_list_w_reachable` on `sR` with the six-operation sequence of section 9 -/
example : ∃ s', runOpsW 0 exOps sR =
      .ok ([some (.num F64.one), some (.num F64.one), some (.num F64.zero), some (.bool true),
            some (.num (F64.ofNat 2)), none].map (resOf 0)) s' ∧
    absArr s'.heap 0 = [.bool false, .num F64.zero, .num F64.one] := by
  have h := ops_refine_list_w_reachable 0 exOps sR sR_reachable (by decide +kernel) exOps_valid
  have hr : runW (absArr sR.heap 0) exOps
      = .ok ([some (.num F64.one), some (.num F64.one), some (.num F64.zero), some (.bool true),
            some (.num (F64.ofNat 2)), none], [.bool false, .num F64.zero, .num F64.one]) := by
    with_unfolding_all rfl
  rw [hr] at h
  obtain ⟨s', e, st⟩ := h
  exact ⟨s', e, st.this⟩

/-- `ops_refine_lists_w_reachable` on `sR`: its hypotheses hold for `a.length` on array 0 -/
example := ops_refine_lists_w_reachable [(0, .length)] sR sR_reachable
  (fun aop h => by simp at h; subst h; decide +kernel) (fun aop h => by simp at h; subst h; trivial)

/-- **FINDING: `ElemsPlain` does not hold in the final state of an evaluation stopped by a runtime
    error.**  `a[i] = v` with `a = [true, false]`, `i = 5` and `v` the builtin `printf`: the member
    step yields a stand-in for the missing element, `createSpeculative` / `setMember` pad the array
    to six elements and copy the stand-in VALUE into the last one, and only then `copyValue` refuses
    the function ("cannot copy a nativefunction"): the runtime error leaves an array whose element 5
    is a stand-in.  The Go code does the same (`SetMember`: `item.Value = cell.Value`, then
    `copyValue` fails in `evalAssignment`); the program ends there, so nothing ever reads the
    element.  This is why section 12 claims the full invariant for normal ends and control signals
    only, and `Heap.WF ∧ Unshared` after errors. -/
theorem elemsPlain_fails_after_runtime_error :
    ∃ p m s', evalExpr Program.empty 5 exWAssign
        { exW with heap := ⟨#[.arr 0, .num (F64.ofNat 5), .native .printf none none, .bool true, .bool false],
                             #[#[3, 4]], #[]⟩ } = .err (.runtime p m) s' ∧
      m = "cannot copy a nativefunction" ∧ (absArr s'.heap 0).length = 6 ∧ ¬ ElemsPlain s'.heap := by
  have ob : (match evalExpr Program.empty 5 exWAssign
        { exW with heap := ⟨#[.arr 0, .num (F64.ofNat 5), .native .printf none none, .bool true, .bool false],
                             #[#[3, 4]], #[]⟩ } with
      | .err (.runtime _ m) s' => m == "cannot copy a nativefunction" && (s'.heap.arr 0).size == 6 &&
          (s'.heap.get ((s'.heap.arr 0).getD 5 0)).speculative
      | _ => false) = true := by decide +kernel
  cases hr : evalExpr Program.empty 5 exWAssign
        { exW with heap := ⟨#[.arr 0, .num (F64.ofNat 5), .native .printf none none, .bool true, .bool false],
                             #[#[3, 4]], #[]⟩ } with
  | ok c s' => rw [hr] at ob; cases ob
  | oof => rw [hr] at ob; cases ob
  | err e s' =>
    rw [hr] at ob
    cases e with
    | sig g => cases ob
    | panic m => cases ob
    | unmodelled w => cases ob
    | runtime p m =>
      simp only [Bool.and_eq_true, beq_iff_eq] at ob
      obtain ⟨⟨hm, hsz⟩, hsp⟩ := ob
      refine ⟨p, m, s', rfl, hm, by rw [absArr_length]; exact hsz, fun pl => ?_⟩
      have := (pl 0 _ (mem_arr_getD s'.heap 0 5 (by rw [hsz]; decide))).1
      rw [hsp] at this; cases this

/-- **what does survive a runtime error: `Heap.WF` and `Unshared`.**  An expression evaluated from a
    state satisfying the invariant that stops with a runtime error leaves a well-formed heap in which
    no cell is an element of two arrays or twice of one (`HeapInv.Weak`; the same holds after a
    panic or an unmodelled construct, see `HeapInv.Post`).  Only `ElemsPlain` can be lost
    (`elemsPlain_fails_after_runtime_error`): every store into an array is of fresh cells, and
    writing a value into a cell changes neither the arrays nor the number of cells. -/
theorem evalExpr_error_keeps_unshared (prog : Program) (n : Nat) (e : Expr) (s s' : St) (p : Nat)
    (m : String) (i : HeapInv.Inv s.heap) (h : evalExpr prog n e s = .err (.runtime p m) s') :
    s'.heap.WF ∧ Unshared s'.heap := by
  have := (allGood prog n).expr e s i trivial
  rw [h] at this; exact this

/-- … and a statement that stops with a runtime error -/
theorem evalStmt_error_keeps_unshared (prog : Program) (n : Nat) (st : Stmt) (s s' : St) (p : Nat)
    (m : String) (i : HeapInv.Inv s.heap) (h : evalStmt prog n st s = .err (.runtime p m) s') :
    s'.heap.WF ∧ Unshared s'.heap := by
  have := (allGood prog n).stmt st s i trivial
  rw [h] at this; exact this

/-- **a whole run, whatever its outcome** (success, runtime error, panic, unmodelled construct,
    surfaced signal, JSON error, syntax error in a selector, out of fuel): the state it reports has a
    well-formed heap in which no cell is an element twice.  (For the outcomes other than runtime
    error / panic / unmodelled the full invariant holds, `HeapInv.evalProgram_invRun`.) -/
theorem run_end_unshared (tbl : RuleTable) (src : Bytes) (sels : List Bytes) (files : List InputFile)
    (st : St) (hst : (evalProgram tbl src sels files).st = some st) :
    st.heap.WF ∧ Unshared st.heap :=
  evalProgram_weak tbl src sels files st hst

def exF : St :=
  { exW with heap := ⟨#[.arr 0, .num (F64.ofNat 5), .native .printf none none, .bool true, .bool false],
                       #[#[3, 4]], #[]⟩ }

/-- `evalExpr_error_keeps_unshared` on the evaluation of `elemsPlain_fails_after_runtime_error`
    (`a[5] = printf` with `a = [true, false]`): the start state satisfies the invariant (the cell
    holding the function is no array element), the evaluation stops with a runtime error, and the
    end state — in which `ElemsPlain` fails — is well-formed and unshared -/
example : ∃ p m s', evalExpr Program.empty 5 exWAssign exF = .err (.runtime p m) s' ∧
    s'.heap.WF ∧ Unshared s'.heap ∧ ¬ ElemsPlain s'.heap := by
  have hi : HeapInv.Inv exF.heap := by
    have e : exF.heap = (exW.heap.set 1 (.num (F64.ofNat 5))).set 2 (.native .printf none none) := by
      with_unfolding_all rfl
    rw [e]
    refine inv_set_notElem (inv_set exW_inv 1 (plain_num _)) 2 _ ?_ ?_
    · intro b hb
      rcases b with _ | b
      · revert hb; decide
      · have hb' : 2 ∈ (exW.heap.arr (b + 1)).toList := hb
        rw [exW_arr] at hb'; simp at hb'
    · intro o k hk
      have hk' : (k, 2) ∈ exW.heap.obj o := hk
      simp [exW, Heap.obj] at hk'
  obtain ⟨p, m, s', hr, -, -, hne⟩ := elemsPlain_fails_after_runtime_error
  exact ⟨p, m, s', hr, (evalExpr_error_keeps_unshared _ _ _ _ _ _ _ hi hr).1,
    (evalExpr_error_keeps_unshared _ _ _ _ _ _ _ hi hr).2, hne⟩

/-- a whole run that ends with a runtime error: `a[5] = printf` in a `BEGIN` rule -/
def exRunErr : RunResult := evalProgram expectedRuleTable b!"BEGIN { a[2] = 1; a[5] = printf }" [] []

/-- `run_end_unshared` on a whole run that ends with the runtime error of the finding: the state the
    run reports is well-formed and unshared, and `ElemsPlain` fails in it (element 5 of the padded
    array is a stand-in) -/
example : ∃ st src pos, exRunErr.st = some st ∧
    exRunErr.outcome = .runtimeErr src pos "cannot copy a nativefunction" ∧
    st.heap.WF ∧ Unshared st.heap ∧ ¬ ElemsPlain st.heap := by
  have ob : (match exRunErr with
      | ⟨.runtimeErr _ _ m, _, some st⟩ => m == "cannot copy a nativefunction" &&
          (st.heap.arr 0).size == 6 && (st.heap.get ((st.heap.arr 0).getD 5 0)).speculative
      | _ => false) = true := by decide +kernel
  have hw := run_end_unshared expectedRuleTable b!"BEGIN { a[2] = 1; a[5] = printf }" [] []
  change ∀ st, exRunErr.st = some st → _ at hw
  generalize exRunErr = r at ob hw ⊢
  obtain ⟨o, out, st?⟩ := r
  cases o <;> cases st? <;> try (cases ob; done)
  rename_i src pos m st
  simp only [Bool.and_eq_true, beq_iff_eq] at ob
  obtain ⟨⟨hm, hsz⟩, hsp⟩ := ob
  subst hm
  refine ⟨st, src, pos, rfl, rfl, (hw st rfl).1, (hw st rfl).2, fun pl => ?_⟩
  have := (pl 0 _ (mem_arr_getD st.heap 0 5 (by rw [hsz]; decide))).1
  rw [hsp] at this; cases this


/-- **a whole run that does not end with a runtime error, a panic or an unmodelled construct**
    (success, surfaced signal, JSON error, syntax error in a selector, out of fuel with a reported
    state): the state it reports satisfies the full invariant, in particular `ElemsPlain`
    (`run_end_unshared_plain` is the case `outcome = .ok`) -/
theorem run_end_unshared_plain_unless_error (tbl : RuleTable) (src : Bytes) (sels : List Bytes)
    (files : List InputFile) (st : St) (hst : (evalProgram tbl src sels files).st = some st)
    (h1 : ∀ s p m, (evalProgram tbl src sels files).outcome ≠ .runtimeErr s p m)
    (h2 : ∀ m, (evalProgram tbl src sels files).outcome ≠ .panic m)
    (h3 : ∀ w, (evalProgram tbl src sels files).outcome ≠ .unmodelled w) :
    st.heap.WF ∧ Unshared st.heap ∧ ElemsPlain st.heap := by
  have h := evalProgram_invRun tbl src sels files st hst
  revert h h1 h2 h3
  generalize (evalProgram tbl src sels files).outcome = o
  intro h1 h2 h3 h
  cases o with
  | runtimeErr s p m => exact absurd rfl (h1 s p m)
  | panic m => exact absurd rfl (h2 m)
  | unmodelled w => exact absurd rfl (h3 w)
  | _ => exact inv_gives h

/-- its hypotheses hold for a run stopped by malformed JSON input after one good value (outcome
    `jsonErr`): the reported state satisfies the invariant -/
example : ∃ st, (evalProgram expectedRuleTable b!"{ $.x[3] = $.y }" []
      [⟨b!"in", b!"{\"y\": [1, 2]} {", .eof⟩]).st = some st ∧
    st.heap.WF ∧ Unshared st.heap ∧ ElemsPlain st.heap := by
  have ob : (match (evalProgram expectedRuleTable b!"{ $.x[3] = $.y }" []
      [⟨b!"in", b!"{\"y\": [1, 2]} {", .eof⟩]) with
      | ⟨.jsonErr _, _, some _⟩ => true
      | _ => false) = true := by decide +kernel
  have hw := run_end_unshared_plain_unless_error expectedRuleTable b!"{ $.x[3] = $.y }" []
      [⟨b!"in", b!"{\"y\": [1, 2]} {", .eof⟩]
  revert ob hw
  generalize (evalProgram expectedRuleTable b!"{ $.x[3] = $.y }" []
      [⟨b!"in", b!"{\"y\": [1, 2]} {", .eof⟩]) = r
  intro ob hw
  obtain ⟨o, out, st?⟩ := r
  cases o <;> cases st? <;> try (cases ob; done)
  rename_i f st
  exact ⟨st, rfl, hw st rfl (fun _ _ _ h => by cases h) (fun _ h => by cases h) (fun _ h => by cases h)⟩


/-! #### intermediate states: the start of every nested statement

  `Spec.Leads prog l n (.stmt outer) s m inner s0` (`Lemmas/LoopsNest.lean`, C07) says that running
  the statement `outer` from `s` arrives at the sub-statement `inner`, to be run at fuel `m` from
  state `s0` — through the statements of blocks that completed before it, taken `if`/`else`
  branches, rounds of `while` / `for` / `for … in` loops, and bodies of `match` statements. -/

/-- **every nested statement is started in a state satisfying the invariant**: if a statement (a
    rule body, a function body) is started in a state satisfying `Inv` and leads to a sub-statement,
    that sub-statement is started in a state satisfying `Inv` -/
theorem nested_stmt_starts_inv (prog : Program) {l : Bool} {n m : Nat} {outer inner : Stmt} {s s0 : St}
    (h : Leads prog l n (.stmt outer) s m inner s0) (i : HeapInv.Inv s.heap) : HeapInv.Inv s0.heap :=
  leads_inv prog h i trivial

/-- … so there no cell is an element twice and every array element is plain -/
theorem nested_stmt_starts_unshared_plain (prog : Program) {l : Bool} {n m : Nat} {outer inner : Stmt}
    {s s0 : St} (h : Leads prog l n (.stmt outer) s m inner s0) (i : HeapInv.Inv s.heap) :
    s0.heap.WF ∧ Unshared s0.heap ∧ ElemsPlain s0.heap := inv_gives (nested_stmt_starts_inv prog h i)

/-- **an index assignment statement `ea[ei] = v;` anywhere inside a statement started in a state
    satisfying the invariant refines the ideal list** (`index_assign_var_refines` at the nested
    statement, with no hypothesis about sharing or plainness; `s0` is the state the assignment
    statement is started in, `s2` the state after `ea` and `ei`) -/
theorem nested_index_assign_var_refines (prog : Program) {l : Bool} {k : Nat} {outer : Stmt} {s s0 : St}
    (n : Nat) (ea ei : Expr) (lsq eq tv : Token)
    (h : Leads prog l k (.stmt outer) s (n + 5) (.expr (.binary (.binary ea ei lsq) (.ident tv) eq)) s0)
    (i : HeapInv.Inv s.heap) (s1 s2 : St) (ac ic rc : CellId) (a : ArrId) (x : F64) (w : Val)
    (hl : lsq.tag = .lsquare) (he : eq.tag = .equal)
    (h1 : evalExpr prog n ea s0 = .ok ac s1) (h2 : evalExpr prog n ei s1 = .ok ic s2)
    (h3 : ∀ h', getIdentifier prog tv { s2 with heap := h' } = .ok rc { s2 with heap := h' })
    (ha : a < s2.heap.arrs.size)
    (hac : s2.heap.get ac = .arr a) (hic : s2.heap.get ic = .num x) (hrc : rc < s2.heap.cells.size)
    (hw : copyVal (s2.heap.get rc) = .ok w) :
    match setIdx (absArr s2.heap a) x.toGoInt w with
    | .ok l' => ∃ c s', evalExpr prog (n + 4) (.binary (.binary ea ei lsq) (.ident tv) eq) s0 = .ok c s' ∧
        s'.heap.get c = w ∧ ArrStep a s2 s' l' ∧ Unshared s'.heap ∧ ElemsPlain s'.heap
    | .error m => ∃ s', evalExpr prog (n + 4) (.binary (.binary ea ei lsq) (.ident tv) eq) s0
          = .err (.runtime ea.token.pos m) s' ∧
        ∀ b, absArr s'.heap b = absArr s2.heap b :=
  have i0 := nested_stmt_starts_inv prog h i
  have i1 := (evalExpr_keeps_inv prog n ea s0 s1 ac i0 h1).1
  have i2 := (evalExpr_keeps_inv prog n ei s1 s2 ic i1 h2).1
  index_assign_var_refines prog n ea ei lsq eq tv s0 s1 s2 ac ic rc a x w hl he h1 h2 h3 i2.wf i2.un i2.ep
    ha hac hic hrc hw

def exW1 : St := stOf (evalStmt Program.empty 7 (.expr exWAssign) exW)

/-- `{ a[i] = v; a[i] = v }` started in `exW` leads to its second statement, started in `exW1` -/
theorem exW_leads : Leads Program.empty false 9
    (.stmt (.block ⟨.lcurly, 0, b!"{"⟩ [.expr exWAssign, .expr exWAssign])) exW 6 (.expr exWAssign) exW1 :=
  .block (.blockTail (by with_unfolding_all rfl) (.blockHead .here))

example : exW1.heap.WF ∧ Unshared exW1.heap ∧ ElemsPlain exW1.heap :=
  nested_stmt_starts_unshared_plain Program.empty exW_leads exW_inv

/-- the hypotheses of `nested_index_assign_var_refines` hold for that second statement: it
    succeeds and `a` denotes `[true, true]` -/
example : ∃ c s', evalExpr Program.empty 5 exWAssign exW1 = .ok c s' ∧
    absArr s'.heap 0 = [.bool true, .bool true] := by
  have h := nested_index_assign_var_refines Program.empty 1 (.ident ⟨.ident, 0, b!"a"⟩)
    (.ident ⟨.ident, 2, b!"i"⟩) ⟨.lsquare, 1, b!"["⟩ ⟨.equal, 5, b!"="⟩ ⟨.ident, 7, b!"v"⟩
    exW_leads exW_inv exW1 exW1 0 1 2 0 F64.one (.bool true)
    rfl rfl (by with_unfolding_all rfl) (by with_unfolding_all rfl)
    (fun _ => by with_unfolding_all rfl) (by decide +kernel) (by with_unfolding_all rfl)
    (by with_unfolding_all rfl) (by decide +kernel) (by with_unfolding_all rfl)
  have hs : setIdx (absArr exW1.heap 0) F64.one.toGoInt (.bool true) = .ok [.bool true, .bool true] := by
    with_unfolding_all rfl
  rw [hs] at h
  obtain ⟨c, s', e, g, st, -⟩ := h
  exact ⟨c, s', e, st.this⟩

end Jqawk.C15
