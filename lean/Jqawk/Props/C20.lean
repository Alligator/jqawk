/-
  C20 — unbounded single steps are refused with an error, not by exhausting the process.
  Call nesting: `pushFrame` refuses beyond `callDepthLimit`, and the ghost field `maxDepth`
  (largest number of frames ever open) shows that no evaluation of ONE statement or expression
  — of any shape of recursion, direct, mutual or through match bodies — ever has more than
  `callDepthLimit + 1` frames open (`depth_bounded_stmt`, `depth_bounded_expr`; carrying the bound
  through a whole run, across rules, records and selectors, has no theorem).
  Array fill: the limit is decided by the value-level function `setMember`.  The printf width
  limit is `C18.width_limit` / `C18.width_ok_below`; the JSON decoder's nesting limit has no
  theorem in this file.
-/
import Jqawk.Lemmas.Invariant
import Jqawk.Lemmas.AssignCreate

namespace Jqawk.C20
open Jqawk

/-- beyond the limit a frame push is refused, with the state unchanged -/
theorem pushFrame_refuses (name : Bytes) (s : St) (h : s.frames.length > callDepthLimit) :
    pushFrame name s = .ok (.error "call depth limit exceeded") s :=
  if_pos h

/-- up to the limit it succeeds -/
theorem pushFrame_accepts (name : Bytes) (s : St) (h : s.frames.length ≤ callDepthLimit) :
    ∃ s', pushFrame name s = .ok (.ok ()) s' ∧ s'.frames = ⟨name, []⟩ :: s.frames :=
  ⟨_, if_neg (Nat.not_lt.mpr h), rfl⟩

/-- non-vacuity of `pushFrame_refuses` / `pushFrame_accepts`: a state with 4097 open frames, and
    the initial state -/
example : ({ (default : St) with frames := List.replicate 4097 ⟨[], []⟩ }).frames.length > callDepthLimit
    ∧ (default : St).frames.length ≤ callDepthLimit := by
  refine ⟨?_, by decide⟩
  simp only [List.length_replicate]; decide

variable (prog : Program)

/-- Evaluating a statement never has more than `callDepthLimit + 1` frames open: whatever the
    program does (runaway recursion of any shape included), if at most that many frames had ever
    been open before, the same is true afterwards, for every outcome other than running out of
    fuel. -/
theorem depth_bounded_stmt (n : Nat) (st : Stmt) (s s' : St) (hs : s.maxDepth ≤ callDepthLimit + 1)
    (r : Res Unit) (he : evalStmt prog n st s = r)
    (hr : (match r with | .ok _ t => some t | .err _ t => some t | .oof => none) = some s') :
    s'.maxDepth ≤ callDepthLimit + 1 := by
  have h := (allSafe prog n).stmt st s
  rw [he] at h
  refine Nat.le_trans (Q.keeps ?_ h).depth.2 (Nat.max_le.mpr ⟨hs, Nat.le_refl _⟩)
  -- `hr` is stated with `he` in scope, so its `match` elaborates to one on `r, he`; `cases r`
  -- turns it into the plain match that `Q.keeps` asks for
  revert hr
  cases r <;> exact id

/-- the same for an expression -/
theorem depth_bounded_expr (n : Nat) (e : Expr) (s s' : St) (hs : s.maxDepth ≤ callDepthLimit + 1)
    (r : Res CellId) (he : evalExpr prog n e s = r)
    (hr : (match r with | .ok _ t => some t | .err _ t => some t | .oof => none) = some s') :
    s'.maxDepth ≤ callDepthLimit + 1 := by
  have h := (allSafe prog n).expr e s
  rw [he] at h
  refine Nat.le_trans (Q.keeps ?_ h).depth.2 (Nat.max_le.mpr ⟨hs, Nat.le_refl _⟩)
  -- as in `depth_bounded_stmt`
  revert hr
  cases r <;> exact id

/-- non-vacuity of `depth_bounded_stmt` / `depth_bounded_expr` (a small instance only: an empty
    block and a literal end normally from the initial state; an instance that actually reaches
    the limit needs a 4096-deep evaluation in the kernel) -/
example : (match evalStmt Program.empty 3 (.block Token.zero []) default with
      | .ok _ t => some t | .err _ t => some t | .oof => none).isSome = true ∧
    (default : St).maxDepth ≤ callDepthLimit + 1 := by decide +kernel

/-- the limit is the documented "few thousand" -/
theorem callDepthLimit_value : callDepthLimit = 4096 := rfl

/-- storing at an index beyond the fill limit (and past the end) is refused … -/
theorem fill_limit_refuses (h : Heap) (a : ArrId) (x : F64) (c : CellId)
    (hi : x.toGoInt > (fillLimit : Int)) (hsz : ((h.arr a).size : Int) ≤ x.toGoInt) :
    setMember h (.arr a) (.num x) c = .error "index too large to auto-fill array" := by
  have hpos : 0 ≤ x.toGoInt := Int.le_trans (Int.natCast_nonneg _) (Int.le_of_lt hi)
  have h1 : ¬ x.toGoInt.toNat < (h.arr a).size := Nat.not_lt.mpr ((Int.le_toNat hpos).mpr hsz)
  have h2 : x.toGoInt.toNat > fillLimit := Int.lt_toNat.mpr hi
  simp only [setMember, resolveIndex, Int.not_lt.mpr hpos, ↓reduceIte, h1, h2]

/-- non-vacuity of `fill_limit_refuses`: index 2000000 into an empty array -/
example : (F64.ofNat 2000000).toGoInt > (fillLimit : Int) ∧
    (((Heap.empty).arr 0).size : Int) ≤ (F64.ofNat 2000000).toGoInt := by decide +kernel

/-- … and at or below it the store succeeds and the array then ends exactly at that index
    (only the new SIZE is stated; that the gap holds fresh null cells is `fillNulls` by
    definition, not part of this statement) -/
theorem fill_limit_accepts (h : Heap) (a : ArrId) (x : F64) (c : CellId)
    (hlo : 0 ≤ x.toGoInt) (hi : x.toGoInt ≤ (fillLimit : Int))
    (hsz : ((h.arr a).size : Int) ≤ x.toGoInt) (ha : a < h.arrs.size) :
    ∃ item h', setMember h (.arr a) (.num x) c = .ok (item, h') ∧
      (h'.arr a).size = x.toGoInt.toNat + 1 := by
  have hpos : ¬ x.toGoInt < 0 := Int.not_lt.mpr hlo
  have h1 : ¬ x.toGoInt.toNat < (h.arr a).size := Nat.not_lt.mpr ((Int.le_toNat hlo).mpr hsz)
  have h2 : ¬ x.toGoInt.toNat > fillLimit := Nat.not_lt.mpr (Int.toNat_le.mpr hi)
  simp only [setMember, resolveIndex, hpos, ↓reduceIte, h1, h2]
  refine ⟨_, _, rfl, ?_⟩
  have hf := fillNulls_size (x.toGoInt.toNat + 1 - (h.arr a).size) h (h.arr a)
  simp only [Heap.arr, Heap.set, Heap.setArr] at *
  rw [hf.2] at *
  simp only [Array.setIfInBounds, ha, ↓reduceDIte, Array.getD_eq_getD_getElem?, Array.getElem?_set,
    ↓reduceIte, Option.getD_some]
  simp only [Array.getD_eq_getD_getElem?] at hf h1
  have := hf.1
  omega

/-- non-vacuity of `fill_limit_accepts`: index 3 into the allocated empty array 0 -/
example : 0 ≤ (F64.ofNat 3).toGoInt ∧ (F64.ofNat 3).toGoInt ≤ (fillLimit : Int) ∧
    ((((⟨#[], #[#[]], #[]⟩ : Heap)).arr 0).size : Int) ≤ (F64.ofNat 3).toGoInt ∧
    0 < (⟨#[], #[#[]], #[]⟩ : Heap).arrs.size := by decide +kernel

/-- the limit is Go's `1024*1024` (tied to src/value.go by `FactsTie.fillLimit_tie`) -/
theorem fillLimit_value : fillLimit = 1048576 := rfl

end Jqawk.C20
