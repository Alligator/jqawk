/-
  C07 — control flow executes statements in exactly the documented order, at any nesting.
  * One-step laws: the documented semantics of `if`, blocks, `while`, `for`, for-in, loop
    iterations and calls as equations on the evaluator (every program, state and fuel), and the
    absorption of `break` / `continue` / `return` from the signal discipline (C01).
  * Whole loops against `Spec/Loops.lean`, for the real evaluator at ANY fuel ("out of fuel" is a
    separate outcome and never a result; `fuel_irrelevant`): `while_unrolled` (`while` = repeat
    the round "test; body" — `Rounds k` and a final round), `for_sound` / `for_complete` with
    `for_break_at` (the post-expression runs after completed or continued iterations only),
    `forIn_eq_fold` (for-in = a fold with early exit over the items held at loop entry).
  * Every nesting (`Leads`): `break_ends_innermost_loop`, `continue_resumes_innermost_loop`,
    `abnormal_end_propagates`, `return_from_any_nesting`.
  * The dangling `else` on token lists: `dangling_else_any`, `else_to_outer_needs_braces`.
  * Concrete programs: non-vacuity of all hypotheses, and two findings.
-/
import Jqawk.Props.C01
import Jqawk.Lemmas.LoopsNest
import Jqawk.Lemmas.LoopsElse
import Jqawk.Lemmas.Order

namespace Jqawk.C07
open Jqawk

variable (prog : Program)

/-- `if`: the condition is evaluated once, then exactly one branch (or nothing) -/
theorem if_true (n : Nat) (c : Expr) (body : Stmt) (els : Option Stmt) (s s1 : St) (cell : CellId)
    (hc : evalExpr prog n c s = .ok cell s1) (ht : (s1.heap.get cell).truthy = true) :
    evalStmt prog (n + 1) (.if_ c body els) s = evalStmt prog n body s1 := by
  cases els <;> simp [evalStmt, bind, EM.bind, hc, readCell, ht]

theorem if_false_else (n : Nat) (c : Expr) (body eb : Stmt) (s s1 : St) (cell : CellId)
    (hc : evalExpr prog n c s = .ok cell s1) (ht : (s1.heap.get cell).truthy = false) :
    evalStmt prog (n + 1) (.if_ c body (some eb)) s = evalStmt prog n eb s1 := by
  simp [evalStmt, bind, EM.bind, hc, readCell, ht]

theorem if_false_none (n : Nat) (c : Expr) (body : Stmt) (s s1 : St) (cell : CellId)
    (hc : evalExpr prog n c s = .ok cell s1) (ht : (s1.heap.get cell).truthy = false) :
    evalStmt prog (n + 1) (.if_ c body none) s = .ok () s1 := by
  simp [evalStmt, bind, EM.bind, hc, readCell, ht, pure, EM.pure]

/-- an error or signal in the condition is the result of the `if` -/
theorem if_cond_error (n : Nat) (c : Expr) (body : Stmt) (els : Option Stmt) (s s1 : St) (e : Err)
    (hc : evalExpr prog n c s = .err e s1) :
    evalStmt prog (n + 1) (.if_ c body els) s = .err e s1 := by
  cases els <;> simp [evalStmt, bind, EM.bind, hc]

/-- a block runs its statements first to last; the first one that does not complete ends it -/
theorem block_spec (n : Nat) (st : Stmt) (rest : List Stmt) :
    evalBlock prog (n + 1) (st :: rest) = (do evalStmt prog n st; evalBlock prog n rest) := by
  rw [evalBlock]

theorem block_nil (n : Nat) : evalBlock prog (n + 1) [] = pure () := by rw [evalBlock]

/-- `while`: test, body, repeat -/
theorem while_spec (n : Nat) (c : Expr) (body : Stmt) :
    evalStmt prog (n + 1) (.while_ c body) = whileLoop prog n c body := by rw [evalStmt]

theorem whileLoop_unfold (n : Nat) (c : Expr) (body : Stmt) :
    whileLoop prog (n + 1) c body = (do
      let cell ← evalExpr prog n c
      if (← readCell cell).truthy then
        loopIter (evalStmt prog n body) (whileLoop prog n c body)
      else pure ()) := by rw [whileLoop]

/-- three-clause `for`: the initialiser once (its errors propagate), then test / body / post -/
theorem for_spec (n : Nat) (pre c post : Expr) (body : Stmt) :
    evalStmt prog (n + 1) (.for_ pre c post body) = (do
      let _ ← evalExpr prog n pre
      forLoop prog n c post body) := by rw [evalStmt]

/-- the post-expression runs after each completed or continued iteration (the continuation
    passed to `loopIter` starts with it) -/
theorem forLoop_unfold (n : Nat) (c post : Expr) (body : Stmt) :
    forLoop prog (n + 1) c post body = (do
      let cell ← evalExpr prog n c
      if (← readCell cell).truthy then
        loopIter (evalStmt prog n body) (do
          let _ ← evalExpr prog n post
          forLoop prog n c post body)
      else pure ()) := by rw [forLoop]


theorem loopIter_completed (body k : EM Unit) (s s1 : St) (h : body s = .ok () s1) :
    loopIter body k s = k s1 := Spec.loopIter_goesOn body k s s1 (.inl h)

/-- `continue` goes on with the continuation (next test; for `for`: the post-expression) -/
theorem loopIter_continue (body k : EM Unit) (s s1 : St) (h : body s = .err (.sig .cont) s1) :
    loopIter body k s = k s1 := Spec.loopIter_goesOn body k s s1 (.inr h)

/-- `break` ends this loop, and only this one, normally -/
theorem loopIter_break (body k : EM Unit) (s s1 : St) (h : body s = .err (.sig .brk) s1) :
    loopIter body k s = .ok () s1 := by simp [loopIter, h]

/-- `return`, `next`, `exit` and runtime errors leave the loop unchanged -/
theorem loopIter_propagates (body k : EM Unit) (s s1 : St) (e : Err)
    (h : body s = .err e s1) (hb : e ≠ .sig .brk) (hc : e ≠ .sig .cont) :
    loopIter body k s = .err e s1 := Spec.loopIter_err body k s s1 e h hb hc


theorem forIn_done (n : Nat) (loc : CellId) (il : Option CellId) (body : Stmt) :
    forInLoop prog (n + 1) loc il body [] = pure () := by rw [forInLoop]

/-- one step over an array: the loop variable receives a raw copy of the element's value (and
    the index variable, if any, the position), the body runs, then (unless it broke out or
    failed) the loop continues with the REST of the items — every element is visited at most
    once, in index order -/
theorem forIn_step_array (n : Nat) (loc : CellId) (body : Stmt) (iv : Val) (c : CellId)
    (rest : List (Option Val × (CellId ⊕ (Val × Option CellId)))) (s : St) :
    forInLoop prog (n + 1) loc none body ((some iv, .inl c) :: rest) s =
      loopIter (evalStmt prog n body) (forInLoop prog n loc none body rest)
        { s with heap := s.heap.set loc (s.heap.get c) } := by
  rw [Spec.forInLoop_succ_cons]; rfl

theorem forIn_step_array_index (n : Nat) (loc ic : CellId) (body : Stmt) (iv : Val) (c : CellId)
    (rest : List (Option Val × (CellId ⊕ (Val × Option CellId)))) (s : St) :
    forInLoop prog (n + 1) loc (some ic) body ((some iv, .inl c) :: rest) s =
      loopIter (evalStmt prog n body) (forInLoop prog n loc (some ic) body rest)
        { s with heap := (s.heap.set ic iv).set loc ((s.heap.set ic iv).get c) } := by
  rw [Spec.forInLoop_succ_cons]; rfl

-- (objects are iterated over `sortByKey` of their members: sortedness and independence of the
-- insertion order are theorems of C10)


/-- `break`/`continue` affect only the innermost enclosing loop: a loop statement never passes
    them on (when its header cannot raise them) -/
theorem loops_absorb_break_continue (hfs : prog.FnScoped) (n : Nat) (c : Expr) (b : Stmt)
    (hc : canE .brk c = false ∧ canE .cont c = false) (s s' : St) :
    evalStmt prog n (.while_ c b) s ≠ .err (.sig .brk) s' ∧
    evalStmt prog n (.while_ c b) s ≠ .err (.sig .cont) s' :=
  C01.loops_absorb prog hfs n c b hc s s'

/-- `return` leaves only the current function: the call yields the returned value -/
theorem return_leaves_function (body : EM Unit) (s s1 : St) (c : CellId)
    (h : body s = .err (.sig .ret) s1) (hr : s1.returnVal = some c) :
    catchReturn body s = .ok (s1.heap.get c) s1 := by
  simp [catchReturn, h, hr]

theorem no_return_yields_null (body : EM Unit) (s s1 : St) (h : body s = .ok () s1) :
    catchReturn body s = .ok (.nil none) s1 := by simp [catchReturn, h]

/-- `next` and `exit` pass through calls (with the frame dropped), loops and blocks up to the
    rule driver -/
theorem next_exit_through_call (body : EM Unit) (s s1 : St) (g : Sig) (hg : g = .next ∨ g = .exit)
    (h : body s = .err (.sig g) s1) : catchReturn body s = .err (.sig g) s1 := by
  rcases hg with rfl | rfl <;> simp [catchReturn, h]


/-! # Whole loops, every nesting -/

section whole
open Jqawk.Spec

/-! ## 1. fuel is irrelevant: the fuel-free reading of the evaluator -/

/-- `st`, started in `s`, ends with `r` (a value / error / signal — never "out of fuel") -/
def Runs (st : Stmt) (s : St) (r : Res Unit) : Prop := ∃ n, evalStmt prog n st s = r ∧ r ≠ .oof

/-- **Fuel monotonicity**: more fuel never changes a result that is not "out of fuel"
    (`Lemmas/LoopsMono.lean`, for all fifteen mutually recursive evaluator functions). -/
theorem fuel_irrelevant {n m : Nat} (hnm : n ≤ m) (st : Stmt) (s : St) (r : Res Unit)
    (h : evalStmt prog n st s = r) (hr : r ≠ .oof) : evalStmt prog m st s = r := by
  rw [(evalStmt_le prog st hnm).eq_of_ne_oof (by rw [h]; exact hr), h]

theorem fuel_irrelevant_expr {n m : Nat} (hnm : n ≤ m) (e : Expr) (s : St) (r : Res CellId)
    (h : evalExpr prog n e s = r) (hr : r ≠ .oof) : evalExpr prog m e s = r := by
  rw [(evalExpr_le prog e hnm).eq_of_ne_oof (by rw [h]; exact hr), h]

/-- hence a statement has at most one result -/
theorem runs_unique (st : Stmt) (s : St) (r r' : Res Unit) (h : Runs prog st s r)
    (h' : Runs prog st s r') : r = r' := by
  obtain ⟨n, h1, h2⟩ := h
  obtain ⟨m, h3, h4⟩ := h'
  have a := fuel_irrelevant prog (Nat.le_max_left n m) st s r h1 h2
  have b := fuel_irrelevant prog (Nat.le_max_right n m) st s r' h3 h4
  rw [← a, ← b]

/-! ## 2. `while (c) body` = repeat the round "test; body" until it says stop -/

/-- **while, soundness**: a result of `while (c) body` (at any fuel, not "out of fuel") is the
    result of repeating the round `whileRound` — test `c`; if it holds run `body`; go on after
    completion or `continue`, stop after `break` or a failed test, fail with anything else —
    with the evaluator at that fuel inside the round. -/
theorem while_sound (n : Nat) (c : Expr) (body : Stmt) (s : St) (r : Res Unit)
    (h : evalStmt prog n (.while_ c body) s = r) (hr : r ≠ .oof) :
    Repeats (whileRoundAt prog n c body) s r := by
  cases n with
  | zero => unfold evalStmt at h; exact absurd h.symm hr
  | succ n =>
    rw [while_spec] at h
    exact (whileLoop_sound prog c body n s r h hr).mono (whileRoundAt_mono prog c body n)

/-- **while, completeness**: conversely every result of repeating the round is the result of the
    statement for all sufficiently large fuels. -/
theorem while_complete (m : Nat) (c : Expr) (body : Stmt) (s : St) (r : Res Unit)
    (h : Repeats (whileRoundAt prog m c body) s r) : Runs prog (.while_ c body) s r := by
  obtain ⟨n, hn⟩ := whileLoop_complete prog c body m s r h
  exact ⟨n + 1, by rw [while_spec]; exact hn, h.ne_oof⟩

/-- **while unrolled** (the least fixed point, `k` = number of completed-or-continued
    iterations): the statement has result `r` iff for some `k` there are `k` rounds that answer
    "go on" one after the other — `(c; body)^k` in this order — and the round after them ends
    the loop with `r`: `c` false (normal end), `break` in the body (normal end), or an error /
    `return` / `next` / `exit` in `c` or the body (the loop ends with it). -/
theorem while_unrolled (c : Expr) (body : Stmt) (s : St) (r : Res Unit) :
    Runs prog (.while_ c body) s r ↔
      ∃ m k sk, Rounds (whileRoundAt prog m c body) k s sk ∧ FinalRound (whileRoundAt prog m c body) sk r := by
  constructor
  · rintro ⟨n, h, hr⟩
    obtain ⟨k, sk, h1, h2⟩ := (repeats_iff_rounds _ _ _).mp (while_sound prog n c body s r h hr)
    exact ⟨n, k, sk, h1, h2⟩
  · rintro ⟨m, k, sk, h1, h2⟩
    exact while_complete prog m c body s r ((repeats_iff_rounds _ _ _).mpr ⟨k, sk, h1, h2⟩)

/-- what a round that answers "go on" is, on the evaluator: the test evaluates to a truthy
    value, then the body completes or ends with `continue` -/
theorem while_round_goes_on (m : Nat) (c : Expr) (body : Stmt) (s s2 : St) :
    whileRoundAt prog m c body s = .ok true s2 ↔
      ∃ cell s1, evalExpr prog m c s = .ok cell s1 ∧ (s1.heap.get cell).truthy = true ∧
        (evalStmt prog m body s1 = .ok () s2 ∨ evalStmt prog m body s1 = .err (.sig .cont) s2) := by
  unfold whileRoundAt
  rw [whileRound_true_iff]
  simp only [truthyOf_ok_iff]
  constructor
  · rintro ⟨s1, ⟨cell, h1, h2⟩, h3⟩; exact ⟨cell, s1, h1, h2, h3⟩
  · rintro ⟨cell, s1, h1, h2, h3⟩; exact ⟨s1, ⟨cell, h1, h2⟩, h3⟩

/-- **k iterations, normal end**: if `k` rounds go on and then the test is falsy, the loop ends
    normally in the state after that last test — its effect is `(c; body)^k; c`, for every fuel
    above `m + k + 1` -/
theorem while_k_iterations (m k : Nat) (c : Expr) (body : Stmt) (s sk s' : St) (cell : CellId)
    (hk : Rounds (whileRoundAt prog m c body) k s sk)
    (hc : evalExpr prog m c sk = .ok cell s') (hf : (s'.heap.get cell).truthy = false)
    (n : Nat) (hn : m + k + 1 < n) : evalStmt prog n (.while_ c body) s = .ok () s' := by
  obtain ⟨n', rfl⟩ : ∃ n', n = n' + 1 := ⟨n - 1, by omega⟩
  rw [while_spec]
  refine whileLoop_of_rounds prog c body m k s sk _ hk (.inl ⟨s', ?_, rfl⟩) n' (by omega)
  exact (whileRound_false_iff _ _ _ _).mpr (.inl ((truthyOf_ok_iff _ _ _ _).mpr ⟨cell, hc, hf⟩))

/-- **`break` in iteration k+1** ends the loop normally, in the state `break` was raised in -/
theorem while_break_at (m k : Nat) (c : Expr) (body : Stmt) (s sk s1 s' : St) (cell : CellId)
    (hk : Rounds (whileRoundAt prog m c body) k s sk)
    (hc : evalExpr prog m c sk = .ok cell s1) (ht : (s1.heap.get cell).truthy = true)
    (hb : evalStmt prog m body s1 = .err (.sig .brk) s')
    (n : Nat) (hn : m + k + 1 < n) : evalStmt prog n (.while_ c body) s = .ok () s' := by
  obtain ⟨n', rfl⟩ : ∃ n', n = n' + 1 := ⟨n - 1, by omega⟩
  rw [while_spec]
  refine whileLoop_of_rounds prog c body m k s sk _ hk (.inl ⟨s', ?_, rfl⟩) n' (by omega)
  exact (whileRound_false_iff _ _ _ _).mpr
    (.inr ⟨s1, (truthyOf_ok_iff _ _ _ _).mpr ⟨cell, hc, ht⟩, hb⟩)

/-- **propagation from iteration k+1**: `return`, `next`, `exit`, a runtime error in the body
    end the loop with exactly that outcome and state -/
theorem while_propagates_at (m k : Nat) (c : Expr) (body : Stmt) (s sk s1 s' : St) (cell : CellId)
    (e : Err) (hk : Rounds (whileRoundAt prog m c body) k s sk)
    (hc : evalExpr prog m c sk = .ok cell s1) (ht : (s1.heap.get cell).truthy = true)
    (hb : evalStmt prog m body s1 = .err e s') (he : e ≠ .sig .brk ∧ e ≠ .sig .cont)
    (n : Nat) (hn : m + k + 1 < n) : evalStmt prog n (.while_ c body) s = .err e s' := by
  obtain ⟨n', rfl⟩ : ∃ n', n = n' + 1 := ⟨n - 1, by omega⟩
  rw [while_spec]
  refine whileLoop_of_rounds prog c body m k s sk _ hk (.inr ⟨e, s', ?_, rfl⟩) n' (by omega)
  exact (whileRound_err_iff _ _ _ _ _).mpr
    (.inr ⟨s1, (truthyOf_ok_iff _ _ _ _).mpr ⟨cell, hc, ht⟩, hb, he.1, he.2⟩)

/-! ## 3. `for (init; c; post) body` = init, then repeat "test; body; post" -/

/-- **for, soundness**: the initialiser once, then the rounds `forRound`: test, body, and — after
    a completed or continued body only — the post-expression. -/
theorem for_sound (n : Nat) (pre c post : Expr) (body : Stmt) (s : St) (r : Res Unit)
    (h : evalStmt prog n (.for_ pre c post body) s = r) (hr : r ≠ .oof) :
    ForRuns (effectOnly (evalExpr prog n pre)) (forRoundAt prog n c post body) s r := by
  cases n with
  | zero => unfold evalStmt at h; exact absurd h.symm hr
  | succ n =>
    rw [for_spec] at h
    simp only [bind, EM.bind] at h
    have hle := (allMono prog n).expr pre
    unfold ForRuns effectOnly
    simp only [bind, EM.bind, pure, EM.pure]
    cases hp : evalExpr prog n pre s with
    | ok x s1 =>
      rw [hp] at h
      rw [hle.eq_of_ne_oof (by rw [hp]; simp), hp]
      exact .inl ⟨s1, rfl, (forLoop_sound prog c post body n s1 r h hr).mono (forRoundAt_mono prog c post body n)⟩
    | err e s1 =>
      rw [hp] at h
      rw [hle.eq_of_ne_oof (by rw [hp]; simp), hp]
      exact .inr ⟨e, s1, rfl, h.symm⟩
    | oof => rw [hp] at h; exact absurd h.symm hr

theorem for_complete (m : Nat) (pre c post : Expr) (body : Stmt) (s : St) (r : Res Unit)
    (h : ForRuns (effectOnly (evalExpr prog m pre)) (forRoundAt prog m c post body) s r) :
    Runs prog (.for_ pre c post body) s r := by
  unfold ForRuns effectOnly at h
  simp only [bind, EM.bind, pure, EM.pure] at h
  rcases h with ⟨s1, h1, h2⟩ | ⟨e, s1, h1, rfl⟩
  · obtain ⟨n, hn⟩ := forLoop_complete prog c post body m s1 r h2
    cases hp : evalExpr prog m pre s with
    | ok x s1' =>
      rw [hp] at h1
      simp only [Res.ok.injEq, true_and] at h1
      subst h1
      refine ⟨max m n + 1, ?_, h2.ne_oof⟩
      rw [for_spec]
      simp only [bind, EM.bind]
      rw [(evalExpr_le prog pre (Nat.le_max_left m n)).eq_of_ne_oof (by rw [hp]; simp), hp]
      have := (emle_le (fun k => forLoop prog k c post body) (fun k => (allMono prog k).forL c post body)
        (Nat.le_max_right m n))
      show forLoop prog (max m n) c post body s1' = r
      rw [this.eq_of_ne_oof (by rw [hn]; exact h2.ne_oof), hn]
    | err e s1' => rw [hp] at h1; cases h1
    | oof => rw [hp] at h1; cases h1
  · cases hp : evalExpr prog m pre s with
    | ok x s1' => rw [hp] at h1; cases h1
    | err e' s1' =>
      rw [hp] at h1
      simp only [Res.err.injEq] at h1
      obtain ⟨rfl, rfl⟩ := h1
      refine ⟨m + 1, ?_, by simp⟩
      rw [for_spec]
      simp only [bind, EM.bind, hp]
    | oof => rw [hp] at h1; cases h1

/-- **the post-expression runs after each completed or continued iteration**: a `for` round goes
    on iff the test is truthy, the body completes OR ends with `continue`, and then the
    post-expression is evaluated (from the state the body left) and completes. -/
theorem for_round_goes_on (m : Nat) (c post : Expr) (body : Stmt) (s s3 : St) :
    forRoundAt prog m c post body s = .ok true s3 ↔
      ∃ cell s1 s2 y, evalExpr prog m c s = .ok cell s1 ∧ (s1.heap.get cell).truthy = true ∧
        (evalStmt prog m body s1 = .ok () s2 ∨ evalStmt prog m body s1 = .err (.sig .cont) s2) ∧
        evalExpr prog m post s2 = .ok y s3 := by
  unfold forRoundAt
  rw [forRound_true_iff]
  simp only [truthyOf_ok_iff]
  have hd : ∀ s2, effectOnly (evalExpr prog m post) s2 = .ok () s3 ↔ ∃ y, evalExpr prog m post s2 = .ok y s3 := by
    intro s2
    simp only [effectOnly, bind, EM.bind, pure, EM.pure]
    cases evalExpr prog m post s2 <;> simp
  constructor
  · rintro ⟨s1, s2, ⟨cell, h1, h2⟩, h3, h4⟩
    obtain ⟨y, hy⟩ := (hd s2).mp h4
    exact ⟨cell, s1, s2, y, h1, h2, h3, hy⟩
  · rintro ⟨cell, s1, s2, y, h1, h2, h3, h4⟩
    exact ⟨s1, s2, ⟨cell, h1, h2⟩, h3, (hd s2).mpr ⟨y, h4⟩⟩

/-- **`break` skips the post-expression**: the round (hence the loop) ends in the very state
    `break` was raised in -/
theorem for_break_skips_post (m : Nat) (c post : Expr) (body : Stmt) (s s1 s2 : St) (cell : CellId)
    (hc : evalExpr prog m c s = .ok cell s1) (ht : (s1.heap.get cell).truthy = true)
    (hb : evalStmt prog m body s1 = .err (.sig .brk) s2) :
    forRoundAt prog m c post body s = .ok false s2 :=
  (forRound_false_iff _ _ _ _ _).mpr (.inr ⟨s1, (truthyOf_ok_iff _ _ _ _).mpr ⟨cell, hc, ht⟩, hb⟩)

/-- **k iterations of `for`**: `init; (c; body; post)^k; c` -/
theorem for_k_iterations (m k : Nat) (pre c post : Expr) (body : Stmt) (s s1 sk s' : St)
    (x cell : CellId) (hpre : evalExpr prog m pre s = .ok x s1)
    (hk : Rounds (forRoundAt prog m c post body) k s1 sk)
    (hc : evalExpr prog m c sk = .ok cell s') (hf : (s'.heap.get cell).truthy = false) :
    Runs prog (.for_ pre c post body) s (.ok () s') := by
  refine for_complete prog m pre c post body s _ (.inl ⟨s1, ?_, ?_⟩)
  · simp only [effectOnly, bind, EM.bind, hpre, pure, EM.pure]
  · refine (repeats_iff_rounds _ _ _).mpr ⟨k, sk, hk, .inl ⟨s', ?_, rfl⟩⟩
    exact (forRound_false_iff _ _ _ _ _).mpr (.inl ((truthyOf_ok_iff _ _ _ _).mpr ⟨cell, hc, hf⟩))

/-- **`break` in iteration k+1 of a `for`** ends the statement normally in the very state `break`
    was raised in: after `init; (c; body; post)^k; c` the post-expression is NOT run again -/
theorem for_break_at (m k : Nat) (pre c post : Expr) (body : Stmt) (s s1 sk s2 s' : St)
    (x cell : CellId) (hpre : evalExpr prog m pre s = .ok x s1)
    (hk : Rounds (forRoundAt prog m c post body) k s1 sk)
    (hc : evalExpr prog m c sk = .ok cell s2) (ht : (s2.heap.get cell).truthy = true)
    (hb : evalStmt prog m body s2 = .err (.sig .brk) s') :
    Runs prog (.for_ pre c post body) s (.ok () s') := by
  refine for_complete prog m pre c post body s _ (.inl ⟨s1, ?_, ?_⟩)
  · simp only [effectOnly, bind, EM.bind, hpre, pure, EM.pure]
  · exact (repeats_iff_rounds _ _ _).mpr
      ⟨k, sk, hk, .inl ⟨s', for_break_skips_post prog m c post body sk s2 s' cell hc ht hb, rfl⟩⟩

/-- **propagation from iteration k+1 of a `for`**: `return`, `next`, `exit` or a runtime error
    in the body ends the statement with exactly that outcome and state (no post-expression) -/
theorem for_propagates_at (m k : Nat) (pre c post : Expr) (body : Stmt) (s s1 sk s2 s' : St)
    (x cell : CellId) (e : Err) (hpre : evalExpr prog m pre s = .ok x s1)
    (hk : Rounds (forRoundAt prog m c post body) k s1 sk)
    (hc : evalExpr prog m c sk = .ok cell s2) (ht : (s2.heap.get cell).truthy = true)
    (hb : evalStmt prog m body s2 = .err e s') (he : e ≠ .sig .brk ∧ e ≠ .sig .cont) :
    Runs prog (.for_ pre c post body) s (.err e s') := by
  refine for_complete prog m pre c post body s _ (.inl ⟨s1, ?_, ?_⟩)
  · simp only [effectOnly, bind, EM.bind, hpre, pure, EM.pure]
  · refine (repeats_iff_rounds _ _ _).mpr ⟨k, sk, hk, .inr ⟨e, s', ?_, rfl⟩⟩
    exact (forRound_err_iff _ _ _ _ _ _).mpr
      (.inr (.inl ⟨s2, (truthyOf_ok_iff _ _ _ _).mpr ⟨cell, hc, ht⟩, hb, he.1, he.2⟩))

/-! ## 4. for-in = a fold with early exit over the items held at loop entry -/

/-- **for-in, soundness** (`forIn_array_eq_fold` and its object / string siblings in one):
    wherever `for (id[, idx] in iter) body` does not run out of fuel it ends exactly like the
    specification `Spec.forInStmt`: loop variables looked up (created if new), `iter` evaluated
    ONCE, then `Spec.iterate` over
    * the cells the ARRAY held at that moment, with their positions (`List.zipIdx`),
    * the members the OBJECT had at that moment, in ascending key order (`sortByKey`),
    * the code points of the STRING with their byte offsets (`utf8Runes`),
    running for each item "bind the variables; body", stopping at the first body that ends
    with `break` (normal end) or with anything but completion / `continue` (propagates). -/
theorem forIn_eq_fold (n : Nat) (id : Token) (idx : Option Token) (iter : Expr) (body : Stmt)
    (s : St) (r : Res Unit) (h : evalStmt prog (n + 1) (.forIn id idx iter body) s = r) (hr : r ≠ .oof) :
    forInStmt (evalExpr prog n) (evalStmt prog n) id idx iter body s = r := by
  rw [(forIn_sound prog n id idx iter body).eq_of_ne_oof (by rw [h]; exact hr), h]

theorem forIn_fold_complete (m : Nat) (id : Token) (idx : Option Token) (iter : Expr) (body : Stmt)
    (s : St) (r : Res Unit)
    (h : forInStmt (evalExpr prog m) (evalStmt prog m) id idx iter body s = r) (hr : r ≠ .oof) :
    Runs prog (.forIn id idx iter body) s r := by
  obtain ⟨n0, hn⟩ := forIn_complete prog m id idx iter body s r h hr
  exact ⟨n0, hn n0 (Nat.le_refl _), hr⟩

/-- the array case at the level of the model's `forInLoop`, for the item list the statement
    builds from the cells of the array -/
theorem forIn_array_eq_fold (n : Nat) (loc : CellId) (il : Option CellId) (body : Stmt)
    (cells : List CellId) (s : St) (r : Res Unit)
    (h : forInLoop prog n loc il body (arrayItems cells) s = r) (hr : r ≠ .oof) :
    forInArray (evalStmt prog n body) loc il cells s = r := by
  rw [← iterate_arrayItems, (forInLoop_le_iterate prog n loc il body _).eq_of_ne_oof (by rw [h]; exact hr), h]

/-- the object case: the members in `sortByKey` order -/
theorem forIn_object_eq_fold (n : Nat) (loc : CellId) (il : Option CellId) (body : Stmt)
    (members : List (Bytes × CellId)) (s : St) (r : Res Unit)
    (h : forInLoop prog n loc il body (objectItems members) s = r) (hr : r ≠ .oof) :
    forInObject (evalStmt prog n body) loc il members s = r := by
  rw [← iterate_objectItems, (forInLoop_le_iterate prog n loc il body _).eq_of_ne_oof (by rw [h]; exact hr), h]

/-- the string case: the code points with their byte offsets -/
theorem forIn_string_eq_fold (n : Nat) (loc : CellId) (il : Option CellId) (body : Stmt)
    (str : Bytes) (s : St) (r : Res Unit)
    (h : forInLoop prog n loc il body (stringItems str) s = r) (hr : r ≠ .oof) :
    forInString (evalStmt prog n body) loc il str s = r := by
  rw [← iterate_stringItems, (forInLoop_le_iterate prog n loc il body _).eq_of_ne_oof (by rw [h]; exact hr), h]

/-- **in order, each item at most once**: the items whose step is started form a prefix of the
    item list (for any step function, in particular "bind; body") -/
theorem forIn_visits_prefix {ι : Type} (step : ι → EM Unit) (items : List ι) (s : St) :
    visited step items s <+: items := by
  induction items generalizing s with
  | nil => exact List.prefix_refl _
  | cons x xs ih =>
    simp only [visited]
    cases outcome (step x s) with
    | continue_ s' => exact (List.prefix_cons_inj x).mpr (ih s')
    | stop s' => exact ⟨xs, rfl⟩
    | abort e s' => exact ⟨xs, rfl⟩
    | oof => exact ⟨xs, rfl⟩

/-- **every item exactly once unless the loop is left early**: a fold that ends normally has
    visited the whole list, or it stopped after an item `x` whose step, started in some state
    `s1`, ends with `break` in the final state `s'`.  (The statement does not say that `s1` is
    the state in which the fold reached `x`, though the proof's witness is that state.) -/
theorem forIn_visits_all_or_break {ι : Type} (step : ι → EM Unit) (items : List ι) (s s' : St)
    (h : iterate step items s = .ok () s') :
    visited step items s = items ∨
    ∃ pre x post s1, items = pre ++ x :: post ∧ visited step items s = pre ++ [x] ∧
      step x s1 = .err (.sig .brk) s' := by
  induction items generalizing s with
  | nil => left; rfl
  | cons x xs ih =>
    simp only [iterate] at h
    simp only [visited]
    cases ho : outcome (step x s) with
    | continue_ s1 =>
      rw [ho] at h
      rcases ih s1 h with h1 | ⟨pre, y, post, s2, h1, h2, h3⟩
      · left; simp only; rw [h1]
      · right
        refine ⟨x :: pre, y, post, s2, by rw [h1]; rfl, ?_, h3⟩
        simp only; rw [h2]; rfl
    | stop s1 =>
      rw [ho] at h
      simp only [Res.ok.injEq, true_and] at h
      subst h
      right
      exact ⟨[], x, xs, s, rfl, rfl, (outcome_stop_iff _ _).mp ho⟩
    | abort e s1 => rw [ho] at h; cases h
    | oof => rw [ho] at h; cases h

/-- **object keys in a deterministic order**: the members are visited in ascending bytewise key
    order, every member of the object exactly once (a permutation of the member list) -/
theorem forIn_object_order (members : List (Bytes × CellId)) :
    (sortByKey members).Perm members ∧
    (sortByKey members).Pairwise (fun x y => Bytes.le x.1 y.1 = true) :=
  ⟨sortByKey_perm members, sortByKey_sorted members⟩

/-- the members are visited in STRICTLY ascending key order (so no key twice) when the keys are
    distinct, as in a Go map -/
theorem forIn_object_order_strict (members : List (Bytes × CellId)) (hd : DistinctKeys members) :
    (sortByKey members).Pairwise (fun x y => Bytes.cmp x.1 y.1 = .lt) :=
  sortByKey_sortedLt members hd

/-- strings, the plain case: on an ASCII string the items are exactly the bytes with their
    positions, and the loop variable receives the one-byte string of that byte.  (In general:
    the code points with their BYTE offsets; an invalid byte is visited as U+FFFD of width 1 —
    `utf8Runes`, `utf8Encode` follow Go's `range` over a string and `string(rune)`.) -/
theorem forIn_string_ascii (str : Bytes) (h : ∀ b ∈ str, b < 0x80) :
    utf8Runes str = str.zipIdx.map (fun p => (p.2, p.1.toNat)) ∧
    ∀ b ∈ str, utf8Encode b.toNat = [b] :=
  ⟨utf8Runes_ascii str h, fun b hb => utf8Encode_ascii b (h b hb)⟩

/-- array items carry their positions `0, 1, 2, …` in order -/
theorem forIn_array_positions (cells : List CellId) :
    cells.zipIdx.map Prod.snd = List.range cells.length ∧ cells.zipIdx.map Prod.fst = cells := by
  constructor
  · simp [List.zipIdx_map_snd, List.range_eq_range']
  · simp

/-! ## 5. `break` / `continue` affect only the innermost enclosing loop -/

/-- **every loop statement confines `break` and `continue`** (all three kinds): whatever the
    body does at whatever depth, the loop statement itself never ends with them — provided its
    HEADER expressions contain no `break` / `continue` (possible only inside the body of a
    `match` expression in the header; the example with `while (match (j) { 2 => { break } … })`
    among the concrete programs shows that such a `break` ends the ENCLOSING loop) -/
theorem loop_statements_confine (hfs : prog.FnScoped) (g : Sig) (hg : g = .brk ∨ g = .cont) (n : Nat)
    (s s' : St) :
    (∀ c b, canE g c = false → evalStmt prog n (.while_ c b) s ≠ .err (.sig g) s') ∧
    (∀ pre c post b, canE g pre = false → canE g c = false → canE g post = false →
      evalStmt prog n (.for_ pre c post b) s ≠ .err (.sig g) s') ∧
    (∀ id idx iter b, canE g iter = false → evalStmt prog n (.forIn id idx iter b) s ≠ .err (.sig g) s') := by
  have hc : g.confined = true := by rcases hg with rfl | rfl <;> rfl
  have hl : g.loopSig = true := by rcases hg with rfl | rfl <;> rfl
  refine ⟨fun c b h => ?_, fun pre c post b h1 h2 h3 => ?_, fun id idx iter b h => ?_⟩
  · exact C01.confined_signals_stmt prog hfs g hc n _ (by simp [canS, h, hl]) s s'
  · exact C01.confined_signals_stmt prog hfs g hc n _ (by simp [canS, h1, h2, h3, hl]) s s'
  · exact C01.confined_signals_stmt prog hfs g hc n _ (by simp [canS, h, hl]) s s'

/-- **no `break` outside nested loops, no `break` out**: a statement in which every `break`
    (`continue`) sits inside a nested loop's body — `canS` is this syntactic check, through
    blocks, if/else, match bodies, and stopping at loop bodies — never ends with it -/
theorem no_free_break_no_break (hfs : prog.FnScoped) (g : Sig) (hg : g = .brk ∨ g = .cont) (n : Nat)
    (st : Stmt) (h : canS g st = false) (s s' : St) : evalStmt prog n st s ≠ .err (.sig g) s' :=
  C01.confined_signals_stmt prog hfs g (by rcases hg with rfl | rfl <;> rfl) n st h s s'

/-- **`break` at any depth of blocks / if-else / match-statement bodies ends exactly the loop
    whose body it is in**: if the body `Leads` (without crossing a loop boundary) to a `break`,
    the iteration — `loopIter`, the common step of all three loop kinds — ends the loop
    normally, in the state `break` was executed in (up to the frames of match bodies, which are
    dropped), whatever the continuation `k` (next test, post-expression, remaining items) is:
    none of it runs. -/
theorem break_ends_innermost_loop {n m : Nat} {body : Stmt} {s s0 : St} {t : Token}
    (hl : Leads prog false n (.stmt body) s (m + 1) (.brk t) s0) (k : EM Unit) :
    ∃ fr, loopIter (evalStmt prog n body) k s = .ok () { s0 with frames := fr } := by
  obtain ⟨fr, h⟩ := leads_propagates prog hl (.sig .brk) s0 (by unfold evalStmt; rfl) (fun h => by cases h)
  exact ⟨fr, loopIter_break _ _ _ _ h⟩

/-- **`continue` at any such depth goes on with exactly this loop**: the rest of the body is
    skipped and the loop's continuation `k` runs — for `for`, `k` starts with the
    post-expression (`forLoop_unfold`) -/
theorem continue_resumes_innermost_loop {n m : Nat} {body : Stmt} {s s0 : St} {t : Token}
    (hl : Leads prog false n (.stmt body) s (m + 1) (.cont t) s0) (k : EM Unit) :
    ∃ fr, loopIter (evalStmt prog n body) k s = k { s0 with frames := fr } := by
  obtain ⟨fr, h⟩ := leads_propagates prog hl (.sig .cont) s0 (by unfold evalStmt; rfl) (fun h => by cases h)
  exact ⟨fr, loopIter_continue _ _ _ _ h⟩

/-- **`continue` in a `for` at any such depth still runs the post-expression**: the iteration
    goes on with "post; next test" from the state `continue` was executed in -/
theorem for_continue_runs_post {n m : Nat} {c post : Expr} {body : Stmt} {s s1 s0 : St} {cell : CellId}
    {t : Token} (hc : evalExpr prog n c s = .ok cell s1) (ht : (s1.heap.get cell).truthy = true)
    (hl : Leads prog false n (.stmt body) s1 (m + 1) (.cont t) s0) :
    ∃ fr, forLoop prog (n + 1) c post body s =
      (do let _ ← evalExpr prog n post; forLoop prog n c post body) { s0 with frames := fr } := by
  obtain ⟨fr, h⟩ := continue_resumes_innermost_loop prog hl
    (do let _ ← evalExpr prog n post; forLoop prog n c post body)
  refine ⟨fr, ?_⟩
  rw [forLoop_unfold]
  simp only [bind, EM.bind, hc, readCell, ht, ↓reduceIte]
  exact h

/-- the same for a whole `while` statement: `break` reached in its body in the first iteration
    ends this statement normally -/
theorem while_break_innermost {n m : Nat} {c : Expr} {body : Stmt} {s s1 s0 : St} {cell : CellId}
    {t : Token} (hc : evalExpr prog n c s = .ok cell s1) (ht : (s1.heap.get cell).truthy = true)
    (hl : Leads prog false n (.stmt body) s1 (m + 1) (.brk t) s0) :
    ∃ fr, evalStmt prog (n + 2) (.while_ c body) s = .ok () { s0 with frames := fr } := by
  obtain ⟨fr, h⟩ := break_ends_innermost_loop prog hl (whileLoop prog n c body)
  refine ⟨fr, ?_⟩
  have h1 : whileLoop prog (n + 1) c body s = .ok () { s0 with frames := fr } := by
    rw [whileLoop_unfold]
    simp only [bind, EM.bind, hc, readCell, ht, ↓reduceIte]
    exact h
  rw [while_spec]; exact h1

/-- **every nesting, every abnormal end**: if a statement `Leads` to a sub-statement — through
    completed statements of blocks, taken branches, matching `match` cases, earlier completed or
    continued loop iterations — and that sub-statement ends with a runtime error, `return`,
    `next`, `exit` (or, with no loop boundary in between, `break` / `continue`), then the
    statement ends the same way in the same state (up to dropped match frames): NOTHING that
    follows the sub-statement in any enclosing construct is executed. -/
theorem abnormal_end_propagates {l : Bool} {n m : Nat} {outer inner : Stmt} {s s0 s1 : St} {e : Err}
    (hl : Leads prog l n (.stmt outer) s m inner s0) (he : evalStmt prog m inner s0 = .err e s1)
    (hp : l = true → e ≠ .sig .brk ∧ e ≠ .sig .cont) :
    ∃ fr, evalStmt prog n outer s = .err e { s1 with frames := fr } :=
  leads_propagates prog hl e s1 he hp

/-- **`next` and `exit` leave every loop and conditional**: reached at any nesting depth they
    end the whole statement (up to the rule driver, which consumes them) -/
theorem next_exit_from_any_nesting {l : Bool} {n m : Nat} {outer : Stmt} {s s0 : St} {t : Token}
    (g : Sig) (inner : Stmt) (hg : (g = .next ∧ inner = .next t) ∨ (g = .exit ∧ inner = .exit t))
    (hl : Leads prog l n (.stmt outer) s (m + 1) inner s0) :
    ∃ fr, evalStmt prog n outer s = .err (.sig g) { s0 with frames := fr } := by
  rcases hg with ⟨rfl, rfl⟩ | ⟨rfl, rfl⟩ <;>
    exact abnormal_end_propagates prog hl (by unfold evalStmt; rfl) (fun _ => ⟨by simp, by simp⟩)

/-- **nested loops: `break` / `continue` of an inner loop leave the outer loop alone.**  Let the
    body of `while (c) body` contain `break` / `continue` only inside nested loops (`canS`: the
    syntactic check through blocks, if/else and match bodies that stops at loop bodies — e.g. the
    body is itself a loop, or a block of loops and break-free statements).  Then in a round whose
    test holds, the outer loop is never ended by a `break` (the round never answers "stop"), it
    goes on exactly when the body completes, and it fails exactly when the body fails. -/
theorem nested_loop_round (hfs : prog.FnScoped) (m : Nat) (c : Expr) (body : Stmt) (s s1 : St)
    (cell : CellId) (hc : evalExpr prog m c s = .ok cell s1) (ht : (s1.heap.get cell).truthy = true)
    (hb : canS .brk body = false) (hcn : canS .cont body = false) :
    (∀ s2, whileRoundAt prog m c body s ≠ .ok false s2) ∧
    (∀ s2, whileRoundAt prog m c body s = .ok true s2 ↔ evalStmt prog m body s1 = .ok () s2) ∧
    (∀ e s2, whileRoundAt prog m c body s = .err e s2 ↔ evalStmt prog m body s1 = .err e s2) := by
  have hcond : truthyOf (evalExpr prog m c) s = .ok true s1 :=
    (truthyOf_ok_iff _ _ _ _).mpr ⟨cell, hc, ht⟩
  have nobrk := fun s2 => no_free_break_no_break prog hfs .brk (.inl rfl) m body hb s1 s2
  have nocont := fun s2 => no_free_break_no_break prog hfs .cont (.inr rfl) m body hcn s1 s2
  refine ⟨fun s2 h => ?_, fun s2 => ?_, fun e s2 => ?_⟩
  · rcases (whileRound_false_iff _ _ _ _).mp h with h | ⟨s1', h1, h2⟩
    · rw [hcond] at h; cases h
    · rw [hcond] at h1; cases h1; exact nobrk _ h2
  · unfold whileRoundAt
    rw [whileRound_true_iff]
    constructor
    · rintro ⟨s1', h1, h2 | h2⟩
      · rw [hcond] at h1; cases h1; exact h2
      · rw [hcond] at h1; cases h1; exact absurd h2 (nocont _)
    · intro h; exact ⟨s1, hcond, .inl h⟩
  · unfold whileRoundAt
    rw [whileRound_err_iff]
    constructor
    · rintro (h | ⟨s1', h1, h2, -, -⟩)
      · rw [hcond] at h; cases h
      · rw [hcond] at h1; cases h1; exact h2
    · intro h
      refine .inr ⟨s1, hcond, h, ?_, ?_⟩
      · rintro rfl; exact nobrk _ h
      · rintro rfl; exact nocont _ h

/-! ## 6. `return` leaves exactly the current function, from any nesting -/

/-- **`return e` from inside any loops, conditionals, blocks and match-statement bodies**: if
    the body of the called function `Leads` to `return e` and `e` evaluates (there) to the cell
    `c`, the call ends right then: its value is the value of `c`, the state is the one after
    evaluating `e` (plus the return slot and the result cell) — nothing else of the body, of
    enclosing loops (no further test, post-expression, item) runs — and the frame stack is the
    caller's again. -/
theorem return_from_any_nesting (n m pos i : Nat) (fc : CellId) (args : List CellId) (f : FuncDef)
    (s sb s0 s2 : St) (l : Bool) (e : Expr) (c : CellId)
    (hfn : s.heap.get fc = .fn i) (hf : prog.functions[i]? = some f)
    (hdepth : ¬ s.frames.length > callDepthLimit)
    (hbind : bindParams f.args (args.map s.heap.get)
      { s with frames := ⟨f.ident.text, []⟩ :: s.frames,
               maxDepth := max s.maxDepth (s.frames.length + 1) } = .ok () sb)
    (hl : Leads prog l n (.stmt f.body) sb (m + 1) (.ret (some e)) s0)
    (he : evalExpr prog m e s0 = .ok c s2) :
    callFunction prog (n + 1) pos fc args s =
      .ok s2.heap.cells.size
        { s2 with returnVal := some c, frames := s.frames, heap := (s2.heap.alloc (s2.heap.get c)).2 } := by
  have hret : evalStmt prog (m + 1) (.ret (some e)) s0 = .err (.sig .ret) { s2 with returnVal := some c } := by
    unfold evalStmt
    simp only [bind, EM.bind, he, modifySt, throwSig]
  obtain ⟨fr, hb⟩ := leads_propagates prog hl (.sig .ret) _ hret (fun _ => ⟨by simp, by simp⟩)
  simp only [Task.run] at hb
  unfold callFunction
  simp only [bind, EM.bind, readCell, getHeap, hfn, hf, getSt, pushFrame, hdepth, ↓reduceIte, withFrames,
    hbind, catchReturn, hb, newCell, Heap.alloc]

/-- `return` leaves only the current function: a call never ends with the `return` signal of
    the callee (nor with its `break` / `continue`, `C01.call_absorbs`) -/
theorem call_confines_return (hfs : prog.FnScoped) (n pos : Nat) (f : CellId) (args : List CellId)
    (s s' : St) : callFunction prog n pos f args s ≠ .err (.sig .ret) s' :=
  C01.call_absorbs prog hfs .ret rfl n pos f args s s'

end whole

/-! ## 7. dangling else: `else` binds to the nearest unmatched `if` (parser, on token lists) -/

section danglingElse
open Jqawk.Grammar Jqawk.Parser Jqawk.Pratt Jqawk.LoopsElse

/-- **Dangling else, any inner statements**: in `if (a) if (b) S1 else S2` — `a`, `b` ANY
    well-formed expressions of the printer grammar `PE` in any rendering (minimal, full or
    redundant parentheses), `S1`, `S2` any statements that parse on their own (`ParsesStmt`) —
    the `else` is attached to the INNER `if`: the result is `if a (if b S1 else S2)` with no else
    branch on the outer `if`, for every fuel from the stated bound on. -/
theorem dangling_else_any (fn lp : Bool) (a b : PE) (hwa : a.wf = true) (hwb : b.wf = true)
    (pol : PE → Bool) (qa qb : Nat) (hqa : 1 ≤ qa) (hqb : 1 ≤ qb)
    (i1 l1 r1 i2 l2 r2 el : Token)
    (hi1 : i1.tag = .if_) (hl1 : l1.tag = .lparen) (hr1 : r1.tag = .rparen)
    (hi2 : i2.tag = .if_) (hl2 : l2.tag = .lparen) (hr2 : r2.tag = .rparen) (hel : el.tag = .else_)
    (k1 : Nat) (h1 : Token) (rest1 : List Token) (S1 : Stmt) (h2 : Token) (rest2 : List Token)
    (k2 : Nat) (S2 : Stmt) (c : Token) (more : List Token)
    (hS1 : ParsesStmt fn lp k1 h1 rest1 S1 el (h2 :: rest2))
    (hS2 : ParsesStmt fn lp k2 h2 rest2 S2 c more) (hc : c.tag ≠ .else_) :
    ParsesStmt fn lp (max (max (cost a + 4) (cost b + 5)) (max k1 k2 + 2)) i1
      (l1 :: (render pol qa a ++ r1 :: i2 :: l2 :: (render pol qb b ++ r2 :: h1 :: rest1)))
      (.if_ (toExpr a) (.if_ (toExpr b) S1 (some S2)) none) c more := by
  have inner := parses_if_else fn lp b hwb pol qb hqb i2 l2 r2 el hi2 hl2 hr2 hel
    k1 h1 rest1 S1 h2 rest2 k2 S2 c more hS1 hS2
  have outer := parses_if_noelse fn lp a hwa pol qa hqa i1 l1 r1 hi1 hl1 hr1 _ i2 _ _ c more
    inner hc
  exact outer.mono (by simp only [← Nat.add_max_add_right, Nat.max_le]; omega)

/-- **Dangling else, expression statements**: the instance with `S1`, `S2` expression statements
    of arbitrary `PE` expressions (not starting with `{`, which would open a block), followed by
    any token that ends an expression and is not `else` (`;`, `}`, end of input, …). -/
theorem dangling_else_exprs (a b e1 e2 : PE) (hwa : a.wf = true) (hwb : b.wf = true)
    (hw1 : e1.wf = true) (hw2 : e2.wf = true) (pol : PE → Bool)
    (qa qb q1 q2 : Nat) (hqa : 1 ≤ qa) (hqb : 1 ≤ qb) (hq1 : 1 ≤ q1) (hq2 : 1 ≤ q2)
    (i1 l1 r1 i2 l2 r2 el c : Token)
    (hi1 : i1.tag = .if_) (hl1 : l1.tag = .lparen) (hr1 : r1.tag = .rparen)
    (hi2 : i2.tag = .if_) (hl2 : l2.tag = .lparen) (hr2 : r2.tag = .rparen) (hel : el.tag = .else_)
    (hx1 : startsExpr (render pol q1 e1) = true) (hx2 : startsExpr (render pol q2 e2) = true)
    (hstop : precT c.tag < 1) (hc : c.tag ≠ .else_) (more : List Token)
    (s : PS) (hs : s.cur = i1) (F : Nat)
    (hF : max (max (cost a + 4) (cost b + 5)) (max (cost e1) (cost e2) + 6) ≤ F) :
    ∃ s', s'.cur = c ∧ s'.inFn = s.inFn ∧ s'.inLoop = s.inLoop ∧
      run (statement T F) s
        (l1 :: (render pol qa a ++ r1 :: i2 :: l2 :: (render pol qb b ++ r2 ::
          (render pol q1 e1 ++ el :: (render pol q2 e2 ++ c :: more)))))
      = .ok ((.if_ (toExpr a) (.if_ (toExpr b) (.expr (toExpr e1)) (some (.expr (toExpr e2)))) none, s'),
          more) := by
  obtain ⟨h1, tl1, hr1'⟩ : ∃ h1 tl1, render pol q1 e1 = h1 :: tl1 := by
    cases hh : render pol q1 e1 with
    | nil => rw [hh] at hx1; cases hx1
    | cons x xs => exact ⟨x, xs, rfl⟩
  obtain ⟨h2, tl2, hr2'⟩ : ∃ h2 tl2, render pol q2 e2 = h2 :: tl2 := by
    cases hh : render pol q2 e2 with
    | nil => rw [hh] at hx2; cases hx2
    | cons x xs => exact ⟨x, xs, rfl⟩
  rw [hr1'] at hx1; rw [hr2'] at hx2
  have hS2 : ParsesStmt s.inFn s.inLoop (cost e2 + 4) h2 (tl2 ++ c :: more)
      (.expr (toExpr e2)) c more :=
    parses_expr _ _ e2 hw2 pol q2 hq2 c more hstop h2 _ (by rw [hr2']; rfl) hx2
  have hS1 : ParsesStmt s.inFn s.inLoop (cost e1 + 4) h1
      (tl1 ++ el :: h2 :: (tl2 ++ c :: more)) (.expr (toExpr e1)) el (h2 :: (tl2 ++ c :: more)) :=
    parses_expr _ _ e1 hw1 pol q1 hq1 el _ (by rw [hel]; decide) h1 _ (by rw [hr1']; rfl) hx1
  have h := dangling_else_any s.inFn s.inLoop a b hwa hwb pol qa qb hqa hqb
    i1 l1 r1 i2 l2 r2 el hi1 hl1 hr1 hi2 hl2 hr2 hel _ h1 _ _ h2 _ _ _ c more hS1 hS2 hc
  obtain ⟨s', hs', e'⟩ := h F s (by simp only [← Nat.add_max_add_right, Nat.max_le] at hF ⊢; omega) hs rfl rfl
  rw [hr1', hr2']
  have hfl := stmt_flags e'
  exact ⟨s', hs', hfl.1, hfl.2, e'⟩

/-- the contrast: to attach the `else` to the OUTER `if` the inner one must be put in braces -/
theorem else_to_outer_needs_braces (fn lp : Bool) (a b : PE) (hwa : a.wf = true)
    (hwb : b.wf = true) (pol : PE → Bool) (qa qb : Nat) (hqa : 1 ≤ qa) (hqb : 1 ≤ qb)
    (i1 l1 r1 lc i2 l2 r2 rc el : Token)
    (hi1 : i1.tag = .if_) (hl1 : l1.tag = .lparen) (hr1 : r1.tag = .rparen) (hlc : lc.tag = .lcurly)
    (hi2 : i2.tag = .if_) (hl2 : l2.tag = .lparen) (hr2 : r2.tag = .rparen) (hrc : rc.tag = .rcurly)
    (hel : el.tag = .else_)
    (k1 : Nat) (h1 : Token) (rest1 : List Token) (S1 : Stmt) (h2 : Token) (rest2 : List Token)
    (k2 : Nat) (S2 : Stmt) (c : Token) (more : List Token)
    (hS1 : ParsesStmt fn lp k1 h1 rest1 S1 rc (el :: h2 :: rest2))
    (hS2 : ParsesStmt fn lp k2 h2 rest2 S2 c more) :
    ParsesStmt fn lp (max (max (cost a + 4) (cost b + 8)) (max (k1 + 5) (k2 + 1))) i1
      (l1 :: (render pol qa a ++ r1 :: lc :: i2 :: l2 :: (render pol qb b ++ r2 :: h1 :: rest1)))
      (.if_ (toExpr a) (.block lc [.if_ (toExpr b) S1 none]) (some S2)) c more := by
  have inner := parses_if_noelse fn lp b hwb pol qb hqb i2 l2 r2 hi2 hl2 hr2
    k1 h1 rest1 S1 rc (el :: h2 :: rest2) hS1 (by rw [hrc]; decide)
  have blk := parses_block1 fn lp lc rc hlc hrc _ i2 _ _ el (h2 :: rest2)
    (by rw [hi2]; decide) (by rw [hi2]; decide) inner
  have outer := parses_if_else fn lp a hwa pol qa hqa i1 l1 r1 el hi1 hl1 hr1 hel
    _ lc _ _ h2 rest2 k2 S2 c more blk hS2
  exact outer.mono (by simp only [← Nat.add_max_add_right, Nat.max_le]; omega)

/-- non-vacuity, from SOURCE TEXT through the real lexer: the nested reading (what the Go binary
    prints with `-dbg-ast` too), and it differs from the reading with braces -/
example :
    dumpProgSrc b!"{ if (a) if (b) x = 1 else x = 2 }"
      = some (dumpProgram ⟨[⟨.pattern, none, .block ⟨.lcurly, 0, []⟩
          [.if_ (.ident ⟨.ident, 6, b!"a"⟩)
            (.if_ (.ident ⟨.ident, 13, b!"b"⟩) (asgAt 16 18 20 b!"1") (some (asgAt 27 29 31 b!"2")))
            none]⟩], []⟩) := by
  decide +kernel

example : dumpProgSrc b!"{ if (a) if (b) x = 1 else x = 2 }"
    ≠ dumpProgSrc b!"{ if (a) { if (b) x = 1 } else x = 2 }" := by
  decide +kernel

/-- an instance of `dangling_else_exprs` with every hypothesis discharged by computation:
    `if ( a ) if ( b ) x = 1 else x = 2` in front of a `}` (with a compound first condition) -/
example : ∃ s', s'.cur = opTok .rcurly ∧ s'.inFn = false ∧ s'.inLoop = false ∧
    run (statement T 40) ⟨opTok .if_, opTok .lcurly, false, false, false⟩
      (opTok .lparen :: (renderMin 1 (.bin .add (.ident b!"a") (.ident b!"c")) ++ opTok .rparen :: opTok .if_ ::
        opTok .lparen :: (renderMin 1 (.ident b!"b") ++ opTok .rparen ::
          (renderMin 1 (asgPE b!"1") ++ opTok .else_ :: (renderMin 1 (asgPE b!"2") ++
            opTok .rcurly :: [])))))
    = .ok ((.if_ (toExpr (.bin .add (.ident b!"a") (.ident b!"c")))
              (.if_ (toExpr (.ident b!"b")) (.expr (toExpr (asgPE b!"1")))
                (some (.expr (toExpr (asgPE b!"2"))))) none, s'), []) :=
  dangling_else_exprs (.bin .add (.ident b!"a") (.ident b!"c")) (.ident b!"b") (asgPE b!"1") (asgPE b!"2")
    (by decide +kernel) (by decide +kernel) (by decide +kernel) (by decide +kernel)
    (fun _ => false) 1 1 1 1 (by decide) (by decide) (by decide) (by decide)
    (opTok .if_) (opTok .lparen) (opTok .rparen) (opTok .if_) (opTok .lparen) (opTok .rparen)
    (opTok .else_) (opTok .rcurly) rfl rfl rfl rfl rfl rfl rfl
    (by decide +kernel) (by decide +kernel) (by decide) (by decide) []
    ⟨opTok .if_, opTok .lcurly, false, false, false⟩ rfl 40 (by decide +kernel)

/-- an instance of `dangling_else_exprs` in which every hypothesis is discharged by computation:
    `if ( a ) if ( b ) x = 1 else x = 2` in front of a `}`, from a state at the first `if`,
    fuel 16 -/
example : ∃ s', s'.cur = opTok .rcurly ∧ s'.inFn = false ∧ s'.inLoop = false ∧
    run (statement T 16) ⟨opTok .if_, opTok .lcurly, false, false, false⟩
      (opTok .lparen :: (renderMin 1 (.ident b!"a") ++ opTok .rparen :: opTok .if_ ::
        opTok .lparen :: (renderMin 1 (.ident b!"b") ++ opTok .rparen ::
          (renderMin 1 (asgPE b!"1") ++ opTok .else_ :: (renderMin 1 (asgPE b!"2") ++
            opTok .rcurly :: [])))))
    = .ok ((.if_ (toExpr (.ident b!"a"))
              (.if_ (toExpr (.ident b!"b")) (.expr (toExpr (asgPE b!"1")))
                (some (.expr (toExpr (asgPE b!"2"))))) none, s'), []) :=
  dangling_else_exprs (.ident b!"a") (.ident b!"b") (asgPE b!"1") (asgPE b!"2")
    (by decide +kernel) (by decide +kernel) (by decide +kernel) (by decide +kernel)
    (fun _ => false) 1 1 1 1 (by decide) (by decide) (by decide) (by decide)
    (opTok .if_) (opTok .lparen) (opTok .rparen) (opTok .if_) (opTok .lparen) (opTok .rparen)
    (opTok .else_) (opTok .rcurly) rfl rfl rfl rfl rfl rfl rfl
    (by decide +kernel) (by decide +kernel) (by decide) (by decide) []
    ⟨opTok .if_, opTok .lcurly, false, false, false⟩ rfl 16 (by decide +kernel)

/-- an instance of `else_to_outer_needs_braces` (all hypotheses discharged):
    `if ( a ) { if ( b ) x = 1 } else x = 2` in front of a `}` -/
example : ParsesStmt false false 19 (opTok .if_)
    (opTok .lparen :: (renderMin 1 (.ident b!"a") ++ opTok .rparen :: opTok .lcurly ::
      opTok .if_ :: opTok .lparen :: (renderMin 1 (.ident b!"b") ++ opTok .rparen ::
        identTok b!"x" :: [opTok .equal, ⟨.num, 0, b!"1"⟩, opTok .rcurly, opTok .else_,
          identTok b!"x", opTok .equal, ⟨.num, 0, b!"2"⟩, opTok .rcurly])))
    (.if_ (toExpr (.ident b!"a"))
      (.block (opTok .lcurly) [.if_ (toExpr (.ident b!"b")) (.expr (toExpr (asgPE b!"1"))) none])
      (some (.expr (toExpr (asgPE b!"2"))))) (opTok .rcurly) [] :=
  else_to_outer_needs_braces false false (.ident b!"a") (.ident b!"b") (by decide +kernel)
    (by decide +kernel) (fun _ => false) 1 1 (by decide) (by decide)
    (opTok .if_) (opTok .lparen) (opTok .rparen) (opTok .lcurly) (opTok .if_) (opTok .lparen)
    (opTok .rparen) (opTok .rcurly) (opTok .else_) rfl rfl rfl rfl rfl rfl rfl rfl rfl
    (cost (asgPE b!"1") + 4) (identTok b!"x") _ _ (identTok b!"x") _
    (cost (asgPE b!"2") + 4) _ (opTok .rcurly) []
    (parses_expr false false (asgPE b!"1") (by decide +kernel) (fun _ => false) 1 (by decide)
      (opTok .rcurly) [opTok .else_, identTok b!"x", opTok .equal, ⟨.num, 0, b!"2"⟩, opTok .rcurly]
      (by decide) (identTok b!"x") _ (by decide +kernel) (by decide))
    (parses_expr false false (asgPE b!"2") (by decide +kernel) (fun _ => false) 1 (by decide)
      (opTok .rcurly) [] (by decide) (identTok b!"x") [opTok .equal, ⟨.num, 0, b!"2"⟩, opTok .rcurly]
      (by decide +kernel) (by decide))
    |>.mono (by decide +kernel)

end danglingElse


/-! ## Non-vacuity and findings: concrete programs -/

section examples
open Jqawk.Spec

/-- the output of a whole program run by the model driver (no input files); `none` unless it
    ends normally -/
def runOut (src : Bytes) : Option Bytes :=
  let r := evalProgram expectedRuleTable src [] []
  match r.outcome with
  | .ok => some r.out
  | _ => none

def demoProg (src : Bytes) : Program :=
  match parseProgramSrc expectedRuleTable src with
  | .ok p => p
  | _ => Program.empty
def demoBody (src : Bytes) : Stmt :=
  match (demoProg src).rules with
  | r :: _ => r.body
  | [] => .block Token.zero []
def demoStart (src : Bytes) : St := newEvaluator (demoProg src) Heap.empty [] 0

def firstStmt : Stmt → Stmt
  | .block _ (st :: _) => st
  | st => st

def outOf (r : Res Unit) : Option Bytes :=
  match r with
  | .ok () s => some s.output
  | _ => none

def isDone {α : Type} : Res α → Bool
  | .oof => false
  | _ => true

theorem ne_oof_of_isDone {α : Type} {r : Res α} (h : isDone r = true) : r ≠ .oof := by
  intro h'; rw [h'] at h; cases h

theorem ne_oof_of_outOf {r : Res Unit} {out : Bytes} (h : outOf r = some out) : r ≠ .oof := by
  intro h'; rw [h'] at h; cases h


/-- `for`: `continue` (i = 1) still increments `i` — otherwise the loop would never end —,
    `break` (i = 4) leaves with `i = 4`: the post-expression did not run after it -/
example : runOut b!"BEGIN { for (i = 0; i < 6; i++) { if (i == 1) continue; if (i == 4) break; print i } print \"end\", i }"
    = some b!"0\n2\n3\nend 4\n" := by decide +kernel

/-- nested loops: `break` / `continue` of the inner loop (inside if/else inside a block) leave
    the outer loop alone; an outer `continue` after the inner loop acts on the outer one -/
example : runOut b!"BEGIN { for (i = 0; i < 3; i++) { j = 0; while (true) { j++; if (j == 1) { continue } else { if (j > 2) { break } } print i, j } if (i == 1) continue; print \"row\", i } }"
    = some b!"0 2\nrow 0\n1 2\n2 2\nrow 2\n" := by decide +kernel

/-- `return` from inside two loops and a conditional ends the call (and only the call) -/
example : runOut b!"function f(a) { for (x in a) { while (true) { if (x > 1) { return x * 10 } break } print \"skip\", x } return 0 } BEGIN { print f([1, 2, 3]); print \"after\" }"
    = some b!"skip 1\n20\nafter\n" := by decide +kernel

/-- the dangling `else` at run time: with `a` true and `b` false the else branch runs; with `a`
    false nothing runs (the else belongs to the inner `if`) -/
example : runOut b!"BEGIN { if (true) if (false) print \"then\" else print \"else\"; if (false) if (true) print \"x\" else print \"y\"; print \"end\" }"
    = some b!"else\nend\n" := by decide +kernel


/-- arrays: element and index, in order; objects: keys in sorted order with values; strings:
    characters with BYTE offsets (`é` is two bytes) -/
example : runOut b!"BEGIN { for (x, i in [7, 8, 9]) print i, x; o = {b: 1, a: 2, ab: 3}; for (k, v in o) print k, v; for (ch, off in \"héy\") print off, ch }"
    = some b!"0 7\n1 8\n2 9\na 2\nab 3\nb 1\n0 h\n1 é\n3 y\n" := by decide +kernel

/-- the items are those held WHEN THE LOOP STARTED: elements pushed by the body are not
    visited (Go: `range` evaluates the slice once) — but their VALUES are read when their turn
    comes (element 2 was overwritten in iteration 0) -/
example : runOut b!"BEGIN { a = [1, 2, 3]; for (x, i in a) { print i, x; if (i == 0) { a.push(9); a[2] = 7 } } print a }"
    = some b!"0 1\n1 2\n2 7\n[1, 2, 7, 9]\n" := by decide +kernel

/-- FINDING (model ≠ Go): `pop()` followed by `push()` inside the body.  The model iterates the
    snapshot of the cell LIST and still visits the popped cell (prints `2 3`); Go ranges over the
    slice's backing array, where `append` after the `pop` overwrote slot 2 in place, and prints
    `2 9`.  (Everything else in this file is about the model as it is.) -/
example : runOut b!"BEGIN { a = [1, 2, 3]; for (x, i in a) { print i, x; if (i == 0) { a.pop(); a.push(9) } } print a }"
    = some b!"0 1\n1 2\n2 3\n[1, 2, 9]\n" := by decide +kernel

/-- an invalid UTF-8 byte is visited as U+FFFD (EF BF BD) of width 1, as Go's `range` does -/
example : runOut (b!"BEGIN { for (ch, off in \"a" ++ [0xff] ++ b!"b\") print off, ch }")
    = some (b!"0 a\n1 " ++ [0xef, 0xbf, 0xbd] ++ b!"\n2 b\n") := by decide +kernel

/-- FINDING (`loop_statements_confine` needs its header hypothesis; Go agrees with the model):
    a `break` in the HEADER of a loop — possible only inside a `match` body there, and only if
    the loop is itself nested in a loop, otherwise the parser rejects it — is outside the body
    of that loop: it ends the ENCLOSING loop (here: the `for`, in its first iteration). -/
example : runOut b!"BEGIN { for (i = 0; i < 3; i++) { j = 0; while (match (j) { 2 => { break } _ => true }) { j++ } print i, j } print \"done\" }"
    = some b!"done\n" := by decide +kernel

/-- a `break` in the header of a loop that is not nested in another loop is a syntax error -/
example : (match parseProgramSrc expectedRuleTable
      b!"BEGIN { j = 0; while (match (j) { 2 => { break } _ => true }) { j++ } }" with
    | .syntaxErr _ => true | _ => false) = true := by decide +kernel


def whileSrc : Bytes := b!"BEGIN { i = 0; while (i < 3) { print i; i++ } }"
def forSrc : Bytes := b!"BEGIN { for (i = 0; i < 5; i++) { if (i == 1) continue; if (i == 3) break; print i } }"
def forInSrc : Bytes := b!"BEGIN { for (x, i in [5, 6, 7]) { if (i == 2) break; print i, x } }"

def whileStart : St :=
  match evalStmt (demoProg whileSrc) 20 (firstStmt (demoBody whileSrc)) (demoStart whileSrc) with
  | .ok () s => s
  | _ => default
def whileCond : Expr :=
  match demoBody whileSrc with
  | .block _ (_ :: .while_ c _ :: _) => c
  | _ => .lit Token.zero
def whileBodyS : Stmt :=
  match demoBody whileSrc with
  | .block _ (_ :: .while_ _ b :: _) => b
  | st => st

/-- the `while` statement of `whileSrc` at fuel 30 -/
theorem whileSrc_run : outOf (evalStmt (demoProg whileSrc) 30 (.while_ whileCond whileBodyS) whileStart)
    = some b!"0\n1\n2\n" := by decide +kernel

/-- `fuel_irrelevant`, `while_sound`: the statement ends normally at fuel 30 (and at 300) -/
example : outOf (evalStmt (demoProg whileSrc) 30 (.while_ whileCond whileBodyS) whileStart)
    = some b!"0\n1\n2\n" := whileSrc_run
example : outOf (evalStmt (demoProg whileSrc) 300 (.while_ whileCond whileBodyS) whileStart)
    = some b!"0\n1\n2\n" := by
  rw [fuel_irrelevant (demoProg whileSrc) (by decide : 30 ≤ 300) _ _ _ rfl (ne_oof_of_outOf whileSrc_run)]
  exact whileSrc_run

/-- `while_unrolled`, `while_k_iterations`: hence rounds as required by their hypotheses exist
    for this loop (three of them, then the final test) -/
example : ∃ r m k sk,
    Rounds (whileRoundAt (demoProg whileSrc) m whileCond whileBodyS) k whileStart sk ∧
    FinalRound (whileRoundAt (demoProg whileSrc) m whileCond whileBodyS) sk r :=
  ⟨_, (while_unrolled (demoProg whileSrc) whileCond whileBodyS whileStart _).mp
    ⟨30, rfl, ne_oof_of_isDone (by decide +kernel)⟩⟩

/-- `for_sound`: a `for` statement with `continue` and `break` ends normally -/
example : outOf (evalStmt (demoProg forSrc) 40 (firstStmt (demoBody forSrc)) (demoStart forSrc))
    = some b!"0\n2\n" := by decide +kernel

/-- the for-in statement of `forInSrc` at fuel 41 -/
theorem forInSrc_run :
    outOf (evalStmt (demoProg forInSrc) 41 (firstStmt (demoBody forInSrc)) (demoStart forInSrc))
      = some b!"0 5\n1 6\n" := by decide +kernel

/-- `forIn_eq_fold`: the statement ends normally … -/
example : outOf (evalStmt (demoProg forInSrc) 41 (firstStmt (demoBody forInSrc)) (demoStart forInSrc))
    = some b!"0 5\n1 6\n" := forInSrc_run

/-- `forIn_fold_complete`: the SPECIFICATION gives the same output: by `forIn_eq_fold`,
    the statement being a for-in -/
example : (match firstStmt (demoBody forInSrc) with
    | .forIn id idx iter body =>
      outOf (forInStmt (evalExpr (demoProg forInSrc) 40) (evalStmt (demoProg forInSrc) 40) id idx iter body
        (demoStart forInSrc))
    | _ => none) = some b!"0 5\n1 6\n" := by
  have hk : (match firstStmt (demoBody forInSrc) with | .forIn .. => true | _ => false) = true := by
    decide +kernel
  have hr := forInSrc_run
  generalize firstStmt (demoBody forInSrc) = st at hk hr
  cases st with
  | forIn id idx iter body =>
    show outOf (forInStmt _ _ id idx iter body _) = _
    rw [forIn_eq_fold _ 40 _ _ _ _ _ _ rfl (ne_oof_of_outOf hr)]
    exact hr
  | _ => cases hk

/-- `forIn_string_ascii` -/
example : ∀ b ∈ b!"hello, world", b < 0x80 := by decide

/-- `forIn_object_order_strict`: distinct keys -/
example : DistinctKeys [(b!"b", 1), (b!"a", 0), (b!"ab", 2)] := by
  simp only [DistinctKeys, List.pairwise_cons]; decide

/-- a parsed program satisfies `FnScoped` (hypothesis of `loop_statements_confine`, …) -/
example : (demoProg b!"function f(x) { while (x) { if (x > 3) break; x++ } return x } BEGIN { print f(1) }").FnScoped :=
  (wellScoped_of_B _ (by decide +kernel)).1


def tkB : Token := ⟨.break_, 0, []⟩
def tkT : Token := ⟨.true_, 0, []⟩
def tk7 : Token := ⟨.num, 0, b!"7"⟩
def tkF : Token := ⟨.false_, 0, []⟩
def tk0 : Token := ⟨.num, 0, b!"0"⟩

/-- instances of the hypotheses of the one-step laws.  `if_true`, `if_false_else`,
    `if_false_none`, `if_cond_error`: a condition that evaluates to a truthy value, to a falsy
    value, and one that fails (`7 % 0`) -/
example : (match evalExpr Program.empty 3 (.lit tkT) default, evalExpr Program.empty 3 (.lit tkF) default,
      evalExpr Program.empty 3 (.binary (.lit tk7) (.lit tk0) ⟨.percent, 0, []⟩) default with
    | .ok c1 s1, .ok c2 s2, .err (.runtime _ _) _ => (s1.heap.get c1).truthy && !(s2.heap.get c2).truthy
    | _, _, _ => false) = true := by decide +kernel
/-- `return_leaves_function`, `no_return_yields_null`, `next_exit_through_call`: bodies that end
    with `return` (return slot set), normally, and with `next`.  (The hypotheses of the
    `loopIter_…` laws are about an arbitrary `body : EM Unit` and hold e.g. for constant ones.) -/
example : (match evalStmt Program.empty 3 (.ret (some (.lit tk7))) default,
      evalStmt Program.empty 3 (.block tkB []) default, evalStmt Program.empty 3 (.next tkB) default with
    | .err (.sig .ret) s1, .ok () _, .err (.sig .next) _ => s1.returnVal.isSome
    | _, _, _ => false) = true := by decide +kernel
def stAfter {α : Type} : Res α → St
  | .ok _ s => s
  | .err _ s => s
  | .oof => default

/-- `{ if (true) { break } }` -/
def bodyB : Stmt := .block tkB [.if_ (.lit tkT) (.block tkB [.brk tkB]) none]
def sB1 : St := stAfter (evalExpr Program.empty 6 (.lit tkT) default)
def sB2 : St := stAfter (evalExpr Program.empty 3 (.lit tkT) sB1)

/-- `bodyB` leads to its `break`: block, taken `if`, block -/
theorem leads_bodyB : Leads Program.empty false 6 (.stmt bodyB) sB1 1 (.brk tkB) sB2 :=
  Leads.block (Leads.blockHead (Leads.ifThen (cell := 1) (s1 := sB2)
    (by with_unfolding_all rfl) (by with_unfolding_all rfl) (Leads.block (Leads.blockHead Leads.here))))

/-- `while_break_innermost` (hence `break_ends_innermost_loop`) applied: `while (true) { if (true)
    { break } }` ends normally at its first `break`, in the state reached there -/
example : ∃ fr, evalStmt Program.empty 8 (.while_ (.lit tkT) bodyB) default
    = .ok () { sB2 with frames := fr } :=
  while_break_innermost Program.empty (cell := 0) (s1 := sB1)
    (by with_unfolding_all rfl) (by with_unfolding_all rfl) leads_bodyB

/-- `abnormal_end_propagates` on the same derivation -/
example : ∃ fr, evalStmt Program.empty 6 bodyB sB1 = .err (.sig .brk) { sB2 with frames := fr } :=
  abnormal_end_propagates Program.empty leads_bodyB (by with_unfolding_all rfl) (fun h => by cases h)

/-- `{ if (true) { continue } }` and `{ if (true) { next } }`: the same derivation -/
def bodyWith (inner : Stmt) : Stmt := .block tkB [.if_ (.lit tkT) (.block tkB [inner]) none]

/-- `bodyWith inner` leads to `inner` by the same path -/
theorem leads_bodyWith (inner : Stmt) :
    Leads Program.empty false 6 (.stmt (bodyWith inner)) sB1 1 inner sB2 :=
  Leads.block (Leads.blockHead (Leads.ifThen (cell := 1) (s1 := sB2)
    (by with_unfolding_all rfl) (by with_unfolding_all rfl) (Leads.block (Leads.blockHead Leads.here))))

/-- `continue_resumes_innermost_loop`, `for_continue_runs_post`: in `for (; true; 7) { if (true)
    { continue } }` the iteration goes on with the post-expression -/
example : ∃ fr, forLoop Program.empty 7 (.lit tkT) (.lit tk7) (bodyWith (.cont tkB)) default =
    (do let _ ← evalExpr Program.empty 6 (.lit tk7)
        forLoop Program.empty 6 (.lit tkT) (.lit tk7) (bodyWith (.cont tkB))) { sB2 with frames := fr } :=
  for_continue_runs_post Program.empty (cell := 0) (s1 := sB1)
    (by with_unfolding_all rfl) (by with_unfolding_all rfl) (leads_bodyWith (.cont tkB))

/-- `next_exit_from_any_nesting` -/
example : ∃ fr, evalStmt Program.empty 6 (bodyWith (.next tkB)) sB1 = .err (.sig .next) { sB2 with frames := fr } :=
  next_exit_from_any_nesting Program.empty .next (.next tkB) (.inl ⟨rfl, rfl⟩) (leads_bodyWith (.next tkB))

/-- `function f() { while (true) { if (true) { return 7 } } }` -/
def bodyR : Stmt :=
  .block tkB [.while_ (.lit tkT) (.block tkB [.if_ (.lit tkT) (.block tkB [.ret (some (.lit tk7))]) none])]
def fR : FuncDef := ⟨⟨.ident, 0, b!"f"⟩, [], bodyR⟩
def progR : Program := ⟨[], [fR]⟩
/-- the caller's state: cell 0 holds the function -/
def sR : St := { (default : St) with heap := ((default : St).heap.alloc (.fn 0)).2 }
def sRb : St := { sR with frames := ⟨fR.ident.text, []⟩ :: sR.frames,
                          maxDepth := max sR.maxDepth (sR.frames.length + 1) }
def sR1 : St := stAfter (evalExpr progR 7 (.lit tkT) sRb)
def sR2 : St := stAfter (evalExpr progR 4 (.lit tkT) sR1)
def sR3 : St := stAfter (evalExpr progR 1 (.lit tk7) sR2)

/-- `bodyR` leads to its `return`: block, first `while` iteration, block,
    taken `if`, block — one loop boundary crossed -/
theorem leads_bodyR : Leads progR true 11 (.stmt bodyR) sRb 2 (.ret (some (.lit tk7))) sR2 :=
  Leads.block (Leads.blockHead (Leads.while_ (Leads.whileBody (cell := 1) (s1 := sR1)
    (by with_unfolding_all rfl) (by with_unfolding_all rfl)
    (Leads.block (Leads.blockHead (Leads.ifThen (cell := 2) (s1 := sR2)
      (by with_unfolding_all rfl) (by with_unfolding_all rfl)
      (Leads.block (Leads.blockHead Leads.here))))))))

/-- `return_from_any_nesting` applied: the call ends at the `return`, inside `while` and `if` -/
example : callFunction progR 12 0 0 [] sR =
    .ok sR3.heap.cells.size
      { sR3 with returnVal := some 3, frames := sR.frames, heap := (sR3.heap.alloc (sR3.heap.get 3)).2 } :=
  return_from_any_nesting progR 11 1 0 0 0 [] fR sR sRb sR2 sR3 true (.lit tk7) 3
    (by with_unfolding_all rfl) (by with_unfolding_all rfl) (by with_unfolding_all decide)
    (by with_unfolding_all rfl) leads_bodyR (by with_unfolding_all rfl)

/-- the value the call of `fR` returns is 7 -/
example : sR3.heap.get 3 = .num (F64.ofNat 7) := by with_unfolding_all decide +kernel


def goesOn : Res Bool → Bool
  | .ok true _ => true
  | _ => false

theorem eq_of_goesOn {r : Res Bool} (h : goesOn r = true) : r = .ok true (stAfter r) := by
  cases r with
  | ok b s => cases b <;> first | rfl | cases h
  | err e s => cases h
  | oof => cases h

def cellOf : Res CellId → CellId
  | .ok c _ => c
  | _ => 0

def isOk {α : Type} : Res α → Bool
  | .ok _ _ => true
  | _ => false

theorem eq_of_isOk {r : Res CellId} (h : isOk r = true) : r = .ok (cellOf r) (stAfter r) := by
  cases r <;> first | rfl | cases h

/-- the round of `while (i < 3) { print i; i++ }` (fuel 20 inside the round) and the states after
    one, two, three rounds from the state in which the statement starts (`i = 0`) -/
def whileR : EM Bool := whileRoundAt (demoProg whileSrc) 20 whileCond whileBodyS
def w1 : St := stAfter (whileR whileStart)
def w2 : St := stAfter (whileR w1)
def w3 : St := stAfter (whileR w2)
def wEnd : St := stAfter (evalExpr (demoProg whileSrc) 20 whileCond w3)
def wCell : CellId := cellOf (evalExpr (demoProg whileSrc) 20 whileCond w3)

theorem while_rounds_3 : Rounds (whileRoundAt (demoProg whileSrc) 20 whileCond whileBodyS) 3 whileStart w3 :=
  -- one evaluation: the second and third round start from the states the earlier ones computed
  have h : goesOn (whileR whileStart) = true ∧ goesOn (whileR w1) = true ∧ goesOn (whileR w2) = true := by
    decide +kernel
  .succ (s1 := w1) (eq_of_goesOn h.1) (.succ (s1 := w2) (eq_of_goesOn h.2.1)
    (.succ (s1 := w3) (eq_of_goesOn h.2.2) .zero))

/-- `while_k_iterations` applied to it: the statement ends normally at fuel 30 in the state after
    the fourth test, having printed 0, 1, 2 -/
example : evalStmt (demoProg whileSrc) 30 (.while_ whileCond whileBodyS) whileStart = .ok () wEnd ∧
    wEnd.output = b!"0\n1\n2\n" :=
  have h : isOk (evalExpr (demoProg whileSrc) 20 whileCond w3) = true ∧
      (wEnd.heap.get wCell).truthy = false := by decide +kernel
  have hr := while_k_iterations (demoProg whileSrc) 20 3 whileCond whileBodyS whileStart w3 wEnd wCell
    while_rounds_3 (eq_of_isOk h.1) h.2 30 (by omega)
  ⟨hr, Option.some.inj ((congrArg outOf hr).symm.trans whileSrc_run)⟩

/-- `for (i = 0; i < 3; i++) { if (i == 1) continue; print i }`: three rounds (the second one ends
    with `continue` and still runs `i++`), then the test fails -/
def for3Src : Bytes := b!"BEGIN { for (i = 0; i < 3; i++) { if (i == 1) continue; print i } }"

def forPre (src : Bytes) : Expr :=
  match firstStmt (demoBody src) with
  | .for_ pre _ _ _ => pre
  | _ => .lit Token.zero
def forCond (src : Bytes) : Expr :=
  match firstStmt (demoBody src) with
  | .for_ _ c _ _ => c
  | _ => .lit Token.zero
def forPost (src : Bytes) : Expr :=
  match firstStmt (demoBody src) with
  | .for_ _ _ post _ => post
  | _ => .lit Token.zero
def forBodyS (src : Bytes) : Stmt :=
  match firstStmt (demoBody src) with
  | .for_ _ _ _ b => b
  | st => st

def forR (src : Bytes) : EM Bool :=
  forRoundAt (demoProg src) 20 (forCond src) (forPost src) (forBodyS src)
def f0 (src : Bytes) : St := stAfter (evalExpr (demoProg src) 20 (forPre src) (demoStart src))
def f1 (src : Bytes) : St := stAfter (forR src (f0 src))
def f2 (src : Bytes) : St := stAfter (forR src (f1 src))
def f3 (src : Bytes) : St := stAfter (forR src (f2 src))
def fT (src : Bytes) : St := stAfter (evalExpr (demoProg src) 20 (forCond src) (f3 src))
def fCell (src : Bytes) : CellId := cellOf (evalExpr (demoProg src) 20 (forCond src) (f3 src))

theorem for_rounds_3 : Rounds (forRoundAt (demoProg for3Src) 20 (forCond for3Src) (forPost for3Src)
    (forBodyS for3Src)) 3 (f0 for3Src) (f3 for3Src) :=
  have h : goesOn (forR for3Src (f0 for3Src)) = true ∧ goesOn (forR for3Src (f1 for3Src)) = true ∧
      goesOn (forR for3Src (f2 for3Src)) = true := by decide +kernel
  .succ (s1 := f1 for3Src) (eq_of_goesOn h.1) (.succ (s1 := f2 for3Src) (eq_of_goesOn h.2.1)
    (.succ (s1 := f3 for3Src) (eq_of_goesOn h.2.2) .zero))

/-- `for_k_iterations` applied to it -/
example : Runs (demoProg for3Src) (.for_ (forPre for3Src) (forCond for3Src) (forPost for3Src) (forBodyS for3Src))
      (demoStart for3Src) (.ok () (fT for3Src)) ∧
    (fT for3Src).output = b!"0\n2\n" ∧
    (match firstStmt (demoBody for3Src) with | .for_ .. => true | _ => false) = true :=
  have h : isOk (evalExpr (demoProg for3Src) 20 (forPre for3Src) (demoStart for3Src)) = true ∧
      isOk (evalExpr (demoProg for3Src) 20 (forCond for3Src) (f3 for3Src)) = true ∧
      ((fT for3Src).heap.get (fCell for3Src)).truthy = false ∧ (fT for3Src).output = b!"0\n2\n" ∧
      (match firstStmt (demoBody for3Src) with | .for_ .. => true | _ => false) = true := by decide +kernel
  ⟨for_k_iterations (demoProg for3Src) 20 3 _ _ _ _ (demoStart for3Src) (f0 for3Src) (f3 for3Src) (fT for3Src)
    (cellOf (evalExpr (demoProg for3Src) 20 (forPre for3Src) (demoStart for3Src))) (fCell for3Src)
    (eq_of_isOk h.1) for_rounds_3 (eq_of_isOk h.2.1) h.2.2.1, h.2.2.2⟩

/-- `forSrc` = `for (i = 0; i < 5; i++) { if (i == 1) continue; if (i == 3) break; print i }`:
    three rounds go on, the fourth ends with `break` -/
theorem for_rounds_3_break : Rounds (forRoundAt (demoProg forSrc) 20 (forCond forSrc) (forPost forSrc)
    (forBodyS forSrc)) 3 (f0 forSrc) (f3 forSrc) :=
  have h : goesOn (forR forSrc (f0 forSrc)) = true ∧ goesOn (forR forSrc (f1 forSrc)) = true ∧
      goesOn (forR forSrc (f2 forSrc)) = true := by decide +kernel
  .succ (s1 := f1 forSrc) (eq_of_goesOn h.1) (.succ (s1 := f2 forSrc) (eq_of_goesOn h.2.1)
    (.succ (s1 := f3 forSrc) (eq_of_goesOn h.2.2) .zero))

def isBrk : Res Unit → Bool
  | .err (.sig .brk) _ => true
  | _ => false

theorem eq_of_isBrk {r : Res Unit} (h : isBrk r = true) : r = .err (.sig .brk) (stAfter r) := by
  cases r with
  | ok a s => cases h
  | oof => cases h
  | err e s =>
    cases e with
    | sig g => cases g <;> first | rfl | cases h
    | _ => cases h

/-- `for_break_at` applied: the statement ends normally in the state `break` was raised in; `i` is
    still 3 there (the post-expression did not run after `break`) and 0, 2 were printed -/
example : Runs (demoProg forSrc) (.for_ (forPre forSrc) (forCond forSrc) (forPost forSrc) (forBodyS forSrc))
      (demoStart forSrc)
      (.ok () (stAfter (evalStmt (demoProg forSrc) 20 (forBodyS forSrc) (fT forSrc)))) ∧
    (stAfter (evalStmt (demoProg forSrc) 20 (forBodyS forSrc) (fT forSrc))).output = b!"0\n2\n" :=
  have h : isOk (evalExpr (demoProg forSrc) 20 (forPre forSrc) (demoStart forSrc)) = true ∧
      isOk (evalExpr (demoProg forSrc) 20 (forCond forSrc) (f3 forSrc)) = true ∧
      ((fT forSrc).heap.get (fCell forSrc)).truthy = true ∧
      isBrk (evalStmt (demoProg forSrc) 20 (forBodyS forSrc) (fT forSrc)) = true ∧
      (stAfter (evalStmt (demoProg forSrc) 20 (forBodyS forSrc) (fT forSrc))).output = b!"0\n2\n" := by
    decide +kernel
  ⟨for_break_at (demoProg forSrc) 20 3 _ _ _ _ (demoStart forSrc) (f0 forSrc) (f3 forSrc) (fT forSrc) _
    (cellOf (evalExpr (demoProg forSrc) 20 (forPre forSrc) (demoStart forSrc))) (fCell forSrc)
    (eq_of_isOk h.1) for_rounds_3_break (eq_of_isOk h.2.1) h.2.2.1 (eq_of_isBrk h.2.2.2.1), h.2.2.2.2⟩

/-- `nested_loop_round`: the hypotheses hold for the outer loop of
    `while (i < 2) { while (true) { j++; if (j > 1) break }; i++ }` — its body has no free
    `break` / `continue` although the inner loop breaks — and the program is `FnScoped` -/
def nestSrc : Bytes := b!"BEGIN { i = 0; j = 0; while (i < 2) { while (true) { j++; if (j > 1) break } i++ } print i, j }"
example : (match demoBody nestSrc with
      | .block _ (_ :: _ :: .while_ _ b :: _) => canS .brk b || canS .cont b
      | _ => true) = false ∧
    runOut nestSrc = some b!"2 3\n" := by decide +kernel
example : (demoProg nestSrc).FnScoped := (wellScoped_of_B _ (by decide +kernel)).1

end examples

end Jqawk.C07
