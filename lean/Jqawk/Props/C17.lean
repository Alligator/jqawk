/-
  C17 — print renders every value in one well-defined, terminating format.
  Termination for every heap (pigeonhole on the ancestor path), the cycle marker, sharing,
  the print statement's output format, and the JSON-like shape of container renderings.
-/
import Jqawk.Model.Eval
import Jqawk.Lemmas.Render
import Jqawk.Lemmas.Reparse

namespace Jqawk.C17
open Jqawk

/-! ### 1. termination -/

/-- Clause "rendering always terminates", general form: for EVERY heap (no well-formedness
    assumption), along a duplicate-free ancestor path of allocated containers, the fuel
    `nconts + 1 - path.length` is never exhausted.  The side condition on `check` holds at every
    call site of the model (top level: `path = []`; nested: `check = true`). -/
theorem pretty_terminates_gen (h : Heap) (n : Nat) (path : List Cont) (quote check : Bool) (v : Val)
    (hnd : path.Nodup) (hvalid : ∀ c ∈ path, c.valid h)
    (hcheck : check = true ∨ onPath path v = false)
    (hfuel : h.arrs.size + h.objs.size + 1 ≤ path.length + n) :
    pretty h n path quote check v ≠ none :=
  pretty_ne_none_gen h n path quote check v ⟨hnd, hvalid⟩ hcheck hfuel

/-- Clause "rendering always terminates": `PrettyString` never runs out of fuel, whatever the
    heap (cyclic, dangling ids, …) and whatever the value. -/
theorem pretty_terminates (h : Heap) (v : Val) : prettyTop h v ≠ none :=
  pretty_ne_none_gen h _ [] false false v (PathOk.nil h) (Or.inr (by cases v <;> rfl))
    (by simp [renderFuel, Heap.nconts])

/-- the quoted variant (`PrettyString(true)`, used by printf's %v) terminates as well -/
theorem pretty_terminates_quoted (h : Heap) (v : Val) (q : Bool) :
    pretty h (renderFuel h) [] q false v ≠ none :=
  pretty_ne_none_gen h _ [] q false v (PathOk.nil h) (Or.inr (by cases v <;> rfl))
    (by simp [renderFuel, Heap.nconts])

/-- the pigeonhole bound behind it: an ancestor path never exceeds the number of containers -/
theorem path_bounded (h : Heap) (path : List Cont) (hnd : path.Nodup)
    (hvalid : ∀ c ∈ path, c.valid h) : path.length ≤ h.arrs.size + h.objs.size :=
  path_length_le h path hnd hvalid

/-- non-vacuity: a heap whose array 0 contains itself and a dangling cell id -/
def cyc : Heap := ⟨#[.arr 0], #[#[0, 7]], #[]⟩
example : prettyTop cyc (.arr 0) = some b!"[<circular reference>, <unknown>]" := by decide +kernel
example : [Cont.a 0].Nodup ∧ (∀ c ∈ [Cont.a 0], c.valid cyc) := by
  refine ⟨by decide, ?_⟩; intro c hc; simp at hc; subst hc; exact Nat.zero_lt_one

/-! ### 2. the cycle marker -/

/-- Clause "a container reachable from itself is shown as `<circular reference>` at the point of
    recurrence": a container already on the ancestor path renders as the marker. -/
theorem pretty_cycle_marker (h : Heap) (n : Nat) (path : List Cont) (q : Bool) (v : Val)
    (hp : onPath path v = true) :
    pretty h (n + 1) path q true v = some b!"<circular reference>" :=
  pretty_on_path h n path q v hp

/-- non-vacuity of `pretty_cycle_marker` / `pretty_marker_iff`: array 0 below itself -/
example : onPath [Cont.a 0] (.arr 0) = true ∧ (Val.arr 0).cont? ≠ none := by
  refine ⟨by decide, ?_⟩; simp [Val.cont?]

/-- … and only there: an array NOT on the path is rendered in full, as `[` elements `]`, each
    element rendered below the extended path. -/
theorem pretty_arr_not_on_path (h : Heap) (n : Nat) (path : List Cont) (q check : Bool) (a : ArrId)
    (hp : Cont.a a ∉ path) (r : Bytes) (hr : pretty h (n + 1) path q check (.arr a) = some r) :
    ∃ parts, (h.arr a).toList.map (fun c => pretty h n (path ++ [.a a]) true true (h.get c))
        = parts.map some ∧
      r = [91] ++ joinSep b!", " parts ++ [93] ∧
      r.head? = some 91 ∧ r.getLast? = some 93 ∧ r ≠ b!"<circular reference>" := by
  rw [pretty_arr_unfold h n path q check a (by simp [hp])] at hr
  simp only [Option.map_eq_some_iff] at hr
  obtain ⟨parts, h1, rfl⟩ := hr
  refine ⟨parts, (mapM_option_eq_some _ _ _).1 h1, rfl, by simp, ?_, ?_⟩
  · rw [List.getLast?_append]; simp
  · intro e
    have := congrArg List.head? e
    simp at this

/-- the same for objects: `{` members `}` in ascending key order -/
theorem pretty_obj_not_on_path (h : Heap) (n : Nat) (path : List Cont) (q check : Bool) (o : ObjId)
    (hp : Cont.o o ∉ path) (r : Bytes) (hr : pretty h (n + 1) path q check (.obj o) = some r) :
    ∃ parts, (sortByKey (h.obj o)).map (fun kv =>
          (pretty h n (path ++ [.o o]) true true (h.get kv.2)).map
            (fun r => [34] ++ kv.1 ++ [34] ++ b!": " ++ r)) = parts.map some ∧
      r = [123] ++ joinSep b!", " parts ++ [125] ∧
      r.head? = some 123 ∧ r.getLast? = some 125 ∧ r ≠ b!"<circular reference>" := by
  rw [pretty_obj_unfold h n path q check o (by simp [hp])] at hr
  simp only [Option.map_eq_some_iff] at hr
  obtain ⟨parts, h1, rfl⟩ := hr
  refine ⟨parts, (mapM_option_eq_some _ _ _).1 h1, rfl, by simp, ?_, ?_⟩
  · rw [List.getLast?_append]; simp
  · intro e
    have := congrArg List.head? e
    simp at this

/-- "exactly at a container that is its own ancestor": for containers, the marker is the
    result iff the container is on the path (given the check is on and fuel is left) -/
theorem pretty_marker_iff (h : Heap) (n : Nat) (path : List Cont) (q : Bool) (v : Val)
    (hv : v.cont? ≠ none) :
    pretty h (n + 1) path q true v = some b!"<circular reference>" ↔ onPath path v = true := by
  constructor
  · intro e
    cases v with
    | arr a =>
      by_cases hp : Cont.a a ∈ path
      · simp [onPath, Val.cont?, hp]
      · obtain ⟨_, _, _, _, _, hne⟩ := pretty_arr_not_on_path h n path q true a hp _ e
        exact absurd rfl hne
    | obj o =>
      by_cases hp : Cont.o o ∈ path
      · simp [onPath, Val.cont?, hp]
      · obtain ⟨_, _, _, _, _, hne⟩ := pretty_obj_not_on_path h n path q true o hp _ e
        exact absurd rfl hne
    | _ => simp [Val.cont?] at hv
  · exact pretty_on_path h n path q v

/-! ### 3. sharing without a cycle is printed in full -/

/-- Clause "sharing without a cycle is printed in full": if two elements `i`, `j` of an array
    hold the same container `w` and `w` is not an ancestor at that point, both occurrences are
    rendered, identically, as the full `[…]`/`{…}` text — never as the marker. -/
theorem pretty_shared_full (h : Heap) (n : Nat) (path : List Cont) (q check : Bool) (a : ArrId)
    (hp : Cont.a a ∉ path) (r : Bytes) (hr : pretty h (n + 1) path q check (.arr a) = some r)
    (i j : Nat) (hi : i < (h.arr a).size) (hj : j < (h.arr a).size) (w : Val)
    (hwi : h.get (h.arr a)[i] = w) (hwj : h.get (h.arr a)[j] = w)
    (hc : w.cont? ≠ none) (hnot : onPath (path ++ [.a a]) w = false) :
    ∃ parts x, r = [91] ++ joinSep b!", " parts ++ [93] ∧ parts.length = (h.arr a).size ∧
      parts[i]? = some x ∧ parts[j]? = some x ∧ x ≠ b!"<circular reference>" ∧
      (x.head? = some 91 ∨ x.head? = some 123) := by
  obtain ⟨parts, hm, rfl, -, -, -⟩ := pretty_arr_not_on_path h n path q check a hp r hr
  obtain ⟨hlen, hpt⟩ := map_eq_map_some _ _ _ hm
  obtain ⟨x, hxi, hfi⟩ := hpt i (by simpa using hi)
  obtain ⟨y, hyj, hfj⟩ := hpt j (by simpa using hj)
  simp only [Array.getElem_toList, hwi, hwj] at hfi hfj
  have hxy : x = y := by rw [hfi] at hfj; exact Option.some.inj hfj
  subst hxy
  refine ⟨parts, x, rfl, by simpa using hlen, hxi, hyj, ?_⟩
  cases n with
  | zero => simp [pretty] at hfi
  | succ m =>
    cases w with
    | arr b =>
      have hb : Cont.a b ∉ path ++ [.a a] := by simpa [onPath, Val.cont?] using hnot
      obtain ⟨_, _, _, h91, _, hne⟩ := pretty_arr_not_on_path h m _ true true b hb x hfi
      exact ⟨hne, Or.inl h91⟩
    | obj o =>
      have hb : Cont.o o ∉ path ++ [.a a] := by simpa [onPath, Val.cont?] using hnot
      obtain ⟨_, _, _, h123, _, hne⟩ := pretty_obj_not_on_path h m _ true true o hb x hfi
      exact ⟨hne, Or.inr h123⟩
    | _ => simp [Val.cont?] at hc

/-- non-vacuity, and the concrete instance of the clause: array 0 holds array 1 twice -/
def shared : Heap := ⟨#[.arr 1, .arr 1], #[#[0, 1], #[]], #[]⟩
example : prettyTop shared (.arr 0) = some b!"[[], []]" := by decide +kernel
/-- a cycle of length 2 through an object and an array, with a shared acyclic sibling -/
def mixed : Heap := ⟨#[.obj 0, .arr 1, .arr 1], #[#[0, 1, 2], #[]], #[[(b!"k", 3)], []], ⟩
example : prettyTop { mixed with cells := mixed.cells.push (.arr 0) } (.arr 0) =
    some b!"[{\"k\": <circular reference>}, [], []]" := by decide +kernel

/-! ### 4. the print statement -/

/-- what `print` does once its arguments are evaluated (the tail of the `print` case of
    `evalStmt`, verbatim) -/
def printAction (cells : List CellId) : EM Unit := do
  let s ← getSt
  if cells.isEmpty then
    match s.ruleRoot with
    | none => throwPanic "print without a rule root"
    | some c =>
      match prettyTop s.heap (s.heap.get c) with
      | none => oof
      | some r => emit (r ++ [10])
  else
    match cells.mapM (fun c => prettyTop s.heap (s.heap.get c)) with
    | none => oof
    | some parts => emit (joinSep [32] parts ++ [10])

/-- unfolding: the `print` case of `evalStmt` is "evaluate the arguments (without copying),
    then `printAction`" -/
theorem evalStmt_print (prog : Program) (n : Nat) (t : Token) (args : List Expr) :
    evalStmt prog (n + 1) (.print t args) = (evalExprList prog n args false >>= printAction) := by
  rw [evalStmt]; rfl

/-- Clause "print writes its arguments separated by one space and ended by a newline": with at
    least one argument, the action always succeeds, appends exactly ONE output chunk
    `joinSep " " parts ++ "\n"`, where `parts` are the top-level renderings of the argument
    cells, and changes nothing else in the state. -/
theorem printAction_format (cs : List CellId) (hcs : cs ≠ []) (s : St) :
    ∃ parts, cs.map (fun c => prettyTop s.heap (s.heap.get c)) = parts.map some ∧
      printAction cs s = .ok () { s with out := (joinSep [32] parts ++ [10]) :: s.out } := by
  have hne := mapM_option_ne_none (fun c => prettyTop s.heap (s.heap.get c)) cs
    (fun c _ => pretty_terminates s.heap _)
  cases hm : cs.mapM (fun c => prettyTop s.heap (s.heap.get c)) with
  | none => exact absurd hm hne
  | some parts =>
    refine ⟨parts, (mapM_option_eq_some _ _ _).1 hm, ?_⟩
    have : cs.isEmpty = false := by cases cs <;> simp_all
    simp [printAction, bind, EM.bind, getSt, this, hm, emit]

/-- the statement level: if the arguments evaluate to cells `cs ≠ []` in state `s1`, the whole
    statement yields `s1` plus that one chunk -/
theorem print_format (prog : Program) (n : Nat) (t : Token) (args : List Expr) (s s1 : St)
    (cs : List CellId) (hcs : cs ≠ [])
    (hargs : evalExprList prog n args false s = .ok cs s1) :
    ∃ parts, cs.map (fun c => prettyTop s1.heap (s1.heap.get c)) = parts.map some ∧
      evalStmt prog (n + 1) (.print t args) s =
        .ok () { s1 with out := (joinSep [32] parts ++ [10]) :: s1.out } := by
  obtain ⟨parts, h1, h2⟩ := printAction_format cs hcs s1
  refine ⟨parts, h1, ?_⟩
  rw [evalStmt_print]
  simp only [bind, EM.bind, hargs]
  exact h2

/-- in terms of the output stream: exactly these bytes are appended -/
theorem print_output (prog : Program) (n : Nat) (t : Token) (args : List Expr) (s s1 : St)
    (cs : List CellId) (hcs : cs ≠ [])
    (hargs : evalExprList prog n args false s = .ok cs s1) :
    ∃ parts s2, cs.map (fun c => prettyTop s1.heap (s1.heap.get c)) = parts.map some ∧
      evalStmt prog (n + 1) (.print t args) s = .ok () s2 ∧
      s2.output = s1.output ++ joinSep [32] parts ++ [10] ∧
      s2.heap = s1.heap ∧ s2.frames = s1.frames ∧ s2.faults = s1.faults := by
  obtain ⟨parts, h1, h2⟩ := print_format prog n t args s s1 cs hcs hargs
  exact ⟨parts, _, h1, h2, by simp [St.output, List.append_assoc], rfl, rfl, rfl⟩

/-- Clause "a bare print prints `$`": without arguments the rule root is rendered, plus newline -/
theorem print_bare (s : St) (c : CellId) (hroot : s.ruleRoot = some c) :
    ∃ r, prettyTop s.heap (s.heap.get c) = some r ∧
      printAction [] s = .ok () { s with out := (r ++ [10]) :: s.out } := by
  cases hm : prettyTop s.heap (s.heap.get c) with
  | none => exact absurd hm (pretty_terminates _ _)
  | some r =>
    exact ⟨r, rfl, by simp [printAction, bind, EM.bind, getSt, hroot, hm, emit]⟩

/-- non-vacuity of `print_bare`: the rule root is cell 0, holding a string -/
example : printAction []
      { heap := ⟨#[.str b!"a b" none], #[], #[]⟩, frames := [], out := [], root := none,
        ruleRoot := some 0, returnVal := none, faults := 0 } =
    .ok () { heap := ⟨#[.str b!"a b" none], #[], #[]⟩, frames := [], out := [b!"a b\n"], root := none,
             ruleRoot := some 0, returnVal := none, faults := 0 } := by
  rfl

/-- non-vacuity of `print_format` / `print_output` (hypothesis `hargs`): the argument list of
    `print true` evaluates to one cell -/
example : (match evalExprList Program.empty 3 [.lit ⟨.true_, 0, []⟩] false default with
    | .ok cs _ => some cs | _ => none) = some [0] := by decide +kernel

/-- if evaluating the arguments fails, nothing is printed by this statement -/
theorem print_args_error (prog : Program) (n : Nat) (t : Token) (args : List Expr) (s s1 : St)
    (e : Err) (hargs : evalExprList prog n args false s = .err e s1) :
    evalStmt prog (n + 1) (.print t args) s = .err e s1 := by
  rw [evalStmt_print]; simp only [bind, EM.bind, hargs]

/-- non-vacuity of `print_args_error`: an argument whose evaluation fails (a variable without
    any frame is the model's panic "no frame") -/
example : (match evalExprList Program.empty 5 [.ident ⟨.ident, 0, b!"x"⟩] false default with
    | .err e _ => some e | _ => none) = some (.panic "no frame") := by decide +kernel

/-- Clause "top-level strings raw; true, false and null as words; numbers via FormatFloat" -/
theorem prettyTop_leaves (h : Heap) :
    (∀ s sp, prettyTop h (.str s sp) = some s) ∧
    (∀ x, prettyTop h (.num x) = some x.format) ∧
    prettyTop h (.bool true) = some b!"true" ∧ prettyTop h (.bool false) = some b!"false" ∧
    (∀ sp, prettyTop h (.nil sp) = some b!"null") := by
  refine ⟨?_, ?_, ?_, ?_, ?_⟩ <;> intros <;> simp [prettyTop, renderFuel, pretty, onPath, Val.cont?]

/-- Clause "nested strings double-quoted" (every element/member is rendered with quote = true);
    the other leaves as at top level; the words for unprintable values -/
theorem pretty_nested_leaves (h : Heap) (n : Nat) (path : List Cont) (check : Bool) :
    (∀ s sp, pretty h (n + 1) path true check (.str s sp) = some ([34] ++ s ++ [34])) ∧
    (∀ x q, pretty h (n + 1) path q check (.num x) = some x.format) ∧
    (∀ b q, pretty h (n + 1) path q check (.bool b) = some (if b then b!"true" else b!"false")) ∧
    (∀ sp q, pretty h (n + 1) path q check (.nil sp) = some b!"null") ∧
    (∀ i q, pretty h (n + 1) path q check (.fn i) = some b!"<function>") ∧
    (∀ f b sp q, pretty h (n + 1) path q check (.native f b sp) = some b!"<nativefunction>") ∧
    (∀ r q, pretty h (n + 1) path q check (.regex r) = some b!"<regex>") ∧
    (∀ q, pretty h (n + 1) path q check .unknown = some b!"<unknown>") := by
  refine ⟨?_, ?_, ?_, ?_, ?_, ?_, ?_, ?_⟩ <;> intros <;> simp [pretty, onPath, Val.cont?]

/-- non-vacuity for the print theorems: `print 1, "a"` with an array and a string argument cell -/
example : printAction [0, 1]
      { heap := ⟨#[.arr 0, .str b!"a b" none], #[#[1]], #[]⟩, frames := [], out := [], root := none,
        ruleRoot := none, returnVal := none, faults := 0 } =
    .ok () { heap := ⟨#[.arr 0, .str b!"a b" none], #[#[1]], #[]⟩, frames := [],
             out := [b!"[\"a b\"] a b\n"], root := none,
             ruleRoot := none, returnVal := none, faults := 0 } := by
  rfl

/-! ### 5. container renderings are JSON-like -/

/-- the text of a non-container element -/
def leafText : Val → Bytes
  | .str s _ => [34] ++ s ++ [34]
  | .num x => x.format
  | .bool b => if b then b!"true" else b!"false"
  | .nil _ => b!"null"
  | .native .. => b!"<nativefunction>"
  | .fn _ => b!"<function>"
  | .regex _ => b!"<regex>"
  | .unknown => b!"<unknown>"
  | .arr _ => [] | .obj _ => []

theorem pretty_leaf (h : Heap) (n : Nat) (path : List Cont) (check : Bool) (v : Val)
    (hv : v.cont? = none) : pretty h (n + 1) path true check v = some (leafText v) := by
  cases v <;> simp_all [pretty, onPath, Val.cont?, leafText]

/-- Clause "arrays as `[a, b]` … nested strings double-quoted", first level of the unfolding
    (the general recursive step is `pretty_arr_not_on_path`/`pretty_obj_not_on_path`): an array
    of non-containers renders as `[` ++ the element texts joined by `, ` ++ `]`.  For elements
    that are numbers, booleans, null and strings free of `"`, `\` and control bytes this is JSON
    text of the array; the re-parse against `Json.decodeOne` is proved below for the
    boolean/null fragment only (`pretty_flat_reparses_partial`). -/
theorem pretty_denotes_partial (h : Heap) (a : ArrId)
    (hleaf : ∀ c ∈ (h.arr a).toList, (h.get c).cont? = none) :
    prettyTop h (.arr a) =
      some ([91] ++ joinSep b!", " ((h.arr a).toList.map fun c => leafText (h.get c)) ++ [93]) := by
  rw [prettyTop, renderFuel, pretty_arr_unfold _ _ _ _ _ _ (by simp)]
  have : (h.arr a).toList.mapM (fun c => pretty h (h.arrs.size + h.objs.size + 1) ([] ++ [.a a]) true true (h.get c))
      = some ((h.arr a).toList.map fun c => leafText (h.get c)) := by
    rw [mapM_option_eq_some]
    simp only [List.map_map]
    apply List.map_congr_left
    intro c hc
    simp [pretty_leaf _ _ _ _ _ (hleaf c hc)]
  rw [this]; rfl

/-- the same one level down for objects: `{"k": v, …}` in ascending key order -/
theorem pretty_flat_object (h : Heap) (o : ObjId)
    (hleaf : ∀ kv ∈ sortByKey (h.obj o), (h.get kv.2).cont? = none) :
    prettyTop h (.obj o) =
      some ([123] ++ joinSep b!", " ((sortByKey (h.obj o)).map fun kv =>
        [34] ++ kv.1 ++ [34] ++ b!": " ++ leafText (h.get kv.2)) ++ [125]) := by
  rw [prettyTop, renderFuel, pretty_obj_unfold _ _ _ _ _ _ (by simp)]
  have : (sortByKey (h.obj o)).mapM (fun kv =>
        (pretty h (h.arrs.size + h.objs.size + 1) ([] ++ [.o o]) true true (h.get kv.2)).map
            (fun r => [34] ++ kv.1 ++ [34] ++ b!": " ++ r))
      = some ((sortByKey (h.obj o)).map fun kv =>
        [34] ++ kv.1 ++ [34] ++ b!": " ++ leafText (h.get kv.2)) := by
    rw [mapM_option_eq_some]
    simp only [List.map_map]
    apply List.map_congr_left
    intro kv hkv
    simp [pretty_leaf _ _ _ _ _ (hleaf kv hkv)]
  rw [this]; rfl

example : prettyTop ⟨#[.str b!"x" none, .nil none, .bool true], #[#[0, 1, 2]], #[[(b!"b", 1), (b!"a", 0)]]⟩ (.obj 0)
    = some b!"{\"a\": \"x\", \"b\": null}" := by decide +kernel

/-- the boolean/null fragment: `some b` for a boolean, `none` for null -/
def elemOf : Val → Reparse.Elem
  | .bool b => some b
  | _ => none

/-- Clause "the rendering of a container is JSON equal to the value", proved for the fragment
    flat arrays of booleans and null only (PARTIAL: numbers need `parse ∘ format = id` on F64,
    strings need the escape-freeness argument against the decoder's string states; nesting is no
    obstacle: `JsonBytes.Txt.top` holds for texts of any depth, once the leaves are shown to be
    JSON texts): the Go decoder model reads the rendering back, completely, as
    the array of the corresponding JSON values — the same tree `toJVal` produces. -/
theorem pretty_flat_reparses_partial (h : Heap) (a : ArrId) (numOk : Bytes → Bool)
    (hleaf : ∀ c ∈ (h.arr a).toList, (h.get c).kind = .bool ∨ (h.get c).kind = .nil) :
    ∃ r, prettyTop h (.arr a) = some r ∧
      Json.decodeOne numOk r .eof
        = .value (.arr ((h.arr a).toList.map fun c => Reparse.tree (elemOf (h.get c)))) [] ∧
      toJValTop h (.arr a)
        = .ok (.arr ((h.arr a).toList.map fun c => Reparse.tree (elemOf (h.get c)))) := by
  have hv : ∀ c ∈ (h.arr a).toList, (∃ b, h.get c = .bool b) ∨ ∃ sp, h.get c = .nil sp := by
    intro c hc
    have hk := hleaf c hc
    generalize h.get c = v at hk
    cases v <;> first
      | exact .inl ⟨_, rfl⟩ | exact .inr ⟨_, rfl⟩ | exact absurd hk (by simp [Val.kind])
  have hl : ∀ c ∈ (h.arr a).toList, (h.get c).cont? = none := by
    intro c hc; rcases hv c hc with ⟨b, e⟩ | ⟨sp, e⟩ <;> rw [e] <;> rfl
  have hw : (h.arr a).toList.map (fun c => leafText (h.get c))
      = ((h.arr a).toList.map fun c => elemOf (h.get c)).map Reparse.word := by
    rw [List.map_map]
    apply List.map_congr_left
    intro c hc
    rcases hv c hc with ⟨b, e⟩ | ⟨sp, e⟩
    · simp only [Function.comp, e]; cases b <;> rfl
    · simp only [Function.comp, e]; rfl
  refine ⟨_, pretty_denotes_partial h a hl, ?_, ?_⟩
  · rw [hw, Reparse.decode_flat, List.map_map]; rfl
  · rw [toJValTop, renderFuel, toJVal_arr_unfold _ _ _ _ _ (by simp)]
    have : GoValRes.sequence ((h.arr a).toList.map fun c =>
          toJVal h (h.arrs.size + h.objs.size + 1) ([] ++ [.a a]) true (h.get c))
        = .ok ((h.arr a).toList.map fun c => Reparse.tree (elemOf (h.get c))) := by
      rw [sequence_eq_ok, List.map_map]
      apply List.map_congr_left
      intro c hc
      rcases hv c hc with ⟨b, e⟩ | ⟨sp, e⟩ <;> simp only [Function.comp, e] <;> rfl
    rw [this]; rfl

/-- non-vacuity of `pretty_flat_reparses_partial` / `pretty_denotes_partial`: array 0 of the
    heap holds `true`, `null`, `false` -/
example : ∀ c ∈ ((⟨#[.bool true, .nil none, .bool false], #[#[0, 1, 2]], #[]⟩ : Heap).arr 0).toList,
    ((⟨#[.bool true, .nil none, .bool false], #[#[0, 1, 2]], #[]⟩ : Heap).get c).kind = .bool ∨
    ((⟨#[.bool true, .nil none, .bool false], #[#[0, 1, 2]], #[]⟩ : Heap).get c).kind = .nil := by
  decide

example : Json.decodeOne (fun _ => true) b!"[true, null, false]" .eof
    == .value (.arr [.bool true, .null, .bool false]) [] := by decide +kernel

end Jqawk.C17
