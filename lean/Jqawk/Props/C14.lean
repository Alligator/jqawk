/-
  C14 — the command line is a faithful wrapper.  Theorems about `Cli.run`, the model of
  cli/cli.go `Run` (compared with the real binary on every correspondence run): exit status and
  diagnostics, -o FILE versus -o -, stdin as a file named <stdin>, -f versus the inline
  program, argument order; and `-r E` ≡ `BEGINFILE { $ = E }` (sections "-r E …" below; proofs
  in Lemmas/Selector*.lean): for selectors built from `$`, literals, member / index steps,
  array and object literals, method calls, operators and `match` (`r_behaves_as_beginfile_rule`),
  and also calls of the builtins for programs that never rebind a builtin name
  (`r_behaves_as_beginfile_rule_builtins`, with `builtins_stay_intact`).
-/
import Jqawk.Model.Cli
import Jqawk.Lemmas.CliFinish
import Jqawk.Lemmas.ParserWF

namespace Jqawk.C14
open Jqawk Cli

/-- an argument that `flag.Parse` takes for a flag: starts with '-' and has at least two bytes -/
def flagLike : Bytes → Bool
  | 45 :: _ :: _ => true
  | _ => false

/-- after the interpreter ran: status 0 without a diagnostic, or status 1 with one and nothing written -/
theorem finish_status (fs : List Entry) (o : Opts) (n : Nat) (r : RunResult)
    (exit : Nat) (out : Bytes) (err : Bool) (w : Option (Bytes × Bytes))
    (h : finish fs o n r = .done exit out err w) :
    (exit = 0 ∧ err = false) ∨ (exit = 1 ∧ err = true ∧ w = none) := by
  unfold finish at h
  repeat' (first
    | (simp only [Result.done.injEq, reduceCtorEq] at h
       obtain ⟨rfl, rfl, rfl, rfl⟩ := h
       simp)
    | (split at h))
  all_goals (first | cases h | skip)

/-- exit status: 0, 1 or 2; a non-zero status always comes with a diagnostic on stderr and no
    output file; no diagnostic means status 0 — whenever the model gives a result at all
    (`.done`; it gives `.unmodelled` for the flags version, profile, dbg-ast, dbg-lex, for an "unmodelled" or an
    out-of-fuel interpreter outcome, and no claim is made then) -/
theorem exit_status (tbl : RuleTable) (argv : List Bytes) (stdin : Bytes) (fs : List Entry)
    (exit : Nat) (out : Bytes) (err : Bool) (w : Option (Bytes × Bytes))
    (h : run tbl argv stdin fs = .done exit out err w) :
    (exit = 0 ∨ exit = 1 ∨ exit = 2) ∧
    (exit ≠ 0 → err = true ∧ w = none) ∧
    (err = false → exit = 0) := by
  unfold run at h
  split at h
  · cases h
  · simp only [Result.done.injEq] at h; obtain ⟨rfl, rfl, rfl, rfl⟩ := h; simp
  · simp only [Result.done.injEq] at h; obtain ⟨rfl, rfl, rfl, rfl⟩ := h; simp
  · split at h
    · simp only [Result.done.injEq] at h; obtain ⟨rfl, rfl, rfl, rfl⟩ := h; simp
    · split at h
      · simp only [Result.done.injEq] at h; obtain ⟨rfl, rfl, rfl, rfl⟩ := h; simp
      · rcases finish_status _ _ _ _ _ _ _ _ h with ⟨rfl, rfl⟩ | ⟨rfl, rfl, rfl⟩ <;> simp

/-- non-vacuity of `exit_status` / `finish_status`: a successful run, a usage error (status 2)
    and a missing input file (status 1) -/
example : (match run expectedRuleTable [b!"BEGIN { print 1 }"] [] [] with
      | .done e o er w => some (e, o, er, w.isSome) | _ => none) = some (0, b!"1\n", false, false) ∧
    (match run expectedRuleTable [b!"-x"] [] [] with
      | .done e o er w => some (e, o, er, w.isSome) | _ => none) = some (2, [], true, false) ∧
    (match run expectedRuleTable [b!"{ print $ }", b!"nofile"] [] [] with
      | .done e o er w => some (e, o, er, w.isSome) | _ => none) = some (1, [], true, false) := by
  decide +kernel

/-- in the SUCCESSFUL case (status 0, document written) `-o FILE` writes exactly the bytes that
    `-o -` prints after the program's own output, and `-o -` succeeds too — stated for a FILE
    that does not exist yet in an existing directory (`hcreate`; overwriting an existing file and
    the failing cases are not covered by this statement) -/
theorem o_file_equals_o_dash (fs : List Entry) (o : Opts) (n : Nat) (r : RunResult) (file : Bytes)
    (hf : file ≠ b!"-") (hne : file ≠ [])
    (hcreate : lookup fs file = none ∧ dirExists fs (dirPart file) = true)
    (out : Bytes) (j : Bytes)
    (h : finish fs { o with outfile := file } n r = .done 0 out false (some (file, j))) :
    finish fs { o with outfile := b!"-" } n r = .done 0 (out ++ j) false none := by
  unfold finish at h ⊢
  have hne' : file.isEmpty = false := by cases file <;> simp_all
  have hd : (b!"-" : Bytes).isEmpty = false := rfl
  have hfd : (file == b!"-") = false := by simpa using hf
  simp only [hne', hd, hfd, hcreate.1, hcreate.2] at h ⊢
  repeat' (first
    | (simp only [Result.done.injEq, reduceCtorEq, Bool.false_eq_true, ↓reduceIte] at h)
    | (split at h))
  all_goals (first | cases h | skip)
  all_goals simp_all

/-- non-vacuity of `o_file_equals_o_dash`: `-o out.json '{ $.x = 1 }'` on `{"a":2}` in an empty
    working directory -/
example : (match finish [] { outfile := b!"out.json" } 1
        (evalProgram expectedRuleTable b!"{ $.x = 1 }" [] [⟨b!"<stdin>", b!"{\"a\":2}", .eof⟩]) with
      | .done e o er _ => some (e, o, er) | _ => none) = some (0, [], false) ∧
    (match finish [] { outfile := b!"out.json" } 1
        (evalProgram expectedRuleTable b!"{ $.x = 1 }" [] [⟨b!"<stdin>", b!"{\"a\":2}", .eof⟩]) with
      | .done _ _ _ w => w | _ => none)
      = some (b!"out.json", b!"{\n  \"a\": 2,\n  \"x\": 1\n}") ∧
    (lookup [] b!"out.json").isNone = true ∧ dirExists [] (dirPart b!"out.json") = true := by
  decide +kernel

/-- the first non-flag argument ends flag parsing: everything after it is left alone -/
theorem parseFlags_stops (fuel : Nat) (a : Bytes) (rest : List Bytes) (o : Opts)
    (ha : flagLike a = false) : parseFlags (fuel + 1) (a :: rest) o = .ok (o, a :: rest) := by
  cases a with
  | nil => simp [parseFlags]
  | cons c r1 =>
    cases r1 with
    | nil => simp [parseFlags]
    | cons d more =>
      have hc : c ≠ 45 := by
        intro hc; subst hc; simp [flagLike] at ha
      unfold parseFlags
      split
      · rename_i heq
        simp only [List.cons.injEq] at heq
        exact absurd heq.1 hc
      · rfl

theorem parseFlags_f (fuel : Nat) (pf : Bytes) (rest : List Bytes) (o : Opts) :
    parseFlags (fuel + 1) (b!"-f" :: pf :: rest) o = parseFlags fuel rest { o with progFile := pf } := by
  conv => lhs; unfold parseFlags
  simp [splitEq]

/-- `-f FILE` takes the program from the file and ALL remaining arguments as input files;
    the inline form takes the first argument as the program: same program, same files —
    for a program text and a first file name that `flag.Parse` does not take for flags
    (`hprog`, `hfiles`: not `-` followed by at least one more byte) -/
theorem dash_f_equals_inline (tbl : RuleTable) (pf prog : Bytes) (files : List Bytes)
    (stdin : Bytes) (fs : List Entry)
    (hpf : pf ≠ []) (hfile : lookup fs pf = some { name := pf, data := prog })
    (hprog : flagLike prog = false) (hfiles : ∀ f ∈ files.head?, flagLike f = false) :
    run tbl (b!"-f" :: pf :: files) stdin fs = run tbl (prog :: files) stdin fs := by
  have h1 : parseFlags ((prog :: files).length + 1) (prog :: files) {} = .ok ({}, prog :: files) :=
    parseFlags_stops _ _ _ _ hprog
  have h2 : parseFlags ((b!"-f" :: pf :: files).length + 1) (b!"-f" :: pf :: files) {} =
      .ok ({ progFile := pf }, files) := by
    rw [parseFlags_f]
    cases files with
    | nil => simp [parseFlags]
    | cons f rest =>
      have hf : flagLike f = false := hfiles f (by simp)
      exact parseFlags_stops _ f rest _ hf
  unfold run
  rw [h1, h2]
  have hpf' : pf.isEmpty = false := by cases pf <;> simp_all
  have hfin : ∀ n r, finish fs { progFile := pf } n r = finish fs {} n r := by
    intro n r; simp [finish]
  simp [source, hpf', hfile, hfin]

/-- non-vacuity of `dash_f_equals_inline` (and `named_file_run`): the program file and an input
    file in the working directory; the command line with `-f` runs -/
example : ((lookup [⟨b!"p.jq", b!"{ print $.a }", false⟩, ⟨b!"in.json", b!"{\"a\":2}", false⟩] b!"p.jq").map
        fun e => (e.name, e.data, e.isDir)) = some (b!"p.jq", b!"{ print $.a }", false) ∧
    flagLike b!"{ print $.a }" = false ∧ (∀ f ∈ [b!"in.json"].head?, flagLike f = false) ∧
    (match run expectedRuleTable [b!"-f", b!"p.jq", b!"in.json"] []
        [⟨b!"p.jq", b!"{ print $.a }", false⟩, ⟨b!"in.json", b!"{\"a\":2}", false⟩] with
      | .done e o er w => some (e, o, er, w.isSome) | _ => none) = some (0, b!"2\n", false, false) := by
  refine ⟨by decide, by decide, ?_, by decide +kernel⟩
  intro f hf; simp at hf; subst hf; decide

/-- stdin is treated exactly as a file named `<stdin>`: with no file argument the interpreter
    gets one input `<stdin>` with the bytes of standard input -/
theorem stdin_is_a_file (tbl : RuleTable) (prog : Bytes) (stdin : Bytes) (fs : List Entry)
    (hprog : flagLike prog = false) :
    run tbl [prog] stdin fs =
      finish fs {} 1 (evalProgram tbl prog [] [{ name := b!"<stdin>", data := stdin }]) := by
  have h1 : parseFlags 2 [prog] {} = .ok ({}, [prog]) := parseFlags_stops _ _ _ _ hprog
  unfold run
  simp only [List.length_cons, List.length_nil, Nat.zero_add, Nat.reduceAdd, h1]
  simp [source, inputsOf]

/-- a named input file gives the run `stdin_is_a_file` describes, with the file's name and bytes -/
theorem named_file_run (tbl : RuleTable) (prog name data : Bytes) (stdin : Bytes) (fs : List Entry)
    (hprog : flagLike prog = false)
    (hfile : lookup fs name = some { name := name, data := data }) :
    run tbl [prog, name] stdin fs =
      finish fs {} 1 (evalProgram tbl prog [] [{ name := name, data := data }]) := by
  have h1 : parseFlags 3 [prog, name] {} = .ok ({}, [prog, name]) := parseFlags_stops _ _ _ _ hprog
  unfold run
  simp only [List.length_cons, List.length_nil, Nat.zero_add, Nat.reduceAdd, h1]
  simp [source, inputsOf, openFiles, hfile]

/-- a missing input file: non-zero exit, a diagnostic, and the program does not run at all -/
theorem missing_file (tbl : RuleTable) (prog name : Bytes) (stdin : Bytes) (fs : List Entry)
    (hprog : flagLike prog = false) (hfile : lookup fs name = none) :
    run tbl [prog, name] stdin fs = .done 1 [] true none := by
  have h1 : parseFlags 3 [prog, name] {} = .ok ({}, [prog, name]) := parseFlags_stops _ _ _ _ hprog
  unfold run
  simp only [List.length_cons, List.length_nil, Nat.zero_add, Nat.reduceAdd, h1]
  simp [source, inputsOf, openFiles, hfile]

/-- files are handed to the interpreter in the order given -/
theorem files_order (fs : List Entry) (paths : List Bytes) (inputs : List InputFile)
    (h : openFiles fs paths = some inputs) : inputs.map (·.name) = paths := by
  induction paths generalizing inputs with
  | nil => simp [openFiles] at h; subst h; rfl
  | cons p ps ih =>
    simp only [openFiles] at h
    split at h
    · cases h
    · split at h
      · cases h
      · rename_i rest hrest
        simp only [Option.some.injEq] at h
        subst h
        simp only [List.map_cons, ih rest hrest]
        split <;> rfl

/-- non-vacuity of `files_order`: two files opened in the order given -/
example : ((openFiles [⟨b!"b", b!"2", false⟩, ⟨b!"a", b!"1", false⟩] [b!"a", b!"b"]).map
    fun l => l.map (·.data)) = some [b!"1", b!"2"] := by decide

theorem parseFlags_r (fuel : Nat) (v : Bytes) (rest : List Bytes) (o : Opts) :
    parseFlags (fuel + 1) (b!"-r" :: v :: rest) o = parseFlags fuel rest { o with sels := o.sels ++ [v] } := by
  conv => lhs; unfold parseFlags
  simp [splitEq]

/-- -r selectors are collected in the order given (stated for the command line
    `-r a -r b prog` only; the general step is `parseFlags_r`) -/
theorem selectors_order (a b : Bytes) (prog : Bytes) (hprog : flagLike prog = false) :
    parseFlags 6 [b!"-r", a, b!"-r", b, prog] {} = .ok ({ sels := [a, b] }, [prog]) := by
  rw [parseFlags_r, parseFlags_r]
  exact parseFlags_stops _ prog [] _ hprog


/-! ## `-r E` behaves as `BEGINFILE { $ = E }`

The selector is evaluated by a nested evaluator (`evalSelector`) on its own conversion of the
decoded value, and its result is copied into a fresh root cell; the rule is evaluated by the main
evaluator and assigns to the existing `$` cell.  The two runs therefore differ in the ids of their
cells (run A has the builtins of the nested evaluator, a root cell and the selector's temporaries
in addition).  The comparison is a simulation up to an injective renaming of cell ids
(`Sel.allSim`: no evaluator function sees cell ids), re-established after every decoded value
(`Sel.junction`) and carried through the whole run (`Sel.runProgram_rel`).

Statements are about ASTs: run A is `runProgram prog src tbl [sel] files`, run B is
`runProgram (withSel prog T E) src tbl [] files` where `E` is what `sel` parses to and `withSel`
puts the rule `BEGINFILE { $ = E }` (tokens `T`) in front of the rules of `prog`.  In a program
*text* the tokens of `E` have other positions than in the selector text; positions only occur in
reported runtime errors, which the relation below compares by class and message anyway. -/

open Sel in
/-- **Core lemma (every evaluator function, any program, any fuel on either side).**  Two runs
    from states related by a renaming of cell ids (`SR`: heaps, frames, `$`, output) give related
    results: no claim as soon as either is out of fuel; else both the same error / signal, or both a
    value, related again — provided the code only looks up identifiers the context allows (`idsE`/`idsS`: all
    of them for two main evaluators; `$` and allowed names when a nested selector evaluator, whose
    frames hold the builtins only, is compared with the main evaluator; everything but `$` in
    ENDFILE rules).  Settles: "a closed expression evaluates to the same value, with the same
    output and the same error, in the nested evaluator of `-r` and in a rule of the program". -/
theorem evaluator_ignores_cell_ids (nA nB : Nat) : Sel.AllSim nA nB := Sel.allSim nA nB

open Sel in
/-- **Expression level, observably**: in related states (e.g. the selector's nested evaluator
    and the main evaluator in a rule, both with `$` bound to a fresh conversion of the same
    value) an expression whose identifiers are allowed gives the same JSON rendering, the same
    printed form, the same output and the same error — when BOTH evaluations end; if either is
    out of fuel (at the given `nA`, `nB`) the statement claims nothing.  `E` may call methods and
    builtins, contain array / object literals, `match`, even assignments. -/
theorem selector_expression_same_value {X : XCtx} (g : GoodX X) (E : Expr)
    (hE : idsE X.allowD X.allow E = true) {sA sB : St} (hs : SR X sA sB) (nA nB : Nat) :
    match evalExpr X.progA nA E sA, evalExpr X.progB nB E sB with
    | .oof, _ => True
    | .ok _ _, .oof => True
    | .err _ _, .oof => True
    | .ok a sA', .ok b sB' =>
      toJValTop sA'.heap (sA'.heap.get a) = toJValTop sB'.heap (sB'.heap.get b) ∧
      prettyTop sA'.heap (sA'.heap.get a) = prettyTop sB'.heap (sB'.heap.get b) ∧
      sA'.output = sB'.output
    | .err eA sA', .err eB sB' => eA = eB ∧ sA'.output = sB'.output
    | .ok _ _, .err _ _ => False
    | .err _ _, .ok _ _ => False := by
  have h := (allSim nA nB).expr g sB.heap.cells.size E hE sA sB hs (Nat.le_refl _)
  revert h
  generalize evalExpr X.progA nA E sA = ra
  generalize evalExpr X.progB nB E sB = rb
  intro h
  cases ra with
  | oof => trivial
  | ok a sA' =>
    cases rb with
    | oof => trivial
    | err _ _ => exact h.elim
    | ok b sB' =>
      obtain ⟨_, hc, hs'⟩ := h
      have hv := hs'.heap.get hc (Nat.le_refl _)
      exact ⟨toJValTop_rel hs'.heap hv (Nat.le_refl _), prettyTop_rel hs'.heap hv (Nat.le_refl _), hs'.output⟩
  | err eA sA' =>
    cases rb with
    | oof => trivial
    | ok _ _ => exact h.elim
    | err eB sB' => exact ⟨h.2.1, h.2.2.1.output⟩

open Sel in
/-- **One decoded value.**  From related main evaluators (`hs`), the selector (`evalSelector`)
    and the conversion of the value followed by the rule `$ = E` (`ruleStep`) end alike
    (`JRel`): the same error (class and message; position and text differ by construction), or
    both succeed and the main evaluators are related again by a new renaming under which the
    root cell of run A corresponds to the `$` cell of run B — so that everything the program does
    afterwards with `$`, its members (sharing included) and `-o` is the same.

    `E` is a selector of the class `selX (fun _ => false)`: `$` (the only identifier), literals,
    member / index steps, array and object literals (`[$.a, $.b]`, `{k: $.x}`), method calls
    (`$.pluck("a")`, `$.result.sort()`, `.length()`, `.upper()`, `.split(..)`, … — every native
    method, `push`/`pop` on arrays of the document included), operators other than assignment
    and `++`/`--`, `match` with expression bodies; `E` comes from the parser (`TblOK tbl`, used
    for `E.wfB`).

    What makes the containers created by `E` harmless (`Sel.allPl`, `Sel.junction_heap`): in run
    B their member cells live in the main heap next to the `$` cell, which the rule then
    overwrites; the proof shows that member cells of containers created by `E` are never the `$`
    cell and hold plain values or containers only (`Sel.MPH`), and that everything that existed
    before `E` ran — cells, arrays and objects of the document — is untouched or changed alike
    (`Sel.Froz`). -/
theorem selector_step (prog : Program) (T : SelTok) (E : Expr) (hE : selX (fun _ => false) E = true)
    (tbl : RuleTable) (htbl : TblOK tbl)
    (sel : Bytes) (hparse : parseExpressionSrc tbl sel = .ok E) (v : JVal) {K : Ctx} (wf : K.WF)
    (h0 : K.a0 = 0) (h0' : K.o0 = 0) (hKA : K.progA = prog) (hKB : K.progB = withSel prog T E)
    {sA sB : St} (hs : SR (mainX K) sA sB) (hlen : sB.frames.length = 1) :
    JRel prog (withSel prog T E) sel (evalSelector tbl sel v sA) (ruleStep (withSel prog T E) T E v sB) :=
  junction prog T E false hE (parseExpressionSrc_wf htbl sel E hparse) tbl sel hparse v wf h0 h0' hKA hKB hs hlen
    (fun h => by cases h)

open Sel in
/-- **Whole runs: (a single) `-r E` behaves as `BEGINFILE { $ = E }`.**  For every program `prog` whose
    ENDFILE rules (and, if it has any, the functions they might call) do not read `$`
    (`EndOK`; BEGINFILE rules and pattern rules are unrestricted — they see the selected value in
    both runs), every selector `E` of the class described at `selector_step` (container-creating
    selectors and method calls included; identifiers other than `$` excluded — for calls of the
    builtins `num`, `json`, `printf` see `r_behaves_as_beginfile_rule_builtins` below), all input
    files: unless one of the runs is out of fuel,
    * the outcome is of the same class with the same message (`OutcomeRel`: a runtime error in
      the selector is reported against the selector text by run A, against the program text by
      run B);
    * the output is the same;
    * on success `GetRootJson`, i.e. what `-o` writes, is the same.

    Observed on the binary, outside the model (which abstracts messages): when the selected value
    cannot be copied (`-r '$.s.length'`), Go's message ends in the tag of the *target* cell —
    "cannot copy a nativefunction to a unknown" with `-r` (a fresh root cell), "… to a object"
    with the rule (the `$` cell still holds the document); class, exit status and output agree. -/
theorem r_behaves_as_beginfile_rule (tbl : RuleTable) (htbl : TblOK tbl) (prog : Program) (T : SelTok)
    (E : Expr) (sel src : Bytes)
    (files : List InputFile) (hparse : parseExpressionSrc tbl sel = .ok E)
    (hE : selX (fun _ => false) E = true) (hend : EndOK prog) :
    let rA := runProgram prog src tbl [sel] files
    let rB := runProgram (withSel prog T E) src tbl [] files
    rA.outcome = .oof ∨ rB.outcome = .oof ∨
      (OutcomeRel sel src rA.outcome rB.outcome ∧ rA.out = rB.out ∧
        (rA.outcome = .ok → rA.st.bind getRootJson = rB.st.bind getRootJson)) :=
  runProgram_rel prog T E false hE (parseExpressionSrc_wf htbl sel E hparse) (fun h => by cases h) tbl sel hparse
    src hend files

open Sel in
/-- the container-free selectors (`selE`: `$`, literals, member / index steps, operators,
    `match`) are a special case -/
theorem r_behaves_as_beginfile_rule_path (tbl : RuleTable) (htbl : TblOK tbl) (prog : Program) (T : SelTok)
    (E : Expr) (sel src : Bytes)
    (files : List InputFile) (hparse : parseExpressionSrc tbl sel = .ok E) (hE : selE E = true)
    (hend : EndOK prog) :
    let rA := runProgram prog src tbl [sel] files
    let rB := runProgram (withSel prog T E) src tbl [] files
    rA.outcome = .oof ∨ rB.outcome = .oof ∨
      (OutcomeRel sel src rA.outcome rB.outcome ∧ rA.out = rB.out ∧
        (rA.outcome = .ok → rA.st.bind getRootJson = rB.st.bind getRootJson)) :=
  r_behaves_as_beginfile_rule tbl htbl prog T E sel src files hparse (selE_selX _ E hE) hend

open Sel in
/-- hence the last step of the command line, `Cli.finish` (for any options and number of input
    paths), gives the same result for the two runs: same exit status, same standard output, a
    diagnostic in the same cases, and `-o` writes the same bytes to the same file (or after the
    output for `-o -`). -/
theorem r_behaves_as_beginfile_rule_cli (tbl : RuleTable) (htbl : TblOK tbl) (prog : Program) (T : SelTok)
    (E : Expr)
    (sel src : Bytes) (files : List InputFile) (hparse : parseExpressionSrc tbl sel = .ok E)
    (hE : selX (fun _ => false) E = true) (hend : EndOK prog) (fs : List Entry) (o : Opts) (n : Nat)
    (hA : (runProgram prog src tbl [sel] files).outcome ≠ .oof)
    (hB : (runProgram (withSel prog T E) src tbl [] files).outcome ≠ .oof) :
    finish fs o n (runProgram prog src tbl [sel] files) =
      finish fs o n (runProgram (withSel prog T E) src tbl [] files) := by
  have h := r_behaves_as_beginfile_rule tbl htbl prog T E sel src files hparse hE hend
  rcases h with h | h | ⟨h1, h2, h3⟩
  · exact absurd h hA
  · exact absurd h hB
  · exact finish_congr fs o n h1 h2 h3

/-! ### selectors that call the builtins `num`, `json`, `printf`

In run A the selector's nested evaluator has builtins of its own; in run B the rule looks the names
up in the main evaluator, where the program may have put something else.  The two runs agree for
programs that never rebind a builtin name — `Sel.okProg`: the names `printf`, `json`, `num` occur
in the program only as the callee of a call, and no function, parameter, pattern binding or loop
variable has such a name.  That this *syntactic* condition keeps the root frame's bindings of the
three names and the cells they are bound to intact at every point of the run is proved by a
separate invariant of the whole evaluator (`Sel.InvB`, `Sel.allBP`: every cell an expression hands
out, every member of every array and object, every binding other than those three lies outside
the builtin cells, and every write goes to such a cell). -/

open Sel in
/-- **The program leaves the builtins alone**: for a program satisfying `okProg` (and well
    formed, as the parser guarantees), every evaluator function, at every fuel, from every state
    satisfying the invariant `InvB` — the root frame binds `printf`, `json`, `num` to the cells
    `b0` says, the cells outside the region (0, 1, 2 in the main evaluator) hold what they held
    in `h0`, nothing else refers to them — ends in a state satisfying it again, and
    `NewEvaluator` establishes it with the natives in the cells 0, 1, 2. -/
theorem builtins_stay_intact (prog : Program) (hwf : prog.wfB = true) (hok : okProg prog = true) :
    (∀ (h0 : Heap) (b0 : Bytes → Option CellId) (n : Nat), AllBP (P3 prog) h0 b0 prog n) ∧
    InvB (P3 prog) (newEvaluator prog Heap.empty [] 0).heap b0m KAny (newEvaluator prog Heap.empty [] 0) ∧
    (newEvaluator prog Heap.empty [] 0).heap.get 0 = .native .printf none none ∧
    (newEvaluator prog Heap.empty [] 0).heap.get 1 = .native .json none none ∧
    (newEvaluator prog Heap.empty [] 0).heap.get 2 = .native .num none none :=
  ⟨fun h0 b0 n => allBP (P3 prog) h0 b0 prog (Nat.le_refl _) (Program.wfB_functions hwf) (okProg_functions hok) n,
   newEvaluator_invB prog hok⟩

open Sel in
/-- **One decoded value, builtins allowed**: as `selector_step`, for selectors of the class
    `selX isB` (calls of `num(..)`, `json(..)`, `printf(..)` in addition) in which the builtin
    names occur as callees only (`okE`), from main evaluators related as there where that of run B
    satisfies the builtin invariant (`BInv`). -/
theorem selector_step_builtins (prog : Program) (T : SelTok) (E : Expr) (hE : selX isB E = true)
    (hEok : okE E = true) (tbl : RuleTable) (htbl : TblOK tbl)
    (sel : Bytes) (hparse : parseExpressionSrc tbl sel = .ok E) (v : JVal) {K : Ctx} (wf : K.WF)
    (h0 : K.a0 = 0) (h0' : K.o0 = 0) (hKA : K.progA = prog) (hKB : K.progB = withSel prog T E)
    {sA sB : St} (hs : SR (mainX K) sA sB) (hlen : sB.frames.length = 1)
    (hinv : BInv (withSel prog T E) sB) (hwfB : (withSel prog T E).wfB = true)
    (hokB : okProg (withSel prog T E) = true) :
    JRel prog (withSel prog T E) sel (evalSelector tbl sel v sA) (ruleStep (withSel prog T E) T E v sB) :=
  junction prog T E true hE (parseExpressionSrc_wf htbl sel E hparse) tbl sel hparse v wf h0 h0' hKA hKB hs hlen
    (fun _ => ⟨hinv, hwfB, hokB, hEok⟩)

open Sel in
/-- **Whole runs, selectors that call builtins.**  As `r_behaves_as_beginfile_rule`, with
    selectors that may also call `num(..)`, `json(..)` and `printf(..)` (class `selX isB`, the
    builtin names as callees only: `okE`), for programs that never rebind a builtin name
    (`okProg`, a syntactic condition) and whose ENDFILE rules do not read `$`: unless one of the
    runs is out of fuel, same outcome class and message, same output (what `printf` in the
    selector prints included), same `-o` document.  (`hT`: the `$` token of the rule is not
    spelled like a builtin.) -/
theorem r_behaves_as_beginfile_rule_builtins (tbl : RuleTable) (htbl : TblOK tbl) (prog : Program)
    (T : SelTok) (E : Expr) (sel src : Bytes) (files : List InputFile)
    (hparse : parseExpressionSrc tbl sel = .ok E) (hprog : parseProgramSrc tbl src = .ok prog)
    (hE : selX isB E = true) (hEok : okE E = true) (hok : okProg prog = true)
    (hT : isB T.dtok.text = false) (hend : EndOK prog) :
    let rA := runProgram prog src tbl [sel] files
    let rB := runProgram (withSel prog T E) src tbl [] files
    rA.outcome = .oof ∨ rB.outcome = .oof ∨
      (OutcomeRel sel src rA.outcome rB.outcome ∧ rA.out = rB.out ∧
        (rA.outcome = .ok → rA.st.bind getRootJson = rB.st.bind getRootJson)) :=
  runProgram_rel prog T E true hE (parseExpressionSrc_wf htbl sel E hparse)
    (fun _ => ⟨parseProgramSrc_wf htbl src prog hprog, hok, hEok, hT⟩) tbl sel hparse src hend files

open Sel in
/-- hence `Cli.finish` gives the same result for the two runs (as
    `r_behaves_as_beginfile_rule_cli`, for selectors that call builtins) -/
theorem r_behaves_as_beginfile_rule_builtins_cli (tbl : RuleTable) (htbl : TblOK tbl) (prog : Program)
    (T : SelTok) (E : Expr) (sel src : Bytes) (files : List InputFile)
    (hparse : parseExpressionSrc tbl sel = .ok E) (hprog : parseProgramSrc tbl src = .ok prog)
    (hE : selX isB E = true) (hEok : okE E = true) (hok : okProg prog = true)
    (hT : isB T.dtok.text = false) (hend : EndOK prog) (fs : List Entry) (o : Opts) (n : Nat)
    (hA : (runProgram prog src tbl [sel] files).outcome ≠ .oof)
    (hB : (runProgram (withSel prog T E) src tbl [] files).outcome ≠ .oof) :
    finish fs o n (runProgram prog src tbl [sel] files) =
      finish fs o n (runProgram (withSel prog T E) src tbl [] files) := by
  have h := r_behaves_as_beginfile_rule_builtins tbl htbl prog T E sel src files hparse hprog hE hEok hok hT hend
  rcases h with h | h | ⟨h1, h2, h3⟩
  · exact absurd h hA
  · exact absurd h hB
  · exact finish_congr fs o n h1 h2 h3

/-! ### non-vacuity, and what delimits the claim (all checked on the model; the same command
lines were run on the binary) -/

/-- the hypothesis `TblOK tbl` of the theorems above holds for the rule table of the parser -/
example : TblOK expectedRuleTable := expectedRuleTable_ok

def endOKB (prog : Program) : Bool :=
  (rulesOf prog .endFile).all (fun r => Sel.idsS false (fun _ => true) r.body) &&
  ((rulesOf prog .endFile).isEmpty || prog.functions.all (fun f => Sel.idsS false (fun _ => true) f.body))

theorem endOK_of_B (prog : Program) (h : endOKB prog = true) : Sel.EndOK prog := by
  simp only [endOKB, Bool.and_eq_true, Bool.or_eq_true, List.all_eq_true, List.isEmpty_iff] at h
  refine ⟨h.1, fun hne => ?_⟩
  rcases h.2 with h2 | h2
  · exact absurd h2 hne
  · exact h2

/-- what a user can observe of a run: class of the outcome and message, output, what `-o` writes -/
def obs (r : RunResult) : (Nat × String) × Bytes × Option Bytes :=
  ((match r.outcome with
    | .ok => (0, "")
    | .syntaxErr _ e => (1, e.msg)
    | .runtimeErr _ _ m => (2, m)
    | .jsonErr _ => (3, "")
    | .sentinel _ => (4, "")
    | .panic m => (5, m)
    | .unmodelled w => (6, w)
    | .oof => (7, "")), r.out, r.st.bind getRootJson)

def doc1 : InputFile :=
  ⟨b!"f", b!"{\"status\":\"ok\",\"result\":[{\"name\":\"a\"},{\"name\":\"b\"}],\"a\":{\"k\":1},\"s\":\"hello\",\"n\":3.7}", .eof⟩

/-- the hypotheses of `r_behaves_as_beginfile_rule` hold for the README's example: the selector
    `$.result` parses to a (container-free) selector of the class, the program has no ENDFILE rule -/
example : (match parseExpressionSrc expectedRuleTable b!"$.result" with
      | .ok e => Sel.selE e && Sel.selX (fun _ => false) e | _ => false) = true ∧
    (match parseProgramSrc expectedRuleTable b!"{ print $.name }" with
      | .ok p => endOKB p | _ => false) = true := by decide +kernel

/-- the hypotheses `hA`, `hB` of `r_behaves_as_beginfile_rule_cli`: the README's run ends
    normally (not out of fuel), with output -/
example : (obs (evalProgram expectedRuleTable b!"{ print $.name }" [b!"$.result"] [doc1])).1 = (0, "") ∧
    (obs (evalProgram expectedRuleTable b!"{ print $.name }" [b!"$.result"] [doc1])).2.1 = b!"a\nb\n" := by
  decide +kernel

/-- the hypotheses hold also with operators, index steps, `match`, and an ENDFILE rule that does not read `$` -/
example : (match parseExpressionSrc expectedRuleTable b!"match ($.n) { 3.7 => $.result[0].name + \"x\", y => $.a.k * 2 }" with
      | .ok e => Sel.selE e && Sel.selX (fun _ => false) e | _ => false) = true ∧
    (match parseProgramSrc expectedRuleTable b!"function f(x) { return x + 1 } { print f($) } ENDFILE { print \"end\" }" with
      | .ok p => endOKB p | _ => false) = true := by decide +kernel

/-- the README's pair of command lines, as texts: same outcome, output and `-o` document -/
example : obs (evalProgram expectedRuleTable b!"{ print $.name }" [b!"$.result"] [doc1]) =
    obs (evalProgram expectedRuleTable b!"BEGINFILE { $ = $.result } { print $.name }" [] [doc1]) := by
  decide +kernel

/-- container-creating selectors and method calls are in the class … -/
example : ([b!"[$.a, $.s]", b!"{k: $.n, \"r\": $.result}", b!"$.pluck(\"s\", \"a\")", b!"$.result.sort()",
      b!"$.s.length()", b!"$.s.upper()", b!"$.s.split(\"l\")", b!"[$.result.length(), {x: [$.a]}]",
      b!"$.a.keys()", b!"match ($.s.upper()) { \"HELLO\" => [$.n], y => $ }"].all (fun sel =>
    match parseExpressionSrc expectedRuleTable sel with
    | .ok e => Sel.selX (fun _ => false) e | _ => false)) = true := by decide +kernel

/-- the two command lines agree on container-creating selectors (outcome, output, `-o` document): an array
    literal whose members share containers of the document (each member is a record; the
    object `$.a` occurs twice, so the change made at the first record shows at the third) -/
example : obs (evalProgram expectedRuleTable b!"{ print $; $.x = 1 }" [b!"[$.a, $.result[0], $.a]"] [doc1]) =
    obs (evalProgram expectedRuleTable b!"BEGINFILE { $ = [$.a, $.result[0], $.a] } { print $; $.x = 1 }" [] [doc1]) ∧
    (obs (evalProgram expectedRuleTable b!"{ print $; $.x = 1 }" [b!"[$.a, $.result[0], $.a]"] [doc1])).2.1 =
      b!"{\"k\": 1}\n{\"name\": \"a\"}\n{\"k\": 1, \"x\": 1}\n" := by
  decide +kernel

/-- the two command lines agree on an object literal and `pluck` (for `sort` the model uses `List.mergeSort`, which the kernel
    does not evaluate; the pair `-r '[$.s, "b", $.status].sort()'` / `BEGINFILE { $ = … }` was
    compared on the binary and with `jqmodel`: `b`, `hello`, `ok` on three lines, both) -/
example : obs (evalProgram expectedRuleTable b!"{ print $ }" [b!"{k: $.a.k, \"r\": $.pluck(\"s\", \"a\")}"] [doc1]) =
    obs (evalProgram expectedRuleTable b!"BEGINFILE { $ = {k: $.a.k, \"r\": $.pluck(\"s\", \"a\")} } { print $ }" [] [doc1]) ∧
    (obs (evalProgram expectedRuleTable b!"{ print $ }" [b!"{k: $.a.k, \"r\": $.pluck(\"s\", \"a\")}"] [doc1])).2.1 =
      b!"{\"k\": 1, \"r\": {\"a\": {\"k\": 1}, \"s\": \"hello\"}}\n" := by
  decide +kernel

/-- the two command lines agree on non-mutating methods of strings -/
example : obs (evalProgram expectedRuleTable b!"{ print $ }" [b!"[$.s.length(), $.s.upper(), $.s.split(\"l\")]"] [doc1]) =
    obs (evalProgram expectedRuleTable b!"BEGINFILE { $ = [$.s.length(), $.s.upper(), $.s.split(\"l\")] } { print $ }" [] [doc1]) ∧
    (obs (evalProgram expectedRuleTable b!"{ print $ }" [b!"[$.s.length(), $.s.upper(), $.s.split(\"l\")]"] [doc1])).2.1 =
      b!"5\nHELLO\n[\"he\", \"\", \"o\"]\n" := by
  decide +kernel

/-- sharing (clause c): the root selected by `-r '$.a'` and the `$` assigned by the rule are
    both cells of their own sharing the object with the original document; a later `$.x = 1`
    shows in what `-o` writes in the same way -/
example : obs (evalProgram expectedRuleTable b!"{ $.x = 1 }" [b!"$.a"] [doc1]) =
    obs (evalProgram expectedRuleTable b!"BEGINFILE { $ = $.a } { $.x = 1 }" [] [doc1]) ∧
    (obs (evalProgram expectedRuleTable b!"{ $.x = 1 }" [b!"$.a"] [doc1])).2.2 =
      some b!"{\n  \"k\": 1,\n  \"x\": 1\n}" := by
  decide +kernel

/-- a missing member: the selected root is `null` in both runs and a
    member cannot be created in it — the same runtime error -/
example : obs (evalProgram expectedRuleTable b!"{ $.x = 1 }" [b!"$.missing"] [doc1]) =
    obs (evalProgram expectedRuleTable b!"BEGINFILE { $ = $.missing } { $.x = 1 }" [] [doc1]) ∧
    (obs (evalProgram expectedRuleTable b!"{ $.x = 1 }" [b!"$.missing"] [doc1])).1 =
      (2, "could not create this object") := by
  decide +kernel

/-- a runtime error in the selector itself: same class and message (run A reports it against the
    selector text, run B against the program text) -/
example : obs (evalProgram expectedRuleTable b!"{ print $ }" [b!"$.n / 0"] [doc1]) =
    obs (evalProgram expectedRuleTable b!"BEGINFILE { $ = $.n / 0 } { print $ }" [] [doc1]) ∧
    (match (evalProgram expectedRuleTable b!"{ print $ }" [b!"$.n / 0"] [doc1]).outcome,
           (evalProgram expectedRuleTable b!"BEGINFILE { $ = $.n / 0 } { print $ }" [] [doc1]).outcome with
     | .runtimeErr sA pA _, .runtimeErr sB pB _ => sA == b!"$.n / 0" && pA == 4 && sB != sA && pB == 20
     | _, _ => false) = true := by
  decide +kernel

def doc2 : InputFile := ⟨b!"f", b!"{\"payload\":\"{\\\"x\\\":[1,2]}\",\"count\":\"12\",\"a\":{\"k\":1}}", .eof⟩

/-- selectors that call builtins: they are in the class of `r_behaves_as_beginfile_rule_builtins`,
    and programs that call `printf` / `num` (as everyday programs do) satisfy `okProg` -/
example : ([b!"num($.count) + 1", b!"json($.a)", b!"[num($.count) + 1, $.count.length()]",
      b!"printf(\"sel %s\\n\", $.count)"].all (fun sel =>
    match parseExpressionSrc expectedRuleTable sel with
    | .ok e => Sel.selX Sel.isB e && Sel.okE e | _ => false)) = true ∧
    ([b!"{ printf(\"%s\\n\", $) }", b!"function f(x) { return num(x) + 1 } { print f($) } ENDFILE { printf(\"end\\n\") }"].all
      (fun src => match parseProgramSrc expectedRuleTable src with
        | .ok p => Sel.okProg p && endOKB p | _ => false)) = true := by decide +kernel

/-- the two command lines agree: `num`, `json` and a method call -/
example : obs (evalProgram expectedRuleTable b!"{ print $ }" [b!"[num($.count) + 1, $.count.length(), json($.a)]"] [doc2]) =
    obs (evalProgram expectedRuleTable b!"BEGINFILE { $ = [num($.count) + 1, $.count.length(), json($.a)] } { print $ }" [] [doc2]) ∧
    (obs (evalProgram expectedRuleTable b!"{ print $ }" [b!"[num($.count) + 1, $.count.length(), json($.a)]"] [doc2])).2.1 =
      b!"13\n2\n{\n  \"k\": 1\n}\n" := by
  decide +kernel

/-- `printf` in the selector prints in both runs (and the selected value is `null`) -/
example : obs (evalProgram expectedRuleTable b!"{ print $ }" [b!"printf(\"sel %s\\n\", $.count)"] [doc2]) =
    obs (evalProgram expectedRuleTable b!"BEGINFILE { $ = printf(\"sel %s\\n\", $.count) } { print $ }" [] [doc2]) ∧
    (obs (evalProgram expectedRuleTable b!"{ print $ }" [b!"printf(\"sel %s\\n\", $.count)"] [doc2])).2.1 =
      b!"sel 12\nnull\n" := by
  decide +kernel

/-- **delimits the claim (`okProg`)**: a function named like a builtin replaces it in the main
    evaluator, not in the selector's — `okProg` fails, and the two command lines differ -/
example : (match parseProgramSrc expectedRuleTable b!"function num(x) { return 99 } { print $ }" with
      | .ok p => Sel.okProg p | _ => true) = false ∧
    (obs (evalProgram expectedRuleTable b!"function num(x) { return 99 } { print $ }" [b!"num($.count)"] [doc2])).2.1 = b!"12\n" ∧
    (obs (evalProgram expectedRuleTable b!"BEGINFILE { $ = num($.count) } function num(x) { return 99 } { print $ }" [] [doc2])).2.1 =
      b!"99\n" := by
  decide +kernel

/-- **several `-r` flags** are outside these theorems: all selectors of a decoded value are
    evaluated before any rule runs for it (C02 `selectors_in_order_per_value`), so a run with
    `-r E1 -r E2` is not the single-selector processing of `E1` followed by that of `E2` — an
    error in `E2` comes before the output for the first root — and no rule runs once per selector.
    Two roots in order; and nothing printed when the second selector fails (same on the binary). -/
example : (obs (evalProgram expectedRuleTable b!"{ print $ }" [b!"$.a", b!"$.s"] [doc1])).2.1 = b!"{\"k\": 1}\nhello\n" ∧
    (obs (evalProgram expectedRuleTable b!"{ print $ }" [b!"$.a", b!"$.s / 0"] [doc1])).2.1 = b!"" ∧
    (obs (evalProgram expectedRuleTable b!"{ print $ }" [b!"$.a", b!"$.s / 0"] [doc1])).1 = (2, "divide by zero") ∧
    (obs (evalProgram expectedRuleTable b!"{ print $ }" [b!"$.a"] [doc1])).2.1 = b!"{\"k\": 1}\n" := by
  decide +kernel

/-- **delimits the claim (a)**: an identifier other than `$` is the program's global in the rule
    and an unset local of the nested evaluator in the selector -/
example : (obs (evalProgram expectedRuleTable b!"BEGIN { x = 5 } { print $ }" [b!"x"] [doc1])).2.1 = b!"<unknown>\n" ∧
    (obs (evalProgram expectedRuleTable b!"BEGINFILE { $ = x } BEGIN { x = 5 } { print $ }" [] [doc1])).2.1 = b!"5\n" := by
  decide +kernel

/-- `$file` exists in the main evaluator only -/
example : (obs (evalProgram expectedRuleTable b!"{ print $ }" [b!"$file"] [doc1])).1 = (2, "unknown variable") ∧
    (obs (evalProgram expectedRuleTable b!"BEGINFILE { $ = $file } { print $ }" [] [doc1])).2.1 = b!"f\n" := by
  decide +kernel

/-- a builtin the program has rebound is the original builtin in the selector -/
example : (obs (evalProgram expectedRuleTable b!"BEGIN { num = 5 } { print $ }" [b!"num(\"12\")"] [doc1])).2.1 = b!"12\n" ∧
    (obs (evalProgram expectedRuleTable b!"BEGINFILE { $ = num(\"12\") } BEGIN { num = 5 } { print $ }" [] [doc1])).1 =
      (2, "attempted to call a non-function") := by
  decide +kernel

/-- **delimits the claim**: `next` raised inside a selector (a `match` case with a statement
    body) skips the root — no rule runs for it —, in the rule it just ends the rule, with `$`
    unchanged -/
example : (obs (evalProgram expectedRuleTable b!"{ print \"rule\" }" [b!"match ($) { x => { next } }"] [doc1])).2.1 = b!"" ∧
    (obs (evalProgram expectedRuleTable b!"BEGINFILE { $ = match ($) { x => { next } } } { print \"rule\" }" [] [doc1])).2.1 =
      b!"rule\n" := by
  decide +kernel

/-- **delimits the claim (the property's proviso)**: an ENDFILE rule that reads `$` sees the
    document as it was before the BEGINFILE rules — the selected value with `-r`, the whole
    document with the rule -/
example : (obs (evalProgram expectedRuleTable b!"ENDFILE { print $ }" [b!"$.a"] [doc1])).2.1 = b!"{\"k\": 1}\n" ∧
    (obs (evalProgram expectedRuleTable b!"BEGINFILE { $ = $.a } ENDFILE { print $ }" [] [doc1])).2.1 ≠ b!"{\"k\": 1}\n" := by
  decide +kernel
/-! ## `-o` and the number of inputs

cli/cli.go runs the whole program first (`lang.EvalProgram`, writing to stdout) and looks at `-o`
only afterwards: with more than one input path it prints "error writing JSON: can't write JSON with
more than one input file" on stderr and returns 1 without opening the `-o` target.  The model's
`Result.done exit out errNonEmpty written` records the exit status, the bytes on stdout, WHETHER
anything was written to stderr (not the text) and the file written, if any. -/

/-- is the program's run one the model gives a result for (`finish` answers `.unmodelled` for an
    interpreter outcome "unmodelled" or "out of fuel") -/
def modelled (r : RunResult) : Bool :=
  match r.outcome with
  | .unmodelled _ | .oof => false
  | _ => true

/-- can `os.Create(file)` succeed: an existing entry that is not a directory, or a new name in an
    existing directory -/
def creatable (fs : List Entry) (file : Bytes) : Bool :=
  match lookup fs file with
  | some e => !e.isDir
  | none => dirExists fs (dirPart file)

/-- **`-o` with several inputs is an error** (after the interpreter ran): whatever the program did
    — success or failure —, with a non-empty `-o` value (a file name or `-`) and two or more input
    paths the result is exit status 1, a diagnostic on stderr, NOTHING written to the `-o` target
    (and nothing appended to stdout for `-o -`): stdout holds exactly the program's own output
    `r.out`, all of it, since the program ran to its end before `-o` was looked at. -/
theorem o_several_inputs_finish (fs : List Entry) (o : Opts) (n : Nat) (r : RunResult)
    (ho : o.outfile ≠ []) (hn : 2 ≤ n) (hm : modelled r = true) :
    finish fs o n r = .done 1 r.out true none := by
  have ho' : o.outfile.isEmpty = false := by cases h : o.outfile <;> simp_all
  have hn' : n > 1 := hn
  unfold finish
  unfold modelled at hm
  cases hr : r.outcome <;> simp_all

/-- for an interpreter outcome the model declines ("unmodelled", out of fuel), `finish`
    declines too (no claim) -/
theorem finish_unmodelled (fs : List Entry) (o : Opts) (n : Nat) (r : RunResult)
    (hm : modelled r = false) : finish fs o n r = .unmodelled := by
  unfold finish
  unfold modelled at hm
  cases hr : r.outcome <;> simp_all

/-- **with one input (a single file, or stdin) `-o` writes the JSON of the root** after a successful
    run: `-o -` appends it to the program's output on stdout; `-o FILE` writes exactly it to FILE
    when FILE can be created (stdout = the program's output, status 0, no diagnostic), and is an
    error with nothing written when it cannot (FILE is a directory or its directory is missing).
    `j` is `GetRootJson()` of the final state; when there is none (no value was read, or the root
    cannot be serialised) the result is the error, see `o_single_input_no_json`. -/
theorem o_single_input_finish (fs : List Entry) (o : Opts) (n : Nat) (r : RunResult) (j : Bytes)
    (ho : o.outfile ≠ []) (hn : n ≤ 1) (hok : r.outcome = .ok) (hj : r.st.bind getRootJson = some j) :
    finish fs o n r =
      if o.outfile = b!"-" then .done 0 (r.out ++ j) false none
      else if creatable fs o.outfile = true then .done 0 r.out false (some (o.outfile, j))
      else .done 1 r.out true none := by
  have ho' : o.outfile.isEmpty = false := by cases h : o.outfile <;> simp_all
  have hn' : ¬ n > 1 := by omega
  unfold finish creatable
  simp only [hok, ho', hn', hj, Bool.false_eq_true, ↓reduceIte, beq_iff_eq]
  by_cases hd : o.outfile = b!"-"
  · simp only [hd, ↓reduceIte]
  · simp only [hd, ↓reduceIte]
    cases hl : lookup fs o.outfile with
    | none => simp
    | some e => by_cases h : e.isDir = true <;> simp [h]

/-- one input, successful run, but no JSON to write: status 1, a diagnostic, nothing written -/
theorem o_single_input_no_json (fs : List Entry) (o : Opts) (n : Nat) (r : RunResult)
    (ho : o.outfile ≠ []) (hok : r.outcome = .ok) (hj : r.st.bind getRootJson = none) :
    finish fs o n r = .done 1 r.out true none := by
  have ho' : o.outfile.isEmpty = false := by cases h : o.outfile <;> simp_all
  unfold finish
  simp only [hok, ho', hj, Bool.false_eq_true, ↓reduceIte]
  split <;> rfl

/-- a failed run (syntax / runtime / JSON error …) with `-o`: the program's error is the result and
    `-o` is not looked at, whatever the number of inputs -/
theorem o_after_failed_run (fs : List Entry) (o : Opts) (n : Nat) (r : RunResult)
    (hm : modelled r = true) (hok : r.outcome ≠ .ok) :
    finish fs o n r = .done 1 r.out true none := by
  unfold finish
  unfold modelled at hm
  cases hr : r.outcome <;> simp_all

theorem parseFlags_o (fuel : Nat) (v : Bytes) (rest : List Bytes) (o : Opts) :
    parseFlags (fuel + 1) (b!"-o" :: v :: rest) o = parseFlags fuel rest { o with outfile := v } := by
  conv => lhs; unfold parseFlags
  simp [splitEq]

/-- the command line `-o FILE PROGRAM [INPUT…]` (FILE may be `-`; PROGRAM not flag-like): the inputs
    are opened in order (a missing one: status 1 before anything runs), the program runs on them,
    and `finish` decides about `-o` with the number of input PATHS (1 for stdin) -/
theorem run_dash_o (tbl : RuleTable) (file prog : Bytes) (files : List Bytes) (stdin : Bytes)
    (fs : List Entry) (hprog : flagLike prog = false) :
    run tbl (b!"-o" :: file :: prog :: files) stdin fs =
      match inputsOf fs stdin files with
      | (none, _) => .done 1 [] true none
      | (some inputs, n) => finish fs { outfile := file } n (evalProgram tbl prog [] inputs) := by
  have h2 : parseFlags ((b!"-o" :: file :: prog :: files).length + 1) (b!"-o" :: file :: prog :: files) {} =
      .ok ({ outfile := file }, prog :: files) := by
    rw [parseFlags_o]
    exact parseFlags_stops _ prog files _ hprog
  unfold run
  rw [h2]
  simp only [source, List.isEmpty_nil, Bool.not_true, Bool.false_eq_true, ↓reduceIte]
  rfl

/-- **for every command line**: whatever the flags and their order, if `flag.Parse` yields a
    non-empty `-o` value and the program source resolves (inline or `-f`) with two or more input
    paths left, then — unless an input cannot be opened (status 1, program not run) — the program
    runs on all inputs and the result is status 1 with a diagnostic, stdout = the program's complete
    output, nothing written; the model declines only where the interpreter's outcome is
    "unmodelled" / out of fuel -/
theorem o_several_inputs_any_argv (tbl : RuleTable) (argv : List Bytes) (stdin : Bytes) (fs : List Entry)
    (o : Opts) (args : List Bytes) (progSrc : Bytes) (paths : List Bytes)
    (hp : parseFlags (argv.length + 1) argv {} = .ok (o, args)) (ho : o.outfile ≠ [])
    (hs : source fs o args = some (progSrc, paths)) (hn : 2 ≤ paths.length) :
    run tbl argv stdin fs =
      match openFiles fs paths with
      | none => .done 1 [] true none
      | some inputs =>
        if modelled (evalProgram tbl progSrc o.sels inputs) = true then
          .done 1 (evalProgram tbl progSrc o.sels inputs).out true none
        else .unmodelled := by
  unfold run
  rw [hp]
  simp only [hs]
  have hne : paths.isEmpty = false := by cases paths <;> simp_all
  simp only [inputsOf, hne, Bool.false_eq_true, ↓reduceIte]
  cases openFiles fs paths with
  | none => rfl
  | some inputs =>
    simp only
    by_cases hm : modelled (evalProgram tbl progSrc o.sels inputs) = true
    · rw [if_pos hm]
      exact o_several_inputs_finish fs _ _ _ ho hn hm
    · rw [if_neg hm]
      exact finish_unmodelled fs _ _ _ (by simpa using hm)

/-- **every command line `-o FILE PROGRAM IN₁ IN₂ …` (two or more inputs, FILE a name or `-`) is an
    error**: if an input cannot be opened the program does not run (status 1, nothing on stdout);
    otherwise the program runs on all inputs and then the result is status 1, a diagnostic,
    stdout = the program's complete output, and nothing is written to FILE. -/
theorem o_several_inputs (tbl : RuleTable) (file prog f1 f2 : Bytes) (more : List Bytes) (stdin : Bytes)
    (fs : List Entry) (hfile : file ≠ []) (hprog : flagLike prog = false) :
    run tbl (b!"-o" :: file :: prog :: f1 :: f2 :: more) stdin fs =
      match openFiles fs (f1 :: f2 :: more) with
      | none => .done 1 [] true none
      | some inputs =>
        if modelled (evalProgram tbl prog [] inputs) = true then
          .done 1 (evalProgram tbl prog [] inputs).out true none
        else .unmodelled :=
  o_several_inputs_any_argv tbl _ stdin fs { outfile := file } (prog :: f1 :: f2 :: more) prog
    (f1 :: f2 :: more) (by rw [parseFlags_o]; exact parseFlags_stops _ prog _ _ hprog) hfile rfl
    (by simp)

/-- `-o FILE PROGRAM` reading stdin and `-o FILE PROGRAM IN` reading one file: after a successful
    run the JSON of the root goes to stdout (`-o -`, after the program's output) or to FILE -/
theorem o_single_input (tbl : RuleTable) (file prog : Bytes) (files : List Bytes) (stdin : Bytes)
    (fs : List Entry) (inputs : List InputFile) (j : Bytes)
    (hfile : file ≠ []) (hprog : flagLike prog = false) (hfiles : files.length ≤ 1)
    (hopen : (inputsOf fs stdin files).1 = some inputs)
    (hok : (evalProgram tbl prog [] inputs).outcome = .ok)
    (hj : (evalProgram tbl prog [] inputs).st.bind getRootJson = some j) :
    run tbl (b!"-o" :: file :: prog :: files) stdin fs =
      if file = b!"-" then .done 0 ((evalProgram tbl prog [] inputs).out ++ j) false none
      else if creatable fs file = true then .done 0 (evalProgram tbl prog [] inputs).out false (some (file, j))
      else .done 1 (evalProgram tbl prog [] inputs).out true none := by
  rw [run_dash_o tbl file prog _ stdin fs hprog]
  have hn : (inputsOf fs stdin files).2 ≤ 1 := by
    unfold inputsOf; split <;> simp_all
  rcases hio : inputsOf fs stdin files with ⟨oi, n⟩
  rw [hio] at hopen hn
  simp only at hopen hn
  subst hopen
  simp only
  exact o_single_input_finish fs { outfile := file } n _ j hfile hn hok hj

def exFs : List Entry := [⟨b!"a.json", b!"{\"a\":1}", false⟩, ⟨b!"b.json", b!"{\"a\":2}", false⟩]

/-- exit status, stdout, "stderr is not empty" -/
def showR : Result → Option (Nat × Bytes × Bool)
  | .done e o er _ => some (e, o, er)
  | .unmodelled => none

def writtenR : Result → Option (Bytes × Bytes)
  | .done _ _ _ w => w
  | .unmodelled => none

/-- non-vacuity and the observable behaviour on concrete command lines: two inputs with `-o out.json`
    and with `-o -` (the program's output for BOTH files is printed, status 1, nothing written);
    one input with `-o -` and `-o out.json`; stdin with `-o -`; a target that cannot be created -/
example :
    showR (run expectedRuleTable [b!"-o", b!"out.json", b!"{ print $.a }", b!"a.json", b!"b.json"] [] exFs)
        = some (1, b!"1\n2\n", true) ∧
    writtenR (run expectedRuleTable [b!"-o", b!"out.json", b!"{ print $.a }", b!"a.json", b!"b.json"] [] exFs)
        = none ∧
    showR (run expectedRuleTable [b!"-o", b!"-", b!"{ print $.a }", b!"a.json", b!"b.json"] [] exFs)
        = some (1, b!"1\n2\n", true) ∧
    showR (run expectedRuleTable [b!"-o", b!"-", b!"{ print $.a }", b!"b.json"] [] exFs)
        = some (0, b!"2\n{\n  \"a\": 2\n}", false) ∧
    showR (run expectedRuleTable [b!"-o", b!"out.json", b!"{ print $.a }", b!"b.json"] [] exFs)
        = some (0, b!"2\n", false) ∧
    writtenR (run expectedRuleTable [b!"-o", b!"out.json", b!"{ print $.a }", b!"b.json"] [] exFs)
        = some (b!"out.json", b!"{\n  \"a\": 2\n}") ∧
    showR (run expectedRuleTable [b!"-o", b!"-", b!"{ print $.a }"] b!"{\"a\":3}" exFs)
        = some (0, b!"3\n{\n  \"a\": 3\n}", false) ∧
    showR (run expectedRuleTable [b!"-o", b!"a.json/x", b!"{ print $.a }", b!"b.json"] [] exFs)
        = some (1, b!"2\n", true) ∧
    writtenR (run expectedRuleTable [b!"-o", b!"a.json/x", b!"{ print $.a }", b!"b.json"] [] exFs)
        = none := by
  -- in two halves (the instance for all nine at once is too large to synthesize): within one
  -- evaluation the kernel shares what the command lines have in common
  have join {a b c d e r : Prop} (h : a ∧ b ∧ c ∧ d ∧ e) (hr : r) : a ∧ b ∧ c ∧ d ∧ e ∧ r :=
    ⟨h.1, h.2.1, h.2.2.1, h.2.2.2.1, h.2.2.2.2, hr⟩
  exact join (by decide +kernel) (by decide +kernel)

/-- the hypotheses of `o_single_input` hold for `-o - '{ print $.a }' b.json` -/
example : flagLike b!"{ print $.a }" = false ∧
    ((inputsOf exFs [] [b!"b.json"]).1.map (fun l => l.map (fun i => (i.name, i.data))))
      = some [(b!"b.json", b!"{\"a\":2}")] ∧
    (match (evalProgram expectedRuleTable b!"{ print $.a }" [] [⟨b!"b.json", b!"{\"a\":2}", .eof⟩]).outcome with
      | .ok => true | _ => false) = true ∧
    (evalProgram expectedRuleTable b!"{ print $.a }" [] [⟨b!"b.json", b!"{\"a\":2}", .eof⟩]).st.bind getRootJson
      = some b!"{\n  \"a\": 2\n}" := by
  decide +kernel

/-- non-vacuity of `o_several_inputs_any_argv`: `-r '$.a' -o=out.json -f p.jq a.json b.json` -/
example :
    (match parseFlags 8 [b!"-r", b!"$.a", b!"-o=out.json", b!"-f", b!"p.jq", b!"a.json", b!"b.json"] {} with
      | .ok (o, args) => some (o.outfile, o.progFile, o.sels, args) | _ => none)
      = some (b!"out.json", b!"p.jq", [b!"$.a"], [b!"a.json", b!"b.json"]) ∧
    showR (run expectedRuleTable [b!"-r", b!"$.a", b!"-o=out.json", b!"-f", b!"p.jq", b!"a.json", b!"b.json"] []
        (⟨b!"p.jq", b!"{ print $ }", false⟩ :: exFs)) = some (1, b!"1\n2\n", true) := by
  decide +kernel


end Jqawk.C14
