/-
  C11 — syntax errors pre-empt all execution; runtime faults stop the run at the fault.
  The ghost counter `faults` is incremented at every site that CREATES a runtime error and
  `faultOut` records the amount of output at that moment; the master invariant then says that a
  fault is never swallowed and nothing is printed after it, in whatever syntactic position it
  occurs.
-/
import Jqawk.Lemmas.Invariant
import Jqawk.Lemmas.DriverInvariant
import Jqawk.Model.Driver
import Jqawk.Lemmas.ParserScope
import Jqawk.Lemmas.ParserWF

namespace Jqawk.C11
open Jqawk

variable (prog : Program)

/-- If a statement completes normally or with an internal signal, no runtime fault was raised
    while it ran (faults are never silently ignored) … -/
theorem faults_not_swallowed_stmt (n : Nat) (st : Stmt) (s s' : St) :
    (evalStmt prog n st s = .ok () s' → s'.faults = s.faults) ∧
    (∀ g, evalStmt prog n st s = .err (.sig g) s' → s'.faults = s.faults) := by
  have h := (allSafe prog n).stmt st s
  constructor
  · intro he; rw [he] at h; exact h.2
  · intro g he; rw [he] at h; exact h.2

/-- … and if it ends in a runtime error, exactly one fault was raised, and nothing was printed
    after it: the output at the end is the output at the moment of the fault. -/
theorem fault_stops_the_run_stmt (n : Nat) (st : Stmt) (s s' : St) (pos : Nat) (msg : String)
    (he : evalStmt prog n st s = .err (.runtime pos msg) s') :
    s'.faults = s.faults + 1 ∧ s'.faultOut = s'.out.length := by
  have h := (allSafe prog n).stmt st s
  rw [he] at h; exact h.2

/-- the same two facts for expressions, in every operand / argument / index / condition slot -/
theorem faults_not_swallowed_expr (n : Nat) (e : Expr) (s s' : St) (c : CellId)
    (he : evalExpr prog n e s = .ok c s') : s'.faults = s.faults := by
  have h := (allSafe prog n).expr e s
  rw [he] at h; exact h.2

theorem fault_stops_the_run_expr (n : Nat) (e : Expr) (s s' : St) (pos : Nat) (msg : String)
    (he : evalExpr prog n e s = .err (.runtime pos msg) s') :
    s'.faults = s.faults + 1 ∧ s'.faultOut = s'.out.length := by
  have h := (allSafe prog n).expr e s
  rw [he] at h; exact h.2

/-- everything printed before a failure is kept: output is only ever appended, for every outcome -/
theorem output_only_appended (n : Nat) (st : Stmt) (s s' : St) (r : Res Unit)
    (he : evalStmt prog n st s = r) (hs : (match r with | .ok _ t => some t | .err _ t => some t | .oof => none) = some s') :
    ∃ chunks, s'.out = chunks ++ s.out := by
  have h := (allSafe prog n).stmt st s
  rw [he] at h
  refine (Q.keeps ?_ h).out
  -- `hs` is stated with `he` in scope, so its `match` elaborates to one on `r, he`; `cases r`
  -- turns it into the plain match that `Q.keeps` asks for
  revert hs
  cases r <;> exact id

/-- A program with a syntax error anywhere produces no output at all, only the syntax error,
    however much valid program precedes the error: nothing is evaluated before parsing succeeds. -/
theorem syntax_preempts (tbl : RuleTable) (src : Bytes) (sels : List Bytes) (files : List InputFile)
    (e : SynErr) (h : parseProgramSrc tbl src = .syntaxErr e) :
    (evalProgram tbl src sels files).out = [] ∧
    (match (evalProgram tbl src sels files).outcome with
     | .syntaxErr s e' => s = src ∧ e' = e
     | _ => False) := by
  simp [evalProgram, h]

/-- the error raising primitive itself: one fault, output position recorded, nothing else touched -/
theorem throwRt_spec {α : Type} (pos : Nat) (msg : String) (s : St) :
    (throwRt pos msg : EM α) s =
      .err (.runtime pos msg) { s with faults := s.faults + 1, faultOut := s.out.length } := rfl

/-- non-vacuity: `1 / 0` as an expression statement raises exactly one fault -/
example : (match evalStmt Program.empty 10
      (.expr (.binary (.lit ⟨.num, 0, b!"1"⟩) (.lit ⟨.num, 4, b!"0"⟩) ⟨.divide, 2, []⟩))
      (newEvaluator Program.empty Heap.empty [] 0) with
    | .err (.runtime 2 _) s' => s'.faults == 1 && s'.faultOut == s'.out.length
    | _ => false) = true := by decide +kernel

/-- non-vacuity of the other hypotheses: `print 1` completes normally (one chunk appended), `next`
    ends in a signal, `1` evaluates to a value — all without a fault -/
example : (match evalStmt Program.empty 10 (.print ⟨.print, 0, b!"print"⟩ [.lit ⟨.num, 6, b!"1"⟩])
      { newEvaluator Program.empty Heap.empty [] 0 with ruleRoot := some 0 } with
    | .ok () s' => s'.faults == 0 && s'.out == [b!"1\n"] | _ => false) = true := by decide +kernel
example : (match evalStmt Program.empty 10 (.next ⟨.next, 0, b!"next"⟩)
      (newEvaluator Program.empty Heap.empty [] 0) with
    | .err (.sig .next) s' => s'.faults == 0 | _ => false) = true := by decide +kernel
example : (match evalExpr Program.empty 10 (.lit ⟨.num, 0, b!"1"⟩)
      (newEvaluator Program.empty Heap.empty [] 0) with
    | .ok _ s' => s'.faults == 0 | _ => false) = true := by decide +kernel
/-- non-vacuity of `fault_stops_the_run_expr`: `1 / 0` as an expression -/
example : (match evalExpr Program.empty 10
      (.binary (.lit ⟨.num, 0, b!"1"⟩) (.lit ⟨.num, 4, b!"0"⟩) ⟨.divide, 2, []⟩)
      (newEvaluator Program.empty Heap.empty [] 0) with
    | .err (.runtime 2 _) s' => s'.faults == 1 | _ => false) = true := by decide +kernel
/-- non-vacuity of `syntax_preempts`: a valid `BEGIN` rule that prints, followed by a rule with a
    syntax error — the text does not parse, and the run has no output -/
example : (match parseProgramSrc expectedRuleTable b!"BEGIN { print 1 }\n{ 1 = 2 }" with
    | .syntaxErr _ => true | _ => false) = true ∧
    (evalProgram expectedRuleTable b!"BEGIN { print 1 }\n{ 1 = 2 }" [] []).out = [] := by
  decide +kernel

/-! ### static rejections -/

/-- **`return` outside a function is rejected**: in a program that parses (any rule table, any
    text) no `return` can escape from a rule body or a rule pattern — every `return` sits inside
    a function body.  (`canS .ret` / `canE .ret`, Model/Scope.lean, over-approximate "a `return`
    statement occurs outside function-call boundaries"; there are none in a rule.) -/
theorem return_outside_function_rejected (tbl : RuleTable) (src : Bytes) (p : Program)
    (h : parseProgramSrc tbl src = .ok p) :
    ∀ r ∈ p.rules, canS .ret r.body = false ∧ ∀ e, r.pattern = some e → canE .ret e = false := by
  intro r hr
  exact (wellScoped_of_B p (parseProgramSrc_wellScopedB tbl src p h)).2 r hr .ret rfl

/-- **`break` / `continue` outside a loop are rejected**: in a program that parses, no `break`
    or `continue` can escape from a rule body, a rule pattern or a function body — each one sits
    inside the body of a `while` / `for` / `for-in` of the same rule or function. -/
theorem break_outside_loop_rejected (tbl : RuleTable) (src : Bytes) (p : Program)
    (h : parseProgramSrc tbl src = .ok p) :
    (∀ r ∈ p.rules, (canS .brk r.body = false ∧ canS .cont r.body = false) ∧
      ∀ e, r.pattern = some e → canE .brk e = false ∧ canE .cont e = false) ∧
    (∀ f ∈ p.functions, canS .brk f.body = false ∧ canS .cont f.body = false) := by
  have hws := wellScoped_of_B p (parseProgramSrc_wellScopedB tbl src p h)
  refine ⟨fun r hr => ⟨⟨(hws.2 r hr .brk rfl).1, (hws.2 r hr .cont rfl).1⟩, fun e he =>
    ⟨(hws.2 r hr .brk rfl).2 e he, (hws.2 r hr .cont rfl).2 e he⟩⟩, fun f hf => ?_⟩
  have := hws.1 f hf
  simpa using this

/-- non-vacuity: legal uses parse … -/
example : (match parseProgramSrc expectedRuleTable
      b!"function f(x) { for (i in x) { if (i) continue; break } return 1 } { while (1) break }" with
    | .ok p => p.functions.length == 1 && p.rules.length == 1 | _ => false) = true := by
  decide +kernel

/-- … and the illegal ones are syntax errors at the offending keyword: `return` in a rule,
    `break` in a rule, `continue` in a function outside a loop (a `break` in a match arm inside a
    loop body is legal), `return` in a match arm of a rule pattern -/
example : (match parseProgramSrc expectedRuleTable b!"{ print 1; return 2 }" with
    | .syntaxErr e => e.pos == 11 | _ => false) = true := by decide +kernel
example : (match parseProgramSrc expectedRuleTable b!"{ if (1) break }" with
    | .syntaxErr e => e.pos == 9 | _ => false) = true := by decide +kernel
example : (match parseProgramSrc expectedRuleTable b!"function f() { continue }" with
    | .syntaxErr e => e.pos == 15 | _ => false) = true := by decide +kernel
example : (match parseProgramSrc expectedRuleTable
      b!"{ while (1) { x = match (1) { 1 => { break } } } }" with
    | .ok _ => true | _ => false) = true := by decide +kernel
example : (match parseProgramSrc expectedRuleTable b!"match (1) { 1 => { return } } { }" with
    | .syntaxErr e => e.pos == 19 | _ => false) = true := by decide +kernel

/-- the checks themselves (src/parser.go `statement()`): with the `inFunction` flag clear, a
    `return` token makes `statement` fail at that token, whatever follows -/
theorem return_outside_function_fails (tbl : RuleTable) (n : Nat) (ps : PS)
    (h1 : ps.cur.tag = .return_) (h2 : ps.inFn = false) :
    Parser.statement tbl (n + 1) ps = .fail ⟨ps.cur.pos, "can only return inside a function"⟩ :=
  statement_return_outside tbl n ps h1 h2

/-- … and with the `inLoop` flag clear, so do `break` and `continue` -/
theorem break_outside_loop_fails (tbl : RuleTable) (n : Nat) (ps : PS) (h2 : ps.inLoop = false) :
    (ps.cur.tag = .break_ →
      Parser.statement tbl (n + 1) ps = .fail ⟨ps.cur.pos, "can only break inside a loop"⟩) ∧
    (ps.cur.tag = .continue_ →
      Parser.statement tbl (n + 1) ps = .fail ⟨ps.cur.pos, "can only continue inside a loop"⟩) :=
  ⟨fun h1 => statement_break_outside tbl n ps h1 h2,
   fun h1 => statement_continue_outside tbl n ps h1 h2⟩

example : (⟨⟨.return_, 7, []⟩, Token.zero, false, false, false⟩ : PS).cur.tag = .return_ ∧
    (⟨⟨.return_, 7, []⟩, Token.zero, false, false, false⟩ : PS).inFn = false := ⟨rfl, rfl⟩
example : (⟨⟨.break_, 7, []⟩, Token.zero, false, true, false⟩ : PS).cur.tag = .break_ ∧
    (⟨⟨.continue_, 7, []⟩, Token.zero, false, true, false⟩ : PS).cur.tag = .continue_ ∧
    (⟨⟨.break_, 7, []⟩, Token.zero, false, true, false⟩ : PS).inLoop = false := ⟨rfl, rfl, rfl⟩

/-! ### assignment targets -/

/-- what `assignable` accepts: a variable, a member expression or an index expression -/
theorem assignable_iff (e : Expr) : Parser.assignable e = true ↔
    (∃ t, e = .ident t) ∨ (∃ l r op, e = .binary l r op ∧ (op.tag = .dot ∨ op.tag = .lsquare)) := by
  unfold Parser.assignable
  split
  · exact ⟨fun _ => .inl ⟨_, rfl⟩, fun _ => rfl⟩
  · rename_i l r op
    rw [Bool.or_eq_true, beq_iff_eq, beq_iff_eq]
    refine ⟨fun h => .inr ⟨l, r, op, rfl, h⟩, fun h => ?_⟩
    obtain ⟨_, h⟩ | ⟨_, _, _, h, h'⟩ := h
    · cases h
    · cases h; exact h'
  · rename_i h1 h2
    refine ⟨fun h => (nomatch h), fun h => ?_⟩
    obtain ⟨t, rfl⟩ | ⟨l, r, op, rfl, _⟩ := h
    · exact (h1 _ rfl).elim
    · exact (h2 _ _ _ rfl).elim

/-- **Assignment to a non-assignable target is a syntax error**: no node anywhere in a program
    that parses (with the rule table of src/parser.go) is an assignment whose left side is not
    a variable / member / index expression; no compound-assignment operator survives parsing
    (`a op= b` is rewritten to `a = a op b`, so the same check covers them); and no `++` / `--`
    node, prefix or postfix, has a non-assignable operand. -/
theorem assignment_target_checked (src : Bytes) (p : Program)
    (h : parseProgramSrc expectedRuleTable src = .ok p) :
    ∀ e ∈ p.subExprs,
      (∀ l r op, e = .binary l r op →
        (op.tag = .equal → Parser.assignable l = true) ∧ Parser.isCompound op.tag = false) ∧
      (∀ x op post, e = .unary x op post →
        op.tag = .plusPlus ∨ op.tag = .minusMinus → Parser.assignable x = true) := by
  intro e he
  have hok := Program.nodeOK_of_wfB p (parse_wf src p h) e he
  constructor
  · rintro l r op rfl
    simp only [Expr.nodeOK, Bool.and_eq_true, Bool.or_eq_true, bne_iff_ne, ne_eq,
      Bool.not_eq_true'] at hok
    refine ⟨fun heq => ?_, hok.1.1.2⟩
    rcases hok.1.1.1 with h1 | h1
    · exact absurd heq h1
    · exact h1
  · rintro x op post rfl hop
    simp only [Expr.nodeOK, Bool.or_eq_true, Bool.not_eq_true'] at hok
    rcases hok with h1 | h1
    · rcases hop with hop | hop <;> simp [hop] at h1
    · exact h1

/-- non-vacuity: assignments of all kinds to all kinds of legal targets parse, and the tree
    contains the rewritten nodes -/
example : (match parseProgramSrc expectedRuleTable b!"{ a = 1; a.b += 2; a[0]++; --a }" with
    | .ok p => (p.subExprs.filter (fun e => match e with
        | .binary _ _ op => op.tag == .equal | .unary _ _ _ => true | _ => false)).length == 4
    | _ => false) = true := by decide +kernel

/-- … and each illegal target is a syntax error -/
example : (match parseProgramSrc expectedRuleTable b!"{ 1 = 2 }" with
    | .syntaxErr _ => true | _ => false) = true := by decide +kernel
example : (match parseProgramSrc expectedRuleTable b!"{ f() += 2 }" with
    | .syntaxErr _ => true | _ => false) = true := by decide +kernel
example : (match parseProgramSrc expectedRuleTable b!"{ (a + b)++ }" with
    | .syntaxErr _ => true | _ => false) = true := by decide +kernel
example : (match parseProgramSrc expectedRuleTable b!"{ --1 }" with
    | .syntaxErr _ => true | _ => false) = true := by decide +kernel

/-- the check itself (src/parser.go `assign()`): a non-assignable left side makes the infix
    parser fail at the left side's token before consuming the operator -/
theorem assignment_target_fails (tbl : RuleTable) (n : Nat) (left : Expr) (ps : PS)
    (h : Parser.assignable left = false) :
    Parser.infixFn tbl (n + 1) .assign left ps = .fail ⟨left.token.pos, "invalid assignment"⟩ :=
  infixFn_assign_invalid tbl n left ps h

example : Parser.assignable (.lit ⟨.num, 2, b!"1"⟩) = false := rfl

/-- all node-shape facts at once (`Expr.nodeOK`, Model/WF.lean), for every node of a parsed
    program: literal tokens in literal nodes, assignable targets, a type name right of `is`, a
    field name right of `.` -/
theorem parsed_nodes_ok (src : Bytes) (p : Program)
    (h : parseProgramSrc expectedRuleTable src = .ok p) : ∀ e ∈ p.subExprs, e.nodeOK = true :=
  Program.nodeOK_of_wfB p (parse_wf src p h)

/-- **Runtime faults are never swallowed, at the level of the whole run.**  For every program,
    selector list and input: if the run ends successfully (or with a JSON input error) then no
    runtime fault was ever raised during it — in a rule, a pattern, a function, a match body or a
    selector —; if it ends in a runtime error then exactly one fault was raised and NOTHING was
    printed after it (the output at the end is the output at the moment of the fault). -/
theorem run_fault_discipline (prog : Program) (src : Bytes) (tbl : RuleTable) (sels : List Bytes)
    (files : List InputFile) (st : St)
    (hst : (runProgram prog src tbl sels files).st = some st) :
    match (runProgram prog src tbl sels files).outcome with
    | .ok => st.faults = 0
    | .jsonErr _ => st.faults = 0
    | .runtimeErr _ _ _ => st.faults = 1 ∧ st.faultOut = st.out.length
    | _ => True := by
  have h := (runProgram_good prog src tbl sels files st hst).2
  have s0f : (newEvaluator prog Heap.empty [] 0).faults = 0 := rfl
  revert h
  cases (runProgram prog src tbl sels files).outcome <;> simp [faultsOK, s0f]

/-- non-vacuity of `run_fault_discipline`: a run that prints, then divides by zero — it has a final
    state, ends in a runtime error, one fault, and the output is what was printed before it -/
example : (match parseProgramSrc expectedRuleTable b!"BEGIN { print 1; print 2 / 0; print 3 }" with
    | .ok p =>
      let r := runProgram p b!"BEGIN { print 1; print 2 / 0; print 3 }" expectedRuleTable [] []
      (match r.st, r.outcome with
       | some st, .runtimeErr _ _ _ => st.faults == 1 && r.out == b!"1\n"
       | _, _ => false)
    | _ => false) = true := by decide +kernel
/-- … and one that ends successfully with a final state -/
example : (match parseProgramSrc expectedRuleTable b!"BEGIN { print 1 }" with
    | .ok p =>
      let r := runProgram p b!"BEGIN { print 1 }" expectedRuleTable [] []
      (match r.st, r.outcome with
       | some st, .ok => st.faults == 0 && r.out == b!"1\n"
       | _, _ => false)
    | _ => false) = true := by decide +kernel

end Jqawk.C11
