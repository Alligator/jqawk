/-
  C01 — every run ends in success or one of three reported error kinds, never a crash; an
  internal control-flow signal (next, exit, break, continue, return) never surfaces.

  Proved here, for every program, every selector list, every input and every fuel:
  * signal discipline: break / continue / return never leave a construct that syntactically
    confines them (loops absorb break/continue, calls absorb return) — `Lemmas/Signals.lean`;
  * the rule driver consumes `next` and `exit` in every rule kind, in patterns, in functions
    called from anywhere and in selectors — `Lemmas/DriverSignals.lean`;
  * the parser enforces well-scopedness, with its `inLoop`/`inFunction` flags
    (`parse_wellScoped`, `parseExpr_scoped`, proved over all parser functions in
    `Lemmas/ParserScope.lean`; also checked on every parsed program of the correspondence run:
    field `ws`);
  * hence the outcome of a run is never an internal signal: `run_never_sentinel` for well-scoped
    programs, `run_never_sentinel_src` for every program text with no hypothesis at all;
  * **no panic**: a state invariant (`Lemmas/NoPanic*.lean`: the frame stack is never empty, `$`
    is bound whenever rule or selector code runs, every function value stored in the part of the
    heap an evaluator can reach has an index below the number of functions of *that* evaluator's
    program) is established by `NewEvaluator`, preserved by every evaluator function (one mutual
    induction, in the manner of `Lemmas/Invariant.lean`) and by the rule driver, and makes four
    of the five `panic` sites of the model unreachable; the fifth, "speculative object has no
    parent", needs no clause of the invariant: `evalAssignment` calls `createSpeculative` only on
    a cell that is speculative, and the recursive call runs on a fresh copy of such a cell
    (`Lemmas/NoPanicEval.lean`).  For every program text that parses, all selector texts and
    all input files: `run_never_panics`.  Together with the signal half: `run_outcome_classified`.
  What the model does not mark as a panic site (a Go runtime crash the model has no `throwPanic`
  for) is covered by the correspondence check (class `panic`), not by these theorems.
  `run_outcome_classified` is exactly the conjunction of the two exclusions: besides success and
  the three error kinds it accepts the model outcomes `.oof` and `.unmodelled`.  The command-line
  clause of the property (exit status, stderr) has no theorem here.
-/
import Jqawk.Lemmas.DriverSignals
import Jqawk.Lemmas.ParserScope
import Jqawk.Lemmas.ParserWF
import Jqawk.Lemmas.NoPanicRun
import Jqawk.Lemmas.LitTag
import Jqawk.Lemmas.MatchSpecPure

namespace Jqawk.C01
open Jqawk

/-- break / continue / return never leave a statement that syntactically confines them -/
theorem confined_signals_stmt (prog : Program) (hfs : prog.FnScoped) (g : Sig) (hg : g.confined = true)
    (n : Nat) (st : Stmt) (hst : canS g st = false) (s s' : St) :
    evalStmt prog n st s ≠ .err (.sig g) s' :=
  (allNoSig prog g hg hfs n).stmt st hst s s'

/-- a `while` loop absorbs the break and continue of its body (the instance of
    `confined_signals_stmt` for `.while_`; the other loop statements are instances alike) -/
theorem loops_absorb (prog : Program) (hfs : prog.FnScoped) (n : Nat) (c : Expr) (b : Stmt)
    (hc : canE .brk c = false ∧ canE .cont c = false) (s s' : St) :
    evalStmt prog n (.while_ c b) s ≠ .err (.sig .brk) s' ∧
    evalStmt prog n (.while_ c b) s ≠ .err (.sig .cont) s' := by
  constructor
  · exact confined_signals_stmt prog hfs .brk rfl n _ (by simp [canS, hc.1, Sig.loopSig]) s s'
  · exact confined_signals_stmt prog hfs .cont rfl n _ (by simp [canS, hc.2, Sig.loopSig]) s s'

/-- a call never yields break, continue or return, whatever the callee does -/
theorem call_absorbs (prog : Program) (hfs : prog.FnScoped) (g : Sig) (hg : g.confined = true)
    (n pos : Nat) (f : CellId) (args : List CellId) (s s' : St) :
    callFunction prog n pos f args s ≠ .err (.sig g) s' :=
  (allNoSig prog g hg hfs n).call pos f args s s'

/-- non-vacuity of the hypotheses of the three theorems above: a parsed program with a function
    and loops passes the decidable scope check (hence is `FnScoped`: `wellScoped_of_B`); a `while`
    whose body contains a `break` does not let it out syntactically (`canS`), a bare `break` would,
    and a literal loop header raises neither `break` nor `continue` (`canE`) -/
example : (match parseProgramSrc expectedRuleTable
      b!"function f(x) { while (x) { if (x > 3) break; x++ } return x } $ > 1 { print f($) }" with
    | .ok p => p.wellScopedB
    | _ => false) = true := by decide +kernel
example : canS .brk (.while_ (.lit ⟨.true_, 0, []⟩) (.block ⟨.lcurly, 0, []⟩ [.brk ⟨.break_, 0, []⟩])) = false
    ∧ canS .brk (.brk ⟨.break_, 0, []⟩) = true
    ∧ canE .brk (.lit ⟨.true_, 0, []⟩) = false ∧ canE .cont (.lit ⟨.true_, 0, []⟩) = false := by decide

/-- **Every program that parses is well-scoped**, for every rule table and every source text:
    `break`/`continue` occur only inside loop bodies, `return` only inside function bodies
    (the parser's `inLoop`/`inFunction` flags, `Lemmas/ParserScope.lean`). -/
theorem parse_wellScoped (tbl : RuleTable) (src : Bytes) (p : Program)
    (h : parseProgramSrc tbl src = .ok p) : p.wellScopedB = true :=
  parseProgramSrc_wellScopedB tbl src p h

/-- non-vacuity: a program with a function, a loop with `break` and a `return` parses -/
example : (match parseProgramSrc expectedRuleTable
      b!"function f(x) { while (x) { if (x > 3) break; x++ } return x } $ > 1 { print f($) }" with
    | .ok p => p.functions.length == 1 && p.rules.length == 1
    | _ => false) = true := by decide +kernel

/-- the same, in the form consumed by `run_never_sentinel` -/
theorem parse_WellScoped (tbl : RuleTable) (src : Bytes) (p : Program)
    (h : parseProgramSrc tbl src = .ok p) : p.WellScoped :=
  wellScoped_of_B p (parse_wellScoped tbl src p h)

/-- **Every selector expression that parses confines break / continue / return.** -/
theorem parseExpr_scoped (tbl : RuleTable) (sel : Bytes) (e : Expr)
    (h : parseExpressionSrc tbl sel = .ok e) : e.scopedB = true :=
  parseExpressionSrc_scopedB tbl sel e h

example : (match parseExpressionSrc expectedRuleTable b!"$.items[0]" with
    | .ok _ => true | _ => false) = true := by decide +kernel

/-- … signal by signal -/
theorem parseExpr_confines (tbl : RuleTable) (sel : Bytes) (e : Expr)
    (he : parseExpressionSrc tbl sel = .ok e) (g : Sig) (hg : g.confined = true) :
    canE g e = false := by
  have h := parseExpr_scoped tbl sel e he
  simp only [Expr.scopedB, confinedSigs, List.all_cons, List.all_nil, Bool.and_true,
    Bool.and_eq_true, Bool.not_eq_true'] at h
  cases g <;> simp_all [Sig.confined]

/-- **No internal signal ever surfaces**: for a well-scoped program, whatever the selectors and
    the input files contain and however the run ends, its outcome is not one of
    next / exit / break / continue / return (`runProgram_not_sentinel`: the driver's steps raise
    no signal, which `Run.Invariant.runProgram` carries through the input loop; the selectors
    are well-scoped because they parsed). -/
theorem run_never_sentinel (prog : Program) (hws : prog.WellScoped) (src : Bytes) (tbl : RuleTable)
    (sels : List Bytes) (files : List InputFile) (g : Sig) :
    (runProgram prog src tbl sels files).outcome ≠ .sentinel g :=
  runProgram_not_sentinel prog hws src tbl sels
    (fun sel _ e he => parseExpr_confines tbl sel e he) files g

/-- **No internal signal ever surfaces — unconditionally.**  For every rule table, program text,
    selector list and input, the outcome of `evalProgram` (parse, then run) is never one of
    next / exit / break / continue / return: either the text does not parse (syntax error), or
    it parses to a well-scoped program (`parse_wellScoped`) and `run_never_sentinel` applies. -/
theorem run_never_sentinel_src (tbl : RuleTable) (src : Bytes) (sels : List Bytes)
    (files : List InputFile) (g : Sig) :
    (evalProgram tbl src sels files).outcome ≠ .sentinel g := by
  unfold evalProgram
  split
  · intro h; cases h
  · intro h; cases h
  · rename_i p hp
    exact run_never_sentinel p (parse_WellScoped tbl src p hp) src tbl sels files g

/-- evaluating a literal node whose token is a literal token (`Expr.nodeOK`) never takes the
    `throwPanic "unhandled literal type"` branch — nor any other panic — of `evalExpr` -/
theorem lit_never_panics (p : Program) (n : Nat) (t : Token) (h : (Expr.lit t).nodeOK = true)
    (s s' : St) (m : String) : evalExpr p (n + 1) (.lit t) s ≠ .err (.panic m) s' := by
  rw [MatchSpec.evalExpr_lit_eq]
  rcases litValue_cases t with ⟨v, hv⟩ | ⟨m', hv⟩ | ⟨ht, _⟩
  · rw [hv]; intro hc; cases hc
  · rw [hv]; intro hc; cases hc
  · rw [show litTag t.tag = true from h] at ht; cases ht

/-- the hypothesis is needed: a literal node with a non-literal token does panic -/
example : (match evalExpr Program.empty 1 (.lit ⟨.plus, 0, []⟩)
      (newEvaluator Program.empty Heap.empty [] 0) with
    | .err (.panic _) _ => true | _ => false) = true := by decide +kernel

/-- **No unhandled literal**: every literal node anywhere in a program that parses (rule
    patterns, rule bodies, function bodies, at any depth) carries a literal token
    (`Lemmas/ParserWF.lean`: `parse_wf`), so evaluating it — in any state, with any fuel, in the
    context of any program — never reaches `panic("unhandled literal type")`. -/
theorem no_unhandled_literal (src : Bytes) (prog : Program)
    (h : parseProgramSrc expectedRuleTable src = .ok prog) (t : Token)
    (ht : Expr.lit t ∈ prog.subExprs) (p : Program) (n : Nat) (s s' : St) (m : String) :
    evalExpr p (n + 1) (.lit t) s ≠ .err (.panic m) s' :=
  lit_never_panics p n t (Program.nodeOK_of_wfB prog (parse_wf src prog h) _ ht) s s' m

/-- non-vacuity: a parsed program with literal nodes of several kinds (string, number, regex,
    field name after `.`, `true`, `null`) -/
example : (match parseProgramSrc expectedRuleTable b!"$.name ~ /x/ { print \"a\", 1, true, null }" with
    | .ok p => (p.subExprs.filter (fun e => match e with | .lit _ => true | _ => false)).length == 6
    | _ => false) = true := by decide +kernel

/-- the same for selector expressions -/
theorem no_unhandled_literal_selector (sel : Bytes) (e : Expr)
    (h : parseExpressionSrc expectedRuleTable sel = .ok e) (t : Token)
    (ht : Expr.lit t ∈ e.subs) (p : Program) (n : Nat) (s s' : St) (m : String) :
    evalExpr p (n + 1) (.lit t) s ≠ .err (.panic m) s' :=
  lit_never_panics p n t (Expr.nodeOK_of_wfB e (parseExpr_wf sel e h) _ ht) s s' m

example : (match parseExpressionSrc expectedRuleTable b!"$.items[0]" with
    | .ok e => (e.subs.filter (fun e => match e with | .lit _ => true | _ => false)).length == 2
    | _ => false) = true := by decide +kernel

/-- the state invariant while rule or selector code runs (`Lemmas/NoPanicHeap.lean`,
    `Lemmas/NoPanicLogic.lean`), for the main evaluator of `prog`: heap, frames and return slot
    well-formed, every function value in range, the frame stack non-empty, `$` bound -/
abbrev RunInv (prog : Program) (s : St) : Prop := InvK (Pm prog) (KSet (Pm prog)) s

/-- the invariant between rule executions (`$` need not be bound) -/
abbrev DriverInv (prog : Program) (s : St) : Prop := InvK (Pm prog) KAny s

/-- **`NewEvaluator` establishes the invariant** (clause "never ends in an internal panic", site
    "dangling function" and "no frame"): the root frame exists and every function value it stores
    has an index below `prog.functions.length`. -/
theorem newEvaluator_establishes (prog : Program) : DriverInv prog (newEvaluator prog Heap.empty [] 0) :=
  newEvaluator_inv prog (Nat.le_refl _) (Nat.le_refl _) (HeapOK.empty _ rfl rfl rfl) _ _

/-- … and once `$` is bound (what every rule loop does first) the evaluator's invariant holds -/
theorem newEvaluator_bound (prog : Program) (c : CellId) :
    RunInv prog { newEvaluator prog Heap.empty [] 0 with ruleRoot := some c } :=
  have h := newEvaluator_establishes prog
  ⟨⟨h.heap, h.frames, h.ret⟩, ⟨c, rfl, Nat.zero_le c⟩⟩

/-- **No statement panics** (all five sites at once): in a well-formed program, a well-formed
    statement evaluated with any fuel from any state satisfying the invariant does not end in a
    panic — it neither finds the frame stack empty, nor `$` unbound in `print`, nor a literal node
    without a literal token, nor a function value out of range, nor a speculative member without
    parent — and when it ends normally the invariant holds again (`allNP` has it for every
    ending but a panic). -/
theorem stmt_never_panics (prog : Program) (hwf : prog.wfB = true) (n : Nat) (st : Stmt)
    (hst : st.wfB = true) (s : St) (hs : RunInv prog s) :
    (∀ m s', evalStmt prog n st s ≠ .err (.panic m) s') ∧
    (∀ s', evalStmt prog n st s = .ok () s' → RunInv prog s') := by
  have h := (allNP (Pm prog) prog (Nat.le_refl _) (Program.wfB_functions hwf) n).stmt st hst s hs
  unfold NPat at h
  constructor
  · intro m s' he; rw [he] at h; exact h
  · intro s' he; rw [he] at h; exact h.1

/-- the same for expressions (no panic; the invariant after the expression, and which heap region
    the result cell lies in, are in `allNP` but not part of this statement) -/
theorem expr_never_panics (prog : Program) (hwf : prog.wfB = true) (n : Nat) (e : Expr)
    (he : e.wfB = true) (s : St) (hs : RunInv prog s) (m : String) (s' : St) :
    evalExpr prog n e s ≠ .err (.panic m) s' := by
  have h := (allNP (Pm prog) prog (Nat.le_refl _) (Program.wfB_functions hwf) n).expr e he s hs
  unfold NPat at h
  intro hc; rw [hc] at h; exact h

/-- non-vacuity: a parsed program is well-formed, and `newEvaluator_bound` provides a state that
    satisfies the invariant -/
example : (match parseProgramSrc expectedRuleTable
      b!"function f(x) { return x + 1 } BEGIN { n = 0 } $.a > 0 { n++; print f($.a), $.b[0] } END { print }" with
    | .ok p => p.wfB && p.functions.length == 1 && p.rules.length == 3
    | _ => false) = true := by decide +kernel

/-! the hypotheses are needed — each panic site is reachable from a state outside the invariant: -/

/-- a function value out of range ("dangling function") -/
example : (match callFunction Program.empty 1 0 0 []
      { heap := ⟨#[.fn 0], #[], #[]⟩, frames := [⟨[], []⟩], out := [], root := none, ruleRoot := none,
        returnVal := none, faults := 0 } with
    | .err (.panic _) _ => true | _ => false) = true := by decide +kernel

/-- `print` without arguments while `$` is unbound ("print without a rule root") -/
example : (match evalStmt Program.empty 2 (.print ⟨.print, 0, []⟩ [])
      (newEvaluator Program.empty Heap.empty [] 0) with
    | .err (.panic _) _ => true | _ => false) = true := by decide +kernel

/-- an empty frame stack ("no frame") -/
example : (match setLocal b!"x" 0
      { heap := Heap.empty, frames := [], out := [], root := none, ruleRoot := none,
        returnVal := none, faults := 0 } with
    | .err (.panic _) _ => true | _ => false) = true := by decide +kernel

/-- materialising a cell that is not speculative ("speculative object has no parent");
    `evalAssignment` only calls `createSpeculative` on cells that are -/
example : (match createSpeculative 1 0
      { heap := ⟨#[.nil none], #[], #[]⟩, frames := [⟨[], []⟩], out := [], root := none, ruleRoot := none,
        returnVal := none, faults := 0 } with
    | .err (.panic _) _ => true | _ => false) = true := by decide +kernel

/-- **A selector never panics** (the `EvalExpression` entry point): evaluated from any state of
    the main evaluator that satisfies the driver invariant — the nested evaluator runs with
    `Program.empty` on the shared heap, but everything it can reach (its fresh builtins, the fresh
    conversion of the JSON value, what it allocates) contains no function value. -/
theorem selector_never_panics (tbl : RuleTable) (htbl : TblOK tbl) (prog : Program) (sel : Bytes)
    (rootValue : JVal) (s : St) (hs : DriverInv prog s) (m : String) (s' : St) :
    evalSelector tbl sel rootValue s ≠ .inl (.panic m, s') :=
  fun h => (evalSelector_np htbl prog sel rootValue s hs).1 _ _ h m rfl

/-- … in particular as the first thing after `NewEvaluator` -/
theorem selector_never_panics_initial (prog : Program) (sel : Bytes) (rootValue : JVal) (m : String)
    (s' : St) :
    evalSelector expectedRuleTable sel rootValue (newEvaluator prog Heap.empty [] 0) ≠ .inl (.panic m, s') :=
  selector_never_panics _ expectedRuleTable_ok prog sel rootValue _ (newEvaluator_establishes prog) m s'

/-- non-vacuity: a selector that parses and calls a builtin -/
example : (match evalSelector expectedRuleTable b!"$.items[0].name.upper()" (.obj [(b!"items",
      .arr [.obj [(b!"name", .str b!"x")]])]) (newEvaluator Program.empty Heap.empty [] 0) with
    | .inr (.ok _, _) => true | _ => false) = true := by decide +kernel

/-- **A run of a well-formed program never panics**, for every rule table satisfying `TblOK`
    (needed for the selectors), all selector texts and all input files. -/
theorem run_wf_never_panics (tbl : RuleTable) (htbl : TblOK tbl) (prog : Program)
    (hwf : prog.wfB = true) (src : Bytes) (sels : List Bytes) (files : List InputFile) (m : String) :
    (runProgram prog src tbl sels files).outcome ≠ .panic m :=
  runProgram_np htbl prog hwf src sels files m

/-- **No run ever panics** (clause "it never ends in an internal panic", for the panic sites of
    the model): for every rule table whose `literal`/`assign`/`binary` rules sit on the tokens
    they are written for (`TblOK`), every program text, all selector texts and all input files,
    the outcome of `evalProgram` (parse, then run) is not a panic: either the text does not parse,
    or it parses to a well-formed program (`parseProgramSrc_wf`) and `run_wf_never_panics` applies. -/
theorem run_never_panics (tbl : RuleTable) (htbl : TblOK tbl) (src : Bytes) (sels : List Bytes)
    (files : List InputFile) (m : String) :
    (evalProgram tbl src sels files).outcome ≠ .panic m := by
  unfold evalProgram
  split
  · intro h; cases h
  · intro h; cases h
  · rename_i p hp
    exact run_wf_never_panics tbl htbl p (parseProgramSrc_wf htbl src p hp) src sels files m

/-- the hypothesis on the table is needed: with a `literal` rule on a non-literal token the
    parser builds a literal node the evaluator has no case for -/
example : (match (evalProgram ((.rparen, ⟨0, some .literal, none⟩) :: expectedRuleTable)
      b!"BEGIN { ) }" [] []).outcome with
    | .panic _ => true | _ => false) = true := by decide +kernel

/-- **No run ever panics — for the rule table of src/parser.go, unconditionally.** -/
theorem run_never_panics_src (src : Bytes) (sels : List Bytes) (files : List InputFile) (m : String) :
    (evalProgram expectedRuleTable src sels files).outcome ≠ .panic m :=
  run_never_panics expectedRuleTable expectedRuleTable_ok src sels files m

/-- non-vacuity: a run with a function, a selector, member access and output ends normally -/
example : (match (evalProgram expectedRuleTable
      b!"function f(x) { return x + 1 } { print f($.a), $.b[0] }" [b!"$.items"]
      [⟨b!"f", b!"{\"items\": [{\"a\": 1, \"b\": [2]}]}", .eof⟩]).outcome with
    | .ok => true | _ => false) = true := by decide +kernel

/-- **C01, both halves**: the outcome of a run is success, one of the three reported error kinds
    (syntax error, runtime error, JSON input error), or the model declining (`unmodelled`, out of
    fuel) — never an internal signal and never a panic. -/
theorem run_outcome_classified (src : Bytes) (sels : List Bytes) (files : List InputFile) :
    match (evalProgram expectedRuleTable src sels files).outcome with
    | .ok | .syntaxErr _ _ | .runtimeErr _ _ _ | .jsonErr _ | .unmodelled _ | .oof => True
    | .sentinel _ | .panic _ => False := by
  have h1 := run_never_sentinel_src expectedRuleTable src sels files
  have h2 := run_never_panics_src src sels files
  cases ho : (evalProgram expectedRuleTable src sels files).outcome with
  | sentinel g => exact h1 g ho
  | panic m => exact h2 m ho
  | _ => trivial

end Jqawk.C01
