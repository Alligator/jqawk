/-
  C18 — printf emits exactly the format, each directive replaced and padded to its width.
  `printfFormat` (the scanning loop of `nativePrintf`) is related to the two-phase reference
  formatter `Spec.printfRef`; padding laws, atomicity of the write, and the width limit are
  stated outright.
-/
import Jqawk.Lemmas.Printf

namespace Jqawk.C18
open Jqawk Spec

/-! ### padding: to at least |width| bytes, left or right, never truncating -/

/-- a non-negative width pads on the left with exactly the missing number of pad bytes -/
theorem padTo_left (w : Int) (c : UInt8) (s : Bytes) (hw : 0 ≤ w) :
    padTo w c s = List.replicate (w.toNat - s.length) c ++ s := by
  rw [padTo_eq]
  by_cases h : (s.length : Int) < w
  · rw [if_pos (by omega)]
  · rw [if_neg (by omega), if_neg (by omega), Nat.sub_eq_zero_of_le (by omega)]
    rfl

/-- a negative width pads on the right -/
theorem padTo_right (w : Int) (c : UInt8) (s : Bytes) (hw : w < 0) :
    padTo w c s = s ++ List.replicate ((-w).toNat - s.length) c := by
  rw [padTo_eq, if_neg (by omega)]
  by_cases h : (s.length : Int) < -w
  · rw [if_pos ⟨hw, h⟩]
  · rw [if_neg (by omega), Nat.sub_eq_zero_of_le (by omega), List.replicate_zero, List.append_nil]

/-- the padded rendering has length max(|width|, length) -/
theorem padTo_length (w : Int) (c : UInt8) (s : Bytes) :
    (padTo w c s).length = max w.natAbs s.length := by
  by_cases hw : 0 ≤ w
  · rw [padTo_left w c s hw, List.length_append, List.length_replicate]
    obtain ⟨n, rfl⟩ := Int.eq_ofNat_of_zero_le hw
    exact Nat.sub_add_eq_max ..
  · rw [padTo_right w c s (Int.not_le.mp hw), List.length_append, List.length_replicate, Nat.add_comm,
      ← Int.natAbs_neg]
    obtain ⟨n, hn⟩ := Int.eq_ofNat_of_zero_le (a := -w) (by omega)
    rw [hn]
    exact Nat.sub_add_eq_max ..

/-- a width never truncates -/
theorem padTo_never_truncates (w : Int) (c : UInt8) (s : Bytes) :
    s.length ≤ (padTo w c s).length := by
  rw [padTo_length]; exact Nat.le_max_right ..

example : padTo 5 48 b!"ab" = b!"000ab" ∧ padTo (-5) 32 b!"ab" = b!"ab   " ∧ padTo 1 32 b!"ab" = b!"ab" := by
  decide +kernel

/-! ### the loop refines the reference formatter -/

/-- the loop can only run out of fuel inside `render` (its own fuel, length + 1, suffices) -/
theorem printf_oof_only_from_render (render : Val → Option Bytes) (args : List Val)
    (h : printfFormat render args = none) : ∃ v ∈ args, render v = none := by
  have := printfFormat_refines render args
  rw [h] at this
  exact this

/-- whenever `printfFormat` produces a result (output or error) the reference formatter produces
    the same, up to the error message — for all formats and all argument lists -/
theorem printf_refines_ref_of_some (render : Val → Option Bytes) (args : List Val)
    (r : Except String Bytes) (h : printfFormat render args = some r) :
    Out.Equiv (some r) (printfRef render args) := by
  have := printfFormat_refines render args
  rw [h] at this
  exact this

/-- non-vacuity of `printf_refines_ref_of_some`: the loop produces an output, and an error -/
example : (printfFormat (fun _ => some b!"V") [.str b!"<%3s|%-3s|%03s|%v>" none, .str b!"a" none,
      .str b!"b" none, .str b!"c" none, .nil none]).map Except.toOption = some (some b!"<  a|b  |00c|V>") ∧
    (printfFormat (fun _ => some b!"V") [.str b!"%s" none, .num F64.one]).map Except.toOption
      = some none := by decide +kernel

/-- `printfFormat = printfRef` up to the error message, for all formats and argument lists,
    provided `render` is defined on the arguments (see `printf_refines_ref_needs_render`) -/
theorem printf_refines_ref (render : Val → Option Bytes) (args : List Val)
    (hr : ∀ v ∈ args, render v ≠ none) :
    Out.Equiv (printfFormat render args) (printfRef render args) := by
  cases h : printfFormat render args with
  | none =>
    obtain ⟨v, hv, hn⟩ := printf_oof_only_from_render render args h
    exact absurd hn (hr v hv)
  | some r => exact printf_refines_ref_of_some render args r h

/-- non-vacuity, and why the hypothesis is needed: if `render` runs out of fuel on an argument
    the single-pass loop reports that before it sees a later format error, the two-phase
    reference reports the format error. -/
theorem printf_refines_ref_needs_render :
    printfFormat (fun _ => none) [.str b!"%v%" none, .nil none] = none ∧
    ∃ m, printfRef (fun _ => none) [.str b!"%v%" none, .nil none] = some (.error m) := by
  exact ⟨by decide, _, rfl⟩

example : ∀ v ∈ [Val.str b!"%5s|%-3f|%v" none, .str b!"ab" none, .num F64.one, .bool true],
    (fun _ : Val => some b!"V") v ≠ none := fun _ _ => Option.some_ne_none _

/-! ### one write at the end, nothing on error -/

/-- `printf` as a state transformer -/
theorem callNative_printf (args : List Val) (this : Option Val) (s : St) :
    callNative .printf args this s =
      match printfFormat (prettyTop s.heap) args with
      | none => .oof
      | some (.error m) => .ok (.error m) s
      | some (.ok out) => .ok (.ok none) { s with out := out :: s.out } := by
  unfold callNative
  simp only [bind, EM.bind, getHeap]
  rcases printfFormat (prettyTop s.heap) args with _ | _ | _ <;> rfl

/-- on any error nothing is written and nothing else changes -/
theorem printf_atomic (args : List Val) (this : Option Val) (s s' : St) (m : String)
    (h : callNative .printf args this s = .ok (.error m) s') : s' = s := by
  rw [callNative_printf] at h
  split at h <;> simp_all

/-- on success exactly one chunk — the formatted text — is appended to the output, nothing else
    changes, and the call returns nil (null) -/
theorem printf_atomic_ok (args : List Val) (this : Option Val) (s s' : St) (v : Option Val)
    (h : callNative .printf args this s = .ok (.ok v) s') :
    v = none ∧ ∃ chunk, printfFormat (prettyTop s.heap) args = some (.ok chunk) ∧
      s' = { s with out := chunk :: s.out } := by
  rw [callNative_printf] at h
  split at h <;> simp_all

/-- `printf` never raises (panic, signal, runtime error object): errors are returned -/
theorem printf_never_raises (args : List Val) (this : Option Val) (s s' : St) (e : Err) :
    callNative .printf args this s ≠ .err e s' := by
  rw [callNative_printf]
  split <;> simp

example : ∃ m, callNative .printf [.str b!"%s" none] none default = .ok (.error m) default :=
  ⟨_, by rw [callNative_printf]; rfl⟩
example : callNative .printf [.str b!"a%%" none] none default
    = .ok (.ok none) { (default : St) with out := [b!"a%"] } := by
  rw [callNative_printf]; rfl

/-! ### a format without directives -/

/-- a format without `%` is written unchanged — no separator, no newline — whatever the other
    arguments (for formats WITH directives, what happens to surplus arguments is read off the
    reference through `printf_refines_ref`) -/
theorem printf_no_extras (render : Val → Option Bytes) (fmt : Bytes) (sp : Option SpecRef)
    (rest : List Val) (h : 37 ∉ fmt) :
    printfFormat render (.str fmt sp :: rest) = some (.ok fmt) := by
  have := printfLoop_run render (.str fmt sp :: rest) h 1 1 [] []
  simp only [List.append_nil, List.nil_append] at this
  simp only [printfFormat]
  rw [Nat.add_comm, this, printfLoop_nil]

example : (37 : UInt8) ∉ b!"hello, world" := by decide +kernel

/-! ### the width limit -/

/-- the first directive of a format decides an error -/
theorem printf_first_directive_error (render : Val → Option Bytes) (rest : Bytes)
    (sp : Option SpecRef) (args : List Val) (m : String) (h : parseDirective rest = .error m) :
    ∃ m', printfFormat render (.str (37 :: rest) sp :: args) = some (.error m') := by
  simp only [printfFormat, List.length_cons]
  exact printfLoop_dir_error render _ _ 1 [] h

/-- non-vacuity of `printf_first_directive_error`: an unknown code, a dangling `%`, a lone `-` -/
example : (parseDirective b!"d").toOption = none ∧ (parseDirective b!"").toOption = none ∧
    (parseDirective b!"-s").toOption = none := by decide +kernel

/-- a width beyond `maxWidth` (65536) is an error, for any digit string (leading zeros or not) -/
theorem width_limit_digits (render : Val → Option Bytes) (ds tail : Bytes) (sp : Option SpecRef)
    (args : List Val) (hne : ds ≠ []) (hds : ∀ x ∈ ds, isDigitB x = true)
    (ht : ∀ x, tail.head? = some x → isDigitB x = false) (hn : digitsToNat ds > maxWidth) :
    ∃ m, printfFormat render (.str (37 :: (ds ++ tail)) sp :: args) = some (.error m) := by
  apply printf_first_directive_error render _ sp args "width too large"
  rw [parseDirective_width ds tail hne hds ht, if_pos hn]

/-- the same for a negative width -/
theorem width_limit_digits_neg (render : Val → Option Bytes) (ds tail : Bytes) (sp : Option SpecRef)
    (args : List Val) (hds : ∀ x ∈ ds, isDigitB x = true)
    (ht : ∀ x, tail.head? = some x → isDigitB x = false) (hn : digitsToNat ds > maxWidth) :
    ∃ m, printfFormat render (.str (37 :: 45 :: (ds ++ tail)) sp :: args) = some (.error m) := by
  have he : ds.isEmpty = false := by
    cases ds with
    | nil => exact absurd hn (by decide)
    | cons _ _ => rfl
  apply printf_first_directive_error render _ sp args "width too large"
  rw [parseDirective_negWidth ds tail hds ht, he, if_neg Bool.false_ne_true, if_pos hn]

/-- non-vacuity of `width_limit_digits` / `width_limit_digits_neg`: the digit string `065537`
    (leading zero) followed by `s` -/
example : b!"065537" ≠ [] ∧ (∀ x ∈ b!"065537", isDigitB x = true) ∧
    (∀ x, (b!"s").head? = some x → isDigitB x = false) ∧ digitsToNat b!"065537" > 65536 := by
  refine ⟨by decide, by decide, ?_, by decide +kernel⟩
  intro x hx; cases hx; decide

/-- `%<n>s` with `n > 65536` is an error whatever the arguments -/
theorem width_limit (render : Val → Option Bytes) (n : Nat) (sp : Option SpecRef) (args : List Val)
    (hn : n > 65536) :
    ∃ m, printfFormat render (.str (37 :: (natToBytes n ++ [115])) sp :: args) = some (.error m) :=
  width_limit_digits render (natToBytes n) [115] sp args (natToBytes_ne_nil n) (natToBytes_digits n)
    (by intro x hx; cases hx; decide) (by rw [digitsToNat_natToBytes]; exact hn)

/-- `%-<n>s` with `n > 65536` is an error whatever the arguments -/
theorem width_limit_neg (render : Val → Option Bytes) (n : Nat) (sp : Option SpecRef) (args : List Val)
    (hn : n > 65536) :
    ∃ m, printfFormat render (.str (37 :: 45 :: (natToBytes n ++ [115])) sp :: args) = some (.error m) :=
  width_limit_digits_neg render (natToBytes n) [115] sp args (natToBytes_digits n)
    (by intro x hx; cases hx; decide) (by rw [digitsToNat_natToBytes]; exact hn)

/-- up to the limit the directive is accepted: `%<n>s` applied to a string writes it padded to
    `n` bytes with SOME pad byte (WEAK: the statement does not say which; the pad byte is `0`
    or space by `Spec.parseDirective` together with `printf_refines_ref`) -/
theorem width_ok_below (render : Val → Option Bytes) (n : Nat) (sp sp' : Option SpecRef) (a : Bytes)
    (more : List Val) (hn : n ≤ 65536) :
    ∃ pad, printfFormat render (.str (37 :: (natToBytes n ++ [115])) sp :: .str a sp' :: more)
      = some (.ok (padTo n pad a)) := by
  have hpd : parseDirective (natToBytes n ++ [115]) =
      .ok (.dir ((natToBytes n).head? == some 48) (n : Int) 115, []) := by
    rw [parseDirective_width _ [115] (natToBytes_ne_nil n) (natToBytes_digits n)
      (by intro x hx; cases hx; decide), digitsToNat_natToBytes, if_neg (c := n > maxWidth) (Nat.not_lt.mpr hn)]
    rfl
  obtain ⟨z, w, code, hit, -, hstep⟩ := printfLoop_dir_ok render
    (.str (37 :: (natToBytes n ++ [115])) sp :: .str a sp' :: more)
    ((natToBytes n ++ [115]).length + 1) 1 [] hpd
  cases hit
  exact ⟨_, hstep.trans rfl⟩

example : (65537 : Nat) > 65536 ∧ natToBytes 65537 = b!"65537" := by decide +kernel

end Jqawk.C18
