/-
  C13 — a program's meaning depends only on its tokens, not layout, comments or quoting.
  Lexer level: horizontal trivia is invisible, numbers are `digits(.digits)?` and never absorb an
  adjacent byte, keywords are whole words, a string token is the bytes up to the next same
  quote; escape processing of string literals; and the lifting principle (`PM.run_bisim`): the
  parser sees its input only through the token source.  Sections 8 and 9: newlines may be
  inserted between tokens except after `print`/`return`, after a comma of a print list and
  before `;`; a significant newline may be replaced by `;`.
-/
import Jqawk.Lemmas.Lexer
import Jqawk.Lemmas.LexerLits
import Jqawk.Lemmas.PM
import Jqawk.Lemmas.Param
import Jqawk.Lemmas.Layout
import Jqawk.Lemmas.NewlineTokens
import Jqawk.Lemmas.NewlineLayout
import Jqawk.Lemmas.NewlineSemiRun
import Jqawk.Lemmas.NewlineTexts
import Jqawk.Lemmas.NewlineBytesRun
import Jqawk.Lemmas.NewlineSemiBytes
import Jqawk.Lemmas.ParserFuel
import Jqawk.Lemmas.ParserMono
import Jqawk.Lemmas.ParseSrc
import Jqawk.Model.Eval

namespace Jqawk.C13
open Jqawk Lexer

/-! ### 1. horizontal trivia -/

/-- C13: spaces, tabs and CRs are skipped (any number of them, with enough fuel: one unit of
    fuel per byte; `Lexer.next` supplies `length + 1`). -/
theorem skipWs_trivia (t : Bytes) (ht : ∀ c ∈ t, c = 32 ∨ c = 9 ∨ c = 13) (rest : Bytes)
    (fuel p : Nat) :
    Lexer.skipWs (t.length + fuel) (t ++ rest) p = Lexer.skipWs fuel rest (p + t.length) := by
  apply skipWs_blanks
  intro c hc
  rcases ht c hc with rfl | rfl | rfl <;> rfl

example : ∀ c ∈ b!" \t\r ", c = 32 ∨ c = 9 ∨ c = 13 := by decide

/-- C13: a `#` comment is skipped up to, not including, the newline that ends it (or up to the
    end of the text). -/
theorem skipWs_comment (body rest : Bytes) (hb : (10 : UInt8) ∉ body)
    (hr : rest = [] ∨ rest.head? = some 10) (fuel p : Nat) :
    Lexer.skipWs (fuel + 1) (35 :: body ++ rest) p
      = Lexer.skipWs fuel rest (p + (35 :: body).length) :=
  Lexer.skipWs_comment body rest hb hr fuel p

example : (10 : UInt8) ∉ b!" note" ∧ b!"\nx".head? = some 10 := by decide

/-- the fuel `Lexer.next` supplies is enough: any larger amount gives the same result -/
theorem skipWs_fuel_irrelevant (f : Nat) (r : Bytes) (p : Nat) (h : r.length < f) :
    Lexer.skipWs f r p = Lexer.skipWs (r.length + 1) r p :=
  Lexer.skipWs_fuel f _ r p h (Nat.lt_succ_self _)

/-- C13: horizontal trivia (`Lexer.Trivia t rest`: blanks, tabs, CRs, and `#` comments each
    running up to a newline or the end of the text) in front of `rest` is invisible: the same
    token — with the same position, as offsets are absolute — and the same successor state.
    At the end of the text the EOF token's position is `tokenStart`, equal on both sides. -/
theorem next_skips_trivia (t rest : Bytes) (ht : Trivia t rest) (p ts : Nat) :
    Lexer.next ⟨t ++ rest, p, ts⟩ = Lexer.next ⟨rest, p + t.length, ts⟩ :=
  next_trivia ht p ts

/-- … in particular blanks, tabs and CRs -/
theorem next_skips_blanks (t rest : Bytes) (ht : ∀ c ∈ t, c = 32 ∨ c = 9 ∨ c = 13) (p ts : Nat) :
    Lexer.next ⟨t ++ rest, p, ts⟩ = Lexer.next ⟨rest, p + t.length, ts⟩ := by
  rw [next_eq, next_eq]
  dsimp only
  rw [List.length_append, Nat.add_assoc, skipWs_trivia t ht]

/-- … and a comment before a newline or the end of the text, possibly after blanks -/
theorem next_skips_comment (bl body rest : Bytes) (hbl : ∀ c ∈ bl, c = 32 ∨ c = 9 ∨ c = 13)
    (hb : (10 : UInt8) ∉ body) (hr : rest = [] ∨ rest.head? = some 10) (p ts : Nat) :
    Lexer.next ⟨bl ++ 35 :: body ++ rest, p, ts⟩
      = Lexer.next ⟨rest, p + (bl ++ 35 :: body).length, ts⟩ := by
  have h := next_skips_trivia _ rest (.comment body [] rest hb hr (.nil rest)) (p + bl.length) ts
  rw [List.append_nil] at h
  rw [List.append_assoc, next_skips_blanks bl _ hbl, h, List.length_append, Nat.add_assoc]

example : Trivia b!" \t # note" b!"\nx" :=
  .blank _ _ _ rfl (.blank _ _ _ rfl (.blank _ _ _ rfl
    (.comment b!" note" [] _ (by decide) (.inr rfl) (.nil _))))

example : Lexer.next ⟨b!" \t # note\nx", 0, 0⟩ = Lexer.next ⟨b!"\nx", 9, 0⟩ := by rfl

/-! ### 2. numeric literals -/

/-- C13: a numeric token is `ds` or `ds.fs` with `ds`, `fs` non-empty digit strings; it starts
    where the trivia ends, the successor state holds exactly the bytes after it, no digit
    follows it, and without a fraction it is not followed by `.digit` (maximal munch, nothing
    else absorbed). -/
theorem number_shape (s : LexState) (t : Token) (s' : LexState)
    (h : Lexer.next s = .ok (t, s')) (ht : t.tag = .num) :
    ∃ ws ds, s.rest = ws ++ t.text ++ s'.rest ∧ t.pos = s.pos + ws.length ∧
      s'.pos = t.pos + t.text.length ∧
      ds ≠ [] ∧ (∀ c ∈ ds, isDigitB c = true) ∧
      (∀ c, s'.rest.head? = some c → isDigitB c = false) ∧
      ((t.text = ds ∧ ∀ d r, s'.rest = 46 :: d :: r → isDigitB d = false) ∨
       ∃ fs, fs ≠ [] ∧ (∀ c ∈ fs, isDigitB c = true) ∧ t.text = ds ++ [46] ++ fs) := by
  obtain ⟨ws, r, h1, _, h3⟩ := next_cases s
  rw [h3] at h
  cases r with
  | nil => cases h; cases ht
  | cons c cs =>
    obtain ⟨hd, hnum⟩ := (lexAt_res c cs _).num_only h ht
    obtain ⟨_, n2, n3, n4, _, n6, n7, n8⟩ := number_spec (s.pos + ws.length) (c :: cs)
    rw [hnum] at n2 n3 n4 n6 n8
    dsimp only at n2 n3 n4 n6 n8
    refine ⟨ws, (spanB isDigitB (c :: cs)).1, ?_, n2, by rw [n4, n2], ?_, n7, n6, n8⟩
    · rw [h1, n3, List.append_assoc]
    · simp [spanB_cons, hd]

/-- C13: in particular a number consists of digits and `.` bytes only, contains no `-`, and
    begins and ends with a digit: a sign, a leading `.` or a trailing `.` is never part of it.
    (That there is at most one `.` is in `number_shape`, not in this statement.) -/
theorem number_no_sign_no_bare_dot (s : LexState) (t : Token) (s' : LexState)
    (h : Lexer.next s = .ok (t, s')) (ht : t.tag = .num) :
    (∀ c ∈ t.text, isDigitB c = true ∨ c = 46) ∧ (45 : UInt8) ∉ t.text ∧
    (∃ d, t.text.head? = some d ∧ isDigitB d = true) ∧
    (∃ d, t.text.getLast? = some d ∧ isDigitB d = true) := by
  obtain ⟨_, ds, _, _, _, hne, hds, _, hshape⟩ := number_shape s t s' h ht
  obtain ⟨d0, dr, rfl⟩ := List.exists_cons_of_ne_nil hne
  have hall : ∀ c ∈ t.text, isDigitB c = true ∨ c = 46 := by
    rcases hshape with ⟨e, _⟩ | ⟨fs, _, hfs, e⟩ <;> rw [e]
    · exact fun c hc => .inl (hds c hc)
    · intro c hc
      simp only [List.mem_append, List.mem_singleton] at hc
      rcases hc with (hc | hc) | hc
      · exact .inl (hds c hc)
      · exact .inr hc
      · exact .inl (hfs c hc)
  refine ⟨hall, fun hm => (hall 45 hm).elim (by decide) (by decide), ?_, ?_⟩
  · rcases hshape with ⟨e, _⟩ | ⟨fs, _, _, e⟩ <;>
      exact ⟨d0, by rw [e]; rfl, hds d0 List.mem_cons_self⟩
  · rcases hshape with ⟨e, _⟩ | ⟨fs, hfne, hfs, e⟩
    · rw [e]
      exact ⟨_, List.getLast?_eq_some_getLast hne, hds _ (List.getLast_mem _)⟩
    · rw [e, List.getLast?_append, List.getLast?_eq_some_getLast hfne]
      exact ⟨_, rfl, hfs _ (List.getLast_mem _)⟩

example : Lexer.next ⟨b!" 12.50-3", 0, 0⟩ = .ok (⟨.num, 1, b!"12.50"⟩, ⟨b!"-3", 6, 1⟩) := by rfl
example : Lexer.next ⟨b!"7.x", 0, 0⟩ = .ok (⟨.num, 0, b!"7"⟩, ⟨b!".x", 1, 0⟩) := by rfl
example : Lexer.next ⟨b!"1.2.3", 0, 0⟩ = .ok (⟨.num, 0, b!"1.2"⟩, ⟨b!".3", 3, 0⟩) := by rfl
example : Lexer.next ⟨b!"-1", 0, 0⟩ = .ok (⟨.minus, 0, []⟩, ⟨b!"1", 1, 0⟩) := by rfl
example : Lexer.next ⟨b!".5", 0, 0⟩ = .ok (⟨.dot, 0, []⟩, ⟨b!"5", 1, 0⟩) := by rfl

/-- C13, converse: every spelling `ds` / `ds.fs` followed by anything that cannot extend it is
    scanned as exactly that token. -/
theorem number_complete (ds fs rest : Bytes) (c : UInt8) (hc : isDigitB c = true)
    (hds : ∀ d ∈ ds, isDigitB d = true) (hfs : ∀ d ∈ fs, isDigitB d = true)
    (hrest : ∀ d, rest.head? = some d → isDigitB d = false) (p ts : Nat) :
    (fs ≠ [] → Lexer.next ⟨c :: ds ++ 46 :: fs ++ rest, p, ts⟩
        = .ok (⟨.num, p, c :: ds ++ 46 :: fs⟩, ⟨rest, p + (c :: ds ++ 46 :: fs).length, p⟩)) ∧
    ((∀ d r, rest = 46 :: d :: r → isDigitB d = false) →
      Lexer.next ⟨c :: ds ++ rest, p, ts⟩
        = .ok (⟨.num, p, c :: ds⟩, ⟨rest, p + (c :: ds).length, p⟩)) := by
  have hcds : ∀ d ∈ c :: ds, isDigitB d = true := List.forall_mem_cons.mpr ⟨hc, hds⟩
  exact ⟨fun hne => (next_digit c _ p ts hc).trans
      (congrArg _ (number_frac p (c :: ds) fs rest hcds hfs hne hrest)),
    fun hnd => (next_digit c _ p ts hc).trans
      (congrArg _ (number_int p (c :: ds) rest hcds hrest hnd))⟩

example : Lexer.next ⟨b!"12.5)", 0, 0⟩ = .ok (⟨.num, 0, b!"12.5"⟩, ⟨b!")", 4, 0⟩) ∧
    isDigitB 49 = true ∧ (∀ d ∈ b!"2", isDigitB d = true) ∧ (∀ d ∈ b!"5", isDigitB d = true) ∧
    (∀ d, (b!")").head? = some d → isDigitB d = false) := by
  refine ⟨rfl, rfl, by decide, by decide, ?_⟩
  intro d h; cases h; rfl

/-! ### 3. keywords are whole words -/

def kwText : Tag → Bytes
  | .begin_ => b!"BEGIN" | .end_ => b!"END" | .beginFile => b!"BEGINFILE" | .endFile => b!"ENDFILE"
  | .print => b!"print" | .dollar => b!"$" | .function => b!"function" | .return_ => b!"return"
  | .if_ => b!"if" | .else_ => b!"else" | .for_ => b!"for" | .while_ => b!"while" | .in_ => b!"in"
  | .match_ => b!"match" | .true_ => b!"true" | .false_ => b!"false" | .break_ => b!"break"
  | .continue_ => b!"continue" | .next => b!"next" | .exit => b!"exit" | .null => b!"null"
  | .is => b!"is"
  | _ => []

/-- `keyword` recognises exactly the 22 spellings (the byte string must EQUAL the keyword). -/
theorem keyword_iff (s : Bytes) (tg : Tag) :
    Lexer.keyword s = some tg ↔ isKeywordTag tg = true ∧ s = kwText tg := by
  constructor
  · intro h
    obtain ⟨hk, rfl⟩ := keyword_some s tg h
    refine ⟨hk, ?_⟩
    clear h
    replace hk := List.contains_iff_mem.mp hk
    revert tg
    decide
  · rintro ⟨h, rfl⟩
    replace h := List.contains_iff_mem.mp h
    revert tg
    decide +kernel

/-- C13: `identifier` takes the maximal run `w` of identifier bytes (letters, digits, `_`; what
    is left begins with another byte or is empty) and yields a keyword tag only if the whole
    word `pre ++ w` equals that keyword; otherwise an identifier whose text is the whole word. -/
theorem keyword_whole_word (pre : Bytes) (start : Nat) (r w : Bytes)
    (hw : (Lexer.spanB isIdentB r).1 = w) :
    ∃ rest, r = w ++ rest ∧ (∀ c ∈ w, isIdentB c = true) ∧
      (∀ c, rest.head? = some c → isIdentB c = false) ∧
      (Lexer.identifier pre start r).2 = ⟨rest, start + (pre ++ w).length, start⟩ ∧
      ((∃ tg, isKeywordTag tg = true ∧ pre ++ w = kwText tg ∧
          (Lexer.identifier pre start r).1 = ⟨tg, start, []⟩) ∨
       ((∀ tg, isKeywordTag tg = true → pre ++ w ≠ kwText tg) ∧
          (Lexer.identifier pre start r).1 = ⟨.ident, start, pre ++ w⟩)) := by
  subst hw
  refine ⟨(spanB isIdentB r).2, (spanB_append _ _).symm, spanB_all _ _, spanB_rest _ _, ?_, ?_⟩
  · rw [identifier_eq]
  · rw [identifier_eq]; dsimp only
    cases hk : keyword (pre ++ (spanB isIdentB r).1) with
    | some tg =>
      obtain ⟨h1, h2⟩ := (keyword_iff _ _).mp hk
      exact .inl ⟨tg, h1, h2, rfl⟩
    | none =>
      refine .inr ⟨fun tg h1 h2 => ?_, rfl⟩
      have := (keyword_iff _ tg).mpr ⟨h1, h2⟩
      rw [hk] at this; cases this

example : (Lexer.spanB isIdentB b!"ffy(").1 = b!"ffy" ∧
    (Lexer.identifier b!"i" 0 b!"ffy(").1 = ⟨.ident, 0, b!"iffy"⟩ ∧
    (Lexer.identifier b!"i" 0 b!"f(").1 = ⟨.if_, 0, []⟩ := ⟨by rfl, by rfl, by rfl⟩

example : Lexer.next ⟨b!"iffy(", 0, 0⟩ = .ok (⟨.ident, 0, b!"iffy"⟩, ⟨b!"(", 4, 0⟩) := by rfl
example : Lexer.next ⟨b!"BEGINNER", 0, 0⟩ = .ok (⟨.ident, 0, b!"BEGINNER"⟩, ⟨[], 8, 0⟩) := by rfl
example : Lexer.next ⟨b!"nextval", 0, 0⟩ = .ok (⟨.ident, 0, b!"nextval"⟩, ⟨[], 7, 0⟩) := by rfl
example : Lexer.next ⟨b!"_if", 0, 0⟩ = .ok (⟨.ident, 0, b!"_if"⟩, ⟨[], 3, 0⟩) := by rfl
example : Lexer.next ⟨b!"if2", 0, 0⟩ = .ok (⟨.ident, 0, b!"if2"⟩, ⟨[], 3, 0⟩) := by rfl
example : Lexer.next ⟨b!"if(", 0, 0⟩ = .ok (⟨.if_, 0, []⟩, ⟨b!"(", 2, 0⟩) := by rfl

/-! ### 4. string tokens -/

/-- C13: with either quote character `q`, a string token exists iff the same quote occurs
    again; its text is exactly the bytes up to the next `q` (no escape processing in the lexer),
    and lexing resumes right after that quote. -/
theorem string_token (q : UInt8) (start : Nat) (r : Bytes) (t : Token) (s' : LexState) :
    Lexer.string q start r = .ok (t, s') ↔
      ∃ body rest', r = body ++ q :: rest' ∧ q ∉ body ∧ t = ⟨.str, start + 1, body⟩ ∧
        s' = ⟨rest', start + 1 + body.length + 1, start + 1⟩ :=
  string_ok_iff q start r t s'

/-- C13: … and it is an error iff the quote is never closed. -/
theorem string_unterminated (q : UInt8) (start : Nat) (r : Bytes) :
    (∃ e, Lexer.string q start r = .error e) ↔ q ∉ r := by
  constructor
  · rintro ⟨e, h⟩; exact ((string_error_iff q start r e).mp h).1
  · intro h; exact ⟨_, (string_error_iff q start r _).mpr ⟨h, rfl⟩⟩

example : Lexer.string 34 0 b!"a'b\\\"c" = .ok (⟨.str, 1, b!"a'b\\"⟩, ⟨b!"c", 6, 1⟩) := by rfl

/-- C13: the two quote styles are interchangeable at the lexer level: a body containing
    neither quote character gives the same token and the same successor state. -/
theorem quotes_interchangeable (body rest : Bytes) (h1 : (39 : UInt8) ∉ body)
    (h2 : (34 : UInt8) ∉ body) (p ts : Nat) :
    Lexer.next ⟨39 :: body ++ 39 :: rest, p, ts⟩ = Lexer.next ⟨34 :: body ++ 34 :: rest, p, ts⟩ := by
  rw [List.cons_append, List.cons_append, next_quote 39 (.inl rfl), next_quote 34 (.inr rfl),
    (string_ok_iff 39 p _ _ _).mpr ⟨body, rest, rfl, h1, rfl, rfl⟩,
    (string_ok_iff 34 p _ _ _).mpr ⟨body, rest, rfl, h2, rfl, rfl⟩]

example : (39 : UInt8) ∉ b!"a b" ∧ (34 : UInt8) ∉ b!"a b" := by decide

/-! ### 5. escape processing of string literals -/

/-- `Unesc s r`: `r` is `s` with the escapes `\n`, `\t`, `\\` replaced (left to right) and no
    other backslash in `s`. -/
inductive Unesc : Bytes → Bytes → Prop
  | nil : Unesc [] []
  | plain (c : UInt8) (s r : Bytes) : c ≠ 92 → Unesc s r → Unesc (c :: s) (c :: r)
  | nl (s r : Bytes) : Unesc s r → Unesc (92 :: 110 :: s) (10 :: r)
  | tab (s r : Bytes) : Unesc s r → Unesc (92 :: 116 :: s) (9 :: r)
  | bs (s r : Bytes) : Unesc s r → Unesc (92 :: 92 :: s) (92 :: r)

/-- C13: a string literal evaluates to `r` iff `r` is its un-escaping. -/
theorem evalString_ok_iff (s r : Bytes) : evalStringLit s = .ok r ↔ Unesc s r := by
  constructor
  · intro h
    induction s using esc_induct generalizing r with
    | nil => cases h; exact .nil
    | lone => cases h
    | esc c s ih =>
      obtain ⟨b, r', hb, hr, rfl⟩ := evalStringLit_esc_ok.mp h
      rcases escOf_eq_some.mp hb with ⟨rfl, rfl⟩ | ⟨rfl, rfl⟩ | ⟨rfl, rfl⟩
      · exact .nl _ _ (ih _ hr)
      · exact .bs _ _ (ih _ hr)
      · exact .tab _ _ (ih _ hr)
    | plain c s hc ih =>
      rw [evalStringLit_plain hc] at h
      obtain ⟨r', hr, rfl⟩ := Except.map_eq_ok.mp h
      exact .plain _ _ _ hc (ih _ hr)
  · intro h
    induction h with
    | nil => rfl
    | plain c s r hc _ ih => rw [evalStringLit_plain hc, ih]; rfl
    | nl s r _ ih => rw [evalStringLit_esc, ih]; rfl
    | tab s r _ ih => rw [evalStringLit_esc, ih]; rfl
    | bs s r _ ih => rw [evalStringLit_esc, ih]; rfl

/-- C13: a string without backslashes denotes exactly its characters. -/
theorem evalString_no_backslash (s : Bytes) (h : (92 : UInt8) ∉ s) : evalStringLit s = .ok s := by
  rw [evalString_ok_iff]
  induction s with
  | nil => exact .nil
  | cons c cs ih =>
    exact .plain c cs cs (fun e => h (by simp [e])) (ih fun m => h (List.mem_cons_of_mem _ m))

example : (92 : UInt8) ∉ b!"it's \"x\"" := by decide

/-- C13: evaluation fails iff, after a well-formed prefix, there is a backslash that ends the
    string or is followed by a byte other than `n`, `t`, `\`.  (`\\x` is fine: the prefix
    condition pairs backslashes left to right.) -/
theorem evalString_spec (s : Bytes) :
    (∃ m, evalStringLit s = .error m) ↔
      ∃ pre pre', Unesc pre pre' ∧
        (s = pre ++ [92] ∨ ∃ c rest, s = pre ++ 92 :: c :: rest ∧ c ≠ 110 ∧ c ≠ 116 ∧ c ≠ 92) := by
  simp only [← evalString_ok_iff, ← escOf_eq_none]
  exact evalStringLit_error_iff s

example : evalStringLit b!"a\\nb\\\\n\\t" = .ok b!"a\nb\\n\t" := by rfl
example : evalStringLit b!"a\\qb" = .error "unknown escape char" := by rfl
example : evalStringLit b!"ab\\" = .error "unexpected '\\' at end of string" := by rfl
example : evalStringLit b!"ab\\\\" = .ok b!"ab\\" := by rfl

/-! ### 6. the lifting principle: the parser sees its input only through the token source -/

theorem run_eq_runWith {α : Type} (m : PM α) (s : LexState) : m.run s = m.runWith lexerSrc s :=
  PM.run_eq_runWith m s

/-- C13 (lifting): if `R` is a simulation between two token sources (related states answer both
    requests with equal tokens, flags and errors, and move to related states) then every parser
    program gives the same result from related states. -/
theorem run_bisim {σ₁ σ₂ α : Type} {src₁ : TokSrc σ₁} {src₂ : TokSrc σ₂} {R : σ₁ → σ₂ → Prop}
    (hR : PM.IsSim src₁ src₂ R) (m : PM α) (s₁ : σ₁) (s₂ : σ₂) (h : R s₁ s₂) :
    m.runWith src₁ s₁ = m.runWith src₂ s₂ :=
  PM.run_bisim hR m s₁ s₂ h

/-- equality of lexer states is a simulation of the lexer with itself (non-vacuity) -/
example : PM.IsSim lexerSrc lexerSrc (fun s s' => s = s') where
  next := fun s s' h => by
    subst h
    generalize lexerSrc.next s = x
    cases x with
    | error e => exact rfl
    | ok r => obtain ⟨t, nl, s⟩ := r; exact ⟨rfl, rfl, rfl⟩
  regex := fun s s' h => by
    subst h
    generalize lexerSrc.regex s = x
    cases x with
    | error e => exact rfl
    | ok r => obtain ⟨t, s⟩ := r; exact ⟨rfl, rfl⟩

/-! ### 7. layout invariance, up to positions -/

/-- Token-level equivalence of two lexer states: some simulation up to positions relates them,
    i.e. they answer every sequence of `Next`/`Regex` requests with the same tokens (tag and
    text), the same newline flags and errors with the same message — only positions differ. -/
def TokEquiv (s₁ s₂ : LexState) : Prop :=
  ∃ R : LexState → LexState → Prop, PM.IsSimE lexerSrc lexerSrc R ∧ R s₁ s₂

/-- outcomes equal up to positions: same AST after `erase`, or errors with the same message.
    An out-of-fuel outcome (never a real outcome: the model's fuel is an artefact) on either
    side is not compared. -/
def ResEquiv {α : Type} [Erase α] : ParseRes α → ParseRes α → Prop
  | .ok a, .ok b => erase a = erase b
  | .syntaxErr e₁, .syntaxErr e₂ => e₁.msg = e₂.msg
  | .oof, _ => True
  | _, .oof => True
  | _, _ => False

theorem tokEquiv_symm {s₁ s₂ : LexState} (h : TokEquiv s₁ s₂) : TokEquiv s₂ s₁ := by
  obtain ⟨R, hR, h⟩ := h
  exact ⟨fun a b => R b a, hR.symm, h⟩

/-- C13 (parametricity of the parser in token positions + lifting): the parser, run with fuel
    `n₁ ≤ n₂` against two token sources related by a simulation up to positions, makes the same
    decisions: the results are equal up to positions (`ParseRes.Sim`: same AST after `erase`
    and parser state up to positions, or errors with the same message; the run with less
    fuel may be out of fuel).  Every parser function only copies token positions into the
    AST or into error positions and never branches on them (Lemmas/Param.lean, `allSim`). -/
theorem parser_parametric (tbl : RuleTable) (n₁ n₂ : Nat) (hn : n₁ ≤ n₂) {σ₁ σ₂ : Type}
    {src₁ : TokSrc σ₁} {src₂ : TokSrc σ₂} {R : σ₁ → σ₂ → Prop} (hR : PM.IsSimE src₁ src₂ R)
    (s₁ : σ₁) (s₂ : σ₂) (hs : R s₁ s₂) :
    ParseRes.Sim ((Parser.parseProgram tbl n₁ PS.init).runWith src₁ s₁)
      ((Parser.parseProgram tbl n₂ PS.init).runWith src₂ s₂) ∧
    ParseRes.Sim ((Parser.parseExpression tbl n₁ PS.init).runWith src₁ s₁)
      ((Parser.parseExpression tbl n₂ PS.init).runWith src₂ s₂) :=
  ⟨PM.run_sim hR (parseProgram_sim tbl n₁ n₂ hn PS.init PS.init rfl) s₁ s₂ hs,
   PM.run_sim hR (parseExpression_sim tbl n₁ n₂ hn PS.init PS.init rfl) s₁ s₂ hs⟩

/-- "same unread text" is a simulation up to positions of the lexer with itself (non-vacuity) -/
example : PM.IsSimE lexerSrc lexerSrc Lexer.SameRest ∧
    Lexer.SameRest ⟨b!"x = 1", 0, 0⟩ ⟨b!"x = 1", 40, 7⟩ := ⟨sameRest_isSimE, rfl⟩

/-- drop the final parser state, as `parseProgramSrc` does -/
def stripPS {α : Type} : ParseRes (α × PS) → ParseRes α
  | .ok (p, _) => .ok p
  | .syntaxErr e => .syntaxErr e
  | .oof => .oof

theorem resEquiv_of_sim {α : Type} [Erase α] {a b : ParseRes (α × PS)} (h : ParseRes.Sim a b) :
    ResEquiv (stripPS a) (stripPS b) ∧ ResEquiv (stripPS b) (stripPS a) := by
  cases h with
  | ok hab =>
    rename_i x y; obtain ⟨x1, x2⟩ := x; obtain ⟨y1, y2⟩ := y
    simp only [erase_pair, Prod.mk.injEq] at hab
    exact ⟨hab.1, hab.1.symm⟩
  | syntaxErr he => exact ⟨he, he.symm⟩
  | oofL => cases b <;> simp [stripPS, ResEquiv]

/-- the program parser from two token-equivalent lexer states, any two amounts of fuel: results
    equal up to positions — as far as `ResEquiv` compares them: nothing is claimed when either
    run is out of fuel (e.g. trivially true for `n₁ = 0`) -/
theorem parse_tokEquiv (tbl : RuleTable) (n₁ n₂ : Nat) (s₁ s₂ : LexState) (h : TokEquiv s₁ s₂) :
    ResEquiv (stripPS ((Parser.parseProgram tbl n₁ PS.init).run s₁))
      (stripPS ((Parser.parseProgram tbl n₂ PS.init).run s₂)) ∧
    ResEquiv (stripPS ((Parser.parseExpression tbl n₁ PS.init).run s₁))
      (stripPS ((Parser.parseExpression tbl n₂ PS.init).run s₂)) := by
  simp only [run_eq_runWith]
  rcases Nat.le_total n₁ n₂ with hn | hn
  · obtain ⟨R, hR, hs⟩ := h
    obtain ⟨h1, h2⟩ := parser_parametric tbl n₁ n₂ hn hR s₁ s₂ hs
    exact ⟨(resEquiv_of_sim h1).1, (resEquiv_of_sim h2).1⟩
  · obtain ⟨R, hR, hs⟩ := tokEquiv_symm h
    obtain ⟨h1, h2⟩ := parser_parametric tbl n₂ n₁ hn hR s₂ s₁ hs
    exact ⟨(resEquiv_of_sim h1).2, (resEquiv_of_sim h2).2⟩

theorem parseProgramSrc_eq (tbl : RuleTable) (src : Bytes) :
    parseProgramSrc tbl src =
      stripPS ((Parser.parseProgram tbl (parserFuel src) PS.init).run (LexState.init src)) := by
  unfold parseProgramSrc stripPS
  split <;> simp_all

theorem parseExpressionSrc_eq (tbl : RuleTable) (src : Bytes) :
    parseExpressionSrc tbl src =
      stripPS ((Parser.parseExpression tbl (parserFuel src) PS.init).run (LexState.init src)) := by
  unfold parseExpressionSrc stripPS
  split <;> simp_all

/-- C13 (the lifting): two program texts whose lexer states are token-equivalent (same tokens
    up to positions for every request sequence — whatever the layout, comments, or offsets)
    parse to the same AST up to positions, or both fail with the same message, with any rule
    table — PROVIDED neither run is out of fuel: `ResEquiv` holds as soon as either side is
    `.oof`.  So this is an agreement statement only; section 10 (`parse_never_oof`) shows that
    `parserFuel` always suffices for tables without EOF rules, and `layout_invariant_total` /
    `layout_invariant_parses` there are this theorem without the out-of-fuel escape.  Only the parse
    is covered, not evaluation.  (Since the fuel depends on the length of the text the two runs
    use different fuel — handled by fuel monotonicity, which is part of `allSim`.) -/
theorem layout_invariant (tbl : RuleTable) (src₁ src₂ : Bytes)
    (h : TokEquiv (LexState.init src₁) (LexState.init src₂)) :
    ResEquiv (parseProgramSrc tbl src₁) (parseProgramSrc tbl src₂) ∧
    ResEquiv (parseExpressionSrc tbl src₁) (parseExpressionSrc tbl src₂) := by
  rw [parseProgramSrc_eq, parseProgramSrc_eq, parseExpressionSrc_eq, parseExpressionSrc_eq]
  exact parse_tokEquiv tbl _ _ _ _ h

/-- the token equivalence of ` x` and `x` used in the examples (the relation is "same unread
    text, or this pair of initial states") -/
theorem tokEquiv_blank_x : TokEquiv (LexState.init b!" x") (LexState.init b!"x") :=
  ⟨_, sameRest_or_isSimE (LexState.init b!" x") (LexState.init b!"x") ⟨rfl, rfl, rfl⟩ rfl,
    .inr ⟨rfl, rfl⟩⟩

/-- non-vacuity of `layout_invariant` with two different texts (` x` and `x`: the relation is
    "same unread text, or this pair of initial states"); both texts parse, so here the
    conclusion does not hold merely by the `oof` clause of `ResEquiv` -/
example : TokEquiv (LexState.init b!" x") (LexState.init b!"x") ∧
    (match parseProgramSrc expectedRuleTable b!" x", parseProgramSrc expectedRuleTable b!"x" with
      | .ok _, .ok _ => true | _, _ => false) = true :=
  ⟨tokEquiv_blank_x, by decide +kernel⟩

/-- Instance 1: lexer states with the same unread text are token-equivalent — lexing depends on
    absolute offsets (and on Go's `tokenStart`) only through the positions it reports. -/
theorem tokEquiv_of_sameRest (s₁ s₂ : LexState) (h : s₁.rest = s₂.rest) : TokEquiv s₁ s₂ :=
  ⟨Lexer.SameRest, sameRest_isSimE, h⟩

example : TokEquiv ⟨b!"x = 1", 0, 0⟩ ⟨b!"x = 1", 40, 7⟩ := tokEquiv_of_sameRest _ _ rfl

/-- Instance 2: horizontal trivia (blanks, tabs, CRs, comments up to a newline) in front of a
    program does not change its parse (up to positions; `ResEquiv`: nothing is claimed if either
    run is out of fuel — the example below checks that both runs succeed there). -/
theorem leading_trivia_invariant (tbl : RuleTable) (t src : Bytes) (ht : Trivia t src) :
    ResEquiv (parseProgramSrc tbl (t ++ src)) (parseProgramSrc tbl src) ∧
    ResEquiv (parseExpressionSrc tbl (t ++ src)) (parseExpressionSrc tbl src) := by
  rw [parseProgramSrc_eq, parseProgramSrc_eq, parseExpressionSrc_eq, parseExpressionSrc_eq]
  -- the first request of both parsers is `next`, answered alike from `t ++ src` and from `src`
  have hnext : ∀ {α : Type} (k : Token → Bool → PM α),
      (PM.next k).run (LexState.init (t ++ src)) = (PM.next k).run ⟨src, 0 + t.length, 0⟩ := by
    intro α k
    simp only [PM.run, LexState.init]
    rw [nextNN_trivia ht 0 0 false]
  have e1 : ∀ n, (Parser.parseProgram tbl n PS.init).run (LexState.init (t ++ src))
      = (Parser.parseProgram tbl n PS.init).run ⟨src, 0 + t.length, 0⟩ := fun n => hnext _
  have e2 : ∀ n, (Parser.parseExpression tbl n PS.init).run (LexState.init (t ++ src))
      = (Parser.parseExpression tbl n PS.init).run ⟨src, 0 + t.length, 0⟩ := fun n => hnext _
  rw [e1, e2]
  exact parse_tokEquiv tbl _ _ _ _ (tokEquiv_of_sameRest _ _ rfl)

example : ResEquiv (parseProgramSrc expectedRuleTable (b!" \t # note" ++ b!"\n{ print 1 }"))
    (parseProgramSrc expectedRuleTable b!"\n{ print 1 }") :=
  (leading_trivia_invariant expectedRuleTable _ _
    (.blank _ _ _ rfl (.blank _ _ _ rfl (.blank _ _ _ rfl
      (.comment b!" note" [] _ (by decide) (.inr rfl) (.nil _)))))).1

/-- … and in this instance both texts do parse (neither run is out of fuel) -/
example : (match parseProgramSrc expectedRuleTable (b!" \t # note" ++ b!"\n{ print 1 }"),
      parseProgramSrc expectedRuleTable b!"\n{ print 1 }" with
    | .ok _, .ok _ => true | _, _ => false) = true := by decide +kernel

/-- C13, what is proved about trivia between tokens (`layout_invariant` reduces the property
    to token equivalence; this is the token-source half for horizontal trivia): in front of
    ANY token, different amounts of horizontal trivia are invisible to the parser's `advance`
    request — same token up to its position, same newline flag, same error message — and the
    successor states have the same unread text, so they are token-equivalent for good
    (`tokEquiv_of_sameRest`).

    Missing for "trivia between any two tokens of any program": no relation on lexer states
    alone is closed under BOTH requests — after a `/` the parser may ask for the raw bytes up to
    the next `/` (`Regex`), where blanks are significant (examples below), whereas in
    `a / b  / c` the same bytes are re-lexed as tokens; which happens is decided by the parser,
    not by the lexer state.  What is needed is a simulation relative to the requests the parser
    actually makes; section 8 supplies it for ONE insertion point of a text that parses
    (`newline_insertion_bytes` with a newline-free `w`). -/
theorem layout_invariant_partial (t t' x : Bytes) (ht : Trivia t x) (ht' : Trivia t' x)
    (p ts p' ts' : Nat) :
    PM.AnsNextE Lexer.SameRest (lexerSrc.next ⟨t ++ x, p, ts⟩) (lexerSrc.next ⟨t' ++ x, p', ts'⟩) := by
  show PM.AnsNextE _ (Lexer.nextNN ((t ++ x).length + 1) ⟨t ++ x, p, ts⟩ false)
    (Lexer.nextNN ((t' ++ x).length + 1) ⟨t' ++ x, p', ts'⟩ false)
  rw [nextNN_trivia ht, nextNN_trivia ht']
  exact nextNN_shift _ _ _ _ rfl

example : Trivia b!"  " b!"+ 1" ∧ Trivia b!"\t# c" b!"\n+ 1" :=
  ⟨.blank _ _ _ rfl (.blank _ _ _ rfl (.nil _)),
   .blank _ _ _ rfl (.comment b!" c" [] _ (by decide) (.inr rfl) (.nil _))⟩

example : Lexer.regex ⟨b!" x/", 1, 0⟩ = .ok (⟨.regex, 1, b!" x"⟩, ⟨[], 4, 1⟩) := by rfl
example : Lexer.regex ⟨b!"x/", 1, 0⟩ = .ok (⟨.regex, 1, b!"x"⟩, ⟨[], 3, 1⟩) := by rfl

/-! ### 8. newline insertion

The parser sees a newline only as the flag "a newline was skipped before this token" that comes
with every answer to `next` (`Parser.advance` stores it in `didEnd`); the flag is read by
`atStatementEnd` only.  The theorems below say: raising flags — inserting newlines — does not
change the parse of a program that parses, except at the positions the property lists:

* directly after `print` or `return`,
* after a comma of a `print` list — statically over-approximated by "a comma at print level":
  the innermost bracket `(`/`[`/`{` still open at the comma was opened before a `print` that is
  itself not enclosed in a later bracket (`Nl.applyTag` keeps the stack of open brackets with a
  mark "a `print` occurred directly in this bracket"; `Nl.top`).  In a program that parses, the
  commas at print level should be exactly the commas of `print` lists (every other comma is
  directly inside `(…)`, `[…]`, an object literal or a `match` body, which contain no `print`
  directly) — this exactness is an informal argument, NOT a theorem of this file; what is
  proved excludes every print-level comma,
* directly before a `;`.

No other exclusion was needed.  The rule table is arbitrary up to `Nl.TableOK` (no bracket token
is consumed as a literal/operator/regex opener), which holds for the table of the interpreter. -/

open Nl in
/-- C13 (newline insertion, the general form): for any rule table with `TableOK`, any fuel, and
    any two token sources related by a newline-insertion simulation `Rσ` (same tokens; the right
    source may answer with the newline flag set where the left one does not, but only where
    `Nl.Allowed` holds in the ghost state: not after `print`/`return`, not after a print-level
    comma, not before `;`): if the left parse succeeds, the right parse succeeds with the same
    AST.  Both for programs and for expressions. -/
theorem newline_insertion_sources (tbl : RuleTable) (hT : TableOK tbl = true) (n : Nat)
    {σ₁ σ₂ : Type} {src₁ : TokSrc σ₁} {src₂ : TokSrc σ₂} {Rσ : G → σ₁ → σ₂ → Prop}
    (hS : IsNlSim src₁ src₂ Rσ) (s₁ : σ₁) (s₂ : σ₂) (hs : Rσ G.init s₁ s₂) :
    (∀ p st, (Parser.parseProgram tbl n PS.init).runWith src₁ s₁ = .ok (p, st) →
      ∃ st', (Parser.parseProgram tbl n PS.init).runWith src₂ s₂ = .ok (p, st')) ∧
    (∀ e st, (Parser.parseExpression tbl n PS.init).runWith src₁ s₁ = .ok (e, st) →
      ∃ st', (Parser.parseExpression tbl n PS.init).runWith src₂ s₂ = .ok (e, st')) :=
  ⟨fun _ _ hr => run_nlp (parseProgram_nl hT n) hS hs hr,
   fun _ _ hr => run_nlp (parseExpression_nl hT n) hS hs hr⟩

/-- the table of the interpreter satisfies `TableOK`; flagged token lists related by `NlMoreAt`
    form a newline-insertion simulation (non-vacuity of `newline_insertion_sources`) -/
example : Nl.TableOK expectedRuleTable = true ∧ Nl.IsNlSim Nl.flagSrc Nl.flagSrc Nl.NlMoreAt :=
  ⟨by decide, Nl.flagSrc_isNlSim⟩

open Nl in
/-- C13 (newline insertion on token sequences): `ts` and `ts'` are the same tokens, each with
    its flag "a newline precedes me"; `NlMoreAt G.init ts ts'` (decidable: `nlMoreB`) says that
    `ts'` has all newlines of `ts` and possibly more, none of the additional ones directly after
    `print`/`return`, after a print-level comma, or before `;`.  If `ts` parses to `p`, so does
    `ts'` — any `TableOK` rule table, any fuel. -/
theorem newline_insertion_tokens (tbl : RuleTable) (hT : TableOK tbl = true) (n : Nat)
    (ts ts' : List (Token × Bool)) (h : NlMoreAt G.init ts ts') (p : Program)
    (hp : parseFlags tbl n ts = .ok p) : parseFlags tbl n ts' = .ok p :=
  parseFlags_nlMore hT n h hp

open Nl in
/-- C13 (one newline): a newline may be inserted in front of the `i`-th token whenever
    `insertableAt G.init ts i` — see `insertable_spec` for what that means. -/
theorem newline_insertion_single (tbl : RuleTable) (hT : TableOK tbl = true) (n : Nat)
    (ts : List (Token × Bool)) (i : Nat) (h : insertableAt G.init ts i = true) (p : Program)
    (hp : parseFlags tbl n ts = .ok p) : parseFlags tbl n (setNl ts i) = .ok p :=
  parseFlags_nlMore hT n (nlMoreAt_setNl G.init ts i h) hp

open Nl in
/-- C13: where a newline may be inserted, in closed form.  In front of the `i`-th token
    (`0 < i`), with `u` the token before it: `u` is not `print` or `return`; `u` is not a comma
    at print level (the bracket stack `stackOf` of the tokens before `u` has a marked top); and
    the `i`-th token is not `;`. -/
theorem insertable_spec (ts : List (Token × Bool)) (i : Nat) (hi : i < ts.length) (h0 : 0 < i) :
    insertableAt G.init ts i =
      (let u := (ts[i - 1]'(by omega)).1.tag
       u != .print && u != .return_ &&
       !(u == .comma && top (stackOf ((ts.take (i - 1)).map fun x => x.1.tag))) &&
       (ts[i]'hi).1.tag != .semiColon) := by
  unfold insertableAt
  rw [List.getElem?_eq_getElem hi, ghostAt_eq ts i hi h0]
  rfl

/-! examples: the programs are lexed by `lexE` (every token through `Lexer.nextNN`, as
    `Parser.advance` does; positions erased so that the two layouts give the same tokens) -/

/-- the parse (as an S-expression dump) of a program text through its flagged token list -/
def parseText (src : Bytes) : Option Bytes :=
  dumpParse (Nl.parseFlags expectedRuleTable 300 (lexE src))

/-- a newline between (almost) any two tokens — before `(`, `[`, `else`, `{`, after non-print
    commas, inside expressions, before the `,` of a print list …: hypothesis of
    `newline_insertion_tokens` holds, and (as the theorem says) the parses agree -/
example :
    Nl.nlMoreB Nl.G.init
      (lexE b!"BEGIN { x = f(1, 2) + [3, 4][0]; if (x) print x, 1 else print 2 } $1 > 0 { y = {a: 1, b: 2} }")
      (lexE b!"BEGIN\n{\nx\n=\nf\n(\n1\n,\n2\n)\n+\n[\n3\n,\n4\n]\n[\n0\n];\nif\n(\nx\n)\nprint x\n, 1\nelse\nprint 2\n}\n$1\n>\n0\n{\ny\n=\n{\na\n:\n1\n,\nb\n:\n2\n}\n}\n")
      = true ∧
    (parseText b!"BEGIN { x = f(1, 2) + [3, 4][0]; if (x) print x, 1 else print 2 } $1 > 0 { y = {a: 1, b: 2} }").isSome = true ∧
    parseText b!"BEGIN { x = f(1, 2) + [3, 4][0]; if (x) print x, 1 else print 2 } $1 > 0 { y = {a: 1, b: 2} }" =
    parseText b!"BEGIN\n{\nx\n=\nf\n(\n1\n,\n2\n)\n+\n[\n3\n,\n4\n]\n[\n0\n];\nif\n(\nx\n)\nprint x\n, 1\nelse\nprint 2\n}\n$1\n>\n0\n{\ny\n=\n{\na\n:\n1\n,\nb\n:\n2\n}\n}\n" := by
  -- the third claim is `newline_insertion_tokens` applied to the first two
  rw [← and_assoc]
  refine (fun h => ⟨h, Nl.dumpParse_nlMore (by decide) h.1 h.2⟩) ?_
  decide +kernel

/-- F1: a newline before `(`, `[`, `-`, `++` does not end the statement — it is one of the
    newlines that may be inserted, and the parse (a call, an index, a subtraction, a postfix
    increment) is the same as without it -/
example :
    Nl.nlMoreB Nl.G.init (lexE b!"BEGIN { x = f (1); y = a [0]; z = 1 - 2; w ++ }")
      (lexE b!"BEGIN { x = f\n(1); y = a\n[0]; z = 1\n- 2; w\n++ }") = true ∧
    (parseText b!"BEGIN { x = f (1); y = a [0]; z = 1 - 2; w ++ }").isSome = true ∧
    parseText b!"BEGIN { x = f (1); y = a [0]; z = 1 - 2; w ++ }" =
      parseText b!"BEGIN { x = f\n(1); y = a\n[0]; z = 1\n- 2; w\n++ }" := by
  rw [← and_assoc]
  refine (fun h => ⟨h, Nl.dumpParse_nlMore (by decide) h.1 h.2⟩) ?_
  decide +kernel

/-- each exclusion is needed, 1: a newline directly after `print` (`print` alone, then the
    expression statement `1`) — not related by `nlMoreB`, and the parse changes -/
example :
    Nl.nlMoreB Nl.G.init (lexE b!"BEGIN { print 1 }") (lexE b!"BEGIN { print\n1 }") = false ∧
    (parseText b!"BEGIN { print 1 }").isSome = true ∧ (parseText b!"BEGIN { print\n1 }").isSome = true ∧
    parseText b!"BEGIN { print 1 }" ≠ parseText b!"BEGIN { print\n1 }" := by
  decide +kernel

/-- … 2: directly after `return` -/
example :
    Nl.nlMoreB Nl.G.init (lexE b!"function f() { return 1 }") (lexE b!"function f() { return\n1 }") = false ∧
    (parseText b!"function f() { return 1 }").isSome = true ∧
    (parseText b!"function f() { return\n1 }").isSome = true ∧
    parseText b!"function f() { return 1 }" ≠ parseText b!"function f() { return\n1 }" := by
  decide +kernel

/-- … 3: after a comma of a print list (the statement ends after the comma) — whereas after a
    comma inside brackets within the same print statement a newline is fine -/
example :
    Nl.nlMoreB Nl.G.init (lexE b!"BEGIN { print 1, 2 }") (lexE b!"BEGIN { print 1,\n2 }") = false ∧
    (parseText b!"BEGIN { print 1, 2 }").isSome = true ∧ (parseText b!"BEGIN { print 1,\n2 }").isSome = true ∧
    parseText b!"BEGIN { print 1, 2 }" ≠ parseText b!"BEGIN { print 1,\n2 }" ∧
    Nl.nlMoreB Nl.G.init (lexE b!"BEGIN { print f(1, 2), [3, 4] }")
      (lexE b!"BEGIN { print f(1,\n2), [3,\n4] }") = true ∧
    parseText b!"BEGIN { print f(1, 2), [3, 4] }" = parseText b!"BEGIN { print f(1,\n2), [3,\n4] }" := by
  decide +kernel

/-- … 4: directly before `;` (the newline ends the statement, the `;` is then not consumed and
    the next statement starts with it: a syntax error) -/
example :
    Nl.nlMoreB Nl.G.init (lexE b!"BEGIN { x = 1; y = 2 }") (lexE b!"BEGIN { x = 1\n; y = 2 }") = false ∧
    (parseText b!"BEGIN { x = 1; y = 2 }").isSome = true ∧
    parseText b!"BEGIN { x = 1\n; y = 2 }" = none := by
  decide +kernel

/-- the hypothesis of `newline_insertion_single` on a concrete program: in front of token 7
    (the `2` after the comma of `f(1, 2)`) a newline may be inserted; in front of token 3 (after
    `print`) not -/
example : Nl.insertableAt Nl.G.init (lexE b!"BEGIN { print f(1, 2) }") 7 = true ∧
    Nl.insertableAt Nl.G.init (lexE b!"BEGIN { print f(1, 2) }") 3 = false ∧
    (lexE b!"BEGIN { print f(1, 2) }").length = 11 := by
  decide +kernel

/-- … the program parses (hypothesis `hp`, fuel 300), `setNl … 7` is the token list of the text
    with the newline, and (as the theorem says) the parse is unchanged -/
example :
    (parseText b!"BEGIN { print f(1, 2) }").isSome = true ∧
    Nl.setNl (lexE b!"BEGIN { print f(1, 2) }") 7 = lexE b!"BEGIN { print f(1,\n2) }" ∧
    dumpParse (Nl.parseFlags expectedRuleTable 300 (Nl.setNl (lexE b!"BEGIN { print f(1, 2) }") 7)) =
      parseText b!"BEGIN { print f(1, 2) }" := by
  decide +kernel

open Nl in
/-- two lexer states are newline-insertion equivalent: some newline-insertion simulation up to
    positions relates them (the right state answers every request sequence with the same tokens
    up to positions, and newline flags raised only where allowed) -/
def NlTokEquiv (s₁ s₂ : LexState) : Prop :=
  ∃ Rσ : G → LexState → LexState → Prop, IsNlSimE lexerSrc lexerSrc Rσ ∧ Rσ G.init s₁ s₂

/-- C13 (newline insertion, program texts, the lifting): if the lexer state of `src₂` is
    newline-insertion equivalent to that of `src₁` (and `src₂` is not shorter, so that it gets
    at least as much fuel) and `src₁` parses, then `src₂` parses to the same AST up to positions.
    Like `layout_invariant`, this reduces the property to a statement about the two token
    streams; `leading_newlines_invariant` is the like statement for real texts (proved at the
    level of bytes), `nextNN_vtrivia_flag` the lexer fact for an arbitrary position. -/
theorem newline_layout_invariant (tbl : RuleTable) (hT : Nl.TableOK tbl = true) (src₁ src₂ : Bytes)
    (hlen : src₁.length ≤ src₂.length)
    (h : NlTokEquiv (LexState.init src₁) (LexState.init src₂)) (p : Program)
    (hp : parseProgramSrc tbl src₁ = .ok p) :
    ∃ p', parseProgramSrc tbl src₂ = .ok p' ∧ erase p = erase p' := by
  obtain ⟨Rσ, hS, hs⟩ := h
  obtain ⟨st, hr⟩ := parseProgramSrc_ok_iff.mp hp
  obtain ⟨p', st', h', he⟩ := Nl.parseProgram_runE hT (parserFuel src₁) (parserFuel src₂)
    (by unfold parserFuel; omega) hS hs (run_eq_runWith _ _ ▸ hr)
  exact ⟨p', parseProgramSrc_ok_iff.mpr ⟨st', run_eq_runWith _ _ ▸ h'⟩, he⟩

/-- "same unread text" is an instance (non-vacuity of `newline_layout_invariant`) -/
example : NlTokEquiv ⟨b!"x = 1", 0, 0⟩ ⟨b!"x = 1", 40, 7⟩ :=
  ⟨fun _ => Lexer.SameRest,
   { next := fun g s₁ s₂ h t nl s₁' h₁ => Nl.sameRest_nlSimE_next g s₁ s₂ h t nl s₁' h₁
     regex := fun _ s₁ s₂ h t s₁' h₁ => Nl.sameRest_nlSimE_regex s₁ s₂ h t s₁' h₁ }, rfl⟩

/-- all hypotheses of `newline_layout_invariant` on two different texts (`x` and `⏎x`; the
    relation is "same unread text, or this pair of initial states in the initial ghost state") -/
example : NlTokEquiv (LexState.init b!"x") (LexState.init b!"\nx") ∧ b!"x".length ≤ b!"\nx".length ∧
    Nl.TableOK expectedRuleTable = true ∧
    (match parseProgramSrc expectedRuleTable b!"x" with | .ok _ => true | _ => false) = true := by
  refine ⟨⟨_, Nl.sameRest_or_isNlSimE _ _ (fun t nl a' h₁ => ?_) (fun t a' h₁ => by cases h₁),
    .inr ⟨rfl, rfl, rfl⟩⟩, by decide, by decide, by decide +kernel⟩
  cases h₁
  exact ⟨_, true, _, rfl, rfl, .inr ⟨rfl, rfl, by decide⟩, rfl⟩

/-- C13 (the lexer fact behind "a newline, alone or after a comment, between two tokens"):
    vertical trivia `w` — blanks, tabs, CRs, `#` comments running up to a newline, newlines — in
    front of ANY unread text `x` changes what the parser's `advance` receives only in positions
    and in the newline flag, which is set iff it was set or `w` contains a newline: same token up
    to its position, same error message, successor states with the same unread text (hence
    token-equivalent for good, `tokEquiv_of_sameRest`). -/
theorem nextNN_vtrivia_flag (w x : Bytes) (hw : Lexer.VTrivia w x) (p ts p' ts' : Nat) (nl : Bool) :
    PM.AnsNextE Lexer.SameRest (Lexer.nextNN ((w ++ x).length + 1) ⟨w ++ x, p, ts⟩ nl)
      (Lexer.nextNN (x.length + 1) ⟨x, p', ts'⟩ (nl || w.contains 10)) :=
  Lexer.nextNN_vtrivia hw p ts p' ts' nl

example : Lexer.VTrivia b!" # note\n\t\n" b!"x" :=
  .blank _ _ _ rfl (.comment b!" note" _ _ (by decide) (.inr rfl)
    (.newline _ _ (.blank _ _ _ rfl (.newline _ _ (.nil _)))))

example : Lexer.nextNN 20 ⟨b!" # note\n\t\nx", 0, 0⟩ false = .ok (⟨.ident, 10, b!"x"⟩, true, ⟨[], 11, 10⟩) ∧
    Lexer.nextNN 20 ⟨b!"x", 0, 0⟩ false = .ok (⟨.ident, 0, b!"x"⟩, false, ⟨[], 1, 0⟩) := ⟨by rfl, by rfl⟩

/-- C13 (newline insertion, program texts, an instance): vertical trivia — newlines, blank lines,
    comment lines — in front of a program (whose first token is not `;`): if the program parses,
    the longer text parses to the same AST up to positions. -/
theorem leading_newlines_invariant (tbl : RuleTable) (hT : Nl.TableOK tbl = true) (w src : Bytes)
    (hw : Lexer.VTrivia w src)
    (hsemi : ∀ t nl s', Lexer.nextNN (src.length + 1) (LexState.init src) false = .ok (t, nl, s') →
      t.tag ≠ .semiColon)
    (p : Program) (hp : parseProgramSrc tbl src = .ok p) :
    ∃ p', parseProgramSrc tbl (w ++ src) = .ok p' ∧ erase p = erase p' := by
  by_cases hw0 : w = []
  · subst hw0; exact ⟨p, hp, rfl⟩
  -- the insertion point is the first `next` request, in the initial ghost state
  have I : Nl.Ins [] w src Nl.G.init (LexState.init src) :=
    ⟨.nil _, hw, hw0, nofun, rfl, fun _ _ t nl s' h _ => by
      simpa [Nl.Allowed, Nl.G.init] using hsemi t nl s' h⟩
  obtain ⟨st, hr⟩ := parseProgramSrc_ok_iff.mp hp
  obtain ⟨p', st', h', he⟩ := Nl.run_bytes (a := [])
    (parseProgram_sim tbl _ (parserFuel (w ++ src)) (by unfold parserFuel; simp; omega))
    (Nl.parseProgram_nl hT _) I
    (by show _ ∈ Nl.nextStates _ (.next _) _; rw [Nl.nextStates]; exact .head _) hr
  exact ⟨p', parseProgramSrc_ok_iff.mpr ⟨st', h'⟩, he⟩

example : Lexer.VTrivia b!"# header\n\n" b!"BEGIN { print 1 }" ∧
    (∀ t nl s', Lexer.nextNN (b!"BEGIN { print 1 }".length + 1) (LexState.init b!"BEGIN { print 1 }") false
      = .ok (t, nl, s') → t.tag ≠ .semiColon) := by
  refine ⟨.comment b!" header" _ _ (by decide) (.inr rfl) (.newline _ _ (.newline _ _ (.nil _))), ?_⟩
  intro t nl s' h
  have : Lexer.nextNN (b!"BEGIN { print 1 }".length + 1) (LexState.init b!"BEGIN { print 1 }") false
      = .ok (⟨.begin_, 0, []⟩, false, ⟨b!" { print 1 }", 5, 0⟩) := by rfl
  rw [this] at h; cases h; decide

/-- … and that program parses (hypothesis `hp`), as does the longer text, to the same AST up to
    positions -/
example : Nl.TableOK expectedRuleTable = true ∧
    (match parseProgramSrc expectedRuleTable b!"BEGIN { print 1 }",
        parseProgramSrc expectedRuleTable (b!"# header\n\n" ++ b!"BEGIN { print 1 }") with
      | .ok p, .ok p' => dumpProgram (erase p) == dumpProgram (erase p') | _, _ => false) = true := by
  refine ⟨by decide, by decide +kernel⟩

/-- C13 (newline insertion, program texts — what is proved at the level of bytes): for two
    texts without a `/` byte (then no regex literal can be requested and the token sequence of
    a text does not depend on the parser), whose flagged token sequences `ts₁`, `ts₂` — computed
    by the lexer alone (`lexFlags`: every token through `Lexer.nextNN`, positions erased) — are
    related by `NlMoreAt` (same tokens; `src₂` has the newlines of `src₁` and possibly more, none
    after `print`/`return`/a print-level comma or before `;`): if `src₁` parses, `src₂` parses to
    the same AST up to positions.  The hypothesis on the two texts is decidable (`nlMoreB`).

    (Partial: texts without `/`, and the hypothesis is a computed relation between the two token
    sequences.  The statement for ANY text with the insertion point given as a token boundary of
    the parser's own run is `newline_insertion_bytes` below; it rests on the prefix stability of
    the lexer, Lemmas/NewlineBytes.lean.) -/
theorem newline_insertion_texts_partial (tbl : RuleTable) (hT : Nl.TableOK tbl = true)
    (src₁ src₂ : Bytes) (h₁ : (47 : UInt8) ∉ src₁) (h₂ : (47 : UInt8) ∉ src₂)
    (hlen : src₁.length ≤ src₂.length) (ts₁ ts₂ : List (Token × Bool))
    (hl₁ : lexFlags (src₁.length + 2) (LexState.init src₁) = some ts₁)
    (hl₂ : lexFlags (src₂.length + 2) (LexState.init src₂) = some ts₂)
    (hm : Nl.NlMoreAt Nl.G.init ts₁ ts₂) (p : Program) (hp : parseProgramSrc tbl src₁ = .ok p) :
    ∃ p', parseProgramSrc tbl src₂ = .ok p' ∧ erase p = erase p' := by
  obtain ⟨st, hr⟩ := parseProgramSrc_ok_iff.mp hp
  obtain ⟨p', st', h', he⟩ := Nl.parseProgram_texts hT h₁ h₂ hl₁ hl₂ hm _ (parserFuel src₂)
    (by unfold parserFuel; omega) (run_eq_runWith _ _ ▸ hr)
  exact ⟨p', parseProgramSrc_ok_iff.mpr ⟨st', run_eq_runWith _ _ ▸ h'⟩, he⟩

/-- the hypotheses on two concrete texts (comment line, blank line, newlines inside a call and
    an array, before `else` and `{`), checked by evaluation -/
example :
    (47 : UInt8) ∉ b!"BEGIN { x = f(1, 2); if (x) print [x, 1] else { print 2 } }" ∧
    (47 : UInt8) ∉ b!"# program\n\nBEGIN\n{ x = f(1,\n 2); # call\n if (x)\n print [x,\n 1]\n else\n {\n print 2 } }\n" ∧
    (∃ ts₁ ts₂,
      lexFlags (b!"BEGIN { x = f(1, 2); if (x) print [x, 1] else { print 2 } }".length + 2)
        (LexState.init b!"BEGIN { x = f(1, 2); if (x) print [x, 1] else { print 2 } }") = some ts₁ ∧
      lexFlags (b!"# program\n\nBEGIN\n{ x = f(1,\n 2); # call\n if (x)\n print [x,\n 1]\n else\n {\n print 2 } }\n".length + 2)
        (LexState.init b!"# program\n\nBEGIN\n{ x = f(1,\n 2); # call\n if (x)\n print [x,\n 1]\n else\n {\n print 2 } }\n") = some ts₂ ∧
      Nl.nlMoreB Nl.G.init ts₁ ts₂ = true) := by
  refine ⟨by decide +kernel, by decide +kernel,
    lexE b!"BEGIN { x = f(1, 2); if (x) print [x, 1] else { print 2 } }",
    lexE b!"# program\n\nBEGIN\n{ x = f(1,\n 2); # call\n if (x)\n print [x,\n 1]\n else\n {\n print 2 } }\n", ?_⟩
  decide +kernel

/-- … `hlen` and `hp` for the same two texts, and (as the theorem says) the parses agree up to
    positions -/
example :
    b!"BEGIN { x = f(1, 2); if (x) print [x, 1] else { print 2 } }".length ≤
      b!"# program\n\nBEGIN\n{ x = f(1,\n 2); # call\n if (x)\n print [x,\n 1]\n else\n {\n print 2 } }\n".length ∧
    (match parseProgramSrc expectedRuleTable b!"BEGIN { x = f(1, 2); if (x) print [x, 1] else { print 2 } }",
        parseProgramSrc expectedRuleTable b!"# program\n\nBEGIN\n{ x = f(1,\n 2); # call\n if (x)\n print [x,\n 1]\n else\n {\n print 2 } }\n" with
      | .ok p, .ok p' => dumpProgram (erase p) == dumpProgram (erase p') | _, _ => false) = true := by
  decide +kernel

/-! #### the level of bytes, any program text -/

/-- C13 (newline insertion, bytes — any program text, also with regex literals and division):
    the text `a ++ v ++ b` parses; `v` is the trivia standing at an insertion point (possibly
    empty), `w` (non-empty, at least as long) is vertical trivia — blanks, `#` comments each
    running up to a newline, newlines — that replaces it.  The insertion point is a token boundary
    of the text *as the parser lexed it*: one of the `next` requests of the run on `a ++ v ++ b`
    found the lexer in a state `sb` with exactly `v ++ b` unread (`Nl.nextStates` records ghost and
    lexer state at every `next` request; which bytes are tokens after a `/` is decided by the
    run).  If `w` brings a newline where there was none, the token `t` then delivered must be
    allowed to carry one: `Nl.Allowed gb t` for the recorded ghost state `gb` — not after
    `print`/`return`, not after a print-level comma, `t` not `;` (see `insertable_spec`).
    Then `a ++ w ++ b` parses to the same AST up to positions.  Any `TableOK` rule table.

    The two side conditions on `w` are needed resp. an artefact: `w ≠ []` — replacing trivia by
    nothing can merge tokens (`x y` / `xy`, examples below); `v.length ≤ w.length` — the model's
    fuel grows with the length of the text (with less fuel the model might answer `oof`). -/
theorem newline_insertion_bytes (tbl : RuleTable) (hT : Nl.TableOK tbl = true) (a v w b : Bytes)
    (gb : Nl.G) (sb : LexState) (I : Nl.Ins v w b gb sb) (hlen : v.length ≤ w.length)
    (hreach : (gb, sb) ∈ Nl.nextStates Nl.G.init
      (Parser.parseProgram tbl (parserFuel (a ++ (v ++ b))) PS.init) (LexState.init (a ++ (v ++ b))))
    (p : Program) (hp : parseProgramSrc tbl (a ++ (v ++ b)) = .ok p) :
    ∃ p', parseProgramSrc tbl (a ++ (w ++ b)) = .ok p' ∧ erase p = erase p' := by
  obtain ⟨st, hr⟩ := parseProgramSrc_ok_iff.mp hp
  obtain ⟨p', st', h', he⟩ := Nl.run_bytes
    (parseProgram_sim tbl _ (parserFuel (a ++ (w ++ b)))
      (by unfold parserFuel; simp only [List.length_append]; omega))
    (Nl.parseProgram_nl hT _) I hreach hr
  exact ⟨p', parseProgramSrc_ok_iff.mpr ⟨st', h'⟩, he⟩

/-- … and the same for `ParseExpression` -/
theorem newline_insertion_bytes_expr (tbl : RuleTable) (hT : Nl.TableOK tbl = true) (a v w b : Bytes)
    (gb : Nl.G) (sb : LexState) (I : Nl.Ins v w b gb sb) (hlen : v.length ≤ w.length)
    (hreach : (gb, sb) ∈ Nl.nextStates Nl.G.init
      (Parser.parseExpression tbl (parserFuel (a ++ (v ++ b))) PS.init) (LexState.init (a ++ (v ++ b))))
    (e : Expr) (hp : parseExpressionSrc tbl (a ++ (v ++ b)) = .ok e) :
    ∃ e', parseExpressionSrc tbl (a ++ (w ++ b)) = .ok e' ∧ erase e = erase e' := by
  obtain ⟨st, hr⟩ := parseExpressionSrc_ok_iff.mp hp
  obtain ⟨e', st', h', he⟩ := Nl.run_bytes
    (parseExpression_sim tbl _ (parserFuel (a ++ (w ++ b)))
      (by unfold parserFuel; simp only [List.length_append]; omega))
    (Nl.parseExpression_nl hT _) I hreach hr
  exact ⟨e', parseExpressionSrc_ok_iff.mpr ⟨st', h'⟩, he⟩

/-- Non-vacuity of `newline_insertion_bytes_expr`: the expression `f(1, 2)`, the blank after the
    comma (not a print-level comma: ghost `⟨,, [false]⟩`, the 5th `next` request, lexer at offset
    4) replaced by a comment and a newline; all hypotheses hold, and the two parses agree. -/
example :
    ∃ gb sb, Nl.Ins b!" " b!" # two\n" b!"2)" gb sb ∧ b!" ".length ≤ b!" # two\n".length ∧
      (gb, sb) ∈ Nl.nextStates Nl.G.init
        (Parser.parseExpression expectedRuleTable
          (parserFuel (b!"f(1," ++ (b!" " ++ b!"2)"))) PS.init)
        (LexState.init (b!"f(1," ++ (b!" " ++ b!"2)"))) ∧
      (match parseExpressionSrc expectedRuleTable b!"f(1, 2)",
          parseExpressionSrc expectedRuleTable b!"f(1, # two\n2)" with
        | .ok e, .ok e' => dumpExpr (erase e) == dumpExpr (erase e') | _, _ => false) = true := by
  refine ⟨⟨.comma, [false]⟩, ⟨b!" 2)", 4, 3⟩, ?_, by decide, by decide +kernel⟩
  refine ⟨.blank _ _ _ rfl (.nil _), ?_, by decide, by decide, rfl, ?_⟩
  · exact .blank _ _ _ rfl (.comment b!" two" _ _ (by decide) (.inr rfl) (.newline _ _ (.nil _)))
  · intro _ _ t nl s' h _
    have : Lexer.nextNN (b!" 2)".length + 1) ⟨b!" 2)", 4, 3⟩ false
        = .ok (⟨.num, 5, b!"2"⟩, false, ⟨b!")", 6, 5⟩) := by rfl
    rw [this] at h
    cases h
    decide

def parseSrcE (src : Bytes) : Option Bytes :=
  match parseProgramSrc expectedRuleTable src with
  | .ok p => some (dumpProgram (erase p))
  | _ => none

/-- Non-vacuity on a text with a regex literal (containing a blank) and a division:
    `$1 ~ /a b/ { x = $1 / 2; print x }`, the blank after `;` replaced by a comment and a newline.
    The recorded state (the 11th `next` request: ghost `⟨;, [false]⟩`, lexer at offset 24) is found
    by evaluation; all hypotheses of `newline_insertion_bytes` hold; and the two parses agree. -/
example :
    ∃ gb sb, Nl.Ins b!" " b!" # then\n" b!"print x }" gb sb ∧
      (gb, sb) ∈ Nl.nextStates Nl.G.init
        (Parser.parseProgram expectedRuleTable
          (parserFuel (b!"$1 ~ /a b/ { x = $1 / 2;" ++ (b!" " ++ b!"print x }"))) PS.init)
        (LexState.init (b!"$1 ~ /a b/ { x = $1 / 2;" ++ (b!" " ++ b!"print x }"))) ∧
      (parseSrcE b!"$1 ~ /a b/ { x = $1 / 2; print x }").isSome = true ∧
      parseSrcE b!"$1 ~ /a b/ { x = $1 / 2; print x }" =
        parseSrcE b!"$1 ~ /a b/ { x = $1 / 2; # then\nprint x }" := by
  refine ⟨⟨.semiColon, [false]⟩, ⟨b!" print x }", 24, 23⟩, ?_, by decide +kernel⟩
  refine ⟨.blank _ _ _ rfl (.nil _), ?_, by decide, by decide, rfl, ?_⟩
  · exact .blank _ _ _ rfl (.comment b!" then" _ _ (by decide) (.inr rfl) (.newline _ _ (.nil _)))
  · intro _ _ t nl s' h _
    have : Lexer.nextNN (b!" print x }".length + 1) ⟨b!" print x }", 24, 23⟩ false
        = .ok (⟨.print, 25, []⟩, false, ⟨b!" x }", 30, 25⟩) := by rfl
    rw [this] at h
    cases h
    decide

/-- the insertion point follows the parser's lexing: inside the regex literal `/a b/` there is no
    token boundary (no `next` request finds the lexer at offset 7, in front of `b/`), and a newline
    there changes the program (the regex) — whereas around the division operator there are
    boundaries (offsets 19 and 21) -/
example :
    let sts := Nl.nextStates Nl.G.init
      (Parser.parseProgram expectedRuleTable (parserFuel b!"$1 ~ /a b/ { x = $1 / 2; print x }") PS.init)
      (LexState.init b!"$1 ~ /a b/ { x = $1 / 2; print x }")
    (sts.map fun x => x.2.pos) = [0, 2, 4, 10, 12, 14, 16, 19, 21, 23, 24, 30, 32, 34] ∧
    parseSrcE b!"$1 ~ /a\nb/ { x = $1 / 2; print x }" ≠ parseSrcE b!"$1 ~ /a b/ { x = $1 / 2; print x }" ∧
    parseSrcE b!"$1 ~ /a b/ { x = $1\n/\n2; print x }" = parseSrcE b!"$1 ~ /a b/ { x = $1 / 2; print x }" := by
  decide +kernel

/-- `w ≠ []` is needed: removing the blank between two tokens merges them -/
example : parseSrcE b!"BEGIN { x = a b }" = none ∧ (parseSrcE b!"BEGIN { x = ab }").isSome = true ∧
    parseSrcE b!"BEGIN { x = = 1 }" = none ∧ (parseSrcE b!"BEGIN { x == 1 }").isSome = true ∧
    parseSrcE b!"BEGIN { x = 1 .5 }" = none ∧ (parseSrcE b!"BEGIN { x = 1.5 }").isSome = true := by
  decide +kernel

/-! ### 9. `;` for a newline

Three token sequences are compared: `A ++ (t₀, newline) :: B` (the program, with a newline in
front of the token `t₀`), `A ++ t₀ :: B` (the newline removed) and `A ++ ; :: t₀ :: B` (a `;`
token in its place).  The theorem: if the first parses to `p`, then the second does (the newline
was not significant: it did not separate two statements, or the statement before it ended in
`}` — `block()` and `match` set `didEndStatement` themselves) or the third does.  In other
words a newline that matters can be replaced by `;`.  Assumptions: `t₀` is not `;`, `}`, `)`
or the end of the text (a newline there ends a statement but does not separate two), and the
rule table gives `;` precedence 0 (true for the table of the interpreter: `;` has no rule). -/

open Nl in
/-- C13 (`;` for a newline): if the token sequence with a newline in front of `t₀` parses to
    `p`, then so does the sequence without this newline, or the sequence with a `;` (unflagged;
    `t₀` with any flag `b`, e.g. none) in its place.  Any rule table in which `;` has
    precedence 0, any fuel. -/
theorem semicolon_for_newline (tbl : RuleTable) (hprec : (lookupRule tbl .semiColon).prec = 0)
    (n : Nat) (t₀ semi : Token) (H : Semi.Hyp t₀ semi) (A B : List (Token × Bool)) (b : Bool)
    (p : Program) (hp : parseFlags tbl n (A ++ (t₀, true) :: B) = .ok p) :
    parseFlags tbl n (A ++ (t₀, false) :: B) = .ok p ∨
    parseFlags tbl n (A ++ (semi, false) :: (t₀, b) :: B) = .ok p :=
  Semi.parseFlags_semi H hprec n A B b p hp

open Nl in
/-- C13 (`;` for a newline): a newline that is significant — DEFINED here as: without it the
    token sequence does not parse to the same AST `p` (e.g. is a syntax error) — may be replaced
    by `;`.  That a newline separating two statements the first of which does not end in `}` is
    significant in this sense (the property's wording) is not proved, only shown on the
    examples below. -/
theorem semicolon_for_significant_newline (tbl : RuleTable)
    (hprec : (lookupRule tbl .semiColon).prec = 0) (n : Nat) (t₀ semi : Token)
    (H : Semi.Hyp t₀ semi) (A B : List (Token × Bool)) (b : Bool) (p : Program)
    (hp : parseFlags tbl n (A ++ (t₀, true) :: B) = .ok p)
    (hsig : parseFlags tbl n (A ++ (t₀, false) :: B) ≠ .ok p) :
    parseFlags tbl n (A ++ (semi, false) :: (t₀, b) :: B) = .ok p :=
  (semicolon_for_newline tbl hprec n t₀ semi H A B b p hp).resolve_left hsig

/-- the hypotheses hold for the table of the interpreter and, e.g., an identifier after the
    newline -/
example : (lookupRule expectedRuleTable .semiColon).prec = 0 ∧
    Semi.Hyp ⟨.ident, 0, b!"y"⟩ ⟨.semiColon, 0, []⟩ :=
  ⟨by decide, ⟨rfl, by decide, by decide, by decide, by decide⟩⟩

/-- the three token sequences of the theorem for the newline in front of the token with index `i`
    of a text (`;` token with erased position, as `lexE` produces it) -/
def semiTriple (src : Bytes) (i : Nat) : List (Token × Bool) × List (Token × Bool) × List (Token × Bool) :=
  let ts := lexE src
  let t₀ := (ts.getD i (eofTok, false)).1
  (ts.take i ++ (t₀, true) :: ts.drop (i + 1),
   ts.take i ++ (t₀, false) :: ts.drop (i + 1),
   ts.take i ++ (⟨.semiColon, 0, []⟩, false) :: (t₀, false) :: ts.drop (i + 1))

def parseToks' (ts : List (Token × Bool)) : Option Bytes :=
  dumpParse (Nl.parseFlags expectedRuleTable 300 ts)

/-- a newline that separates two statements: the sequences of the theorem are the token
    sequences of the three texts; without the newline the program is a syntax error; with `;`
    it parses to the same AST -/
example :
    (semiTriple b!"BEGIN { x = 1\ny = 2 }" 5).1 = lexE b!"BEGIN { x = 1\ny = 2 }" ∧
    (semiTriple b!"BEGIN { x = 1\ny = 2 }" 5).2.1 = lexE b!"BEGIN { x = 1 y = 2 }" ∧
    (semiTriple b!"BEGIN { x = 1\ny = 2 }" 5).2.2 = lexE b!"BEGIN { x = 1;y = 2 }" ∧
    (parseText b!"BEGIN { x = 1\ny = 2 }").isSome = true ∧
    parseText b!"BEGIN { x = 1 y = 2 }" = none ∧
    parseText b!"BEGIN { x = 1;y = 2 }" = parseText b!"BEGIN { x = 1\ny = 2 }" := by
  decide +kernel

/-- "unless the first ends in `}`": after `if (x) { }` the newline is not significant (first
    alternative of the theorem), and replacing it by `;` gives a syntax error — the exclusion is
    needed -/
example :
    (parseText b!"BEGIN { if (x) { }\ny = 2 }").isSome = true ∧
    parseText b!"BEGIN { if (x) { } y = 2 }" = parseText b!"BEGIN { if (x) { }\ny = 2 }" ∧
    parseText b!"BEGIN { if (x) { };y = 2 }" = none := by
  decide +kernel

/-- F1 again: a newline in front of `-` does not separate two statements (first alternative),
    and a `;` there changes the program -/
example :
    (parseText b!"BEGIN { x = 1\n- 2 }").isSome = true ∧
    parseText b!"BEGIN { x = 1 - 2 }" = parseText b!"BEGIN { x = 1\n- 2 }" ∧
    (parseText b!"BEGIN { x = 1;- 2 }").isSome = true ∧
    parseText b!"BEGIN { x = 1;- 2 }" ≠ parseText b!"BEGIN { x = 1\n- 2 }" := by
  decide +kernel

/-- after `print` and after `return` a newline is significant, and `;` does the same -/
example :
    parseText b!"BEGIN { print;1 }" = parseText b!"BEGIN { print\n1 }" ∧
    parseText b!"BEGIN { print 1 }" ≠ parseText b!"BEGIN { print\n1 }" ∧
    (parseText b!"BEGIN { print\n1 }").isSome = true ∧
    parseText b!"function f() { return;1 }" = parseText b!"function f() { return\n1 }" ∧
    (parseText b!"function f() { return\n1 }").isSome = true := by
  decide +kernel

/-- C13 (`;` for a newline, bytes — any program text): the three texts `a ++ "\n" ++ b`,
    `a ++ " " ++ b`, `a ++ ";" ++ b` differ in one byte.  The newline byte stands at a token
    boundary of the first text as the parser lexed it (a `next` request of its run found the
    lexer with exactly `"\n" ++ b` unread: `Nl.nextStates`); `t₀` is the token after it, not `;`,
    `}`, `)` or the end of the text (`Semi.Hyp`); `;` has precedence 0 in the rule table.  If the
    first text parses to `p`, then the second does (the newline was not significant) or the
    third does — to the very same AST, positions included, since no offset changes. -/
theorem semicolon_for_newline_bytes (tbl : RuleTable) (hprec : (lookupRule tbl .semiColon).prec = 0)
    (a b : Bytes) (pb tsb : Nat) (gb : Nl.G) (t₀ : Token) (nl₀ : Bool) (s' : LexState)
    (ht₀ : Lexer.nextNN (b.length + 1) ⟨b, pb + 1, pb⟩ false = .ok (t₀, nl₀, s'))
    (H : Semi.Hyp t₀ ⟨.semiColon, pb, []⟩)
    (hreach : (gb, (⟨10 :: b, pb, tsb⟩ : LexState)) ∈ Nl.nextStates Nl.G.init
      (Parser.parseProgram tbl (parserFuel (a ++ 10 :: b)) PS.init) (LexState.init (a ++ 10 :: b)))
    (p : Program) (hp : parseProgramSrc tbl (a ++ 10 :: b) = .ok p) :
    parseProgramSrc tbl (a ++ 32 :: b) = .ok p ∨ parseProgramSrc tbl (a ++ 59 :: b) = .ok p := by
  -- the three texts have the same length, hence the same fuel
  have hf : ∀ c : UInt8, parserFuel (a ++ c :: b) = parserFuel (a ++ 10 :: b) := by
    intro c; simp [parserFuel]
  obtain ⟨st, hr⟩ := parseProgramSrc_ok_iff.mp hp
  rw [parseProgramSrc_ok_iff, parseProgramSrc_ok_iff, hf 32, hf 59]
  exact Semi.parseProgram_semi_bytes hprec a b pb tsb gb t₀ nl₀ s' ht₀ H _ hreach hr

def parseSrcD (src : Bytes) : Option Bytes := dumpParse (parseProgramSrc expectedRuleTable src)

/-- Non-vacuity on a text with a regex literal and a division:
    `$1 ~ /a b/ { x = $1 / 2⏎print x }`.  The hypotheses hold for the newline at offset 23 (the
    10th `next` request); without the newline the text is a syntax error; with `;` it parses to
    the same AST (positions included). -/
example :
    (∃ gb tsb t₀ nl₀ s',
      Lexer.nextNN (b!"print x }".length + 1) ⟨b!"print x }", 23 + 1, 23⟩ false = .ok (t₀, nl₀, s') ∧
      Semi.Hyp t₀ ⟨.semiColon, 23, []⟩ ∧
      (gb, (⟨10 :: b!"print x }", 23, tsb⟩ : LexState)) ∈ Nl.nextStates Nl.G.init
        (Parser.parseProgram expectedRuleTable
          (parserFuel (b!"$1 ~ /a b/ { x = $1 / 2" ++ 10 :: b!"print x }")) PS.init)
        (LexState.init (b!"$1 ~ /a b/ { x = $1 / 2" ++ 10 :: b!"print x }"))) ∧
    (lookupRule expectedRuleTable .semiColon).prec = 0 ∧
    (parseSrcD b!"$1 ~ /a b/ { x = $1 / 2\nprint x }").isSome = true ∧
    parseSrcD b!"$1 ~ /a b/ { x = $1 / 2 print x }" = none ∧
    parseSrcD b!"$1 ~ /a b/ { x = $1 / 2;print x }" = parseSrcD b!"$1 ~ /a b/ { x = $1 / 2\nprint x }" := by
  refine ⟨⟨⟨.num, [false]⟩, 22, ⟨.print, 24, []⟩, false, ⟨b!" x }", 29, 24⟩, by rfl,
    ⟨rfl, by decide, by decide, by decide, by decide⟩, by decide +kernel⟩,
    by decide, by decide +kernel⟩

/-! ### 10. the parser's fuel always suffices

The model's parser functions take a fuel argument that bounds the DEPTH of the call stack (loop
iterations are recursive calls, so they count too); out of fuel is the distinct outcome `.oof`,
which `ResEquiv` (section 7) does not compare.  This section shows that `.oof` never happens
with the fuel the model supplies, and removes the escape clause from the theorems of section 7.
Proof (Lemmas/ParserFuel.lean): the measure "unread bytes + 1 if the current token is not EOF"
never grows, every consumed non-EOF token shrinks it, and any three nested calls consume a
token; so fuel `3 * measure + c_f` suffices for each of the 14 functions `f`. -/

/-- C13 (lexer level, progress): what the parser's `advance` receives (`Lexer.nextNN`: `Next()`
    repeated over newline tokens) never lengthens the unread text, and a token other than EOF
    costs at least one byte.  Says nothing about which bytes. -/
theorem nextNN_consumes (f : Nat) (s : LexState) (nl₀ : Bool) (t : Token) (nl : Bool) (s' : LexState)
    (h : Lexer.nextNN f s nl₀ = .ok (t, nl, s')) :
    s'.rest.length ≤ s.rest.length ∧ (t.tag ≠ .eof → s'.rest.length < s.rest.length) :=
  ParserFuel.nextNN_progress f s nl₀ t nl s' h

example : Lexer.nextNN 20 ⟨b!" # note\n\t\nx y", 0, 0⟩ false
    = .ok (⟨.ident, 10, b!"x"⟩, true, ⟨b!" y", 11, 10⟩) := by rfl

/-- C13 (lexer level): `Lexer.Regex()` consumes at least the closing `/`, and its token has tag
    `regex` (never EOF). -/
theorem regex_consumes (s : LexState) (t : Token) (s' : LexState) (h : Lexer.regex s = .ok (t, s')) :
    s'.rest.length < s.rest.length ∧ t.tag = .regex :=
  ParserFuel.regex_progress s t s' h

example : Lexer.regex ⟨b!"/ x", 1, 0⟩ = .ok (⟨.regex, 1, []⟩, ⟨b!" x", 2, 1⟩) := by rfl

/-- C13 (lexer level): newline skipping has its own fuel, `unread bytes + 1` in `PM.run`; that
    (or any larger) amount suffices: an error it reports is never the model's own out-of-fuel
    error `⟨0, "fuel"⟩` of `nextNN` — it does not even carry that message (every real lexer
    error has another one). -/
theorem nextNN_fuel_suffices (f : Nat) (s : LexState) (nl : Bool) (hf : s.rest.length < f)
    (e : SynErr) (h : Lexer.nextNN f s nl = .error e) : e.msg ≠ "fuel" :=
  ParserFuel.nextNN_error_msg f s nl e hf h

/-- with too little fuel the artefact does show; with `length + 1` it does not; and a real error -/
example : Lexer.nextNN 3 ⟨b!"\n\n\nx", 0, 0⟩ false = .error ⟨0, "fuel"⟩ ∧
    Lexer.nextNN 5 ⟨b!"\n\n\nx", 0, 0⟩ false = .ok (⟨.ident, 3, b!"x"⟩, true, ⟨[], 4, 3⟩) ∧
    Lexer.nextNN 5 ⟨b!"\n\n\n^", 0, 0⟩ false = .error ⟨3, "unexpected character"⟩ :=
  ⟨by rfl, by rfl, by rfl⟩

/-- The requirement on the rule table: the EOF token has neither a prefix nor an infix rule
    (`ParserFuel.EofRule`, decidable).  It holds for the table of src/parser.go. -/
theorem expectedRuleTable_eofRule : ParserFuel.EofRule expectedRuleTable :=
  ParserFuel.expectedRuleTable_eofRule

/-- C13 (the parser's fuel suffices, any fuel, any lexer state): with a rule table without rules
    for EOF, the program parser and the expression parser, started in ANY lexer state `s` with
    fuel `n ≥ 3 * (unread bytes of s) + 3`, do not run out of fuel: the outcome is a parse or a
    syntax error.  Says nothing about which of the two. -/
theorem parser_fuel_suffices (tbl : RuleTable) (hT : ParserFuel.EofRule tbl) (n : Nat) (s : LexState)
    (hn : 3 * s.rest.length + 3 ≤ n) :
    (Parser.parseProgram tbl n PS.init).run s ≠ .oof ∧
    (Parser.parseExpression tbl n PS.init).run s ≠ .oof :=
  ⟨(ParserFuel.parseProgram_tot hT n s hn).run_ne_oof,
   (ParserFuel.parseExpression_tot hT n s (by omega)).run_ne_oof⟩

example : ParserFuel.EofRule expectedRuleTable ∧
    3 * (LexState.init b!"{ print [1, [2]] }").rest.length + 3 ≤ 57 := by decide

theorem stripPS_ne_oof {α : Type} {r : ParseRes (α × PS)} (h : r ≠ .oof) : stripPS r ≠ .oof := by
  cases r with
  | ok a => intro e; cases e
  | syntaxErr e => intro e; cases e
  | oof => exact absurd rfl h

example : (ParseRes.syntaxErr ⟨3, "x"⟩ : ParseRes (Expr × PS)) ≠ .oof := fun e => (by cases e)

/-- C13 (the parser's fuel always suffices): for every rule table without rules for EOF and
    EVERY program text, neither top-level parse function of the model (`parseProgramSrc`, used
    for programs; `parseExpressionSrc`, used for `-r` selectors) is ever out of fuel:
    `parserFuel src = 8 * length + 64` is enough (`3 * length + 3` would do). -/
theorem parse_never_oof (tbl : RuleTable) (hT : ParserFuel.EofRule tbl) (src : Bytes) :
    parseProgramSrc tbl src ≠ .oof ∧ parseExpressionSrc tbl src ≠ .oof := by
  rw [parseProgramSrc_eq, parseExpressionSrc_eq]
  have h := parser_fuel_suffices tbl hT (parserFuel src) (LexState.init src)
    (by show 3 * src.length + 3 ≤ 8 * src.length + 64; omega)
  exact ⟨stripPS_ne_oof h.1, stripPS_ne_oof h.2⟩

example : ParserFuel.EofRule expectedRuleTable := by decide

/-- … in particular with the rule table of src/parser.go: every text either parses or is a
    syntax error -/
theorem parse_total (src : Bytes) :
    ((∃ p, parseProgramSrc expectedRuleTable src = .ok p) ∨
      ∃ e, parseProgramSrc expectedRuleTable src = .syntaxErr e) ∧
    ((∃ x, parseExpressionSrc expectedRuleTable src = .ok x) ∨
      ∃ e, parseExpressionSrc expectedRuleTable src = .syntaxErr e) := by
  obtain ⟨h1, h2⟩ := parse_never_oof expectedRuleTable expectedRuleTable_eofRule src
  constructor
  · cases h : parseProgramSrc expectedRuleTable src with
    | ok p => exact .inl ⟨p, rfl⟩
    | syntaxErr e => exact .inr ⟨e, rfl⟩
    | oof => exact absurd h h1
  · cases h : parseExpressionSrc expectedRuleTable src with
    | ok p => exact .inl ⟨p, rfl⟩
    | syntaxErr e => exact .inr ⟨e, rfl⟩
    | oof => exact absurd h h2

theorem stripPS_syntaxErr {α : Type} {r : ParseRes (α × PS)} {e : SynErr}
    (h : stripPS r = .syntaxErr e) : r = .syntaxErr e := by
  cases r with
  | ok a => cases h
  | syntaxErr e' => simpa [stripPS] using h
  | oof => cases h

example : stripPS (.syntaxErr ⟨3, "x"⟩ : ParseRes (Expr × PS)) = .syntaxErr ⟨3, "x"⟩ := rfl

/-- C13 (the other fuel artefact never shows either): `PM.run` reports an exhausted
    newline-skipping fuel (`Lexer.nextNN`) as the syntax error `⟨0, "fuel"⟩`.  With any fuel of
    at least `3 * (unread bytes) + 3`, from any lexer state, a syntax error reported by the
    program parser or by the expression parser never has the message `"fuel"`: every reported
    error is a real one (a lexer error or a parser error of src/parser.go, whose messages are
    different).  Says nothing else about which error is reported.  Rule table without EOF rules. -/
theorem parser_errors_real (tbl : RuleTable) (hT : ParserFuel.EofRule tbl) (n : Nat) (s : LexState)
    (hn : 3 * s.rest.length + 3 ≤ n) (e : SynErr) :
    ((Parser.parseProgram tbl n PS.init).run s = .syntaxErr e → e.msg ≠ "fuel") ∧
    ((Parser.parseExpression tbl n PS.init).run s = .syntaxErr e → e.msg ≠ "fuel") :=
  ⟨fun h => (ParserFuel.parseProgram_tot hT n s hn).run_err h,
   fun h => (ParserFuel.parseExpression_tot hT n s (by omega)).run_err h⟩

/-- an instance of the hypotheses, with a run that does report a syntax error -/
example : ParserFuel.EofRule expectedRuleTable ∧ 3 * (LexState.init b!"{ print").rest.length + 3 ≤ 30 ∧
    (match (Parser.parseProgram expectedRuleTable 30 PS.init).run (LexState.init b!"{ print") with
      | .syntaxErr e => e.msg != "fuel" | _ => false) = true :=
  ⟨by decide, by decide, by decide +kernel⟩

/-- … in particular for the model's top-level parse functions, on every text -/
theorem parse_errors_real (tbl : RuleTable) (hT : ParserFuel.EofRule tbl) (src : Bytes) (e : SynErr) :
    (parseProgramSrc tbl src = .syntaxErr e → e.msg ≠ "fuel") ∧
    (parseExpressionSrc tbl src = .syntaxErr e → e.msg ≠ "fuel") := by
  rw [parseProgramSrc_eq, parseExpressionSrc_eq]
  have h := parser_errors_real tbl hT (parserFuel src) (LexState.init src)
    (by show 3 * src.length + 3 ≤ 8 * src.length + 64; omega) e
  exact ⟨fun h1 => h.1 (stripPS_syntaxErr h1), fun h2 => h.2 (stripPS_syntaxErr h2)⟩

example : ParserFuel.EofRule expectedRuleTable := by decide

/-- the table hypothesis cannot be dropped: with a (hypothetical) table that gives EOF a prefix
    and an infix rule the parser loops at the end of the text — `advance` at EOF yields EOF
    again — and the model is out of fuel (checked here with the model's fuel, 64, on the empty
    text; the loop consumes nothing, so more fuel would not help, but only this instance is
    checked).  The Go parser with such a table would presumably not terminate. -/
example : (match parseExpressionSrc [(.eof, ⟨1, some .literal, some .binary⟩)] [] with
    | .oof => true | _ => false) = true := by decide +kernel

/-- the slope 3 is exact: `k` opening brackets need fuel `3 * k` (the call chain
    `expressionWithPrec → prefixFn → exprList` is repeated once per bracket) -/
example : (match (Parser.parseExpression expectedRuleTable 11 PS.init).run (LexState.init b!"[[[[") with
      | .oof => true | _ => false) = true ∧
    (match (Parser.parseExpression expectedRuleTable 12 PS.init).run (LexState.init b!"[[[[") with
      | .syntaxErr _ => true | _ => false) = true := by
  refine ⟨by decide +kernel, by decide +kernel⟩

/-! #### section 7 without the out-of-fuel escape -/

/-- outcomes equal up to positions, WITHOUT an out-of-fuel clause: both are parses with the same
    AST after `erase`, or both are syntax errors with the same message; anything else — in
    particular an `.oof` on either side — is not related. -/
def ResEquivT {α : Type} [Erase α] : ParseRes α → ParseRes α → Prop
  | .ok a, .ok b => erase a = erase b
  | .syntaxErr e₁, .syntaxErr e₂ => e₁.msg = e₂.msg
  | _, _ => False

theorem resEquivT_of {α : Type} [Erase α] {a b : ParseRes α} (h : ResEquiv a b)
    (ha : a ≠ .oof) (hb : b ≠ .oof) : ResEquivT a b := by
  cases a <;> cases b <;> first
    | exact h
    | exact absurd rfl ha
    | exact absurd rfl hb

/-- the hypotheses on an instance (two errors with the same message at different positions);
    and the difference between the two relations on an out-of-fuel outcome -/
example : ResEquiv (.syntaxErr ⟨0, "x"⟩ : ParseRes Expr) (.syntaxErr ⟨7, "x"⟩) ∧
    (.syntaxErr ⟨0, "x"⟩ : ParseRes Expr) ≠ .oof ∧ (.syntaxErr ⟨7, "x"⟩ : ParseRes Expr) ≠ .oof :=
  ⟨rfl, fun e => (by cases e), fun e => (by cases e)⟩

example : ResEquiv (.oof : ParseRes Expr) (.syntaxErr ⟨0, "x"⟩) ∧
    ¬ ResEquivT (.oof : ParseRes Expr) (.syntaxErr ⟨0, "x"⟩) := ⟨trivial, fun h => h⟩

/-- what `ResEquivT a b` says, spelled out: if `a` is a parse then `b` is a parse of the same AST
    up to positions, if `a` is a syntax error then `b` is one with the same message, the same
    from `b` to `a`, and neither is out of fuel. -/
theorem resEquivT_iff {α : Type} [Erase α] (a b : ParseRes α) :
    ResEquivT a b ↔
      ((∀ p, a = .ok p → ∃ p', b = .ok p' ∧ erase p = erase p') ∧
       (∀ e, a = .syntaxErr e → ∃ e', b = .syntaxErr e' ∧ e.msg = e'.msg) ∧
       (∀ p', b = .ok p' → ∃ p, a = .ok p ∧ erase p = erase p') ∧
       (∀ e', b = .syntaxErr e' → ∃ e, a = .syntaxErr e ∧ e.msg = e'.msg) ∧
       a ≠ .oof ∧ b ≠ .oof) := by
  constructor
  · intro h
    cases a with
    | ok p =>
      cases b with
      | ok p' =>
        exact ⟨fun _ hx => (by cases hx; exact ⟨_, rfl, h⟩), fun _ hx => (by cases hx),
          fun _ hx => (by cases hx; exact ⟨_, rfl, h⟩), fun _ hx => (by cases hx),
          fun hx => (by cases hx), fun hx => (by cases hx)⟩
      | syntaxErr e => exact absurd h id
      | oof => exact absurd h id
    | syntaxErr e =>
      cases b with
      | ok p' => exact absurd h id
      | syntaxErr e' =>
        exact ⟨fun _ hx => (by cases hx), fun _ hx => (by cases hx; exact ⟨_, rfl, h⟩),
          fun _ hx => (by cases hx), fun _ hx => (by cases hx; exact ⟨_, rfl, h⟩),
          fun hx => (by cases hx), fun hx => (by cases hx)⟩
      | oof => exact absurd h id
    | oof => cases b <;> exact absurd h id
  · rintro ⟨h1, h2, h3, h4, h5, h6⟩
    cases a with
    | ok p => obtain ⟨p', rfl, he⟩ := h1 p rfl; exact he
    | syntaxErr e => obtain ⟨e', rfl, he⟩ := h2 e rfl; exact he
    | oof => exact absurd rfl h5

/-- C13 (`parse_tokEquiv` without the escape): from two token-equivalent lexer states, each run
    with fuel at least `3 * (its unread bytes) + 3`, the program parser gives the same AST up to
    positions or fails with the same message on both sides — and likewise the expression
    parser.  In particular one side parses iff the other does.  (Rule table without EOF rules.) -/
theorem parse_tokEquiv_total (tbl : RuleTable) (hT : ParserFuel.EofRule tbl) (n₁ n₂ : Nat)
    (s₁ s₂ : LexState) (h : TokEquiv s₁ s₂)
    (h₁ : 3 * s₁.rest.length + 3 ≤ n₁) (h₂ : 3 * s₂.rest.length + 3 ≤ n₂) :
    ResEquivT (stripPS ((Parser.parseProgram tbl n₁ PS.init).run s₁))
      (stripPS ((Parser.parseProgram tbl n₂ PS.init).run s₂)) ∧
    ResEquivT (stripPS ((Parser.parseExpression tbl n₁ PS.init).run s₁))
      (stripPS ((Parser.parseExpression tbl n₂ PS.init).run s₂)) := by
  obtain ⟨e1, e2⟩ := parse_tokEquiv tbl n₁ n₂ s₁ s₂ h
  obtain ⟨a1, a2⟩ := parser_fuel_suffices tbl hT n₁ s₁ h₁
  obtain ⟨b1, b2⟩ := parser_fuel_suffices tbl hT n₂ s₂ h₂
  exact ⟨resEquivT_of e1 (stripPS_ne_oof a1) (stripPS_ne_oof b1),
    resEquivT_of e2 (stripPS_ne_oof a2) (stripPS_ne_oof b2)⟩

example : ParserFuel.EofRule expectedRuleTable ∧ TokEquiv ⟨b!"x = 1", 0, 0⟩ ⟨b!"x = 1", 40, 7⟩ ∧
    3 * (⟨b!"x = 1", 0, 0⟩ : LexState).rest.length + 3 ≤ 18 ∧
    3 * (⟨b!"x = 1", 40, 7⟩ : LexState).rest.length + 3 ≤ 1000 :=
  ⟨by decide, tokEquiv_of_sameRest _ _ rfl, by decide, by decide⟩

/-- C13 (exact fuel monotonicity, any rule table, any lexer state, any parser state): a run of
    the program parser or of the expression parser that is not out of fuel gives exactly the
    same result — same AST with the same positions, same error with the same position, same
    final parser state — with any larger fuel (Lemmas/ParserMono.lean: with less fuel a parser
    function is the same program cut off by `.oof` at some leaves). -/
theorem parser_fuel_monotone (tbl : RuleTable) (n₁ n₂ : Nat) (h : n₁ ≤ n₂) (ps : PS) (s : LexState) :
    ((Parser.parseProgram tbl n₁ ps).run s ≠ .oof →
      (Parser.parseProgram tbl n₁ ps).run s = (Parser.parseProgram tbl n₂ ps).run s) ∧
    ((Parser.parseExpression tbl n₁ ps).run s ≠ .oof →
      (Parser.parseExpression tbl n₁ ps).run s = (Parser.parseExpression tbl n₂ ps).run s) :=
  ⟨ParserMono.parseProgram_run_mono tbl n₁ n₂ h ps s,
   ParserMono.parseExpression_run_mono tbl n₁ n₂ h ps s⟩

/-- an instance where the premise holds (fuel 12 is enough for `x = 1`) and one where it does
    not (fuel 3 is not) -/
example : (match (Parser.parseProgram expectedRuleTable 12 PS.init).run (LexState.init b!"x = 1") with
      | .ok _ => true | _ => false) = true ∧
    (match (Parser.parseProgram expectedRuleTable 3 PS.init).run (LexState.init b!"x = 1") with
      | .oof => true | _ => false) = true := ⟨by decide +kernel, by decide +kernel⟩

/-- C13 (the fuel is irrelevant above the bound): from any lexer state `s`, any two amounts of
    fuel of at least `3 * (unread bytes) + 3` give EQUAL results (AST with positions, or error
    with position, and final parser state), for the program parser and the expression parser;
    none of them is out of fuel (`parser_fuel_suffices`).  Rule table without EOF rules. -/
theorem parser_fuel_irrelevant (tbl : RuleTable) (hT : ParserFuel.EofRule tbl) (s : LexState)
    (n₁ n₂ : Nat) (h₁ : 3 * s.rest.length + 3 ≤ n₁) (h₂ : 3 * s.rest.length + 3 ≤ n₂) :
    (Parser.parseProgram tbl n₁ PS.init).run s = (Parser.parseProgram tbl n₂ PS.init).run s ∧
    (Parser.parseExpression tbl n₁ PS.init).run s = (Parser.parseExpression tbl n₂ PS.init).run s := by
  obtain ⟨a1, a2⟩ := parser_fuel_suffices tbl hT n₁ s h₁
  obtain ⟨b1, b2⟩ := parser_fuel_suffices tbl hT n₂ s h₂
  rcases Nat.le_total n₁ n₂ with h | h
  · obtain ⟨m1, m2⟩ := parser_fuel_monotone tbl n₁ n₂ h PS.init s
    exact ⟨m1 a1, m2 a2⟩
  · obtain ⟨m1, m2⟩ := parser_fuel_monotone tbl n₂ n₁ h PS.init s
    exact ⟨(m1 b1).symm, (m2 b2).symm⟩

example : ParserFuel.EofRule expectedRuleTable ∧ 3 * (LexState.init b!"x = 1").rest.length + 3 ≤ 18 ∧
    3 * (LexState.init b!"x = 1").rest.length + 3 ≤ 104 := by decide

/-- C13 (the model's answer does not depend on its choice of fuel): every fuel `n` of at least
    `3 * length + 3` gives exactly the outcome of `parseProgramSrc` / `parseExpressionSrc`
    (which use `8 * length + 64`): the fuel is an artefact of the model, not part of what is
    modelled.  Rule table without EOF rules. -/
theorem parse_fuel_stable (tbl : RuleTable) (hT : ParserFuel.EofRule tbl) (src : Bytes) (n : Nat)
    (hn : 3 * src.length + 3 ≤ n) :
    stripPS ((Parser.parseProgram tbl n PS.init).run (LexState.init src)) = parseProgramSrc tbl src ∧
    stripPS ((Parser.parseExpression tbl n PS.init).run (LexState.init src))
      = parseExpressionSrc tbl src := by
  rw [parseProgramSrc_eq, parseExpressionSrc_eq]
  obtain ⟨h1, h2⟩ := parser_fuel_irrelevant tbl hT (LexState.init src) n (parserFuel src) hn
    (by show 3 * src.length + 3 ≤ 8 * src.length + 64; omega)
  rw [h1, h2]; exact ⟨rfl, rfl⟩

example : ParserFuel.EofRule expectedRuleTable ∧ 3 * b!"{ print 1 }".length + 3 ≤ 36 := by decide

/-- C13 (`newline_layout_invariant` without its length hypothesis): if the lexer state of
    `src₂` is newline-insertion equivalent to that of `src₁` and `src₁` parses, then `src₂`
    parses to the same AST up to positions — whether or not `src₂` is the longer text (the
    hypothesis `src₁.length ≤ src₂.length` of `newline_layout_invariant` only served to give the
    second run at least as much fuel).  Rule table without EOF rules. -/
theorem newline_layout_invariant_total (tbl : RuleTable) (hT : Nl.TableOK tbl = true)
    (hE : ParserFuel.EofRule tbl) (src₁ src₂ : Bytes)
    (h : NlTokEquiv (LexState.init src₁) (LexState.init src₂)) (p : Program)
    (hp : parseProgramSrc tbl src₁ = .ok p) :
    ∃ p', parseProgramSrc tbl src₂ = .ok p' ∧ erase p = erase p' := by
  obtain ⟨Rσ, hS, hs⟩ := h
  obtain ⟨st, hr⟩ := parseProgramSrc_ok_iff.mp hp
  -- run `src₂` with the larger of the two amounts of fuel
  obtain ⟨p', st', h', he⟩ := Nl.parseProgram_runE hT (parserFuel src₁)
    (max (parserFuel src₁) (parserFuel src₂)) (Nat.le_max_left _ _) hS hs (run_eq_runWith _ _ ▸ hr)
  exact ⟨p', parseProgramSrc_of_run hE (Nat.le_max_right _ _) (run_eq_runWith _ _ ▸ h'), he⟩

/-- all hypotheses of `newline_layout_invariant_total` with `src₂` the SHORTER text (`  x` and
    `⏎x`; the relation is "same unread text, or this pair of initial states in the initial ghost
    state"), where `newline_layout_invariant` does not apply -/
example : NlTokEquiv (LexState.init b!"  x") (LexState.init b!"\nx") ∧
    ¬ (b!"  x".length ≤ b!"\nx".length) ∧
    Nl.TableOK expectedRuleTable = true ∧ ParserFuel.EofRule expectedRuleTable ∧
    (match parseProgramSrc expectedRuleTable b!"  x" with | .ok _ => true | _ => false) = true := by
  refine ⟨⟨_, Nl.sameRest_or_isNlSimE _ _ (fun t nl a' h₁ => ?_) (fun t a' h₁ => by cases h₁),
    .inr ⟨rfl, rfl, rfl⟩⟩, by decide, by decide, by decide, by decide +kernel⟩
  cases h₁
  exact ⟨_, true, _, rfl, rfl, .inr ⟨rfl, rfl, by decide⟩, rfl⟩

/-- C13 (`newline_insertion_texts_partial` without its length hypothesis): for two texts without
    a `/` byte whose flagged token sequences (computed by the lexer alone) are related by
    `NlMoreAt`: if `src₁` parses, `src₂` parses to the same AST up to positions, whichever of the
    two is longer.  (Still partial in the same sense as `newline_insertion_texts_partial`: texts
    without `/`, and the hypothesis is a computed relation between the token sequences.)
    Rule table without EOF rules. -/
theorem newline_insertion_texts_total_partial (tbl : RuleTable) (hT : Nl.TableOK tbl = true)
    (hE : ParserFuel.EofRule tbl)
    (src₁ src₂ : Bytes) (h₁ : (47 : UInt8) ∉ src₁) (h₂ : (47 : UInt8) ∉ src₂)
    (ts₁ ts₂ : List (Token × Bool))
    (hl₁ : lexFlags (src₁.length + 2) (LexState.init src₁) = some ts₁)
    (hl₂ : lexFlags (src₂.length + 2) (LexState.init src₂) = some ts₂)
    (hm : Nl.NlMoreAt Nl.G.init ts₁ ts₂) (p : Program) (hp : parseProgramSrc tbl src₁ = .ok p) :
    ∃ p', parseProgramSrc tbl src₂ = .ok p' ∧ erase p = erase p' := by
  obtain ⟨st, hr⟩ := parseProgramSrc_ok_iff.mp hp
  obtain ⟨p', st', h', he⟩ := Nl.parseProgram_texts hT h₁ h₂ hl₁ hl₂ hm (parserFuel src₁)
    (max (parserFuel src₁) (parserFuel src₂)) (Nat.le_max_left _ _) (run_eq_runWith _ _ ▸ hr)
  exact ⟨p', parseProgramSrc_of_run hE (Nat.le_max_right _ _) (run_eq_runWith _ _ ▸ h'), he⟩

/-- the hypotheses on two concrete texts, the second one SHORTER (blanks removed, one newline
    added inside the call), checked by evaluation; and, as the theorem says, both parse, to the
    same AST up to positions -/
example :
    (47 : UInt8) ∉ b!"BEGIN   {   x = f(1,   2) }" ∧ (47 : UInt8) ∉ b!"BEGIN{x=f(1,\n2)}" ∧
    ¬ (b!"BEGIN   {   x = f(1,   2) }".length ≤ b!"BEGIN{x=f(1,\n2)}".length) ∧
    (∃ ts₁ ts₂,
      lexFlags (b!"BEGIN   {   x = f(1,   2) }".length + 2)
        (LexState.init b!"BEGIN   {   x = f(1,   2) }") = some ts₁ ∧
      lexFlags (b!"BEGIN{x=f(1,\n2)}".length + 2) (LexState.init b!"BEGIN{x=f(1,\n2)}") = some ts₂ ∧
      Nl.nlMoreB Nl.G.init ts₁ ts₂ = true) ∧
    (match parseProgramSrc expectedRuleTable b!"BEGIN   {   x = f(1,   2) }",
        parseProgramSrc expectedRuleTable b!"BEGIN{x=f(1,\n2)}" with
      | .ok p, .ok p' => dumpProgram (erase p) == dumpProgram (erase p') | _, _ => false) = true := by
  refine ⟨by decide +kernel, by decide +kernel, by decide,
    ⟨lexE b!"BEGIN   {   x = f(1,   2) }", lexE b!"BEGIN{x=f(1,\n2)}", ?_⟩, by decide +kernel⟩
  decide +kernel

/-- C13 (`layout_invariant` without the escape): two program texts whose lexer states are
    token-equivalent have the same outcome up to positions — both parse, to the same AST after
    `erase`, or both are syntax errors with the same message; for the program parser and for
    the expression parser, with any rule table without EOF rules.  `resEquivT_iff` spells the
    relation out; `layout_invariant_parses` is the reading "src₂ parses whenever src₁ does".
    Only the parse is covered, not evaluation. -/
theorem layout_invariant_total (tbl : RuleTable) (hT : ParserFuel.EofRule tbl) (src₁ src₂ : Bytes)
    (h : TokEquiv (LexState.init src₁) (LexState.init src₂)) :
    ResEquivT (parseProgramSrc tbl src₁) (parseProgramSrc tbl src₂) ∧
    ResEquivT (parseExpressionSrc tbl src₁) (parseExpressionSrc tbl src₂) := by
  obtain ⟨e1, e2⟩ := layout_invariant tbl src₁ src₂ h
  obtain ⟨a1, a2⟩ := parse_never_oof tbl hT src₁
  obtain ⟨b1, b2⟩ := parse_never_oof tbl hT src₂
  exact ⟨resEquivT_of e1 a1 b1, resEquivT_of e2 a2 b2⟩

example : ParserFuel.EofRule expectedRuleTable ∧
    TokEquiv (LexState.init b!" x") (LexState.init b!"x") :=
  ⟨expectedRuleTable_eofRule, tokEquiv_blank_x⟩

/-- C13 (`layout_invariant`, read in one direction): if `src₁`
    parses to `p` then the token-equivalent `src₂` parses, to a program equal to `p` up to
    positions; if `src₁` is a syntax error then so is `src₂`, with the same message.  Likewise
    for the expression parser.  (By symmetry of `TokEquiv` also from `src₂` to `src₁`.) -/
theorem layout_invariant_parses (tbl : RuleTable) (hT : ParserFuel.EofRule tbl) (src₁ src₂ : Bytes)
    (h : TokEquiv (LexState.init src₁) (LexState.init src₂)) :
    (∀ p, parseProgramSrc tbl src₁ = .ok p →
      ∃ p', parseProgramSrc tbl src₂ = .ok p' ∧ erase p = erase p') ∧
    (∀ e, parseProgramSrc tbl src₁ = .syntaxErr e →
      ∃ e', parseProgramSrc tbl src₂ = .syntaxErr e' ∧ e.msg = e'.msg) ∧
    (∀ x, parseExpressionSrc tbl src₁ = .ok x →
      ∃ x', parseExpressionSrc tbl src₂ = .ok x' ∧ erase x = erase x') ∧
    (∀ e, parseExpressionSrc tbl src₁ = .syntaxErr e →
      ∃ e', parseExpressionSrc tbl src₂ = .syntaxErr e' ∧ e.msg = e'.msg) := by
  obtain ⟨h1, h2⟩ := layout_invariant_total tbl hT src₁ src₂ h
  obtain ⟨a1, a2, _⟩ := (resEquivT_iff _ _).mp h1
  obtain ⟨b1, b2, _⟩ := (resEquivT_iff _ _).mp h2
  exact ⟨a1, a2, b1, b2⟩

/-- an instance where the premise of the first clause holds (` x` parses) -/
example : (match parseProgramSrc expectedRuleTable b!" x" with | .ok _ => true | _ => false) = true := by
  decide +kernel

/-- C13 (`leading_trivia_invariant` without the escape): horizontal trivia (blanks, tabs, CRs,
    comments up to a newline) in front of a program text does not change its outcome up to
    positions: `t ++ src` parses iff `src` does, to the same AST after `erase`, and is a syntax
    error iff `src` is, with the same message (`resEquivT_iff`); for both parsers, any rule
    table without EOF rules. -/
theorem leading_trivia_invariant_total (tbl : RuleTable) (hT : ParserFuel.EofRule tbl)
    (t src : Bytes) (ht : Trivia t src) :
    ResEquivT (parseProgramSrc tbl (t ++ src)) (parseProgramSrc tbl src) ∧
    ResEquivT (parseExpressionSrc tbl (t ++ src)) (parseExpressionSrc tbl src) := by
  obtain ⟨e1, e2⟩ := leading_trivia_invariant tbl t src ht
  obtain ⟨a1, a2⟩ := parse_never_oof tbl hT (t ++ src)
  obtain ⟨b1, b2⟩ := parse_never_oof tbl hT src
  exact ⟨resEquivT_of e1 a1 b1, resEquivT_of e2 a2 b2⟩

example : Trivia b!" \t # note" b!"\n{ print 1 }" :=
  .blank _ _ _ rfl (.blank _ _ _ rfl (.blank _ _ _ rfl
    (.comment b!" note" [] _ (by decide) (.inr rfl) (.nil _))))

/-- C13 (leading trivia, spelled out in the direction "the text with trivia parses whenever the
    text without does", and the same for syntax errors) -/
theorem leading_trivia_parses (tbl : RuleTable) (hT : ParserFuel.EofRule tbl)
    (t src : Bytes) (ht : Trivia t src) :
    (∀ p, parseProgramSrc tbl src = .ok p →
      ∃ p', parseProgramSrc tbl (t ++ src) = .ok p' ∧ erase p' = erase p) ∧
    (∀ e, parseProgramSrc tbl src = .syntaxErr e →
      ∃ e', parseProgramSrc tbl (t ++ src) = .syntaxErr e' ∧ e'.msg = e.msg) ∧
    (∀ x, parseExpressionSrc tbl src = .ok x →
      ∃ x', parseExpressionSrc tbl (t ++ src) = .ok x' ∧ erase x' = erase x) ∧
    (∀ e, parseExpressionSrc tbl src = .syntaxErr e →
      ∃ e', parseExpressionSrc tbl (t ++ src) = .syntaxErr e' ∧ e'.msg = e.msg) := by
  obtain ⟨h1, h2⟩ := leading_trivia_invariant_total tbl hT t src ht
  obtain ⟨_, _, a3, a4, _⟩ := (resEquivT_iff _ _).mp h1
  obtain ⟨_, _, b3, b4, _⟩ := (resEquivT_iff _ _).mp h2
  exact ⟨a3, a4, b3, b4⟩

/-- an instance where the premise of the second clause holds (`{ print` is a syntax error, and
    so it is after a comment) -/
example : Trivia b!"# c" b!"\n{ print" ∧
    (match parseProgramSrc expectedRuleTable b!"\n{ print",
        parseProgramSrc expectedRuleTable (b!"# c" ++ b!"\n{ print") with
      | .syntaxErr e, .syntaxErr e' => e.msg == e'.msg | _, _ => false) = true :=
  ⟨.comment b!" c" [] _ (by decide) (.inr rfl) (.nil _), by decide +kernel⟩

end Jqawk.C13
