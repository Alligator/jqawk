/-
  C12 — reported error positions are consistent with, and point into, the program text.
  `getLineAndCol` (the byte-based model of `GetLineAndCol`, src/lexer.go:245-264) is characterised
  for EVERY offset; the positions the lexer attaches to errors and tokens lie inside the text it
  was given, and an "unexpected character" error sits exactly on the offending byte.
  Section 5 (provenance): every position a run can report — syntax, lexical and runtime errors,
  of the program or of a `-r` selector — is the offset of a token of the text it is reported
  with (or of the offending byte of a lexical error); every token stored in a parsed AST carries
  such an offset; with the exceptions exhibited there (EOF token, blank selector).
  Section 6: WHICH token each runtime fault blames — one theorem per place where
  the evaluator raises a runtime error, naming the blamed token of the AST node being evaluated
  (table: `blame_table`), and that this token belongs to the node (`blamed_token_in_node`).
-/
import Jqawk.Lemmas.Lexer
import Jqawk.Lemmas.ProvenanceDriver
import Jqawk.Lemmas.BlameSites
import Jqawk.Lemmas.LoopsEval
import Jqawk.Lemmas.MatchSpecPure

namespace Jqawk.C12
open Jqawk LineColLemmas

/-! ### 1. offset ↦ (line text, line, column) -/

/-- Every offset into a text decomposes as: complete lines `pre` (empty or ending in a newline),
    the newline-free part `cur` of the current line before the offset, and what follows. -/
theorem decompose (src : Bytes) (pos : Nat) (h : pos ≤ src.length) :
    ∃ pre cur after, src = pre ++ cur ++ after ∧ pos = pre.length + cur.length ∧
      (pre = [] ∨ pre.getLast? = some 10) ∧ (10 : UInt8) ∉ cur := by
  obtain ⟨pre, cur, hpc, hp, hc⟩ := split_last_line (src.take pos)
  refine ⟨pre, cur, src.drop pos, ?_, ?_, hp, hc⟩
  · rw [← hpc, List.take_append_drop]
  · have := congrArg List.length hpc
    simp at this; omega

/-- The decomposition of `decompose` is unique (so `getLineAndCol_spec` determines the result). -/
theorem decompose_unique (pre cur pre' cur' : Bytes)
    (hp : pre = [] ∨ pre.getLast? = some 10) (hc : (10 : UInt8) ∉ cur)
    (hp' : pre' = [] ∨ pre'.getLast? = some 10) (hc' : (10 : UInt8) ∉ cur')
    (h : pre ++ cur = pre' ++ cur') : pre = pre' ∧ cur = cur' := by
  -- the shorter `pre` is a prefix of the longer; the difference lies in a `cur` and ends in 10
  have key : ∀ (p c p' c' : Bytes), (p' = [] ∨ p'.getLast? = some 10) → (10 : UInt8) ∉ c →
      p ++ c = p' ++ c' → p.length ≤ p'.length → p = p' := by
    intro p c p' c' hq hc h hl
    obtain ⟨d, hd⟩ : ∃ d, p' = p ++ d := by
      refine ⟨p'.drop p.length, ?_⟩
      have h1 := congrArg (List.take p.length) h
      simp [List.take_append_of_le_length hl] at h1
      conv => lhs; rw [← List.take_append_drop p.length p']
      rw [← h1]
    subst hd
    rw [List.append_assoc] at h
    have hc2 : c = d ++ c' := List.append_cancel_left h
    cases d with
    | nil => simp
    | cons x xs =>
      exfalso
      rcases hq with hq | hq
      · simp at hq
      · have : (10 : UInt8) ∈ x :: xs := by
          have hne : (x :: xs) ≠ [] := by simp
          rw [List.getLast?_append, List.getLast?_eq_some_getLast hne, Option.some_or] at hq
          exact List.mem_of_getLast? (by rw [List.getLast?_eq_some_getLast hne]; exact hq)
        exact hc (hc2 ▸ List.mem_append_left _ this)
  rcases Nat.le_total pre.length pre'.length with hl | hl
  · have e := key pre cur pre' cur' hp' hc h hl
    subst e; exact ⟨rfl, List.append_cancel_left h⟩
  · have e := key pre' cur' pre cur hp hc' h.symm hl
    subst e; exact ⟨rfl, List.append_cancel_left h⟩

/-- C12, `GetLineAndCol`: for every offset within the text (written as in `decompose`; offsets
    beyond the end: `pos_beyond_end`), the line is 1 + the number of newlines before the
    offset, the column is the distance to the start of that line, and the quoted text is that
    whole line without its newline. -/
theorem getLineAndCol_spec (pre cur after : Bytes)
    (hp : pre = [] ∨ pre.getLast? = some 10) (hc : (10 : UInt8) ∉ cur) :
    getLineAndCol (pre ++ cur ++ after) (pre.length + cur.length)
      = ⟨cur ++ takeLine after, 1 + pre.count 10, cur.length⟩ := by
  unfold getLineAndCol
  rcases hp with rfl | hp
  · have := aux_skip_noNl cur hc (cur ++ after) after 1 0 0
    simp only [Nat.add_zero] at this
    simp only [List.nil_append, List.length_nil, Nat.zero_add, List.count_nil]
    rw [this, aux_zero, takeLine_append_of_not_mem _ _ hc]
    simp
  · rw [List.append_assoc, aux_skip_lines pre hp]
    have := aux_skip_noNl cur hc (cur ++ after) after (1 + pre.count 10) 0 0
    simp only [Nat.add_zero] at this
    rw [this, aux_zero, takeLine_append_of_not_mem _ _ hc]
    simp

example : getLineAndCol (b!"a\nb\n" ++ b!"cd" ++ b!"e\nf") 6 = ⟨b!"cde", 3, 2⟩ := by decide
example : (b!"a\nb\n").getLast? = some 10 ∧ (10 : UInt8) ∉ b!"cd" := by decide

/-! ### 2. the quoted line is line N of the text -/

/-- The text split at newlines (`strings.Split(src, "\n")`). -/
def splitLines : Bytes → List Bytes
  | [] => [[]]
  | c :: cs =>
    if c == 10 then [] :: splitLines cs
    else match splitLines cs with
      | l :: ls => (c :: l) :: ls
      | [] => [[c]]

example : splitLines b!"ab\n\ncd\n" = [b!"ab", b!"", b!"cd", b!""] := by decide

theorem splitLines_ne_nil (s : Bytes) : splitLines s ≠ [] := by
  cases s with
  | nil => simp [splitLines]
  | cons c cs =>
    simp only [splitLines]
    split
    · simp
    · split <;> simp

theorem splitLines_cons_nl (cs : Bytes) : splitLines (10 :: cs) = [] :: splitLines cs := by
  simp [splitLines]

theorem splitLines_cons_of_ne (c : UInt8) (cs : Bytes) (h : c ≠ 10) :
    ∃ l ls, splitLines cs = l :: ls ∧ splitLines (c :: cs) = (c :: l) :: ls := by
  cases heq : splitLines cs with
  | nil => exact absurd heq (splitLines_ne_nil cs)
  | cons l ls => exact ⟨l, ls, rfl, by simp [splitLines, h, heq]⟩

theorem splitLines_head (s : Bytes) : (splitLines s)[0]? = some (takeLine s) := by
  induction s with
  | nil => rfl
  | cons c cs ih =>
    simp only [splitLines, takeLine]
    split
    · rfl
    · split
      · rename_i l ls heq
        rw [heq] at ih; simp at ih; simp [ih]
      · rename_i heq; exact absurd heq (splitLines_ne_nil cs)

theorem splitLines_noNl (cur after : Bytes) (hc : (10 : UInt8) ∉ cur) :
    (splitLines (cur ++ after))[0]? = some (cur ++ takeLine after) := by
  rw [splitLines_head, takeLine_append_of_not_mem _ _ hc]

theorem splitLines_skip (pre : Bytes) (hp : pre.getLast? = some 10) (rest : Bytes) (i : Nat) :
    (splitLines (pre ++ rest))[pre.count 10 + i]? = (splitLines rest)[i]? := by
  induction pre with
  | nil => simp at hp
  | cons c cs ih =>
    by_cases h10 : c = 10
    · subst h10
      cases cs with
      | nil => simp [splitLines, Nat.add_comm 1 i]
      | cons d ds =>
        have := ih (by simpa [List.getLast?_cons_cons] using hp)
        simp only [List.cons_append, splitLines, beq_self_eq_true, ↓reduceIte, List.count_cons_self]
        rw [show List.count 10 (d :: ds) + 1 + i = (List.count 10 (d :: ds) + i) + 1 by omega,
          List.getElem?_cons_succ]
        exact this
    · cases cs with
      | nil => simp at hp; exact absurd hp h10
      | cons d ds =>
        have ih' := ih (by simpa [List.getLast?_cons_cons] using hp)
        have hcnt : 0 < List.count 10 (d :: ds) := by
          apply List.count_pos_iff.mpr
          exact List.mem_of_getLast? (by simpa [List.getLast?_cons_cons] using hp)
        have hcc : List.count 10 (c :: d :: ds) = List.count 10 (d :: ds) := by
          simp [List.count_cons, h10]
        rw [hcc]
        obtain ⟨l, ls, heq, heq'⟩ := splitLines_cons_of_ne c (d :: ds ++ rest) h10
        rw [List.cons_append (a := c), heq']
        rw [heq] at ih'
        obtain ⟨m, hm⟩ : ∃ m, List.count 10 (d :: ds) + i = m + 1 :=
          ⟨List.count 10 (d :: ds) + i - 1, by omega⟩
        rw [hm] at ih' ⊢
        simpa using ih'

/-- C12: the quoted source line is exactly line N of the program text, and the column lies
    within it (possibly at its end). -/
theorem srcLine_is_line_N (src : Bytes) (pos : Nat) (h : pos ≤ src.length) :
    (splitLines src)[(getLineAndCol src pos).line - 1]? = some (getLineAndCol src pos).srcLine ∧
    (getLineAndCol src pos).col ≤ (getLineAndCol src pos).srcLine.length := by
  obtain ⟨pre, cur, after, rfl, rfl, hp, hc⟩ := decompose src pos h
  rw [getLineAndCol_spec pre cur after hp hc]
  simp only [Nat.add_sub_cancel_left, List.length_append]
  refine ⟨?_, by omega⟩
  rcases hp with rfl | hp
  · simpa using splitLines_noNl cur after hc
  · have := splitLines_skip pre hp (cur ++ after) 0
    rw [List.append_assoc]
    simpa [splitLines_noNl cur after hc] using this

/-- the column is the offset minus the offset of the start of the line; the line start is
    either 0 or just after a newline -/
theorem col_is_distance (src : Bytes) (pos : Nat) (h : pos ≤ src.length) :
    let lc := getLineAndCol src pos
    lc.col ≤ pos ∧ (src.take (pos - lc.col)).count 10 + 1 = lc.line ∧
    (10 : UInt8) ∉ (src.drop (pos - lc.col)).take lc.col ∧
    (pos - lc.col = 0 ∨ src[pos - lc.col - 1]? = some 10) := by
  obtain ⟨pre, cur, after, rfl, rfl, hp, hc⟩ := decompose src pos h
  rw [getLineAndCol_spec pre cur after hp hc]
  simp only [Nat.add_sub_cancel]
  refine ⟨by omega, ?_, ?_, ?_⟩
  · rw [List.append_assoc, List.take_left]; omega
  · rw [List.append_assoc, List.drop_left, List.take_left]; exact hc
  · rcases hp with rfl | hp
    · simp
    · right
      have hne : pre ≠ [] := by rintro rfl; simp at hp
      have hl : 0 < pre.length := List.length_pos_iff.mpr hne
      rw [List.append_assoc, List.getElem?_append_left (by omega)]
      rw [List.getLast?_eq_getElem?] at hp
      exact hp

/-! ### 3. offsets beyond the end -/

/-- C12: an offset at or beyond the end of the text is treated as the end of the text. -/
theorem pos_beyond_end (src : Bytes) (pos : Nat) (h : src.length ≤ pos) :
    getLineAndCol src pos = getLineAndCol src src.length :=
  aux_beyond src src 1 0 pos h

example : getLineAndCol b!"ab\ncd" 100 = ⟨b!"cd", 2, 2⟩ := by decide

/-! ### 4. positions attached by the lexer -/

open Lexer in
/-- C12: the position of a lexical error lies inside the text the lexer was given (between the
    current offset and the end of the text, inclusive). -/
theorem next_error_in_text (s : LexState) (e : SynErr) (h : Lexer.next s = .error e) :
    s.pos ≤ e.pos ∧ e.pos ≤ s.pos + s.rest.length := by
  obtain ⟨ws, r, h1, _, h3⟩ := next_cases s
  rw [h3] at h
  cases r with
  | nil => cases h
  | cons c cs =>
    have hl : s.rest.length = ws.length + (cs.length + 1) := by rw [h1]; simp
    rcases (lexAt_res c cs _).error h with rfl | ⟨_, _, rfl⟩
    · dsimp only; omega
    · dsimp only; omega

example : Lexer.next ⟨b!"  \"abc", 10, 7⟩ = .error ⟨13, "unexpected EOF while reading string"⟩ := by
  rfl

open Lexer in
/-- C12: an "unexpected character" error sits exactly on the offending byte: that byte exists,
    only blanks, tabs, CRs and comments (`ws`, what `skipWs` skips) precede it, and it is the
    byte `skipWs` stops at. -/
theorem illegal_char_exact (s : LexState) (e : SynErr) (h : Lexer.next s = .error e)
    (hm : e.msg = "unexpected character") :
    ∃ ws c rest, s.rest = ws ++ c :: rest ∧ e.pos = s.pos + ws.length ∧
      Lexer.skipWs (s.rest.length + 1) s.rest s.pos = (c :: rest, e.pos) := by
  obtain ⟨ws, r, h1, h2, h3⟩ := next_cases s
  rw [h3] at h
  cases r with
  | nil => cases h
  | cons c cs =>
    rcases (lexAt_res c cs _).error h with rfl | ⟨_, _, rfl⟩
    · exact ⟨ws, c, cs, h1, rfl, h2⟩
    · simp at hm

open Lexer in
/-- C12: the byte an "unexpected character" error sits on cannot start a token: it is not a newline, `$`,
    a digit, a letter, `_`, an operator or bracket byte, or a quote (`canStartToken`), nor `&`
    or `|`; or it is an `&` / `|` that is not doubled.  (A partial converse is
    `illegal_char_rejected`.) -/
theorem illegal_char_byte (s : LexState) (e : SynErr) (h : Lexer.next s = .error e)
    (hm : e.msg = "unexpected character") :
    ∃ ws c rest, s.rest = ws ++ c :: rest ∧ e.pos = s.pos + ws.length ∧
      ((canStartToken c = false ∧ c ≠ 38 ∧ c ≠ 124) ∨ (c = 38 ∧ rest.head? ≠ some 38) ∨
       (c = 124 ∧ rest.head? ≠ some 124)) := by
  obtain ⟨ws, r, h1, h2, h3⟩ := next_cases s
  rw [h3] at h
  cases r with
  | nil => cases h
  | cons c cs =>
    refine ⟨ws, c, cs, h1, ?_, lexAt_unexpected c cs _ e h hm⟩
    rcases (lexAt_res c cs _).error h with rfl | ⟨_, _, rfl⟩
    · rfl
    · simp at hm

open Lexer in
/-- Partial converse of `illegal_char_byte`: a byte that cannot start a token and is none of
    `&`, `|`, `#`, blank, tab, CR is rejected with "unexpected character" at exactly its offset,
    when only blanks, tabs and CRs precede it.  (Not covered: a comment before it; a lone `&` or
    `|`.) -/
theorem illegal_char_rejected (ws rest : Bytes) (c : UInt8) (p ts : Nat)
    (hws : ∀ b ∈ ws, b = 32 ∨ b = 9 ∨ b = 13)
    (hc : canStartToken c = false) (h38 : c ≠ 38) (h124 : c ≠ 124) (h35 : c ≠ 35)
    (hbl : c ≠ 32 ∧ c ≠ 9 ∧ c ≠ 13) :
    Lexer.next ⟨ws ++ c :: rest, p, ts⟩ = .error ⟨p + ws.length, "unexpected character"⟩ := by
  have hb : ∀ b ∈ ws, isBlankB b = true := by
    intro b hb; rcases hws b hb with rfl | rfl | rfl <;> rfl
  rw [next_eq]; dsimp only
  have : (ws ++ c :: rest).length + 1 = ws.length + ((c :: rest).length + 1) := by simp; omega
  rw [this, skipWs_blanks ws hb, skipWs_succ_cons]
  have hcb : isBlankB c = false := by simp [isBlankB, hbl.1, hbl.2.1, hbl.2.2]
  have hc35 : (c == 35) = false := by simpa using h35
  simp only [hcb, hc35, Bool.false_eq_true, ↓reduceIte]
  exact lexAt_of_cannotStart c rest _ hc h38 h124

example : Lexer.canStartToken 64 = false ∧ Lexer.canStartToken 96 = false ∧
    Lexer.canStartToken 92 = false := by decide
/-- non-vacuity of the hypotheses of `illegal_char_rejected`: `@` behind a blank and a tab -/
example : Lexer.next ⟨b!" \t" ++ 64 :: b!" b", 5, 1⟩ = .error ⟨7, "unexpected character"⟩ :=
  illegal_char_rejected b!" \t" b!" b" 64 5 1 (by decide) (by decide) (by decide) (by decide)
    (by decide) (by decide)

example : Lexer.next ⟨b!" \t# c\n", 0, 0⟩ = .ok (⟨.newline, 5, []⟩, ⟨[], 6, 5⟩) := by rfl
example : Lexer.next ⟨b!"\n  @ b", 1, 0⟩ = .ok (⟨.newline, 1, []⟩, ⟨b!"  @ b", 2, 1⟩) := by rfl
example : Lexer.next ⟨b!"  @ b", 2, 1⟩ = .error ⟨4, "unexpected character"⟩ := by rfl

open Lexer in
/-- C12: token positions.  The successor state lies inside the text, `rest` stays "the text from
    `pos` on", and a non-EOF token starts at or after the old offset and before the new one.
    (The EOF token carries Go's stale `tokenStart`, which may lie before `s.pos`.) -/
theorem next_token_pos (s : LexState) (t : Token) (s' : LexState) (h : Lexer.next s = .ok (t, s')) :
    s.pos ≤ s'.pos ∧ s'.pos ≤ s.pos + s.rest.length ∧ s'.rest = s.rest.drop (s'.pos - s.pos) ∧
    (t.tag ≠ .eof → s.pos ≤ t.pos ∧ t.pos ≤ s'.pos) := by
  obtain ⟨ws, r, h1, _, h3⟩ := next_cases s
  rw [h3] at h
  cases r with
  | nil =>
    cases h
    simp only [List.append_nil] at h1
    refine ⟨by simp, by simp [h1], ?_, fun hne => absurd rfl hne⟩
    simp [h1]
  | cons c cs =>
    obtain ⟨tok, _, h4, h5, h6, h7⟩ := (lexAt_res c cs _).consumed h
    have hl : s.rest.length = ws.length + (tok.length + s'.rest.length) := by
      rw [h1, h4]; simp
    refine ⟨by omega, by omega, ?_, fun _ => ⟨by omega, h7⟩⟩
    rw [h1, h4, h5, ← List.append_assoc]
    have : s.pos + ws.length + tok.length - s.pos = (ws ++ tok).length := by simp; omega
    rw [this, List.drop_left]

example : Lexer.next ⟨b!"  foo(1)", 3, 0⟩ = .ok (⟨.ident, 5, b!"foo"⟩, ⟨b!"(1)", 8, 5⟩) := by rfl

/-- the EOF token's position is the stale `tokenStart`: after `1 ` it is 0, not 2 -/
example : Lexer.next ⟨b!" ", 1, 0⟩ = .ok (⟨.eof, 0, []⟩, ⟨[], 2, 0⟩) := by rfl

/-- C12: the lexer state invariant "`rest` is the source from `pos` on" is preserved. -/
theorem next_preserves_invariant (src : Bytes) (s : LexState) (t : Token) (s' : LexState)
    (h : Lexer.next s = .ok (t, s')) (hinv : s.rest = src.drop s.pos) :
    s'.rest = src.drop s'.pos := by
  obtain ⟨h1, _, h3, _⟩ := next_token_pos s t s' h
  rw [h3, hinv, List.drop_drop]
  congr 1; omega

example : (LexState.init b!"ab").rest = (b!"ab").drop (LexState.init b!"ab").pos := rfl
/-- non-vacuity of both hypotheses together: a second step, from a state satisfying the invariant -/
example : Lexer.next ⟨b!" += 1 }", 3, 2⟩ = .ok (⟨.plusEqual, 4, []⟩, ⟨b!" 1 }", 6, 4⟩) ∧
    b!" += 1 }" = (b!"{ x += 1 }").drop 3 := ⟨by rfl, by decide⟩

/-! ### 5. provenance: every reported position is the offset of a token of the text

  Sections 1–4 say what line, column and quoted line belong to an offset, and that the lexer's
  own errors and tokens carry the offset where they start.  This section settles where the
  offsets of ALL reported errors come from: syntax errors raised by the parser, lexical errors
  passed on by it, and runtime errors raised by the evaluator (in rule patterns and bodies, in
  function bodies, in match arms, and in `-r` selector expressions).

  `Prov.Lexed Rq src last s` are the lexer states reachable from the start of `src` by the two
  requests the parser makes (`Next()`; `Regex()` when the tag of the last token satisfies `Rq`);
  `Prov.IsTokenOf Rq src t` says that the lexer produced `t` in such a state.  For the parser of
  src/parser.go `Rq = Prov.AfterSlash` (the rule table asks for `Regex()` only when the current
  token is `/`, `tblRq_expected`); for an arbitrary table `Rq = fun _ => True`.
  (`IsTokenOf` covers both readings of a `/` — division operator, or opening slash of a regex
  literal when a closing slash follows — since which one the parser takes depends on the parse;
  either way the token is written in the text where it says, `token_spelled`.) -/

open Prov

/-- `t` is a token of the text `src` (the lexer driven as the parser of the real rule table
    drives it) -/
abbrev IsToken (src : Bytes) (t : Token) : Prop := IsTokenOf AfterSlash src t

/-- `p` is the offset carried by a token of the text `src` -/
abbrev IsTokenStart (src : Bytes) (p : Nat) : Prop := TokenStart AfterSlash src p

/-- `e` is a lexical error of the text `src` -/
abbrev IsLexErr (src : Bytes) (e : SynErr) : Prop := IsLexErrOf AfterSlash src e

/-- C12, tokens: **every token of a text other than EOF is written in the text at the offset it
    carries**: keywords and operators by their spelling, identifiers and numbers by their text,
    a string between two equal quotes (the offset is that of the first byte after the opening
    quote), a regex literal between two slashes (likewise).  For the EOF token `SpelledIn` is
    `True` (nothing is claimed here; its offset is settled by `eof_token_pos`). -/
theorem token_spelled (src : Bytes) (t : Token) (h : IsToken src t) : SpelledIn src t :=
  h.spelled

/-- A token of a text other than EOF starts strictly inside the text. -/
theorem token_pos_in_text (src : Bytes) (t : Token) (h : IsToken src t) (hne : t.tag ≠ .eof) :
    t.pos < src.length :=
  h.spelled.pos_lt hne

example : IsToken b!"  foo(1)" ⟨.ident, 2, b!"foo"⟩ :=
  ⟨_, _, _, .init, .inl (by rfl)⟩
example : SpelledIn b!"x ~ /a+/" ⟨.regex, 5, b!"a+"⟩ := by
  show 1 ≤ 5 ∧ (b!"x ~ /a+/")[5 - 1]? = some 47 ∧ (47 : UInt8) ∉ b!"a+" ∧
    ∃ rest, (b!"x ~ /a+/").drop 5 = b!"a+" ++ 47 :: rest
  exact ⟨by decide, by decide, by decide, [], by decide⟩
/-- a regex literal is a token of the text: `Next()` three times, then `Regex()` after the `/` -/
example : IsToken b!"x ~ /a+/" ⟨.regex, 5, b!"a+"⟩ :=
  ⟨⟨.divide, 4, []⟩, ⟨b!"a+/", 5, 4⟩, _,
    .next (.next (.next .init (t := ⟨.ident, 0, b!"x"⟩) (s' := ⟨b!" ~ /a+/", 1, 0⟩) (by rfl))
      (t := ⟨.tilde, 2, []⟩) (s' := ⟨b!" /a+/", 3, 2⟩) (by rfl)) (by rfl),
    .inr ⟨rfl, by rfl⟩⟩

/-- C12, FINDING (the EOF token is not where the text ends): the EOF token carries the offset
    of the token produced before it — newline tokens included — because Go's `tokenStart` field
    is not advanced at the end of the text; or 0 when the text holds no token at all.  So
    "unexpected token EOF" and "expected …" errors at the end of the input point at the START of
    the last token (or at the last line feed), not behind it. -/
theorem eof_token_pos (src : Bytes) (t : Token) (h : IsToken src t) (he : t.tag = .eof) :
    (∃ t', IsToken src t' ∧ t'.tag ≠ .eof ∧ t'.pos = t.pos ∧ SpelledIn src t') ∨
    (t.pos = 0 ∧ NoToken src) := by
  rcases h.eof_pos he with ⟨t', h1, h2, h3⟩ | h
  · exact .inl ⟨t', h1, h2, h3, h1.spelled⟩
  · exact .inr h

/-- The EOF token carries the offset of the token produced IMMEDIATELY before it (the last
    token of the text when the lexer is driven to the end, as the parser does). -/
theorem eof_token_pos_last (src : Bytes) (last : Token) (s : LexState) (t : Token) (s' : LexState)
    (hl : Lexed AfterSlash src last s) (hn : Lexer.next s = .ok (t, s')) (he : t.tag = .eof) :
    t.pos = last.pos := by
  rw [(next_eof hn he).1]
  exact hl.inv.ts

/-- non-vacuity of the hypotheses of `eof_token_pos` and `eof_token_pos_last`: the EOF token of
    `1 ` (offset 0, that of the `1`) and the state it is produced in -/
example : IsToken b!"1 " ⟨.eof, 0, []⟩ ∧ (⟨.eof, 0, []⟩ : Token).tag = .eof :=
  ⟨⟨_, _, _, .next .init (t := ⟨.num, 0, b!"1"⟩) (s' := ⟨b!" ", 1, 0⟩) (by rfl), .inl (by rfl)⟩,
    rfl⟩
example : Lexed AfterSlash b!"1 " ⟨.num, 0, b!"1"⟩ ⟨b!" ", 1, 0⟩ ∧
    Lexer.next ⟨b!" ", 1, 0⟩ = .ok (⟨.eof, 0, []⟩, ⟨[], 2, 0⟩) :=
  ⟨.next .init (by rfl), by rfl⟩

/-- witness: after `{ print 1 +` the error is reported at offset 10 (the `+`), not 11 -/
example : (match parseProgramSrc expectedRuleTable b!"{ print 1 +" with
    | .syntaxErr e => e.pos == 10 | _ => false) = true := by decide +kernel
/-- witness: with trailing line feeds it is reported at the last line feed: line 3, column 0,
    empty quoted line (Go prints the same) -/
example : (match parseProgramSrc expectedRuleTable b!"{ print 1 +\n\n\n" with
    | .syntaxErr e => e.pos == 13 && getLineAndCol b!"{ print 1 +\n\n\n" e.pos == ⟨[], 3, 0⟩
    | _ => false) = true := by decide +kernel
/-- witness: a selector of blanks only is rejected at offset 0, where a blank stands and no
    token starts (Go: `-r '   '` prints the caret in column 0) -/
example : (match parseExpressionSrc expectedRuleTable b!"   " with
    | .syntaxErr e => e.pos == 0 | _ => false) = true := by decide +kernel
example : NoToken b!"  # hi" := ⟨_, by rfl⟩

/-- C12, token offsets: **what the offset of a token means**: a token other than EOF is written
    there (strictly inside the text), or the offset is 0 and the text holds no token at all. -/
theorem tokenStart_meaning (src : Bytes) (p : Nat) (h : IsTokenStart src p) :
    (∃ t, IsToken src t ∧ t.tag ≠ .eof ∧ t.pos = p ∧ SpelledIn src t ∧ p < src.length) ∨
    (p = 0 ∧ NoToken src) := by
  rcases h.real' with ⟨t, h1, h2, rfl⟩ | h
  · exact .inl ⟨t, h1, h2, rfl, h1.spelled, h1.spelled.pos_lt h2⟩
  · exact .inr h

/-- The offset of a token lies in the text, so that sections 1 and 2 apply to it. -/
theorem tokenStart_in_text (src : Bytes) (p : Nat) (h : IsTokenStart src p) : p ≤ src.length :=
  h.le

/-- non-vacuity of `IsTokenStart` (both cases of `tokenStart_meaning`) -/
example : IsTokenStart b!"  foo(1)" 2 := ⟨⟨.ident, 2, b!"foo"⟩, ⟨_, _, _, .init, .inl (by rfl)⟩, rfl⟩
example : IsTokenStart b!"  # hi" 0 ∧ NoToken b!"  # hi" :=
  ⟨⟨⟨.eof, 0, []⟩, ⟨_, _, _, .init, .inl (by rfl)⟩, rfl⟩, ⟨_, by rfl⟩⟩

/-- C12, lexical errors reached by the parser: the offset lies in the text; for "unexpected
    character" a byte stands there (that it is the illegal byte is NOT restated here: it follows
    from `illegal_char_exact` / `illegal_char_byte` applied to the lexer state, with the
    invariant `next_preserves_invariant`); or it is the offset just behind the opening quote of a
    string that is never closed (where the string token would start); or — for a regex literal
    that is never closed — the offset of some token of the text (in the model the `/` before it;
    which token is not stated). -/
theorem lexical_error_pos (src : Bytes) (e : SynErr) (h : IsLexErr src e) :
    e.pos ≤ src.length ∧
    ((e.msg = "unexpected character" ∧ ∃ c, src[e.pos]? = some c) ∨
     (e.msg = "unexpected EOF while reading string" ∧
       ∃ q, (q = 39 ∨ q = 34) ∧ 1 ≤ e.pos ∧ src[e.pos - 1]? = some q ∧ q ∉ src.drop e.pos) ∨
     (e.msg = "unexpected EOF while reading regex" ∧ IsTokenStart src e.pos)) := by
  obtain ⟨h1, h2⟩ := h.pos
  refine ⟨h1, ?_⟩
  rcases h2 with h2 | h2 | ⟨hm, h2⟩
  · exact .inl h2
  · exact .inr (.inl h2)
  · rcases h2 with h2 | ⟨_, hq⟩
    · exact .inr (.inr ⟨hm, h2⟩)
    · cases hq

/-- non-vacuity of `IsLexErr`, directly -/
example : IsLexErr b!"  @" ⟨2, "unexpected character"⟩ := ⟨_, _, .init, .inl (by rfl)⟩
example : (match parseProgramSrc expectedRuleTable b!"BEGIN { x = 1 }\n   @" with
    | .syntaxErr e => e.pos == 19 && getLineAndCol b!"BEGIN { x = 1 }\n   @" e.pos == ⟨b!"   @", 2, 3⟩
    | _ => false) = true := by decide +kernel
example : (match parseProgramSrc expectedRuleTable b!"{ print $ ~ /ab }" with
    | .syntaxErr e => e.pos == 12 | _ => false) = true := by decide +kernel
example : (match parseProgramSrc expectedRuleTable b!"{ print 'ab }" with
    | .syntaxErr e => e.pos == 9 | _ => false) = true := by decide +kernel

/-- C12, syntax errors: where the reported offset comes from — SOME token of the program text,
    or a lexical error of it.  (This is weaker than the clause "the reported column falls inside
    the offending construct": which token is blamed is not stated; see the examples.)
    Named `_partial` because the stronger statement "every syntax error offset is the start of a
    token" is false as it stands (the property itself does not ask for it): **a syntax error of
    `Parse()` carries the offset of a token of the program text, or it is a lexical error of
    that text** (which sits on the offending byte /
    behind the opening quote, `lexical_error_pos`, not on a token start) — and a token offset
    means what `tokenStart_meaning` says (at the end of the input: the START of the last token,
    `eof_token_pos`).  For every rule table that asks for `Regex()` only at a `/` token. -/
theorem syntax_error_pos_partial (tbl : RuleTable) (hT : TblRq AfterSlash tbl) (src : Bytes)
    (e : SynErr) (h : parseProgramSrc tbl src = .syntaxErr e) :
    IsTokenStart src e.pos ∨ IsLexErr src e := by
  have := parseProgramSrc_prov AfterSlash true tbl hT src
  rw [h] at this; exact this

/-- non-vacuity of the two hypotheses on the table: the rule table of src/parser.go asks for
    `Regex()` only at `/`, and has no prefix rule for EOF -/
example : TblRq AfterSlash expectedRuleTable := tblRq_expected
example : (lookupRule expectedRuleTable .eof).pre = none := by decide

/-- `syntax_error_pos_partial` for the rule table of src/parser.go, unconditionally -/
theorem syntax_error_pos_src (src : Bytes) (e : SynErr)
    (h : parseProgramSrc expectedRuleTable src = .syntaxErr e) :
    IsTokenStart src e.pos ∨ IsLexErr src e :=
  syntax_error_pos_partial expectedRuleTable tblRq_expected src e h

/-- C12, syntax errors, spelled out: **a syntax error of `Parse()` sits at an offset where a
    token other than EOF is written in the program text** (strictly inside the text; at the end
    of the input this is the last token, not the end) **or it is a lexical error** (on the
    illegal byte / just behind the opening quote / on the `/` of an unclosed regex literal,
    `lexical_error_pos`).  The "offset 0 of a text without tokens" case cannot occur here: such
    a text is the empty program. -/
theorem syntax_error_pos_meaning (tbl : RuleTable) (hT : TblRq AfterSlash tbl) (src : Bytes)
    (e : SynErr) (h : parseProgramSrc tbl src = .syntaxErr e) :
    (∃ t, IsToken src t ∧ t.tag ≠ .eof ∧ t.pos = e.pos ∧ SpelledIn src t ∧ e.pos < src.length) ∨
    IsLexErr src e := by
  rcases syntax_error_pos_partial tbl hT src e h with ht | hl
  · rcases tokenStart_meaning src e.pos ht with hreal | ⟨_, hno⟩
    · exact .inl hreal
    · rw [parseProgramSrc_noToken tbl src hno] at h; cases h
  · exact .inr hl

/-- C12, syntax errors inside a `-r` selector: the same for `ParseExpression()` and the selector
    text. -/
theorem selector_syntax_error_pos_partial (tbl : RuleTable) (hT : TblRq AfterSlash tbl)
    (sel : Bytes) (e : SynErr) (h : parseExpressionSrc tbl sel = .syntaxErr e) :
    IsTokenStart sel e.pos ∨ IsLexErr sel e := by
  have := parseExpressionSrc_prov AfterSlash true tbl hT sel
  rw [h] at this; exact this

/-- `selector_syntax_error_pos_partial` spelled out; here the blank selector is the one exception (FINDING: `-r '   '` is rejected
    at offset 0, where a blank stands) -/
theorem selector_syntax_error_pos_meaning (tbl : RuleTable) (hT : TblRq AfterSlash tbl)
    (sel : Bytes) (e : SynErr) (h : parseExpressionSrc tbl sel = .syntaxErr e) :
    (∃ t, IsToken sel t ∧ t.tag ≠ .eof ∧ t.pos = e.pos ∧ SpelledIn sel t ∧ e.pos < sel.length) ∨
    (e.pos = 0 ∧ NoToken sel) ∨ IsLexErr sel e := by
  rcases selector_syntax_error_pos_partial tbl hT sel e h with ht | hl
  · rcases tokenStart_meaning sel e.pos ht with hreal | hno
    · exact .inl hreal
    · exact .inr (.inl hno)
  · exact .inr (.inr hl)

/-- `syntax_error_pos_partial` for ANY rule table (here a regex literal need not stand behind a `/`; every other
    token is still spelled at its offset, `Prov.IsTokenOf.spelled_any`) -/
theorem syntax_error_pos_any_table (tbl : RuleTable) (src : Bytes) (e : SynErr)
    (h : parseProgramSrc tbl src = .syntaxErr e) :
    TokenStart (fun _ => True) src e.pos ∨ IsLexErrOf (fun _ => True) src e := by
  have := parseProgramSrc_prov (fun _ => True) true tbl (tblRq_true tbl) src
  rw [h] at this; exact this

theorem selector_syntax_error_pos_any_table (tbl : RuleTable) (sel : Bytes) (e : SynErr)
    (h : parseExpressionSrc tbl sel = .syntaxErr e) :
    TokenStart (fun _ => True) sel e.pos ∨ IsLexErrOf (fun _ => True) sel e := by
  have := parseExpressionSrc_prov (fun _ => True) true tbl (tblRq_true tbl) sel
  rw [h] at this; exact this

/-- C12, syntax errors, the report: for every rule table and every text, the offset of a syntax
    error lies in the text — hence (sections 1, 2) the reported line is 1 + the number of line
    feeds before that byte, the column is the distance to the line start and the quoted line is
    line N of the text without its line end. -/
theorem syntax_error_report (tbl : RuleTable) (src : Bytes) (e : SynErr)
    (h : parseProgramSrc tbl src = .syntaxErr e ∨ parseExpressionSrc tbl src = .syntaxErr e) :
    e.pos ≤ src.length ∧
    (splitLines src)[(getLineAndCol src e.pos).line - 1]? = some (getLineAndCol src e.pos).srcLine ∧
    (getLineAndCol src e.pos).col ≤ (getLineAndCol src e.pos).srcLine.length := by
  have hle : e.pos ≤ src.length := by
    rcases h with h | h
    · rcases syntax_error_pos_any_table tbl src e h with h | h
      · exact h.le
      · exact h.pos.1
    · rcases selector_syntax_error_pos_any_table tbl src e h with h | h
      · exact h.le
      · exact h.pos.1
  exact ⟨hle, srcLine_is_line_N src e.pos hle⟩

/-- non-vacuity: an error on line 3 of a program with a comment line; an error on the last line
    without a final line feed; an error behind a two-byte character (columns count bytes) -/
example : (match parseProgramSrc expectedRuleTable b!"BEGIN { x = 1 }\n# c\n{ y = ) }" with
    | .syntaxErr e => e.pos == 26 &&
        getLineAndCol b!"BEGIN { x = 1 }\n# c\n{ y = ) }" e.pos == ⟨b!"{ y = ) }", 3, 6⟩
    | _ => false) = true := by decide +kernel
example : (match parseProgramSrc expectedRuleTable b!"{ print \"é\", 1 2 }" with
    | .syntaxErr e => e.pos == 16 &&
        getLineAndCol b!"{ print \"é\", 1 2 }" e.pos == ⟨b!"{ print \"é\", 1 2 }", 1, 16⟩
    | _ => false) = true := by decide +kernel

/-! #### the tokens stored in a parsed program -/

/-- C12, AST: **every token stored in a parsed program carries the offset of a token of the
    program text** — except the zero token of the implicit `print` of a body-less rule, which is
    not a token of the text (the evaluator never takes a position from it, see
    `parsed_blame_tokens`).  FINDING (harmless): only the OFFSETS are those of lexed tokens; the
    parser rewrites `a op= b` into `a = a op b` with two made-up tokens at the offset of `op=`. -/
theorem parsed_tokens_are_tokens (tbl : RuleTable) (hT : TblRq AfterSlash tbl) (src : Bytes)
    (prog : Program) (h : parseProgramSrc tbl src = .ok prog) :
    ∀ t ∈ prog.tokens, t = Token.zero ∨ IsTokenStart src t.pos := by
  have := parseProgramSrc_prov AfterSlash true tbl hT src
  rw [h] at this; exact this.all

/-- witness for the zero token: a rule without body -/
example : (match parseProgramSrc expectedRuleTable b!"  $.a > 1" with
    | .ok p => p.tokens.contains Token.zero | _ => false) = true := by decide +kernel
/-- witness for the rewritten compound assignment: the text has `+=` at offset 4, the AST an
    `=` token and a `+` token at offset 4 -/
example : (match parseProgramSrc expectedRuleTable b!"{ x += 1 }" with
    | .ok p => p.tokens.contains ⟨.equal, 4, []⟩ && p.tokens.contains ⟨.plus, 4, []⟩
    | _ => false) = true := by decide +kernel
example : Lexer.next ⟨b!" += 1 }", 3, 2⟩ = .ok (⟨.plusEqual, 4, []⟩, ⟨b!" 1 }", 6, 4⟩) := by rfl

/-- C12, AST: **every token the evaluator can take a position from** (all tokens of expression
    nodes, the variables of `for … in`, function names; `Program.blameTokens`) **carries the
    offset of a token of the program text.** -/
theorem parsed_blame_tokens (tbl : RuleTable) (hT : TblRq AfterSlash tbl) (src : Bytes)
    (prog : Program) (h : parseProgramSrc tbl src = .ok prog) :
    ∀ t ∈ prog.blameTokens, IsTokenStart src t.pos := by
  have := parseProgramSrc_prov AfterSlash false tbl hT src
  rw [h] at this; exact this.blame

/-- C12, AST of a selector: every token of a parsed selector expression carries the offset of a
    token of the selector text.  (Non-vacuity: the example below.) -/
theorem selector_tokens_are_tokens (tbl : RuleTable) (hT : TblRq AfterSlash tbl) (sel : Bytes)
    (expr : Expr) (h : parseExpressionSrc tbl sel = .ok expr) (kw : Bool) :
    ∀ t ∈ expr.tokens kw, IsTokenStart sel t.pos := by
  have := parseExpressionSrc_prov AfterSlash kw tbl hT sel
  rw [h] at this; exact this

/-- non-vacuity of `selector_tokens_are_tokens`: a selector that parses, with its token offsets -/
example : (match parseExpressionSrc expectedRuleTable b!"  $.a ~ 1" with
    | .ok e => (e.tokens false).map (·.pos) != [] && (e.tokens false).all (fun t => t.pos < 9)
    | _ => false) = true := by decide +kernel
example : (match parseProgramSrc expectedRuleTable
      b!"function f(x) {\n  return x.a.b.c = 1\n}\n{ print f(1) }" with
    | .ok p => p.blameTokens.length == 12 && p.tokens.length == 15 | _ => false) = true := by
  decide +kernel

/-! #### runtime errors -/

/-- the position `pos`, reported together with the text `s`, is the offset stored in a token of
    the AST parsed from that text: the program (then `s` is the program text) or a selector
    expression (then `s` is that selector's text) -/
def BlamesAst (tbl : RuleTable) (src : Bytes) (sels : List Bytes) (s : Bytes) (pos : Nat) : Prop :=
  (s = src ∧ ∃ prog, parseProgramSrc tbl src = .ok prog ∧ ∃ t ∈ prog.blameTokens, t.pos = pos) ∨
  (s ∈ sels ∧ ∃ expr, parseExpressionSrc tbl s = .ok expr ∧ ∃ t ∈ expr.tokens false, t.pos = pos)

/-- the syntax error `e`, reported together with the text `s`, is the syntax error of parsing
    that text: the program, or a selector -/
def SynErrOf (tbl : RuleTable) (src : Bytes) (sels : List Bytes) (s : Bytes) (e : SynErr) : Prop :=
  (s = src ∧ parseProgramSrc tbl src = .syntaxErr e) ∨
  (s ∈ sels ∧ parseExpressionSrc tbl s = .syntaxErr e)

/-- all positions a run reports, in one statement (any rule table, any selectors, any input).
    Only the outcomes `.runtimeErr` and `.syntaxErr` carry a position; for every other outcome
    (`.ok`, `.jsonErr`, and also `.oof`, `.panic`, `.unmodelled`) `OutcomeOK` is `True`, i.e.
    nothing is claimed. -/
theorem run_positions (tbl : RuleTable) (src : Bytes) (sels : List Bytes) (files : List InputFile) :
    OutcomeOK (BlamesAst tbl src sels) (SynErrOf tbl src sels) src sels
      (evalProgram tbl src sels files).outcome := by
  unfold evalProgram
  cases hp : parseProgramSrc tbl src with
  | syntaxErr e => exact ⟨.inl rfl, .inl ⟨rfl, hp⟩⟩
  | oof => trivial
  | ok prog =>
    refine runProgram_ok prog ?_ ⟨?_, ?_⟩ files
    · exact (progOK_self prog).mono (fun p ⟨t, ht, hpos⟩ => .inl ⟨rfl, prog, hp, t, ht, hpos⟩)
    · intro sel hsel e he t ht
      exact .inr ⟨hsel, e, he, t, ht, rfl⟩
    · intro sel hsel e he
      exact .inr ⟨hsel, he⟩

/-- C12, runtime errors: **the position of a runtime error a run reports is the offset stored in
    SOME token of the parsed program (`Program.blameTokens`: rule patterns, rule bodies, function
    bodies, match arms) and the text reported with it is the program text; or it is the offset
    stored in some token of a parsed `-r` selector expression and the text reported is that
    selector's text.**  Which token — i.e. that it belongs to the faulting node, the clause "the
    reported column falls inside the offending construct" — is stated per raising site in
    section 6 (`blame_table`, `blamed_token_in_node`).
    Any rule table, any selectors, any input files, at the evaluator's full fuel. -/
theorem runtime_error_pos_is_token (tbl : RuleTable) (src : Bytes) (sels : List Bytes)
    (files : List InputFile) (s : Bytes) (pos : Nat) (msg : String)
    (h : (evalProgram tbl src sels files).outcome = .runtimeErr s pos msg) :
    BlamesAst tbl src sels s pos := by
  have := run_positions tbl src sels files
  rw [h] at this; exact this.2

/-- C12, runtime errors, in terms of the text: **the position of a runtime error is the offset
    carried by a token of the text it is reported with** (the program text, or the text of the
    selector in which it was raised); hence it lies in that text. -/
theorem runtime_error_pos_tokenStart (tbl : RuleTable) (hT : TblRq AfterSlash tbl) (src : Bytes)
    (sels : List Bytes) (files : List InputFile) (s : Bytes) (pos : Nat) (msg : String)
    (h : (evalProgram tbl src sels files).outcome = .runtimeErr s pos msg) :
    (s = src ∨ s ∈ sels) ∧ IsTokenStart s pos := by
  rcases runtime_error_pos_is_token tbl src sels files s pos msg h with
    ⟨rfl, prog, hp, t, ht, rfl⟩ | ⟨hs, expr, he, t, ht, rfl⟩
  · exact ⟨.inl rfl, parsed_blame_tokens tbl hT s prog hp t ht⟩
  · exact ⟨.inr hs, selector_tokens_are_tokens tbl hT s expr he false t ht⟩

/-- C12, runtime errors, full strength: **at the position of a runtime error a token other than
    EOF is written in the text the error is reported with** (`SpelledIn`: its spelling stands
    there; for a string or regex literal the position is that of the first byte after the
    opening delimiter), and the position lies strictly inside that text.  The "offset 0 of a
    text without tokens" case of `tokenStart_meaning` cannot occur: such a program has no rules
    and such a selector does not parse.  For tables that ask for `Regex()` only at `/` and have
    no prefix rule for EOF — as the real one. -/
theorem runtime_error_pos_real (tbl : RuleTable) (hT : TblRq AfterSlash tbl)
    (hE : (lookupRule tbl .eof).pre = none) (src : Bytes)
    (sels : List Bytes) (files : List InputFile) (s : Bytes) (pos : Nat) (msg : String)
    (h : (evalProgram tbl src sels files).outcome = .runtimeErr s pos msg) :
    (s = src ∨ s ∈ sels) ∧
    ∃ t, IsToken s t ∧ t.tag ≠ .eof ∧ t.pos = pos ∧ SpelledIn s t ∧ pos < s.length := by
  obtain ⟨hs, hts⟩ := runtime_error_pos_tokenStart tbl hT src sels files s pos msg h
  refine ⟨hs, ?_⟩
  rcases tokenStart_meaning s pos hts with hreal | ⟨_, hno⟩
  · exact hreal
  · exfalso
    rcases runtime_error_pos_is_token tbl src sels files s pos msg h with
      ⟨rfl, prog, hp, t, ht, _⟩ | ⟨_, expr, he, _⟩
    · rw [parseProgramSrc_noToken tbl s hno] at hp
      cases hp
      simp [Program.blameTokens] at ht
    · obtain ⟨e, he'⟩ := parseExpressionSrc_noToken tbl hE s hno
      rw [he'] at he; cases he

/-- `runtime_error_pos_real` for the rule table of src/parser.go, unconditionally -/
theorem runtime_error_pos_src (src : Bytes) (sels : List Bytes) (files : List InputFile)
    (s : Bytes) (pos : Nat) (msg : String)
    (h : (evalProgram expectedRuleTable src sels files).outcome = .runtimeErr s pos msg) :
    (s = src ∨ s ∈ sels) ∧
    ∃ t, IsToken s t ∧ t.tag ≠ .eof ∧ t.pos = pos ∧ SpelledIn s t ∧ pos < s.length :=
  runtime_error_pos_real expectedRuleTable tblRq_expected (by decide) src sels files s pos msg h

/-- C12, syntax errors of a run: the syntax error a run reports is the one of parsing the
    program text or one of the selector texts, and it is reported with that text; so
    `syntax_error_pos_partial` / `selector_syntax_error_pos_partial` apply to it. -/
theorem run_syntax_error (tbl : RuleTable) (src : Bytes) (sels : List Bytes)
    (files : List InputFile) (s : Bytes) (e : SynErr)
    (h : (evalProgram tbl src sels files).outcome = .syntaxErr s e) : SynErrOf tbl src sels s e := by
  have := run_positions tbl src sels files
  rw [h] at this; exact this.2

/-- C12, the report of a run: **whatever error a run reports — syntax, lexical or runtime, of
    the program or of a selector, for any rule table — its offset lies in the text it is
    reported with; the quoted line is line N of that text and the column lies within it.** -/
theorem reported_position_in_text (tbl : RuleTable) (src : Bytes) (sels : List Bytes)
    (files : List InputFile) (s : Bytes) (pos : Nat)
    (h : (∃ msg, (evalProgram tbl src sels files).outcome = .runtimeErr s pos msg) ∨
         (∃ e, (evalProgram tbl src sels files).outcome = .syntaxErr s e ∧ e.pos = pos)) :
    pos ≤ s.length ∧
    (splitLines s)[(getLineAndCol s pos).line - 1]? = some (getLineAndCol s pos).srcLine ∧
    (getLineAndCol s pos).col ≤ (getLineAndCol s pos).srcLine.length := by
  have hle : pos ≤ s.length := by
    rcases h with ⟨msg, h⟩ | ⟨e, h, rfl⟩
    · rcases runtime_error_pos_is_token tbl src sels files s pos msg h with
        ⟨rfl, prog, hp, t, ht, rfl⟩ | ⟨hs, expr, he, t, ht, rfl⟩
      · have := parseProgramSrc_prov (fun _ => True) false tbl (tblRq_true tbl) s
        rw [hp] at this
        exact (this.blame t ht).le
      · have := parseExpressionSrc_prov (fun _ => True) false tbl (tblRq_true tbl) s
        rw [he] at this
        exact (this t ht).le
    · rcases run_syntax_error tbl src sels files s e h with ⟨rfl, hp⟩ | ⟨_, hp⟩
      · exact (syntax_error_report tbl s e (.inl hp)).1
      · exact (syntax_error_report tbl s e (.inr hp)).1
  exact ⟨hle, srcLine_is_line_N s pos hle⟩

/-- non-vacuity: a runtime error inside a function called from a rule, on line 2 of a
    four-line program: offset 25, the `x` of `x.a.b.c = 1` (Go prints the same line and caret) -/
example : (match (evalProgram expectedRuleTable
      b!"function f(x) {\n  return x.a.b.c = 1\n}\n{ print f(1) }" [] [⟨b!"f", b!"1", .eof⟩]).outcome with
    | .runtimeErr s pos _ =>
      s == b!"function f(x) {\n  return x.a.b.c = 1\n}\n{ print f(1) }" && pos == 25 &&
      getLineAndCol s pos == ⟨b!"  return x.a.b.c = 1", 2, 9⟩
    | _ => false) = true := by decide +kernel

/-- non-vacuity: a runtime error behind a two-byte character; the column counts bytes -/
example : (match (evalProgram expectedRuleTable b!"{ y = \"é\" + $.a.q.z(1) }" []
      [⟨b!"f", b!"{\"a\":1}", .eof⟩]).outcome with
    | .runtimeErr s pos _ => pos == 13 && (getLineAndCol s pos).col == 13 && s[13]? == some 36
    | _ => false) = true := by decide +kernel

/-- non-vacuity: a runtime error on the last line, which has no final line feed; the position
    is that of the rewritten `+=` (`x += 1 / 0` → the `/`) -/
example : (match (evalProgram expectedRuleTable b!"BEGIN { x = 1 }\n\n{ x += 1 / 0 }" []
      [⟨b!"f", b!"{\"a\":1}", .eof⟩]).outcome with
    | .runtimeErr s pos _ => pos == 26 && getLineAndCol s pos == ⟨b!"{ x += 1 / 0 }", 3, 9⟩
    | _ => false) = true := by decide +kernel

/-- non-vacuity: a runtime error inside a `-r` selector is reported with the selector text and
    an offset into it … -/
example : (match (evalProgram expectedRuleTable b!"{ print }" [b!"  $.a ~ 1"]
      [⟨b!"f", b!"{\"a\":1}", .eof⟩]).outcome with
    | .runtimeErr s pos _ => s == b!"  $.a ~ 1" && pos == 8 | _ => false) = true := by
  decide +kernel
/-- a syntax error inside a selector is reported with the selector text too (at the start of its
    last token) -/
example : (match (evalProgram expectedRuleTable b!"{ print }" [b!"$.a +"]
      [⟨b!"f", b!"{\"a\":1}", .eof⟩]).outcome with
    | .syntaxErr s e => s == b!"$.a +" && e.pos == 4 | _ => false) = true := by
  decide +kernel


/-! ### 6. which token a runtime fault blames

  The evaluator raises a runtime error in 22 places of Jqawk/Model/Eval.lean and one of
  Jqawk/Model/Driver.lean (`throwRt <pos> <msg>`; natives never raise with a position: they
  return a plain error that `callFunction` raises at the call's token).  For each place there is
  a theorem below of the shape: evaluating THIS node, with the sub-evaluations ending as stated,
  yields `throwRt <token>.pos <msg> <state>` — i.e. (`throwRt_is_runtime`) the outcome
  `Err.runtime <token>.pos <msg>` — where `<token>` is named in terms of the node.  Fuel is
  explicit: the node is evaluated with one (or two) units more than its parts, and the
  hypotheses say that the parts did not run out of fuel.

  The blamed token is the one the Go code passes to `e.error(…)` at the corresponding place of
  src/evaluator.go (compared place by place; the line numbers are in `blame_table`).
  `Expr.token` is Go's `Node.Token()`: the node's own token for literals, identifiers, array /
  object literals, `match` and unary nodes (the operator); for a binary node (also `a.b`, `a[b]`,
  `a = b`) the token of its LEFT operand, for a call `f(…)` the token of the callee expression —
  hence always the LEFTMOST token of such a chain (`$` in `$.a.b.push(1)`).

  The messages are the model's: where Go interpolates the value kind or operator into the message
  (`attempted to call a %s`, `%s is not iterable`, `unknown operator %s`, `%s not supported in
  match expressions`) the model has a fixed text (messages are not part of the compared
  behaviour; positions are). -/

open BlameSites

section Blame
variable (prog : Program)

/-- raising a runtime error: the outcome is `Err.runtime pos msg`; the state is the one it was
    raised in, with the two ghost counters updated -/
theorem throwRt_is_runtime {α : Type} (pos : Nat) (msg : String) (s : St) :
    (throwRt pos msg s : Res α) =
      .err (.runtime pos msg) { s with faults := s.faults + 1, faultOut := s.out.length } := rfl

/-! #### binary operators (Eval.lean `evalBinary`; evaluator.go:569-726) -/

/-- C12, site `binaryOp … = .err` in `evalBinary` (evaluator.go:644, 682, 689, 704, 709), in
    general: an operator of the table (`== != < <= > >=`, `+ - * / %`, `~ !~`) whose value-level
    result on the two operand values is an error blames **the right operand's token for the two
    pattern errors of `~` / `!~`, the left operand's token for a failed comparison, the operator
    token otherwise (division / remainder by zero)**. -/
theorem blame_table_operator (n : Nat) (l r : Expr) (op : Token) (hop : isTableOp op.tag = true)
    (s s1 s2 : St) (cl cr : CellId)
    (hl : evalExpr prog n l s = .ok cl s1) (hr : evalExpr prog n r s1 = .ok cr s2)
    (atRight : Bool) (m : String)
    (hb : binaryOp op.tag (s2.heap.get cl) (s2.heap.get cr) = .err atRight m) :
    evalExpr prog (n + 2) (.binary l r op) s =
      throwRt (if atRight then r.token.pos
               else if isCompareOp op.tag then l.token.pos else op.pos) m s2 := by
  rw [evalExpr_binary, evalBinary_both prog n l r op (eager_of_table hop) hl hr,
    applyBinary_table hop, hb]

/-- C12: **`a / b` with `num(b)` zero and `a % b` with `trunc(num(b))` zero blame the operator
    token** (`/` or `%`) of that binary node, with "divide by zero" (evaluator.go:682, 689:
    `e.error(expr.OpToken, …)`) -/
theorem blame_divide_by_zero (n : Nat) (l r : Expr) (op : Token)
    (s s1 s2 : St) (cl cr : CellId)
    (hl : evalExpr prog n l s = .ok cl s1) (hr : evalExpr prog n r s1 = .ok cr s2)
    (hz : (op.tag = .divide ∧ (s2.heap.get cr).asNum.isZero = true) ∨
          (op.tag = .percent ∧ (s2.heap.get cr).asNum.toGoInt = 0)) :
    evalExpr prog (n + 2) (.binary l r op) s = throwRt op.pos "divide by zero" s2 := by
  have hb : binaryOp op.tag (s2.heap.get cl) (s2.heap.get cr) = .err false "divide by zero" ∧
      isTableOp op.tag = true ∧ isCompareOp op.tag = false := by
    rcases hz with ⟨ht, hz⟩ | ⟨ht, hz⟩ <;> rw [ht]
    · exact ⟨if_pos hz, rfl, rfl⟩
    · exact ⟨if_pos (c := ((s2.heap.get cr).asNum.toGoInt == 0) = true) (by rw [hz]; rfl), rfl, rfl⟩
  rw [blame_table_operator prog n l r op hb.2.1 s s1 s2 cl cr hl hr false _ hb.1, hb.2.2]
  rfl

/-- C12: **a comparison whose operands cannot be compared** (an array or object against anything
    but null / unset) **blames the token of the LEFT operand** (evaluator.go:644:
    `e.error(expr.Left.Token(), …)`), not the operator -/
theorem blame_cannot_compare (n : Nat) (l r : Expr) (op : Token) (hop : isCompareOp op.tag = true)
    (s s1 s2 : St) (cl cr : CellId)
    (hl : evalExpr prog n l s = .ok cl s1) (hr : evalExpr prog n r s1 = .ok cr s2)
    (hu : (s2.heap.get cl).kind ≠ .unknown ∧ (s2.heap.get cr).kind ≠ .unknown) (m : String)
    (hc : (s2.heap.get cl).compare (s2.heap.get cr) = .error m) :
    evalExpr prog (n + 2) (.binary l r op) s = throwRt l.token.pos m s2 := by
  have := blame_table_operator prog n l r op (by simp [isTableOp, hop]) s s1 s2 cl cr hl hr false m
    (by simp [binaryOp, hop, hu.1, hu.2, hc])
  rw [this]; simp [hop]

/-- C12: **`a ~ b` / `a !~ b` whose right operand is neither a string nor a regex, or is an
    invalid pattern, blames the token of the RIGHT operand** (evaluator.go:704, 709:
    `e.error(expr.Right.Token(), …)`) -/
theorem blame_regex_operand (n : Nat) (l r : Expr) (op : Token)
    (hop : op.tag = .tilde ∨ op.tag = .bangTilde)
    (s s1 s2 : St) (cl cr : CellId)
    (hl : evalExpr prog n l s = .ok cl s1) (hr : evalExpr prog n r s1 = .ok cr s2) :
    ((∀ p sp, s2.heap.get cr ≠ .str p sp) → (∀ p, s2.heap.get cr ≠ .regex p) →
      evalExpr prog (n + 2) (.binary l r op) s =
        throwRt r.token.pos "a regex or a string must appear on the right hand side of ~" s2) ∧
    (∀ p, (s2.heap.get cr = .regex p ∨ ∃ sp, s2.heap.get cr = .str p sp) →
      Re.compile p = .invalid →
      evalExpr prog (n + 2) (.binary l r op) s = throwRt r.token.pos "invalid regex" s2) := by
  have ht : isTableOp op.tag = true := by rcases hop with h | h <;> rw [h] <;> decide
  have hnc : isCompareOp op.tag = false ∧ isArithOp op.tag = false := by
    rcases hop with h | h <;> rw [h] <;> decide
  refine ⟨fun h1 h2 => ?_, fun p hp hinv => ?_⟩
  · have hb : binaryOp op.tag (s2.heap.get cl) (s2.heap.get cr) =
        .err true "a regex or a string must appear on the right hand side of ~" := by
      simp only [binaryOp, hnc.1, hnc.2, Bool.false_eq_true, ↓reduceIte]
    exact (blame_table_operator prog n l r op ht s s1 s2 cl cr hl hr true _ hb).trans rfl
  · have hb : binaryOp op.tag (s2.heap.get cl) (s2.heap.get cr) = .err true "invalid regex" := by
      simp only [binaryOp, hnc.1, hnc.2, Bool.false_eq_true, ↓reduceIte]
      rcases hp with hv | ⟨sp, hv⟩ <;> simp only [hv, hinv]
    exact (blame_table_operator prog n l r op ht s s1 s2 cl cr hl hr true _ hb).trans rfl

/-- C12, site `evalBinary`, "expected a type name" (evaluator.go:573):
    **`a is X` where `X` is not an identifier node
    blames X's token** -/
theorem blame_is_type_name (n : Nat) (l r : Expr) (op : Token) (hop : op.tag = .is)
    (hr : ∀ t, r ≠ .ident t) (s s1 : St) (cl : CellId) (hl : evalExpr prog n l s = .ok cl s1) :
    evalExpr prog (n + 2) (.binary l r op) s = throwRt r.token.pos "expected a type name" s1 := by
  rw [evalExpr_binary, evalBinary_eq, EM.bind_ok hl]
  simp only [binaryTail, hop]

/-- C12, site `evalBinary`, "unknown operator" (evaluator.go:726):
    **a binary node whose operator token is none of
    the operators `evalBinary` knows blames that operator token** (after evaluating both
    operands) -/
theorem blame_unknown_binary_operator (n : Nat) (l r : Expr) (op : Token)
    (hop : isBinaryTag op.tag = false) (s s1 s2 : St) (cl cr : CellId)
    (hl : evalExpr prog n l s = .ok cl s1) (hr : evalExpr prog n r s1 = .ok cr s2) :
    evalExpr prog (n + 2) (.binary l r op) s = throwRt op.pos "unknown operator" s2 := by
  rw [evalExpr_binary, evalBinary_both prog n l r op (eager_of_unknown hop) hl hr,
    applyBinary_unknown hop]

/-- C12, site `memberStep`, called by `evalBinary` for `[` and `.` (evaluator.go:600):
    **a member / index access `a.b`, `a[b]`
    whose lookup fails** (array index before the start: "index out of range"; an object or
    prototype indexed with something that is neither number nor string) **blames the token of the
    LEFT operand `a`** — for a chain `x.a[b]` the leftmost token `x` -/
theorem blame_member_access (n : Nat) (l r : Expr) (op : Token)
    (hop : op.tag = .dot ∨ op.tag = .lsquare) (s s1 s2 : St) (cl cr : CellId)
    (hl : evalExpr prog n l s = .ok cl s1) (hr : evalExpr prog n r s1 = .ok cr s2) (m : String)
    (hk : (s2.heap.get cl).kind ≠ .unknown)
    (hg : getMember s2.heap (s2.heap.get cl) (s2.heap.get cr) = .error m) :
    evalExpr prog (n + 2) (.binary l r op) s = throwRt l.token.pos m s2 := by
  rw [evalExpr_binary, evalBinary_both prog n l r op (eager_of_member hop) hl hr,
    applyBinary_member hop, memberStep_err _ hk hg]

/-- C12, sites `evalAssignment` (creating the target, copying the value), called by `evalBinary`
    for `=` (evaluator.go:820, 826):
    **a failed assignment
    `a = b` blames the token of the LEFT side `a`** (for `x.a.b = 1` the leftmost token `x`):
    (1) the target is a member that does not exist yet (or a method, or a character of a
    string) and cannot be created — `createSpeculative` fails, e.g. "cannot set member on a
    scalar"; (2) the target exists and the value cannot be copied (a function). -/
theorem blame_assignment (n : Nat) (l r : Expr) (op : Token) (hop : op.tag = .equal)
    (s s1 s2 : St) (cl cr : CellId)
    (hl : evalExpr prog n l s = .ok cl s1) (hr : evalExpr prog n r s1 = .ok cr s2) (m : String) :
    (∀ s', needsCreate (s2.heap.get cl) = true →
      createSpeculative (s2.heap.cells.size + 2) cl s2 = .ok (.error m) s' →
      evalExpr prog (n + 2) (.binary l r op) s = throwRt l.token.pos m s') ∧
    (needsCreate (s2.heap.get cl) = false → copyVal (s2.heap.get cr) = .error m →
      evalExpr prog (n + 2) (.binary l r op) s = throwRt l.token.pos m s2) := by
  rw [evalExpr_binary, evalBinary_both prog n l r op (eager_of_assign hop) hl hr,
    applyBinary_assign hop]
  exact ⟨fun s' hn hc => evalAssignment_create_err _ _ _ _ s' m hn hc,
    fun hn hc => evalAssignment_copy_err _ _ _ _ m hn hc⟩

/-! #### unary operators (Eval.lean `evalUnary`; evaluator.go:461-500) -/

/-- C12, site `evalAssignment` (creating the target), called by `evalUnary` (evaluator.go:820 called
    from :486 with `expr` = the unary
    node, whose `Token()` is the operator): **`a++`, `a--`, `++a`, `--a` whose operand is a
    member that cannot be created blames the OPERATOR token** (`++` / `--`), not the operand.
    (The other error of assignment, an uncopyable value, cannot occur: the value is a number.) -/
theorem blame_incdec (n : Nat) (e : Expr) (op : Token) (p : Bool)
    (hop : op.tag = .plusPlus ∨ op.tag = .minusMinus) (s s1 s' : St) (c : CellId)
    (he : evalExpr prog n e s = .ok c s1) (m : String)
    (hn : needsCreate (s1.heap.get c) = true) (hlt : c < s1.heap.cells.size)
    (hc : createSpeculative (s1.heap.cells.size + 1 + 2) c
      { s1 with heap := (s1.heap.alloc (.num (stepOp op.tag (s1.heap.get c)))).2 } = .ok (.error m) s') :
    evalExpr prog (n + 2) (.unary e op p) s = throwRt op.pos m s' := by
  have ha := evalAssignment_create_err op.pos c s1.heap.cells.size
    { s1 with heap := (s1.heap.alloc (.num (stepOp op.tag (s1.heap.get c)))).2 } s' m
    (by rw [← hn]; exact congrArg _ (Heap.get_alloc_old _ _ _ hlt)) (by simpa [Heap.alloc] using hc)
  rw [evalExpr_unary, evalUnary_eq, EM.bind_ok he, applyUnary_step hop]
  exact (EM.bind_ok rfl _).trans (EM.bind_rt ha _)

/-- C12, site `evalUnary`, "unknown operator" (evaluator.go:498):
    **a unary node whose operator token is none of
    `! + - ++ --` blames that operator token** -/
theorem blame_unknown_unary_operator (n : Nat) (e : Expr) (op : Token) (p : Bool)
    (hop : isUnaryTag op.tag = false) (s s1 : St) (c : CellId)
    (he : evalExpr prog n e s = .ok c s1) :
    evalExpr prog (n + 2) (.unary e op p) s = throwRt op.pos "unknown operator" s1 := by
  rw [evalExpr_unary, evalUnary_eq, EM.bind_ok he, applyUnary_unknown hop]

/-! #### literals and identifiers (evaluator.go:160-176, 205-235) -/

/-- C12, site `evalExpr` on a string literal, the error of `evalStringLit` (evaluator.go:213):
    **a string literal (or the field name of `a.b`)
    with a bad escape blames the literal's token** — whose position is the first byte after the
    opening quote -/
theorem blame_string_literal (n : Nat) (t : Token) (ht : t.tag = .str ∨ t.tag = .ident)
    (m : String) (hm : evalStringLit t.text = .error m) (s : St) :
    evalExpr prog (n + 1) (.lit t) s = throwRt t.pos m s := by
  rw [MatchSpec.evalExpr_lit_eq, Spec.litValue]
  rcases ht with h | h <;> simp only [h, hm] <;> rfl

/-- C12, site `evalExpr`, "could not parse number" (evaluator.go:227):
    **a number literal that does not parse blames
    the literal's token** -/
theorem blame_number_literal (n : Nat) (t : Token) (ht : t.tag = .num)
    (hm : F64.parse t.text = none) (s : St) :
    evalExpr prog (n + 1) (.lit t) s = throwRt t.pos "could not parse number" s := by
  rw [MatchSpec.evalExpr_lit_eq, Spec.litValue]
  simp only [ht, hm]
  rfl

/-- C12, site `getIdentifier`, "unknown variable $" (evaluator.go:166):
    **`$` outside a rule (no current record) blames
    the `$` token** -/
theorem blame_dollar (n : Nat) (t : Token) (ht : t.tag = .dollar) (s : St)
    (hr : s.ruleRoot = none) :
    evalExpr prog (n + 1) (.ident t) s = throwRt t.pos "unknown variable $" s := by
  rw [evalExpr_ident, getIdentifier_dollar_eq prog ht, hr]

/-- C12, site `getIdentifier`, the error of `getVariable` (evaluator.go:172):
    **an unknown `$name` variable blames that
    identifier token** (every other unknown name is created, so this is the only error) -/
theorem blame_dollar_variable (n : Nat) (t : Token) (ht : t.tag ≠ .dollar) (s : St)
    (hl : lookupFrames s.frames t.text = none) (hd : t.text.head? = some 36) :
    evalExpr prog (n + 1) (.ident t) s = throwRt t.pos "unknown variable" s := by
  rw [evalExpr_ident, getIdentifier_var prog ht, loopVar_err _ hl hd]

/-! #### object / array literals and argument lists (evaluator.go:322-333, 870-890) -/

/-- C12, site `evalObjItems`, called by `evalExpr` on an object literal (evaluator.go:329):
    **an object literal one of whose member
    values cannot be copied (a function) blames the literal's own token, the `{`** — not the
    member.  For a member at ANY position: the members before it (`pre`) evaluate and copy
    (`BlameSites.CopiedKV`, fuel going from `K` down to `n + 1`). -/
theorem blame_object_literal {K n : Nat} (t : Token) {pre : List (Bytes × Expr)}
    {acc' : List (Bytes × CellId)} {s s' : St}
    (hpre : CopiedKV prog K pre [] s (n + 1) acc' s') (k : Bytes) (e : Expr)
    (rest : List (Bytes × Expr)) (s1 : St) (c : CellId) (m : String)
    (he : evalExpr prog n e s' = .ok c s1) (hc : copyVal (s1.heap.get c) = .error m) :
    evalExpr prog (K + 1) (.obj t (pre ++ (k, e) :: rest)) s =
      throwRt t.pos m { s1 with heap := (s1.heap.alloc .unknown).2 } := by
  rw [evalExpr_obj, EM.bind_rt (evalObjItems_copy_err_at prog hpre t.pos k e rest s1 c m he hc)]

/-- C12, site `evalExprList`, called by `evalExpr` on an array literal (evaluator.go:883):
    **an array literal one of whose elements
    cannot be copied (a function) blames THAT element's token**, not the `[`.  For an element at
    any position: the elements before it evaluate and copy (`BlameSites.Copied`). -/
theorem blame_array_element {K n : Nat} (t : Token) {pre : List Expr} {s s' : St}
    (hpre : Copied prog K pre s (n + 1) s') (e : Expr) (rest : List Expr)
    (s1 : St) (c : CellId) (m : String)
    (he : evalExpr prog n e s' = .ok c s1) (hc : copyVal (s1.heap.get c) = .error m) :
    evalExpr prog (K + 1) (.arr t (pre ++ e :: rest)) s =
      throwRt e.token.pos m { s1 with heap := (s1.heap.alloc (.str [] none)).2 } := by
  rw [evalExpr_arr, EM.bind_rt (evalExprList_copy_err_at prog hpre e rest s1 c m he hc)]

/-- C12, site `evalExprList`, called by `evalExpr` for the arguments of a call (evaluator.go:883):
    **a call one of whose arguments cannot be
    copied (a function passed as argument) blames THAT argument's token**, not the callee.  For
    an argument at any position (the callee is evaluated first, then the arguments in order). -/
theorem blame_call_argument {K n : Nat} (f : Expr) {pre : List Expr} {s s0 s' : St} (fc : CellId)
    (hf : evalExpr prog K f s = .ok fc s0)
    (hpre : Copied prog K pre s0 (n + 1) s') (e : Expr) (rest : List Expr)
    (s1 : St) (c : CellId) (m : String)
    (he : evalExpr prog n e s' = .ok c s1) (hc : copyVal (s1.heap.get c) = .error m) :
    evalExpr prog (K + 1) (.call f (pre ++ e :: rest)) s =
      throwRt e.token.pos m { s1 with heap := (s1.heap.alloc (.str [] none)).2 } := by
  rw [evalExpr_call, EM.bind_ok hf,
    EM.bind_rt (evalExprList_copy_err_at prog hpre e rest s1 c m he hc)]

/-- non-vacuity of the "elements before it" hypotheses: a one-element prefix, `true` -/
example : ∃ s', Copied Program.empty 2 [.lit ⟨.true_, 5, []⟩] default 1 s' :=
  ⟨_, .cons (c := 0) (w := .bool true)
    (s1 := { (default : St) with heap := (Heap.empty.alloc (.bool true)).2 })
    (by with_unfolding_all rfl) (by decide) (by rfl) (.nil _ _)⟩
example : ∃ acc' s', CopiedKV Program.empty 2 [(b!"a", .lit ⟨.true_, 5, []⟩)] [] default 1 acc' s' :=
  ⟨_, _, .cons (c := 0) (w := .bool true)
    (s1 := { (default : St) with heap := (Heap.empty.alloc (.bool true)).2 })
    (by with_unfolding_all rfl) (by decide) (by rfl) (.nil _ _ _)⟩

/-! #### calls (Eval.lean `callFunction`; evaluator.go:411-457) -/

/-- C12, sites `callFunction` (its three `throwRt`), called by `evalExpr` on a call
    (evaluator.go:415, 427, 456,
    `e.error(exp.Token(), …)` with `exp` the call node): **every error of a call — calling
    something that is not a function; an error returned by a native function or method (wrong
    receiver kind, wrong / missing arguments, …); the call depth limit — blames the token of the
    callee expression** (`f` in `f(1)`; the leftmost token `$` in `$.a.push(1)`). -/
theorem blame_call (n : Nat) (f : Expr) (args : List Expr) (s s1 s2 : St) (fc : CellId)
    (acs : List CellId)
    (hf : evalExpr prog (n + 1) f s = .ok fc s1)
    (ha : evalExprList prog (n + 1) args true s1 = .ok acs s2) :
    ((∀ g b sp, s2.heap.get fc ≠ .native g b sp) → (∀ i, s2.heap.get fc ≠ .fn i) →
      evalExpr prog (n + 2) (.call f args) s =
        throwRt f.token.pos "attempted to call a non-function" s2) ∧
    (∀ g b sp m s', s2.heap.get fc = .native g b sp →
      callNative g (acs.map s2.heap.get) (b.map s2.heap.get) s2 = .ok (.error m) s' →
      evalExpr prog (n + 2) (.call f args) s = throwRt f.token.pos m s') ∧
    (∀ i fd, s2.heap.get fc = .fn i → prog.functions[i]? = some fd →
      s2.frames.length > callDepthLimit →
      evalExpr prog (n + 2) (.call f args) s =
        throwRt f.token.pos "call depth limit exceeded" s2) := by
  rw [evalExpr_call, EM.bind_ok hf, EM.bind_ok ha]
  refine ⟨fun h1 h2 => ?_, fun g b sp m s' hv hc => ?_, fun i fd hv hfd hd => ?_⟩
  · rw [callFunction_eq]
    split <;> first | exact absurd ‹_› (h1 _ _ _) | exact absurd ‹_› (h2 _) | rfl
  · rw [callFunction_eq, hv]; exact EM.bind_ok hc _
  · rw [callFunction_fn prog _ _ _ _ _ hv hfd, framed_eq, if_pos hd]

/-! #### match (evaluator.go:276-395) -/

/-- C12, site `evalMatchCases`, called by `evalExpr` on a `match` (evaluator.go:290):
    **the call depth limit reached when a
    `match` arm is entered blames the `match` keyword token.**  For a case at any position: the
    cases before it (`pre`) do not match (`BlameSites.Skipped`). -/
theorem blame_match_depth {K n : Nat} (t : Token) (v : Expr) {pre : List MatchCase}
    (pats : List Expr) (body : Stmt)
    (rest : List MatchCase) {s s0 s1 : St} (s2 : St) {value : CellId} (b : List (Bytes × CellId))
    (hv : evalExpr prog K v s = .ok value s0)
    (hpre : Skipped prog K pre value s0 (n + 1) s1)
    (hm : evalCaseMatch prog n value pats s1 = .ok (some b) s2)
    (hd : s2.frames.length > callDepthLimit) :
    evalExpr prog (K + 1) (.match_ t v (pre ++ .mk pats body :: rest)) s =
      throwRt t.pos "call depth limit exceeded" s2 := by
  rw [evalExpr_match, EM.bind_ok hv, evalMatchCases_skipped prog hpre,
    MatchSpec.evalMatchCases_cons, EM.bind_ok hm]
  show framed _ t.pos _ s2 = _
  rw [framed_eq, if_pos hd]

/-- C12, site `evalCaseMatch`, "not supported in match expressions" (evaluator.go:375):
    **a match pattern that is neither a literal, an
    array pattern nor an identifier blames that pattern's token** (`Expr.token`: e.g. the
    operator of a unary pattern `-1`, the leftmost token of `a.b`).  At the level of
    `evalCaseMatch`, which handles the alternatives of a case AND (one at a time) the elements
    of an array pattern: so the statement covers nested patterns too.  For an alternative at
    any position: the alternatives before it do not match (`BlameSites.AltsSkipped`). -/
theorem blame_match_pattern_unsupported {K n : Nat} {value : CellId} {pre : List Expr} {s s' : St}
    (hpre : AltsSkipped prog K pre value s (n + 1) s') (p : Expr) (rest : List Expr)
    (hp : patSupported p = false) :
    evalCaseMatch prog K value (pre ++ p :: rest) s =
      throwRt p.token.pos "not supported in match expressions" s' := by
  rw [evalCaseMatch_skipped prog hpre, MatchSpec.evalCaseMatch_cons, patAt_unsupported prog n hp]
  rfl

/-- C12, site `evalCaseMatch`, a literal pattern (evaluator.go:354):
    **a literal pattern that cannot be compared with
    the subject (the subject is an array or object, the literal is not null) blames the
    literal's token.**  Same level and generality as `blame_match_pattern_unsupported`. -/
theorem blame_match_literal {K n : Nat} {value : CellId} {pre : List Expr} {s s' : St}
    (hpre : AltsSkipped prog K pre value s (n + 1) s') (t : Token) (rest : List Expr)
    (s1 : St) (c : CellId) (m : String)
    (he : evalExpr prog n (.lit t) s' = .ok c s1)
    (hk : (s1.heap.get value).kind ≠ .unknown)
    (hc : (s1.heap.get value).compare (s1.heap.get c) = .error m) :
    evalCaseMatch prog K value (pre ++ .lit t :: rest) s = throwRt t.pos m s1 := by
  rw [evalCaseMatch_skipped prog hpre, MatchSpec.evalCaseMatch_cons]
  refine EM.bind_rt (?_ : Spec.patMatches (evalExpr prog n) (.lit t) value s' = _) _
  rw [MatchSpec.patMatches_lit, EM.bind_ok he, readCell_bind, readCell_bind, Spec.litMatches,
    if_neg (by simpa using hk), hc]

/-- `blame_match_pattern_unsupported` and `blame_match_literal` seen from the `match` node: the
    error of testing the patterns of a case (whatever it is: `r` is `throwRt <pattern token>.pos …` by the two theorems above) is the result of
    the whole `match`, for a case at any position -/
theorem blame_match_pattern_node {K n : Nat} (t : Token) (v : Expr) {pre : List MatchCase}
    (pats : List Expr) (body : Stmt) (rest : List MatchCase) {s s0 s1 : St} {value : CellId}
    (hv : evalExpr prog K v s = .ok value s0)
    (hpre : Skipped prog K pre value s0 (n + 1) s1) (e : Err) (s2 : St)
    (hm : evalCaseMatch prog n value pats s1 = .err e s2) :
    evalExpr prog (K + 1) (.match_ t v (pre ++ .mk pats body :: rest)) s = .err e s2 := by
  rw [evalExpr_match, EM.bind_ok hv, evalMatchCases_skipped prog hpre,
    MatchSpec.evalMatchCases_cons, EM.bind_err hm]

/-- non-vacuity of the "cases / alternatives before it do not match" hypotheses: the subject is
    `false`, the case / alternative before is the literal `true` -/
example : ∃ s', Skipped Program.empty 3 [.mk [.lit ⟨.true_, 5, []⟩] (.expr (.lit ⟨.null, 9, []⟩))] 0
    { (default : St) with heap := (Heap.empty.alloc (.bool false)).2 } 2 s' :=
  ⟨_, .cons (s1 := { (default : St) with heap := ((Heap.empty.alloc (.bool false)).2.alloc (.bool true)).2 })
   (by with_unfolding_all rfl) (.nil _ _ _)⟩
example : ∃ s', AltsSkipped Program.empty 2 [.lit ⟨.true_, 5, []⟩] 0
    { (default : St) with heap := (Heap.empty.alloc (.bool false)).2 } 1 s' :=
  ⟨_, .cons (s1 := { (default : St) with heap := ((Heap.empty.alloc (.bool false)).2.alloc (.bool true)).2 })
   (by with_unfolding_all rfl) (.nil _ _ _)⟩

/-! #### `for (x in e)` (evaluator.go:1010-1076) -/

/-- C12, sites `evalStmt` on `for … in`, the two errors of `getVariable` (evaluator.go:1014, 1022,
    `e.error(st.Token(), …)` where
    `StatementForIn.Token()` is the loop variable): **an unknown `$name` as loop variable blames
    the loop variable's token; an unknown `$name` as INDEX variable ALSO blames the (first) loop
    variable's token**, not the index variable's (the Go code passes `st.Token()` in both). -/
theorem blame_forin_variable (n : Nat) (id : Token) (iter : Expr) (body : Stmt) :
    (∀ idx s, lookupFrames s.frames id.text = none → id.text.head? = some 36 →
      evalStmt prog (n + 1) (.forIn id idx iter body) s = throwRt id.pos "unknown variable" s) ∧
    (∀ it s s1 c, getVariable id.text s = .ok (.ok c) s1 →
      lookupFrames s1.frames it.text = none → it.text.head? = some 36 →
      evalStmt prog (n + 1) (.forIn id (some it) iter body) s =
        throwRt id.pos "unknown variable" s1) := by
  refine ⟨fun idx s hl hd => ?_, fun it s s1 c hv hl hd => ?_⟩ <;>
    rw [Spec.evalStmt_forIn] <;> refine EM.bind_rt ?_ _ <;> unfold Spec.forInHeader
  · exact EM.bind_rt (loopVar_err _ hl hd) _
  · rw [EM.bind_ok (loopVar_ok _ hv)]
    exact EM.bind_rt (EM.bind_rt (loopVar_err _ hl hd) _) _

/-- C12, site `evalStmt` on `for … in`, "not iterable" (evaluator.go:1075):
    **`for (x in e)` / `for (x, i in e)` over a
    value that is not an array, object or string blames e's token** (`Expr.token` of the
    iterable expression) -/
theorem blame_forin_not_iterable (n : Nat) (id : Token) (iter : Expr) (body : Stmt)
    (s s1 s2 : St) (c ci : CellId) (hv : getVariable id.text s = .ok (.ok c) s1) :
    (evalExpr prog n iter s1 = .ok ci s2 → iterable (s2.heap.get ci) = false →
      evalStmt prog (n + 1) (.forIn id none iter body) s =
        throwRt iter.token.pos "not iterable" s2) ∧
    (∀ it s1' c', getVariable it.text s1 = .ok (.ok c') s1' →
      evalExpr prog n iter s1' = .ok ci s2 → iterable (s2.heap.get ci) = false →
      evalStmt prog (n + 1) (.forIn id (some it) iter body) s =
        throwRt iter.token.pos "not iterable" s2) := by
  refine ⟨fun he hk => ?_, fun it s1' c' hv' he hk => ?_⟩ <;>
    rw [Spec.evalStmt_forIn] <;> refine EM.bind_rt ?_ _ <;> unfold Spec.forInHeader <;>
    rw [EM.bind_ok (loopVar_ok _ hv)]
  · rw [EM.bind_ok (rfl : (pure none : EM (Option CellId)) s1 = .ok none s1), EM.bind_ok he,
      getHeap_bind]
    cases hg : s2.heap.get ci <;> first | rfl | (rw [hg] at hk; cases hk)
  · have h2 : (Spec.loopVar id.pos it.text >>= fun c => pure (some c)) s1 = .ok (some c') s1' :=
      EM.bind_ok (loopVar_ok _ hv') _
    rw [EM.bind_ok h2, EM.bind_ok he, getHeap_bind]
    cases hg : s2.heap.get ci <;> first | rfl | (rw [hg] at hk; cases hk)

end Blame

/-! #### the `-r` selector (Driver.lean `selectorRun`; evaluator.go:1203) -/

/-- C12, site `selectorRun`: **a `-r` selector whose value cannot be copied (it selects a
    method or a function) blames the selector expression's token** (`Expr.token`: the leftmost
    token, `$` in `$.length`), reported with the selector's text (`evalSelector`). -/
theorem blame_selector_copy (rootValue : JVal) (expr : Expr) (s s0 s1 : St) (v : Val) (c : CellId)
    (m : String) (hv : newValueJson rootValue s = .ok v s0)
    (he : evalExpr Program.empty evalFuel expr (selectorStart v s0) = .ok c s1)
    (hc : copyVal (s1.heap.get c) = .error m) :
    selectorRun rootValue expr s =
      throwRt expr.token.pos m { s1 with heap := (s1.heap.alloc .unknown).2 } := by
  rw [selectorRun_eq, EM.bind_ok hv, getSt_bind, EM.bind_ok (rfl : setSt _ s0 = .ok () _),
    EM.bind_ok he, copyFresh_err _ _ hc]

/-! #### the blamed token belongs to the faulting node -/

theorem tokens_sub_tokensEs (kw : Bool) (e : Expr) (es : List Expr) (h : e ∈ es) :
    ∀ t ∈ e.tokens kw, t ∈ tokensEs kw es := fun t ht => by
  rw [tokensEs_eq_flatMap]; exact List.mem_flatMap.2 ⟨e, h, ht⟩

/-- C12: **every token blamed by the theorems of this section is one of the tokens of the node
    whose evaluation faulted** (`Expr.tokens` / `Stmt.tokens`: the tokens stored in that subtree):
    operator and both operands' tokens of a binary node; the operator of a unary node; the callee's
    token and each argument's token of a call; each element's token of an array literal; the `{`
    of an object literal; the `match` keyword and each top-level pattern's token; the loop
    variable and the iterable's token of `for … in`.  So the reported column is the first byte of
    a token INSIDE the offending construct (see `blame_table`). -/
theorem blamed_token_in_node (kw : Bool) :
    (∀ l r op, op ∈ (Expr.binary l r op).tokens kw ∧ l.token ∈ (Expr.binary l r op).tokens kw ∧
      r.token ∈ (Expr.binary l r op).tokens kw) ∧
    (∀ e op p, op ∈ (Expr.unary e op p).tokens kw) ∧
    (∀ f args, f.token ∈ (Expr.call f args).tokens kw ∧
      ∀ a ∈ args, a.token ∈ (Expr.call f args).tokens kw) ∧
    (∀ t items, ∀ a ∈ items, a.token ∈ (Expr.arr t items).tokens kw) ∧
    (∀ t items, t ∈ (Expr.obj t items).tokens kw) ∧
    (∀ t v pats body rest, t ∈ (Expr.match_ t v (.mk pats body :: rest)).tokens kw ∧
      ∀ p ∈ pats, p.token ∈ (Expr.match_ t v (.mk pats body :: rest)).tokens kw) ∧
    (∀ id idx iter body, id ∈ (Stmt.forIn id idx iter body).tokens kw ∧
      iter.token ∈ (Stmt.forIn id idx iter body).tokens kw) ∧
    (∀ e : Expr, e.token ∈ e.tokens kw) := by
  refine ⟨fun l r op => ?_, fun e op p => ?_, fun f args => ⟨?_, fun a ha => ?_⟩,
    fun t items a ha => ?_, fun t items => ?_, fun t v pats body rest => ⟨?_, fun p hp => ?_⟩,
    fun id idx iter body => ?_, Expr.token_mem kw⟩
  · simp [Expr.tokens, Expr.token_mem kw l, Expr.token_mem kw r]
  · simp [Expr.tokens]
  · simp [Expr.tokens, Expr.token_mem kw f]
  · simp only [Expr.tokens, List.mem_append]
    exact .inr (tokens_sub_tokensEs kw a args ha _ (Expr.token_mem kw a))
  · simp only [Expr.tokens, List.mem_cons]
    exact .inr (tokens_sub_tokensEs kw a items ha _ (Expr.token_mem kw a))
  · simp [Expr.tokens]
  · simp [Expr.tokens]
  · simp only [Expr.tokens, tokensCases, List.mem_cons, List.mem_append]
    exact .inr (.inr (.inl (.inl (tokens_sub_tokensEs kw p pats hp _ (Expr.token_mem kw p)))))
  · simp [Stmt.tokens, Expr.token_mem kw iter]


/-! #### the summary -/

/-- C12, runtime errors, the whole report — and **the table of blamed tokens**.

    What a run reports for a runtime error: the text `s` (program or selector), an offset `pos`
    and a message.  This theorem (for the rule table of src/parser.go) says: at `pos` a token
    other than EOF is written in `s` (`SpelledIn`: the FIRST byte of the token, or of the content
    of a string / regex literal), strictly inside `s`; the reported line is 1 + the number of
    line feeds before `pos`, the reported column is the distance from the start of that line to
    `pos` — so the caret stands under the first byte of that token — and the quoted line is that
    line of `s`.

    WHICH token that is, is said by the theorems of this section, one per place where the
    evaluator raises a runtime error (all `throwRt` of Jqawk/Model/Eval.lean and Driver.lean;
    left: the function of the model / the line of src/evaluator.go; right: the blamed token; it is
    the token the Go code passes to `e.error` at that line):

    | site (function of Model/Eval.lean / line of evaluator.go) | fault | blamed token | theorem |
    |---|---|---|---|
    | `evalAssignment` from `evalBinary` / 820, 826 | `a = b`: target cannot be created; value cannot be copied | token of the left side `a` (leftmost token of a chain) | `blame_assignment` |
    | `evalAssignment` (creating) from `evalUnary` / 820 via 486 | `a++ a-- ++a --a`: target cannot be created | the operator `++` / `--` | `blame_incdec` |
    | `evalAssignment` (copying) from `evalUnary` | (`++`/`--` store a number, which always copies: `copyVal (.num x) = .ok _`; no theorem) | the operator, if it occurred | — |
    | `memberStep` from `evalBinary` / 600 | `a.b`, `a[b]`: lookup fails | token of `a` (leftmost) | `blame_member_access` |
    | `evalExpr`, string literal / 213 | bad escape in a string literal / field name | the literal (first byte after the quote) | `blame_string_literal` |
    | `evalExpr`, number literal / 227 | number literal does not parse (the lexer never produces one) | the literal | `blame_number_literal` |
    | `getIdentifier`, `$` / 166 | `$` without a current record (no run reaches it: every rule sets one) | the `$` | `blame_dollar` |
    | `getIdentifier`, `$name` / 172 | unknown `$name` | that identifier | `blame_dollar_variable` |
    | `evalObjItems` / 329 | object literal: member value cannot be copied | the `{` of the literal | `blame_object_literal` |
    | `evalExprList` for an array literal / 883 | array literal: element cannot be copied | that element's token | `blame_array_element` |
    | `evalExprList` for arguments / 883 | call: argument cannot be copied | that argument's token | `blame_call_argument` |
    | `evalMatchCases` / 290 | `match`: call depth limit on entering an arm | the `match` keyword | `blame_match_depth` |
    | `evalCaseMatch`, literal / 354 | literal pattern cannot be compared with the subject | the literal pattern | `blame_match_literal` (+ `blame_match_pattern_node`) |
    | `evalCaseMatch`, last arm / 375 | unsupported pattern | the pattern's token (`Expr.token`) | `blame_match_pattern_unsupported` (+ `blame_match_pattern_node`) |
    | `callFunction` / 415, 427, 456 | call: native / method error, depth limit, not a function | token of the callee expression (leftmost) | `blame_call` |
    | `evalUnary`, last arm / 498 | unknown unary operator (never parsed: `parse_ops`, Lemmas/ParserOps.lean) | the operator | `blame_unknown_unary_operator` |
    | `evalBinary`, `is` / 573 | `a is X`, X not a name (never parsed: `parse_wf`, Lemmas/ParserWF.lean) | X's token | `blame_is_type_name` |
    | `evalBinary`, `binaryOp` error at the right / 704, 709 | `~` `!~`: right side not a pattern / invalid | token of the RIGHT operand | `blame_regex_operand` |
    | `evalBinary`, `binaryOp` error of a comparison / 644 | comparison of incomparable values | token of the LEFT operand | `blame_cannot_compare` |
    | `evalBinary`, other `binaryOp` error / 682, 689 | `/` `%` by zero | the operator | `blame_divide_by_zero` |
    | `evalBinary`, last arm / 726 | unknown binary operator (never parsed: `parse_ops`) | the operator | `blame_unknown_binary_operator` |
    | `evalStmt`, `for … in` variables / 1014, 1022 | `for (x, i in e)`: unknown `$name` as x or as i | the loop variable x (also for i) | `blame_forin_variable` |
    | `evalStmt`, `for … in` iterable / 1075 | `for (x in e)`: e not iterable | e's token | `blame_forin_not_iterable` |
    | `selectorRun` (Model/Driver.lean) / 1203 | `-r` selector selects a method / function | the selector's token (leftmost) | `blame_selector_copy` |

    Each blamed token is one of the tokens of the node that faulted (`blamed_token_in_node`), every
    token of a parsed program / selector carries the offset of a token of the text
    (`parsed_blame_tokens`, `selector_tokens_are_tokens`) and is spelled there (`token_spelled`).
    Together: **line and quoted line agree with the text, and the column points at the first byte
    of the blamed token, which is a token of the offending construct.**
    Not in the model: Go's `fuzz test loop limit` error (evaluator.go:972, 1005; only with the
    fuzzing flag) and the two unreachable `default:` arms (evaluator.go:336, 1086). -/
theorem blame_table (src : Bytes) (sels : List Bytes) (files : List InputFile)
    (s : Bytes) (pos : Nat) (msg : String)
    (h : (evalProgram expectedRuleTable src sels files).outcome = .runtimeErr s pos msg) :
    (s = src ∨ s ∈ sels) ∧
    (∃ t, IsToken s t ∧ t.tag ≠ .eof ∧ t.pos = pos ∧ SpelledIn s t) ∧ pos < s.length ∧
    (splitLines s)[(getLineAndCol s pos).line - 1]? = some (getLineAndCol s pos).srcLine ∧
    (getLineAndCol s pos).col ≤ (getLineAndCol s pos).srcLine.length ∧
    (getLineAndCol s pos).col ≤ pos ∧
    (s.take (pos - (getLineAndCol s pos).col)).count 10 + 1 = (getLineAndCol s pos).line ∧
    (10 : UInt8) ∉ (s.drop (pos - (getLineAndCol s pos).col)).take (getLineAndCol s pos).col ∧
    (pos - (getLineAndCol s pos).col = 0 ∨ s[pos - (getLineAndCol s pos).col - 1]? = some 10) := by
  obtain ⟨hs, t, h1, h2, h3, h4, h5⟩ := runtime_error_pos_src src sels files s pos msg h
  have hle : pos ≤ s.length := Nat.le_of_lt h5
  obtain ⟨a1, a2⟩ := srcLine_is_line_N s pos hle
  obtain ⟨b1, b2, b3, b4⟩ := col_is_distance s pos hle
  exact ⟨hs, ⟨t, h1, h2, h3, h4⟩, h5, a1, a2, b1, b2, b3, b4⟩

/-! #### instances: each fault occurs, at the stated token

  Whole runs (program text → parser → evaluator): the outcome is a runtime error at the offset
  of the blamed token, whose first byte stands there, with the stated message.  For the four
  faults no parsed program reaches, hand-built nodes. -/

/-- `blame_divide_by_zero`: the `/` (offset 15) and the `%` (offset 14) -/
example : (match (evalProgram expectedRuleTable b!"BEGIN { x = 10 / 0 }" [] []).outcome with
    | .runtimeErr s pos msg => pos == 15 && s[pos]? == some 47 && msg == "divide by zero"
    | _ => false) = true := by decide +kernel
example : (match (evalProgram expectedRuleTable b!"BEGIN { x = 7 % 0.5 }" [] []).outcome with
    | .runtimeErr s pos msg => pos == 14 && s[pos]? == some 37 && msg == "divide by zero"
    | _ => false) = true := by decide +kernel
/-- the hypotheses of `blame_divide_by_zero` on a hand-built node: both operands evaluate, the divisor's value is zero -/
example : (match evalExpr Program.empty 1 (.lit ⟨.num, 12, b!"10"⟩) default with
    | .ok cl s1 => (match evalExpr Program.empty 1 (.lit ⟨.num, 17, b!"0"⟩) s1 with
      | .ok cr s2 => cl == 0 && cr == 1 && (s2.heap.get cr).asNum.isZero | _ => false)
    | _ => false) = true := by decide +kernel
/-- `blame_cannot_compare`: `o.k < 2` with an array in `o.k` blames the `o` (offset 29, on the
    second line), not the `<`; line 2, column 6 -/
example : (match (evalProgram expectedRuleTable b!"BEGIN { o = {\"k\": [1]}\n  x = o.k < 2 }" [] []).outcome with
    | .runtimeErr s pos msg => pos == 29 && s[pos]? == some 111 && msg == "cannot compare" &&
        getLineAndCol s pos == ⟨b!"  x = o.k < 2 }", 2, 6⟩
    | _ => false) = true := by decide +kernel
example : (Val.arr 0).kind ≠ .unknown ∧ (Val.num F64.one).kind ≠ .unknown ∧
    (Val.arr 0).compare (.num F64.one) = .error "cannot compare" := ⟨by decide, by decide, by rfl⟩
/-- `blame_regex_operand`: the right operand `1` (offset 18); the content of `"("` (offset 19) -/
example : (match (evalProgram expectedRuleTable b!"BEGIN { x = \"a\" ~ 1 }" [] []).outcome with
    | .runtimeErr s pos msg => pos == 18 && s[pos]? == some 49 &&
        msg == "a regex or a string must appear on the right hand side of ~"
    | _ => false) = true := by decide +kernel
example : (match (evalProgram expectedRuleTable b!"BEGIN { x = \"a\" ~ \"(\" }" [] []).outcome with
    | .runtimeErr s pos msg => pos == 19 && s[pos]? == some 40 && msg == "invalid regex"
    | _ => false) = true := by decide +kernel
/-- `blame_is_type_name`, `blame_unknown_binary_operator`, `blame_unknown_unary_operator`: nodes
    the parser never builds -/
example : (match evalExpr Program.empty 3
      (.binary (.lit ⟨.num, 0, b!"1"⟩) (.lit ⟨.num, 5, b!"2"⟩) ⟨.is, 2, []⟩) default,
      evalExpr Program.empty 3
      (.binary (.lit ⟨.num, 0, b!"1"⟩) (.lit ⟨.num, 5, b!"2"⟩) ⟨.comma, 2, []⟩) default,
      evalExpr Program.empty 3 (.unary (.lit ⟨.num, 3, b!"1"⟩) ⟨.comma, 1, []⟩ false) default with
    | .err (.runtime p1 m1) _, .err (.runtime p2 m2) _, .err (.runtime p3 m3) _ =>
      p1 == 5 && m1 == "expected a type name" && p2 == 2 && m2 == "unknown operator" &&
      p3 == 1 && m3 == "unknown operator"
    | _, _, _ => false) = true := by decide +kernel
example : isBinaryTag .comma = false ∧ isUnaryTag .comma = false ∧
    ∀ t, Expr.lit ⟨.num, 5, b!"2"⟩ ≠ .ident t := ⟨by decide, by decide, fun _ h => by cases h⟩
/-- `blame_member_access`: `a[-5]` on a one-element array blames the `a` (offset 21) -/
example : (match (evalProgram expectedRuleTable b!"BEGIN { a = [1]; x = a[-5] }" [] []).outcome with
    | .runtimeErr s pos msg => pos == 21 && s[pos]? == some 97 && msg == "index out of range"
    | _ => false) = true := by decide +kernel
example : (match getMember ⟨#[.arr 0, .num (F64.ofInt (-5))], #[#[]], #[]⟩ (.arr 0)
      (.num (F64.ofInt (-5))) with
    | .error m => m == "index out of range" | _ => false) = true := by decide +kernel
/-- `blame_assignment`, both cases: a member of a number cannot be created (the `x`, offset 15);
    a function cannot be copied (the `y`, offset 34) -/
example : (match (evalProgram expectedRuleTable b!"BEGIN { x = 1; x.a = 2 }" [] []).outcome with
    | .runtimeErr s pos msg => pos == 15 && s[pos]? == some 120 && msg == "cannot set member on a scalar"
    | _ => false) = true := by decide +kernel
example : (match (evalProgram expectedRuleTable b!"function f() { return 1 }\nBEGIN { y = f }" [] []).outcome with
    | .runtimeErr s pos msg => pos == 34 && s[pos]? == some 121 && msg == "cannot copy a function"
    | _ => false) = true := by decide +kernel
/-- `blame_incdec`: postfix and prefix both blame the `++` (offsets 18 and 15), not the `x` -/
example : (match (evalProgram expectedRuleTable b!"BEGIN { x = 1; x.a++ }" [] []).outcome,
      (evalProgram expectedRuleTable b!"BEGIN { x = 1; ++x.a }" [] []).outcome with
    | .runtimeErr s1 p1 m1, .runtimeErr s2 p2 _ => p1 == 18 && s1[p1]? == some 43 &&
        m1 == "cannot set member on a scalar" && p2 == 15 && s2[p2]? == some 43
    | _, _ => false) = true := by decide +kernel
example : needsCreate (.nil (some ⟨0, .str b!"a"⟩)) = true ∧ needsCreate (.num F64.one) = false ∧
    copyVal (.fn 0) = .error "cannot copy a function" ∧
    (match Re.compile b!"(" with | .invalid => true | _ => false) = true :=
  ⟨by decide, by decide, by rfl, by decide +kernel⟩
/-- `blame_string_literal`: the offset is that of the first byte after the opening quote -/
example : (match (evalProgram expectedRuleTable b!"BEGIN { x = \"a\\q\" }" [] []).outcome with
    | .runtimeErr s pos msg => pos == 13 && s[pos]? == some 97 && s[pos - 1]? == some 34 &&
        msg == "unknown escape char"
    | _ => false) = true := by decide +kernel
/-- `blame_number_literal`, `blame_dollar`: a token the lexer never produces; a state no run has -/
example : (match evalExpr Program.empty 1 (.lit ⟨.num, 4, b!"1x"⟩) default,
      evalExpr Program.empty 1 (.ident ⟨.dollar, 6, []⟩) default with
    | .err (.runtime p1 m1) _, .err (.runtime p2 m2) _ =>
      p1 == 4 && m1 == "could not parse number" && p2 == 6 && m2 == "unknown variable $"
    | _, _ => false) = true := by decide +kernel
example : F64.parse b!"1x" = none ∧ (default : St).ruleRoot = none := by decide +kernel
/-- `blame_dollar_variable`: `$foo` (offset 12) -/
example : (match (evalProgram expectedRuleTable b!"BEGIN { x = $foo }" [] []).outcome with
    | .runtimeErr s pos msg => pos == 12 && s[pos]? == some 36 && msg == "unknown variable"
    | _ => false) = true := by decide +kernel
/-- `blame_object_literal` (the `{`, offset 38), `blame_array_element` (the `f`, offset 42, not
    the `[`), `blame_call_argument` (the `f`, offset 47, not `printf`) -/
example : (match (evalProgram expectedRuleTable
      b!"function f() { return 1 }\nBEGIN { x = {\"a\": f} }" [] []).outcome,
      (evalProgram expectedRuleTable b!"function f() { return 1 }\nBEGIN { x = [1, f] }" [] []).outcome,
      (evalProgram expectedRuleTable
      b!"function f() { return 1 }\nBEGIN { printf(\"%s\", f) }" [] []).outcome with
    | .runtimeErr s1 p1 m1, .runtimeErr s2 p2 _, .runtimeErr s3 p3 _ =>
      p1 == 38 && s1[p1]? == some 123 && m1 == "cannot copy a function" &&
      p2 == 42 && s2[p2]? == some 102 && p3 == 47 && s3[p3]? == some 102
    | _, _, _ => false) = true := by decide +kernel
/-- `blame_call`: not a function (the `x`, offset 15); a builtin's error (`num`, offset 12); a
    method's error blames the receiver chain's first token (the `s`, offset 21); the depth
    limit (a hand-built state with 4099 open frames: the `f`, offset 23; a run reaches it by
    runaway recursion, `function f(x) { return f(x) }`) -/
example : (match (evalProgram expectedRuleTable b!"BEGIN { x = 1; x(2) }" [] []).outcome,
      (evalProgram expectedRuleTable b!"BEGIN { y = num() }" [] []).outcome,
      (evalProgram expectedRuleTable b!"BEGIN { s = \"x\"; y = s.split(1) }" [] []).outcome with
    | .runtimeErr s1 p1 m1, .runtimeErr s2 p2 m2, .runtimeErr s3 p3 m3 =>
      p1 == 15 && s1[p1]? == some 120 && m1 == "attempted to call a non-function" &&
      p2 == 12 && s2[p2]? == some 110 && m2 == "expected n argument(s)" &&
      p3 == 21 && s3[p3]? == some 115 && m3 == "wrong argument type"
    | _, _, _ => false) = true := by decide +kernel
example : (match evalExpr ⟨[], [⟨⟨.ident, 9, b!"f"⟩, [], .block Token.zero []⟩]⟩ 5
      (.call (.ident ⟨.ident, 23, b!"f"⟩) [])
      { (default : St) with heap := (Heap.empty.alloc (.fn 0)).2,
                            frames := ⟨b!"<root>", [(b!"f", 0)]⟩ :: List.replicate 4098 default } with
    | .err (.runtime pos msg) _ => pos == 23 && msg == "call depth limit exceeded"
    | _ => false) = true := by decide +kernel
/-- `blame_match_depth`: a hand-built state with 4098 open frames; the subject evaluates and the
    identifier pattern matches, then the `match` token (offset 7) is blamed -/
example : (match evalExpr Program.empty 5
      (.match_ ⟨.match_, 7, []⟩ (.lit ⟨.num, 14, b!"1"⟩)
        [.mk [.ident ⟨.ident, 19, b!"y"⟩] (.expr (.lit ⟨.num, 24, b!"2"⟩))])
      { (default : St) with frames := List.replicate 4098 default } with
    | .err (.runtime pos msg) _ => pos == 7 && msg == "call depth limit exceeded"
    | _ => false) = true := by decide +kernel
/-- `blame_match_literal` (the pattern `1`, offset 33), `blame_match_pattern_unsupported` (the
    `-` of the pattern `-1`, offset 24; nested in an array pattern, offset 32) -/
example : (match (evalProgram expectedRuleTable
      b!"BEGIN { a = [1]; x = match (a) { 1 => 2 } }" [] []).outcome,
      (evalProgram expectedRuleTable b!"BEGIN { x = match (1) { -1 => 2 } }" [] []).outcome,
      (evalProgram expectedRuleTable
      b!"BEGIN { x = match ([1,2]) { [1, -2] => 2 } }" [] []).outcome with
    | .runtimeErr s1 p1 m1, .runtimeErr s2 p2 m2, .runtimeErr s3 p3 _ =>
      p1 == 33 && s1[p1]? == some 49 && m1 == "cannot compare" &&
      p2 == 24 && s2[p2]? == some 45 && m2 == "not supported in match expressions" &&
      p3 == 32 && s3[p3]? == some 45
    | _, _, _ => false) = true := by decide +kernel
example : patSupported (.unary (.lit ⟨.num, 25, b!"1"⟩) ⟨.minus, 24, []⟩ false) = false := by decide
/-- `blame_match_pattern_unsupported`: the second alternative of the second case (the `-` of `-5`, offset 35); the second member of
    an object literal still blames the `{` (offset 38) -/
example : (match (evalProgram expectedRuleTable
      b!"BEGIN { x = match (3) { 1 => 2, 2, -5 => 3 } }" [] []).outcome,
      (evalProgram expectedRuleTable
      b!"function f() { return 1 }\nBEGIN { x = {\"a\": 1, \"b\": f} }" [] []).outcome with
    | .runtimeErr s1 p1 _, .runtimeErr s2 p2 _ =>
      p1 == 35 && s1[p1]? == some 45 && p2 == 38 && s2[p2]? == some 123
    | _, _ => false) = true := by decide +kernel
/-- `blame_forin_variable`: `$q` as loop variable (offset 13); as INDEX variable the loop
    variable `x` (offset 13) is blamed, not `$q` (offset 16) -/
example : (match (evalProgram expectedRuleTable b!"BEGIN { for ($q in [1]) { } }" [] []).outcome,
      (evalProgram expectedRuleTable b!"BEGIN { for (x, $q in [1]) { } }" [] []).outcome with
    | .runtimeErr s1 p1 m1, .runtimeErr s2 p2 m2 =>
      p1 == 13 && s1[p1]? == some 36 && m1 == "unknown variable" &&
      p2 == 13 && s2[p2]? == some 120 && s2[16]? == some 36 && m2 == "unknown variable"
    | _, _ => false) = true := by decide +kernel
/-- `blame_forin_not_iterable`: the `5` (offset 18); the first token of `1 + 2` (offset 21) -/
example : (match (evalProgram expectedRuleTable b!"BEGIN { for (x in 5) { } }" [] []).outcome,
      (evalProgram expectedRuleTable b!"BEGIN { for (x, i in 1 + 2) { } }" [] []).outcome with
    | .runtimeErr s1 p1 m1, .runtimeErr s2 p2 _ =>
      p1 == 18 && s1[p1]? == some 53 && m1 == "not iterable" && p2 == 21 && s2[p2]? == some 49
    | _, _ => false) = true := by decide +kernel
/-- `blame_selector_copy`: `-r '  $.a.length'` selects a method: the `$` (offset 2 of the
    selector text) -/
example : (match (evalProgram expectedRuleTable b!"{ print }" [b!"  $.a.length"]
      [⟨b!"f", b!"{\"a\":[1]}", .eof⟩]).outcome with
    | .runtimeErr s pos msg => s == b!"  $.a.length" && pos == 2 && s[pos]? == some 36 &&
        msg == "cannot copy a nativefunction"
    | _ => false) = true := by decide +kernel

end Jqawk.C12
