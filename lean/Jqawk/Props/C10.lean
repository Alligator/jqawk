/-
  C10 — output is a deterministic function of program, selectors and input bytes.

  In the model determinism holds by typing: `evalProgram` is a Lean function, the prototype
  tables (`arrayProto`, `objProto`, `strProto`, `numProto` in Model/Value.lean) are pure lookup
  functions that no `St` component can overwrite, and there is no state outside `St`.  What this
  says about the Go code is carried by (a) the facts tie, Audit/FactsTie.lean — map-range sites,
  package-level variables and the import list of src/ —, (b) the differential tests, and (c) the
  theorems below: the model represents a Go map as a member list in ARBITRARY order, and every
  reader of that list (rendering, JSON conversion, for-in, lookup) is invariant under
  permutation of it, so Go's random map iteration order cannot be observed.
-/
import Jqawk.Model.Driver
import Jqawk.Lemmas.Render
import Jqawk.Lemmas.Order

namespace Jqawk.C10
open Jqawk

/-! ### sorting forgets the insertion order -/

/-- `Bytes.cmp` (Go's string comparison) is a total order: antisymmetric, transitive, total -/
theorem cmp_total_order :
    (∀ a b, Bytes.cmp a b = .eq ↔ a = b) ∧
    (∀ a b, Bytes.cmp b a = (Bytes.cmp a b).swap) ∧
    (∀ a b c, Bytes.cmp a b = .lt → Bytes.cmp b c = .lt → Bytes.cmp a c = .lt) ∧
    (∀ a b, Bytes.le a b = true ∨ Bytes.le b a = true) :=
  ⟨Bytes.cmp_eq_iff, Bytes.cmp_swap, Bytes.cmp_lt_trans, Bytes.le_total⟩

/-- the result of `sortByKey` is a permutation of its input in ascending key order -/
theorem sortByKey_sorts (m : List (Bytes × CellId)) :
    (sortByKey m).Perm m ∧ (sortByKey m).Pairwise (fun x y => Bytes.le x.1 y.1 = true) :=
  ⟨sortByKey_perm m, sortByKey_sorted m⟩

/-- Clause "in particular those printing or iterating objects with two or more keys": member
    lists that are permutations of each other (same map, different iteration/insertion order),
    with pairwise distinct keys as in any Go map, sort to the SAME list. -/
theorem sortByKey_perm_invariant (m1 m2 : List (Bytes × CellId)) (p : m1.Perm m2)
    (hd : m1.Pairwise (fun x y => x.1 ≠ y.1)) : sortByKey m1 = sortByKey m2 :=
  sortByKey_perm_eq m1 m2 p hd

example : [(b!"b", 1), (b!"a", 0), (b!"ab", 2)].Perm [(b!"ab", 2), (b!"b", 1), (b!"a", 0)] ∧
    [(b!"b", 1), (b!"a", 0), (b!"ab", 2)].Pairwise (fun x y => x.1 ≠ y.1) ∧
    sortByKey [(b!"b", 1), (b!"a", 0), (b!"ab", 2)] = [(b!"a", 0), (b!"ab", 2), (b!"b", 1)] := by
  refine ⟨?_, by decide +kernel, rfl⟩
  exact (List.Perm.cons _ (List.Perm.swap _ _ _)).trans (List.Perm.swap _ _ _)

/-- the hypothesis `distinct keys` is needed: the sort is stable, so with a duplicate key the
    insertion order shows (such a list never represents a Go map; `objInsert` keeps keys unique) -/
example : sortByKey [(b!"a", 0), (b!"a", 1)] ≠ sortByKey [(b!"a", 1), (b!"a", 0)] := by decide +kernel

/-- map lookup is order independent as well -/
theorem objLookup_perm_invariant (m1 m2 : List (Bytes × CellId)) (p : m1.Perm m2)
    (hd : m1.Pairwise (fun x y => x.1 ≠ y.1)) (k : Bytes) : objLookup m1 k = objLookup m2 k :=
  objLookup_perm m1 m2 p hd k

/-! ### rendering and JSON conversion do not see the member order -/

/-- Clause "standard output … a function only of …": two heaps that differ only in the order
    of the member lists of their objects render every value identically -/
theorem pretty_order_independent (h1 h2 : Heap) (e : HeapOrderEq h1 h2) (n : Nat)
    (path : List Cont) (q check : Bool) (v : Val) :
    pretty h1 n path q check v = pretty h2 n path q check v := by
  rw [pretty_congr h1 h2 e.get e.arr e.sorted n]

theorem prettyTop_order_independent (h1 h2 : Heap) (e : HeapOrderEq h1 h2) (v : Val) :
    prettyTop h1 v = prettyTop h2 v := by
  simp only [prettyTop, renderFuel, e.arrs, e.nobjs]
  exact pretty_order_independent h1 h2 e _ _ _ _ _

/-- Clause "the JSON output": the same for the conversion behind `-o` and `json()` -/
theorem toJVal_order_independent (h1 h2 : Heap) (e : HeapOrderEq h1 h2) (n : Nat)
    (path : List Cont) (check : Bool) (v : Val) :
    toJVal h1 n path check v = toJVal h2 n path check v := by
  rw [toJVal_congr h1 h2 e.get e.arr e.sorted n]

theorem toJValTop_order_independent (h1 h2 : Heap) (e : HeapOrderEq h1 h2) (v : Val) :
    toJValTop h1 v = toJValTop h2 v := by
  simp only [toJValTop, renderFuel, e.arrs, e.nobjs]
  exact toJVal_order_independent h1 h2 e _ _ _ _

/-- `-o`: `GetRootJson` of two states that differ only in member order -/
theorem getRootJson_order_independent (s1 s2 : St) (e : HeapOrderEq s1.heap s2.heap)
    (hr : s1.root = s2.root) : getRootJson s1 = getRootJson s2 := by
  simp only [getRootJson, hr, e.get, toJValTop_order_independent _ _ e]

/-- for-in over an object: the sequence of (key, cell) pairs visited (Model/Eval.lean, `.forIn`
    case: `sortByKey (h.obj o)`) is the same in both heaps -/
theorem forIn_order_independent (h1 h2 : Heap) (e : HeapOrderEq h1 h2) (o : ObjId) :
    sortByKey (h1.obj o) = sortByKey (h2.obj o) := e.sorted o

/-- non-vacuity: two heaps holding `{"a": 1-cell, "b": 2-cell}` in both orders -/
def hA : Heap := ⟨#[.nil none, .bool true], #[], #[[(b!"a", 0), (b!"b", 1)]]⟩
def hB : Heap := ⟨#[.nil none, .bool true], #[], #[[(b!"b", 1), (b!"a", 0)]]⟩
example : HeapOrderEq hA hB := by
  refine ⟨rfl, rfl, rfl, ?_, ?_⟩
  · intro o
    match o with
    | 0 => exact List.Perm.swap _ _ _
    | o + 1 => exact .nil
  · intro o
    match o with
    | 0 => exact (by decide : List.Pairwise (fun x y => x.1 ≠ y.1) [(b!"a", 0), (b!"b", 1)])
    | o + 1 => exact .nil
example : prettyTop hB (.obj 0) = some b!"{\"a\": null, \"b\": true}" := by decide +kernel

/-- when two members fail with different errors, the model reports the member with the smaller
    key (as Go does, which walks `sortedKeys()` in `toGoValueInterval`) -/
example : (match toJValTop ⟨#[.regex b!"x", .obj 0], #[], #[[(b!"b", 1), (b!"a", 0)]]⟩ (.obj 0) with
    | .error m => m | _ => "") = "a regex cannot be converted to a native type" := by rfl
example : (match toJValTop ⟨#[.obj 0, .regex b!"x"], #[], #[[(b!"b", 1), (b!"a", 0)]]⟩ (.obj 0) with
    | .error m => m | _ => "") = "circular reference" := by rfl

/-! ### a run is a function of its arguments -/

/-- Bookkeeping: equal program text, selectors and input give equal results (stdout chunks,
    JSON output, outcome).  True by typing; the substance is in the file header. -/
theorem run_is_function (tbl : RuleTable) (src1 src2 : Bytes) (sels1 sels2 : List Bytes)
    (files1 files2 : List InputFile) (h1 : src1 = src2) (h2 : sels1 = sels2) (h3 : files1 = files2) :
    evalProgram tbl src1 sels1 files1 = evalProgram tbl src2 sels2 files2 := by
  subst h1 h2 h3; rfl

end Jqawk.C10
