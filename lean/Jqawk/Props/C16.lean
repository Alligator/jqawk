/-
  C16 — the methods and builtins honour their documented contract: `split` (pieces rejoin to the
  text and hold no separator; UTF-8 sequences for the empty separator), `length`, `pluck`,
  `upper` / `lower` (ASCII), `num()`, `floor` / `ceil` / `round` (the mathematical integer, exactly),
  and for every native: a value or an error value on any receiver and arguments, the neutral
  value on a receiver of another kind.  (Of `json()` only this last part is shown; `printf` is
  C18's subject, the array methods C15's.)
-/
import Jqawk.Lemmas.Split
import Jqawk.Lemmas.Natives
import Jqawk.Lemmas.Round

namespace Jqawk.C16
open Jqawk

/-! ### split with a non-empty separator -/

/-- joining the pieces with the separator gives the string back -/
theorem split_join (s sep : Bytes) (hsep : sep ≠ []) : joinSep sep (splitOn s sep) = s := by
  have := joinSep_splitOnAux sep hsep (s.length + 1) s [] (Nat.lt_succ_self _)
  simpa [splitOn] using this

/-- no piece contains the separator -/
theorem split_no_sep (s sep : Bytes) (hsep : sep ≠ []) : ∀ p ∈ splitOn s sep, ¬ sep <:+: p :=
  splitOnAux_no_sep sep hsep _ s [] (by simpa using NoOcc.nil sep s)

/-- there is always at least one piece (the empty string splits to `[""]`) -/
theorem splitOn_nonempty (s sep : Bytes) : splitOn s sep ≠ [] :=
  splitOnAux_ne_nil _ _ _ _

example : splitOn b!"a,b,,c," b!"," = [b!"a", b!"b", b!"", b!"c", b!""] ∧ splitOn b!"" b!"," = [b!""]
    ∧ splitOn b!"aaa" b!"aa" = [b!"", b!"a"] := by decide

/-! ### split with the empty separator -/

/-- the pieces concatenate to the string -/
theorem explode_join (s : Bytes) : (explode s).flatten = s :=
  explodeAux_flatten _ s (Nat.le_refl _)

/-- every piece is one UTF-8 sequence or one invalid byte: 1 to 4 bytes -/
theorem explode_pieces (s : Bytes) : ∀ p ∈ explode s, 1 ≤ p.length ∧ p.length ≤ 4 :=
  explodeAux_pieces _ s

/-- `utf8.DecodeRuneInString` consumes 1 to 4 bytes of a non-empty string -/
theorem decode_width (b0 : UInt8) (rest : Bytes) :
    1 ≤ (utf8DecodeHead (b0 :: rest)).2 ∧ (utf8DecodeHead (b0 :: rest)).2 ≤ 4 :=
  utf8DecodeHead_width b0 rest

theorem goSplit_empty_sep (s : Bytes) : goSplit s [] = explode s := rfl

theorem goSplit_nonempty_sep (s sep : Bytes) (h : sep ≠ []) : goSplit s sep = splitOn s sep := by
  cases sep with
  | nil => exact absurd rfl h
  | cons c cs => rfl

example : explode b!"aé€😀" = [b!"a", b!"é", b!"€", b!"😀"] ∧ explode [0x61, 0xFF, 0xC3] = [[0x61], [0xFF], [0xC3]] := by
  decide +kernel

/-! ### length -/

/-- string length counts bytes; nothing changes; arguments are ignored -/
theorem length_bytes (s : Bytes) (sp : Option SpecRef) (args : List Val) (st : St) :
    callNative .strLength args (some (.str s sp)) st = .ok (.ok (some (.num (F64.ofNat s.length)))) st :=
  rfl

/-- object length counts keys; nothing changes -/
theorem length_keys (o : ObjId) (args : List Val) (st : St) :
    callNative .objLength args (some (.obj o)) st
      = .ok (.ok (some (.num (F64.ofNat (st.heap.obj o).length)))) st :=
  rfl

/-! ### pluck -/

/-- the pairs `pluck` collects: one per requested key, in order, with the value of the *own*
    member (`objLookup members` — never a prototype method) or null; a key that is neither a
    string nor a number is an error -/
theorem pluck_spec (h : Heap) (members : List (Bytes × CellId)) (args : List Val) :
    pluckCollect h members args [] =
      if args.all isKeyVal then
        .ok (args.map fun k => (k.str!, match objLookup members k.str! with
                                         | some c => h.get c
                                         | none => .nil none))
      else .error "objects can only be indexed with numbers or strings" := by
  rw [pluckCollect_eq]; rfl

/-- `o.pluck(k1, …)` returns a NEW object (its id is the old number of objects) and leaves every
    existing object — the receiver included —, every array and every existing cell unchanged -/
theorem pluck_new_object (o : ObjId) (args : List Val) (s s' : St) (r : Option Val)
    (h : callNative .objPluck args (some (.obj o)) s = .ok (.ok r) s') :
    r = some (.obj s.heap.objs.size) ∧
    (∀ o', o' < s.heap.objs.size → s'.heap.obj o' = s.heap.obj o') ∧
    s'.heap.arrs = s.heap.arrs ∧
    (∀ c, c < s.heap.cells.size → s'.heap.get c = s.heap.get c) ∧
    s' = { s with heap := s'.heap } := by
  rw [callNative_objPluck] at h
  split at h
  · cases h
  · rename_i kvs _
    injection h with h1 h2
    cases h1; subst h2
    refine ⟨rfl, ?_, rfl, ?_, rfl⟩
    · intro o' ho'
      simp [Heap.obj, Array.getD_eq_getD_getElem?, Array.getElem?_push, Nat.ne_of_lt ho']
    · intro c hc
      exact Heap.get_allocMany_old s.heap _ c hc

/-- non-vacuity of `pluck_new_object` / `pluck_members`: `{a: true}.pluck("a", "zz")` succeeds -/
example : ∃ r s', callNative .objPluck [.str b!"a" none, .str b!"zz" none] (some (.obj 0))
      { (default : St) with heap := ⟨#[.bool true], #[], #[[(b!"a", 0)]]⟩ } = .ok (.ok r) s' :=
  ⟨_, _, rfl⟩

/-- the new object holds exactly the requested keys, each with the original's own value (null
    when absent) -/
theorem pluck_members (o : ObjId) (args : List Val) (s s' : St) (r : Option Val)
    (h : callNative .objPluck args (some (.obj o)) s = .ok (.ok r) s') :
    (∀ k ∈ args, ∃ c, objLookup (s'.heap.obj s.heap.objs.size) k.str! = some c ∧
        s'.heap.get c = pluckVal s.heap (s.heap.obj o) k.str!) ∧
    (∀ key c, objLookup (s'.heap.obj s.heap.objs.size) key = some c → ∃ k ∈ args, k.str! = key) := by
  rw [callNative_objPluck, pluckCollect_eq] at h
  split at h
  · cases h
  · rename_i kvs hk
    split at hk
    · injection hk with hk
      simp only [List.reverse_nil, List.nil_append] at hk
      injection h with h1 h2
      subst h2
      obtain ⟨f, hf⟩ : ∃ f, f = fun key => pluckVal s.heap (s.heap.obj o) key := ⟨_, rfl⟩
      simp only [← hf] at hk ⊢
      have hkeys : kvs.map (·.1) = args.map (·.str!) := by rw [← hk]; simp
      have hvals : kvs.map (·.2) = args.map (fun k => f k.str!) := by rw [← hk]; simp [hf]
      have hlen : kvs.length = args.length := by rw [← hk]; simp
      -- the member list of the new object
      have hobj : ({ s.heap.allocMany (kvs.map (·.2)) with
            objs := s.heap.objs.push (pluckMembers ((kvs.map (·.1)).zip
              (List.range' s.heap.cells.size kvs.length)) []) } : Heap).obj s.heap.objs.size
          = pluckMembers ((kvs.map (·.1)).zip (List.range' s.heap.cells.size kvs.length)) [] := by
        simp [Heap.obj, Array.getD_eq_getD_getElem?]
      simp only [hobj]
      -- every (key, cell) pair inserted satisfies: cell holds f key, key was requested
      have hpairs : ∀ kc ∈ (kvs.map (·.1)).zip (List.range' s.heap.cells.size kvs.length),
          (s.heap.allocMany (kvs.map (·.2))).get kc.2 = f kc.1 ∧ ∃ k ∈ args, k.str! = kc.1 := by
        intro kc hkc
        obtain ⟨i, hi, rfl⟩ := List.mem_iff_getElem.mp hkc
        simp only [List.length_zip, List.length_map, List.length_range', Nat.min_self] at hi
        simp only [List.getElem_zip, List.getElem_range', Nat.one_mul]
        constructor
        · rw [Heap.get_allocMany_new _ _ i (by simpa using hi)]
          simp only [hvals, hkeys, List.getElem_map]
        · refine ⟨args[i]'(hlen ▸ hi), List.getElem_mem _, ?_⟩
          simp only [hkeys, List.getElem_map]
      constructor
      · intro k hkm
        have hsome := objLookup_pluckMembers_isSome
          ((kvs.map (·.1)).zip (List.range' s.heap.cells.size kvs.length)) [] k.str! (.inl (by
            obtain ⟨i, hi, rfl⟩ := List.mem_iff_getElem.mp hkm
            refine ⟨s.heap.cells.size + i, ?_⟩
            apply List.mem_iff_getElem.mpr
            refine ⟨i, by simpa [hlen] using hi, ?_⟩
            simp [hkeys]))
        obtain ⟨c, hc⟩ := Option.isSome_iff_exists.mp hsome
        refine ⟨c, hc, ?_⟩
        exact objLookup_pluckMembers_inv (fun key c => (s.heap.allocMany (kvs.map (·.2))).get c = f key)
          _ [] (by simp [objLookup]) (fun kc hkc => (hpairs kc hkc).1) _ _ hc
      · intro key c hc
        exact objLookup_pluckMembers_inv (fun key _ => ∃ k ∈ args, k.str! = key)
          _ [] (by simp [objLookup]) (fun kc hkc => (hpairs kc hkc).2) _ _ hc
    · cases hk

/-- a key of another kind is an error and nothing changes (a receiver of another kind:
    `wrong_kind_neutral`) -/
theorem pluck_bad_key (o : ObjId) (args : List Val) (s : St) (h : args.all isKeyVal = false) :
    ∃ m, callNative .objPluck args (some (.obj o)) s = .ok (.error m) s := by
  rw [callNative_objPluck, pluckCollect_eq]
  simp [h]

/-- non-vacuity of `pluck_bad_key`: a boolean key -/
example : [Val.str b!"a" none, .bool true].all isKeyVal = false := by decide

example : (pluckCollect ⟨#[.bool true], #[], #[]⟩ [(b!"a", 0)] [.str b!"a" none, .str b!"length" none, .num F64.one] []).toOption
    = some [(b!"a", .bool true), (b!"length", .nil none), (b!"1", .nil none)] := by decide +kernel

/-! ### upper / lower -/

/-- ASCII case mapping: same length, bytes outside `a–z` unchanged, `a–z` shifted by 32, and
    lower∘upper = lower (no hypothesis on `s` is needed for these) -/
theorem upper_lower_ascii (s : Bytes) :
    (upperAscii s).length = s.length ∧ (lowerAscii s).length = s.length ∧
    (∀ (i : Nat) (c : UInt8), s[i]? = some c →
      (upperAscii s)[i]? = some (if 97 ≤ c ∧ c ≤ 122 then c - 32 else c)) ∧
    (∀ (i : Nat) (c : UInt8), s[i]? = some c →
      (lowerAscii s)[i]? = some (if 65 ≤ c ∧ c ≤ 90 then c + 32 else c)) ∧
    lowerAscii (upperAscii s) = lowerAscii s := by
  refine ⟨List.length_map _, List.length_map _, ?_, ?_, ?_⟩
  · intro i c h
    rw [upperAscii, List.getElem?_map, h]
    simp only [Option.map_some, Bool.and_eq_true, decide_eq_true_eq]
  · intro i c h
    rw [lowerAscii, List.getElem?_map, h]
    simp only [Option.map_some, Bool.and_eq_true, decide_eq_true_eq]
  · simp only [upperAscii, lowerAscii, List.map_map]
    apply List.map_congr_left
    intro c _
    exact lower_upper_byte c

/-- on ASCII text `upper` / `lower` return the mapped copy and change nothing -/
theorem upper_lower_call (s : Bytes) (sp : Option SpecRef) (args : List Val) (st : St)
    (h : isAsciiBytes s = true) :
    callNative .strUpper args (some (.str s sp)) st = .ok (.ok (some (.str (upperAscii s) none))) st ∧
    callNative .strLower args (some (.str s sp)) st = .ok (.ok (some (.str (lowerAscii s) none))) st := by
  constructor <;> simp [callNative, bind, EM.bind, getHeap, pure, EM.pure, h]

/-- on non-ASCII text the model declines (Go's Unicode case tables are not modelled) -/
theorem upper_lower_nonascii (s : Bytes) (sp : Option SpecRef) (args : List Val) (st : St)
    (h : isAsciiBytes s = false) :
    (∃ why, callNative .strUpper args (some (.str s sp)) st = .err (.unmodelled why) st) ∧
    (∃ why, callNative .strLower args (some (.str s sp)) st = .err (.unmodelled why) st) := by
  constructor <;> simp [callNative, bind, EM.bind, getHeap, h, throwUnmodelled]

example : upperAscii b!"aZ-09{z" = b!"AZ-09{Z" ∧ isAsciiBytes b!"aZ-09{z" = true
    ∧ isAsciiBytes b!"é" = false := by decide

/-! ### num() -/

/-- `num(s)` is the parsed double for a numeric string and null otherwise; `num(x)` truncates a
    number through Go's `int`; any other kind gives null; another argument count is an error;
    the state never changes -/
theorem num_spec (args : List Val) (this : Option Val) (st : St) :
    callNative .num args this st =
      .ok (match args with
        | [.str s _] => (match F64.parse s with
                         | some x => .ok (some (.num x))
                         | none => .ok (some (.nil none)))
        | [.num x] => .ok (some (.num (F64.ofInt x.toGoInt)))
        | [_] => .ok (some (.nil none))
        | _ => .error "expected n argument(s)") st := by
  match args with
  | [] => rfl
  | [v] =>
    cases v
    case str s _ =>
      have h (o : Option F64) :
          (match o with
            | some x => (pure (.ok (some (.num x))) : EM NativeRes)
            | none => pure (.ok (some (.nil none)))) st
          = .ok (match o with | some x => .ok (some (.num x)) | none => .ok (some (.nil none))) st := by
        cases o <;> rfl
      exact h (F64.parse s)
    all_goals rfl
  | v :: _ :: _ => cases v <;> rfl

/-- `num(s)` returns a number iff `s` parses -/
theorem num_string_iff (s : Bytes) (sp : Option SpecRef) (this : Option Val) (st : St) (x : F64) :
    callNative .num [.str s sp] this st = .ok (.ok (some (.num x))) st ↔ F64.parse s = some x := by
  rw [num_spec]
  cases hp : F64.parse s <;> simp [hp]

example : F64.parse b!"0.1" = some ⟨0x3FB999999999999A⟩ ∧ F64.parse b!"abc" = none := by decide +kernel

/-! ### never a crash -/

/-- the outcome of a native is a returned value/error, or one of the two declared exceptions:
    out of fuel (only the renderers of printf/json) and "unmodelled" (only lower/upper) -/
def NativeTotal (f : Native) : Res NativeRes → Prop
  | .ok _ _ => True
  | .oof => f = .printf ∨ f = .json
  | .err (.unmodelled _) _ => f = .strLower ∨ f = .strUpper
  | .err _ _ => False

/-- totality (for EVERY receiver, not only one of the wrong kind as the name suggests): every
    native on every receiver (also none / wrong kind) and every argument list returns a
    value or an error value — never a panic, signal or raised runtime error — EXCEPT the two
    outcomes `NativeTotal` allows: "out of fuel" for `printf` / `json` (for `printf` excluded by
    `C18.printf_oof_only_from_render` with `C17.pretty_terminates`; not excluded here for `json`)
    and the model's "unmodelled" for `lower` / `upper` (non-ASCII text, `upper_lower_nonascii`) -/
theorem wrong_kind_total (f : Native) (args : List Val) (this : Option Val) (s : St) :
    NativeTotal f (callNative f args this s) :=
  callNative_outcome (P := NativeTotal f) (fun _ _ => trivial) id (fun h _ => h) args this

/-- in particular: no panic, no control-flow signal, no raised runtime error -/
theorem never_crash (f : Native) (args : List Val) (this : Option Val) (s s' : St) (e : Err)
    (h : callNative f args this s = .err e s') : ∃ why, e = .unmodelled why := by
  have := wrong_kind_total f args this s
  rw [h] at this
  cases e <;> simp [NativeTotal] at this
  exact ⟨_, rfl⟩

/-- non-vacuity of `never_crash`: the one raised outcome there is, `upper` on non-ASCII text -/
example : ∃ e s', callNative .strUpper [] (some (.str b!"é" none)) default = .err e s' :=
  ⟨_, _, (upper_lower_nonascii b!"é" none [] default (by decide)).1.choose_spec⟩

/-- a method on a receiver of another kind (or none) returns its documented neutral value -/
theorem wrong_kind_neutral (args : List Val) (this : Option Val) (s : St) :
    (this.map Val.kind ≠ some .arr → callNative .arrLength args this s = .ok (.ok (some (.num F64.zero))) s ∧
      callNative .arrPush args this s = .ok (.ok none) s ∧ callNative .arrPop args this s = .ok (.ok none) s ∧
      callNative .arrPopfirst args this s = .ok (.ok none) s ∧
      callNative .arrContains args this s = .ok (.ok none) s ∧ callNative .arrSort args this s = .ok (.ok none) s) ∧
    (this.map Val.kind ≠ some .obj → callNative .objLength args this s = .ok (.ok (some (.num F64.zero))) s ∧
      callNative .objPluck args this s = .ok (.ok none) s) ∧
    (this.map Val.kind ≠ some .str → callNative .strLength args this s = .ok (.ok (some (.num F64.zero))) s ∧
      callNative .strLower args this s = .ok (.ok (some (.num F64.zero))) s ∧
      callNative .strUpper args this s = .ok (.ok (some (.num F64.zero))) s) ∧
    (this.map Val.kind ≠ some .num → callNative .numFloor args this s = .ok (.ok (some (.nil none))) s ∧
      callNative .numCeil args this s = .ok (.ok (some (.nil none))) s ∧
      callNative .numRound args this s = .ok (.ok (some (.nil none))) s) := by
  have other {f k} (hf : Native.recvKind f = some k) (hk : this.map Val.kind ≠ some k) :
      callNative f args this s = f.offKind s :=
    congrFun (callNative_offKind hf args fun v hv hkv => hk (by rw [hv, ← hkv]; rfl)) s
  exact ⟨fun h => ⟨other rfl h, other rfl h, other rfl h, other rfl h, other rfl h, other rfl h⟩,
    fun h => ⟨other rfl h, other rfl h⟩, fun h => ⟨other rfl h, other rfl h, other rfl h⟩,
    fun h => ⟨other rfl h, other rfl h, other rfl h⟩⟩

/-! ### floor, ceil, round -/

/-- NaN, ±Inf and every value with a non-negative binary exponent (an integer) are fixed -/
theorem floor_ceil_round_fix (x : F64) (h : x.isNaN = true ∨ x.isInf = true ∨ x.exp ≥ 0) :
    x.floor = x ∧ x.ceil = x ∧ x.round = x :=
  ⟨roundWith_fix _ x h, roundWith_fix _ x h, roundWith_fix _ x h⟩

/-- non-vacuity of `floor_ceil_round_fix`: a NaN, +Inf, and 1e300 (binary exponent ≥ 0) -/
example : F64.isNaN ⟨0x7FF8000000000000⟩ = true ∧ F64.isInf ⟨0x7FF0000000000000⟩ = true
    ∧ F64.exp ⟨0x7E37E43C8800759C⟩ ≥ 0 := by decide

/-- otherwise |x| = mant / 2^(-exp) = i + r/d and the result is the correctly rounded double of
    the integer chosen: floor moves away from zero for negative non-integers, ceil for positive
    ones, round when the fraction is at least one half (half away from zero); the sign bit is kept
    (so `ceil(-0.5) = -0`) -/
theorem floor_ceil_round_frac (x : F64) (h1 : x.isNaN = false) (h2 : x.isInf = false) (h3 : x.exp < 0) :
    let d := 2 ^ (-x.exp).toNat
    let i := x.mant / d
    let r := x.mant % d
    x.floor = F64.ofRat x.signBit (if x.signBit ∧ r ≠ 0 then i + 1 else i) 1 0 ∧
    x.ceil = F64.ofRat x.signBit (if ¬ x.signBit ∧ r ≠ 0 then i + 1 else i) 1 0 ∧
    x.round = F64.ofRat x.signBit (if 2 * r ≥ d then i + 1 else i) 1 0 := by
  simp only [F64.floor, F64.ceil, F64.round, roundWith_frac _ x h1 h2 h3, Bool.and_eq_true, bne_iff_ne,
    Bool.not_eq_true', Bool.not_eq_true, and_self]

/-- the same in terms of the exact rational value of `x`: with `sm / d` (`sm = ±mant`,
    `d = 2^(-exp)`) the value of `x`, and `/` on `Int` the floor division,
    floor(x) has magnitude |⌊sm/d⌋|, ceil(x) has magnitude |⌈sm/d⌉| = |⌊-sm/d⌋|, round(x) has
    magnitude ⌊|x| + 1/2⌋ — each rounded to a double by `ofRat` (exact below 2^53: `floor_ceil_round_spec`)
    and carrying the sign bit of `x`. -/
theorem floor_ceil_round_exact (x : F64) (h1 : x.isNaN = false) (h2 : x.isInf = false) (h3 : x.exp < 0) :
    let d : Nat := 2 ^ (-x.exp).toNat
    let sm : Int := if x.signBit then -(x.mant : Int) else x.mant
    x.floor = F64.ofRat x.signBit (sm / (d : Int)).natAbs 1 0 ∧
    x.ceil = F64.ofRat x.signBit ((-sm) / (d : Int)).natAbs 1 0 ∧
    x.round = F64.ofRat x.signBit ((2 * x.mant + d) / (2 * d)) 1 0 := by
  obtain ⟨hf, hc, hr⟩ := floor_ceil_round_frac x h1 h2 h3
  have hd : 0 < 2 ^ (-x.exp).toNat := Nat.two_pow_pos _
  dsimp only at hf hc hr ⊢
  rw [← floor_pick_eq _ _ _ hd, ← ceil_pick_eq _ _ _ hd, round_half_div _ _ hd]
  exact ⟨hf, hc, hr⟩

/-- floor, ceil and round return the mathematical floor, ceiling and nearest integer (halves away
    from zero) of the exact value of `x`: for finite `x = sm / d` with a fractional binary
    exponent, the result is finite, keeps the sign bit of `x`, and its exact value
    mant · 2^exp (`F64.IsInt`) is the integer |⌊sm/d⌋|, |⌈sm/d⌉|, ⌊|sm|/d + 1/2⌋ respectively.
    (Together with `floor_ceil_round_fix` this covers every double.) -/
theorem floor_ceil_round_spec (x : F64) (h1 : x.isNaN = false) (h2 : x.isInf = false) (h3 : x.exp < 0) :
    let d : Nat := 2 ^ (-x.exp).toNat
    let sm : Int := if x.signBit then -(x.mant : Int) else x.mant
    (x.floor.signBit = x.signBit ∧ x.floor.IsInt (sm / (d : Int)).natAbs) ∧
    (x.ceil.signBit = x.signBit ∧ x.ceil.IsInt ((-sm) / (d : Int)).natAbs) ∧
    (x.round.signBit = x.signBit ∧ x.round.IsInt ((2 * x.mant + d) / (2 * d))) := by
  obtain ⟨hf, hc, hr⟩ := floor_ceil_round_exact x h1 h2 h3
  have hd : 2 ≤ 2 ^ (-x.exp).toNat :=
    Nat.pow_le_pow_right (n := 2) (i := 1) (by decide) (Int.lt_toNat.mpr (Int.neg_pos_of_neg h3))
  obtain ⟨bf, bc, br⟩ := pick_div_lt x.signBit x.mant _ (F64.mant_lt x) hd
  dsimp only at hf hc hr ⊢
  rw [hf, hc, hr]
  exact ⟨ofRat_nat_exact _ _ bf, ofRat_nat_exact _ _ bc, ofRat_nat_exact _ _ br⟩

/-- non-vacuity: 2.5 and -0.5 are finite with a fractional binary exponent -/
example : F64.isNaN ⟨0x4004000000000000⟩ = false ∧ F64.isInf ⟨0x4004000000000000⟩ = false
    ∧ F64.exp ⟨0x4004000000000000⟩ < 0 ∧ F64.exp ⟨0xBFE0000000000000⟩ < 0 := by decide

/-- instances: Go's `math.Round` rounds halves away from zero; floor/ceil of -0.5; a huge value -/
theorem floor_ceil_round_instances :
    F64.round ⟨0x4004000000000000⟩ = ⟨0x4008000000000000⟩ ∧      -- round(2.5) = 3
    F64.round ⟨0xC004000000000000⟩ = ⟨0xC008000000000000⟩ ∧      -- round(-2.5) = -3
    F64.round ⟨0x3FE0000000000000⟩ = ⟨0x3FF0000000000000⟩ ∧      -- round(0.5) = 1
    F64.round ⟨0xBFE0000000000000⟩ = ⟨0xBFF0000000000000⟩ ∧      -- round(-0.5) = -1
    F64.round ⟨0x3FDFFFFFFFFFFFFF⟩ = ⟨0⟩ ∧                       -- round(0.49999999999999994) = 0
    F64.round ⟨0x3FF8000000000000⟩ = ⟨0x4000000000000000⟩ ∧      -- round(1.5) = 2
    F64.floor ⟨0xBFE0000000000000⟩ = ⟨0xBFF0000000000000⟩ ∧      -- floor(-0.5) = -1
    F64.ceil ⟨0xBFE0000000000000⟩ = ⟨0x8000000000000000⟩ ∧       -- ceil(-0.5) = -0
    F64.floor ⟨0x3FE0000000000000⟩ = ⟨0⟩ ∧                       -- floor(0.5) = 0
    F64.ceil ⟨0x3FE0000000000000⟩ = ⟨0x3FF0000000000000⟩ ∧       -- ceil(0.5) = 1
    F64.floor ⟨0x7E37E43C8800759C⟩ = ⟨0x7E37E43C8800759C⟩ ∧      -- floor(1e300) = 1e300
    F64.round ⟨0x432FFFFFFFFFFFFF⟩ = ⟨0x4330000000000000⟩ ∧      -- round(2^52 - 0.5) = 2^52
    F64.floor ⟨0x8000000000000000⟩ = ⟨0x8000000000000000⟩ := by   -- floor(-0) = -0
  decide +kernel

/-- the methods return these functions on a number receiver, whatever the arguments -/
theorem floor_ceil_round_call (x : F64) (args : List Val) (st : St) :
    callNative .numFloor args (some (.num x)) st = .ok (.ok (some (.num x.floor))) st ∧
    callNative .numCeil args (some (.num x)) st = .ok (.ok (some (.num x.ceil))) st ∧
    callNative .numRound args (some (.num x)) st = .ok (.ok (some (.num x.round))) st :=
  ⟨rfl, rfl, rfl⟩

end Jqawk.C16
