/-
  Syntactic well-formedness of ASTs: the node-shape facts that the parser establishes and the
  evaluator relies on (src/parser.go: `assign`, `unary`, `postfixOp`, `member`, `is`, `literal`,
  `regex`, `rewriteCompundAssingment`; src/evaluator.go: the literal switch and the assignment-target
  switch).  `Expr.nodeOK` is the check on one node, `wfB` says that every node of a tree passes it,
  `subs` lists the expression nodes of a tree.
-/
import Jqawk.Model.Parser

namespace Jqawk

/-- the token tags a literal node can carry (`ExprLiteral`: Str Ident Regex Num True False Null) -/
def litTag : Tag → Bool
  | .str | .ident | .regex | .num | .true_ | .false_ | .null => true
  | _ => false

def Expr.isIdent : Expr → Bool
  | .ident _ => true
  | _ => false

/-- a literal node carrying an identifier token (the right-hand side of `.`) -/
def Expr.isIdentLit : Expr → Bool
  | .lit t => t.tag == .ident
  | _ => false

/-- the shape check on a single node:
    * a literal carries a literal token;
    * the operand of `++`/`--` (prefix or postfix) is assignable;
    * the left side of `=` is assignable; no compound-assignment operator is left in the tree
      (they are rewritten to `=`); `is` has a type name on the right, `.` a field name. -/
def Expr.nodeOK : Expr → Bool
  | .lit t => litTag t.tag
  | .unary e op _ => !(op.tag == .plusPlus || op.tag == .minusMinus) || Parser.assignable e
  | .binary l r op =>
    (op.tag != .equal || Parser.assignable l) && !Parser.isCompound op.tag &&
      (op.tag != .is || r.isIdent) && (op.tag != .dot || r.isIdentLit)
  | _ => true

mutual
def Expr.wfB : Expr → Bool
  | .lit t => (Expr.lit t).nodeOK
  | .ident _ => true
  | .arr _ items => wfEs items
  | .obj _ items => wfKVs items
  | .unary e op p => (Expr.unary e op p).nodeOK && e.wfB
  | .binary l r op => (Expr.binary l r op).nodeOK && l.wfB && r.wfB
  | .call f args => f.wfB && wfEs args
  | .match_ _ v cases => v.wfB && wfCases cases
def wfEs : List Expr → Bool
  | [] => true
  | e :: es => e.wfB && wfEs es
def wfKVs : List (Bytes × Expr) → Bool
  | [] => true
  | (_, e) :: es => e.wfB && wfKVs es
def wfCases : List MatchCase → Bool
  | [] => true
  | (.mk pats body) :: cs => wfEs pats && body.wfB && wfCases cs
def Stmt.wfB : Stmt → Bool
  | .block _ body => wfSs body
  | .print _ args => wfEs args
  | .expr e => e.wfB
  | .ret none => true
  | .ret (some e) => e.wfB
  | .brk _ => true
  | .cont _ => true
  | .next _ => true
  | .exit _ => true
  | .if_ c b none => c.wfB && b.wfB
  | .if_ c b (some e) => c.wfB && b.wfB && e.wfB
  | .while_ c b => c.wfB && b.wfB
  | .for_ pre c post b => pre.wfB && c.wfB && post.wfB && b.wfB
  | .forIn _ _ iter b => iter.wfB && b.wfB
def wfSs : List Stmt → Bool
  | [] => true
  | s :: ss => s.wfB && wfSs ss
end

def Rule.wfB (r : Rule) : Bool :=
  r.body.wfB && (match r.pattern with | none => true | some e => e.wfB)

def Program.wfB (p : Program) : Bool :=
  p.rules.all Rule.wfB && p.functions.all (fun f => f.body.wfB)

/-! ### all expression nodes of a tree -/

mutual
def Expr.subs : Expr → List Expr
  | .lit t => [.lit t]
  | .ident t => [.ident t]
  | .arr t items => .arr t items :: subsEs items
  | .obj t items => .obj t items :: subsKVs items
  | .unary e op p => .unary e op p :: e.subs
  | .binary l r op => .binary l r op :: (l.subs ++ r.subs)
  | .call f args => .call f args :: (f.subs ++ subsEs args)
  | .match_ t v cases => .match_ t v cases :: (v.subs ++ subsCases cases)
def subsEs : List Expr → List Expr
  | [] => []
  | e :: es => e.subs ++ subsEs es
def subsKVs : List (Bytes × Expr) → List Expr
  | [] => []
  | (_, e) :: es => e.subs ++ subsKVs es
def subsCases : List MatchCase → List Expr
  | [] => []
  | (.mk pats body) :: cs => subsEs pats ++ body.subs ++ subsCases cs
def Stmt.subs : Stmt → List Expr
  | .block _ body => subsSs body
  | .print _ args => subsEs args
  | .expr e => e.subs
  | .ret none => []
  | .ret (some e) => e.subs
  | .brk _ => []
  | .cont _ => []
  | .next _ => []
  | .exit _ => []
  | .if_ c b none => c.subs ++ b.subs
  | .if_ c b (some e) => c.subs ++ b.subs ++ e.subs
  | .while_ c b => c.subs ++ b.subs
  | .for_ pre c post b => pre.subs ++ c.subs ++ post.subs ++ b.subs
  | .forIn _ _ iter b => iter.subs ++ b.subs
def subsSs : List Stmt → List Expr
  | [] => []
  | s :: ss => s.subs ++ subsSs ss
end

def Rule.subs (r : Rule) : List Expr :=
  r.body.subs ++ (match r.pattern with | none => [] | some e => e.subs)

/-- every expression node occurring anywhere in the program (rule patterns, rule bodies,
    function bodies, at any depth) -/
def Program.subExprs (p : Program) : List Expr :=
  p.rules.flatMap Rule.subs ++ p.functions.flatMap (fun f => f.body.subs)

end Jqawk
