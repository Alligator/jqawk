/-
  L1: tokens and the on-demand lexer (src/lexer.go).
  The lexer state is the unread suffix plus its absolute offset and Go's `tokenStart`
  field (which survives across calls and gives the EOF token its position).
-/
import Jqawk.Model.Bytes

namespace Jqawk

/-- `TokenTag` of src/lexer.go, same order. -/
inductive Tag
  | eof | error | ident | str | regex | num
  | begin_ | end_ | beginFile | endFile | print | function | return_ | if_ | else_ | for_
  | while_ | in_ | match_ | break_ | continue_ | next | newline | exit | null | is
  | true_ | false_
  | lcurly | rcurly | lsquare | rsquare | lparen | rparen | lessThan | greaterThan | dollar
  | comma | dot | equal | equalEqual | bangEqual | lessEqual | greaterEqual | colon | semiColon
  | plus | minus | multiply | divide | plusEqual | minusEqual | multiplyEqual | divideEqual
  | tilde | bangTilde | ampAmp | pipePipe | arrow | bang | plusPlus | minusMinus | percent
  deriving DecidableEq, Repr, Inhabited

/-- A token.  Go stores (Tag, Pos, Len) and slices the source on demand; the model stores the
    slice itself (`text`), so `Len = text.length`.  For `str`/`regex` tokens `pos` is the offset
    just after the opening delimiter and `text` excludes both delimiters, as in Go. -/
structure Token where
  tag : Tag
  pos : Nat
  text : Bytes
  deriving DecidableEq, Repr, Inhabited

/-- Zero value `Token{}` (used by the body-less rule's `StatementPrint{}`). -/
def Token.zero : Token := ⟨.eof, 0, []⟩

/-- A syntax error: byte offset into the program text and a message (never compared). -/
structure SynErr where
  pos : Nat
  msg : String
  deriving Repr, Inhabited, DecidableEq

structure LexState where
  rest : Bytes          -- src[pos:]
  pos : Nat
  tokenStart : Nat
  deriving Repr, Inhabited, DecidableEq

def LexState.init (src : Bytes) : LexState := ⟨src, 0, 0⟩

namespace Lexer

/-- the rest of a `#` comment: up to, not including, the newline -/
def skipComment : Bytes → Nat → Bytes × Nat
  | [], p => ([], p)
  | c :: cs, p => if c == 10 then (c :: cs, p) else skipComment cs (p + 1)

/-- `skipWhitespace`: blanks, tabs, CRs and `#` comments (up to, not including, the newline). -/
def skipWs : Nat → Bytes → Nat → Bytes × Nat
  | 0, r, p => (r, p)
  | _, [], p => ([], p)
  | fuel + 1, c :: cs, p =>
    if c == 32 || c == 13 || c == 9 then skipWs fuel cs (p + 1)
    else if c == 35 then
      let (r, p') := skipComment cs (p + 1)
      skipWs fuel r p'
    else (c :: cs, p)

/-- Longest prefix satisfying `f`, and the remainder. -/
def spanB (f : UInt8 → Bool) : Bytes → Bytes × Bytes
  | [] => ([], [])
  | c :: cs => if f c then let (a, b) := spanB f cs; (c :: a, b) else ([], c :: cs)

/-- keyword table of `identifier()` -/
def keyword (s : Bytes) : Option Tag :=
  if s == b!"BEGIN" then some .begin_
  else if s == b!"END" then some .end_
  else if s == b!"BEGINFILE" then some .beginFile
  else if s == b!"ENDFILE" then some .endFile
  else if s == b!"print" then some .print
  else if s == b!"$" then some .dollar
  else if s == b!"function" then some .function
  else if s == b!"return" then some .return_
  else if s == b!"if" then some .if_
  else if s == b!"else" then some .else_
  else if s == b!"for" then some .for_
  else if s == b!"while" then some .while_
  else if s == b!"in" then some .in_
  else if s == b!"match" then some .match_
  else if s == b!"true" then some .true_
  else if s == b!"false" then some .false_
  else if s == b!"break" then some .break_
  else if s == b!"continue" then some .continue_
  else if s == b!"next" then some .next
  else if s == b!"exit" then some .exit
  else if s == b!"null" then some .null
  else if s == b!"is" then some .is
  else none

/-- `identifier()`: `pre` is what has been consumed already (empty, or `$`). -/
def identifier (pre : Bytes) (start : Nat) (r : Bytes) : Token × LexState :=
  let (w, r') := spanB isIdentB r
  let s := pre ++ w
  let st : LexState := ⟨r', start + s.length, start⟩
  match keyword s with
  | some t => (⟨t, start, []⟩, st)
  | none => (⟨.ident, start, s⟩, st)

/-- `number()`: digits, then a fraction only if a `.` is directly followed by a digit. -/
def number (start : Nat) (r : Bytes) : Token × LexState :=
  let (ds, r1) := spanB isDigitB r
  match r1 with
  | 46 :: d :: r2 =>
    if isDigitB d then
      let (fs, r3) := spanB isDigitB (d :: r2)
      let s := ds ++ 46 :: fs
      (⟨.num, start, s⟩, ⟨r3, start + s.length, start⟩)
    else (⟨.num, start, ds⟩, ⟨r1, start + ds.length, start⟩)
  | _ => (⟨.num, start, ds⟩, ⟨r1, start + ds.length, start⟩)

/-- Scan to the closing delimiter `q`: the bytes before it and the rest after it. -/
def scanTo (q : UInt8) : Bytes → Option (Bytes × Bytes)
  | [] => none
  | c :: cs => if c == q then some ([], cs) else
    match scanTo q cs with
    | some (a, b) => some (c :: a, b)
    | none => none

/-- `string(quoteChar)`; `start` is the offset of the opening quote, `r` the bytes after it. -/
def string (q : UInt8) (start : Nat) (r : Bytes) : Except SynErr (Token × LexState) :=
  match scanTo q r with
  | none => .error ⟨start + 1, "unexpected EOF while reading string"⟩
  | some (body, r') =>
    .ok (⟨.str, start + 1, body⟩, ⟨r', start + 1 + body.length + 1, start + 1⟩)

/-- `Lexer.Regex()`: called by the parser when `/` is in prefix position; the state is the one
    left by the `Next()` that produced the `/` token (tokenStart = its offset). -/
def regex (s : LexState) : Except SynErr (Token × LexState) :=
  match scanTo 47 s.rest with
  | none => .error ⟨s.tokenStart, "unexpected EOF while reading regex"⟩
  | some (body, r') =>
    -- Go: Len = pos - (tokenStart+1) - 1 where pos is after the closing '/'
    let newPos := s.pos + body.length + 1
    let tstart := s.tokenStart + 1
    -- the token text is src[tstart : tstart + (newPos - tstart - 1)]; when tokenStart+1 = s.pos
    -- (always, since '/' is one byte and nothing is skipped) this is `body`
    .ok (⟨.regex, tstart, body⟩, ⟨r', newPos, tstart⟩)

private def simple (t : Tag) (start : Nat) (r : Bytes) (n : Nat) : Except SynErr (Token × LexState) :=
  .ok (⟨t, start, []⟩, ⟨r, start + n, start⟩)

/-- `Lexer.Next()` -/
def next (s : LexState) : Except SynErr (Token × LexState) :=
  let (r, p) := skipWs (s.rest.length + 1) s.rest s.pos
  match r with
  | [] => .ok (⟨.eof, s.tokenStart, []⟩, ⟨[], p, s.tokenStart⟩)
  | c :: cs =>
    if c == 10 then simple .newline p cs 1
    else if c == 36 then .ok (identifier [36] p cs)
    else if isDigitB c then .ok (number p (c :: cs))
    else if isLetterB c || c == 95 then .ok (identifier [] p (c :: cs))
    else
      let two (t2 : Tag) (rest2 : Bytes) := simple t2 p rest2 2
      let one (t1 : Tag) := simple t1 p cs 1
      if c == 123 then one .lcurly
      else if c == 125 then one .rcurly
      else if c == 91 then one .lsquare
      else if c == 93 then one .rsquare
      else if c == 40 then one .lparen
      else if c == 41 then one .rparen
      else if c == 44 then one .comma
      else if c == 46 then one .dot
      else if c == 59 then one .semiColon
      else if c == 58 then one .colon
      else if c == 126 then one .tilde
      else if c == 37 then one .percent
      else if c == 60 then
        match cs with | 61 :: r2 => two .lessEqual r2 | _ => one .lessThan
      else if c == 62 then
        match cs with | 61 :: r2 => two .greaterEqual r2 | _ => one .greaterThan
      else if c == 43 then
        match cs with
        | 43 :: r2 => two .plusPlus r2
        | 61 :: r2 => two .plusEqual r2
        | _ => one .plus
      else if c == 45 then
        match cs with
        | 45 :: r2 => two .minusMinus r2
        | 61 :: r2 => two .minusEqual r2
        | _ => one .minus
      else if c == 42 then
        match cs with | 61 :: r2 => two .multiplyEqual r2 | _ => one .multiply
      else if c == 47 then
        match cs with | 61 :: r2 => two .divideEqual r2 | _ => one .divide
      else if c == 61 then
        match cs with
        | 61 :: r2 => two .equalEqual r2
        | 62 :: r2 => two .arrow r2
        | _ => one .equal
      else if c == 33 then
        match cs with
        | 61 :: r2 => two .bangEqual r2
        | 126 :: r2 => two .bangTilde r2
        | _ => one .bang
      else if c == 38 then
        match cs with
        | 38 :: r2 => two .ampAmp r2
        | _ => .error ⟨p, "unexpected character"⟩
      else if c == 124 then
        match cs with
        | 124 :: r2 => two .pipePipe r2
        | _ => .error ⟨p, "unexpected character"⟩
      else if c == 39 || c == 34 then string c p cs
      else .error ⟨p, "unexpected character"⟩

end Lexer

/-! ### `GetLineAndCol` (src/lexer.go), byte-based -/

/-- Result of `GetLineAndCol pos`: (source line text, 1-based line, 0-based byte column). -/
structure LineCol where
  srcLine : Bytes
  line : Nat
  col : Nat
  deriving Repr, DecidableEq

/-- The bytes of `s` up to (not including) the first newline. -/
def takeLine : Bytes → Bytes
  | [] => []
  | c :: cs => if c == 10 then [] else c :: takeLine cs

/-- Scan: `cur` = current line number, `lineRest` = the source from the start of the current
    line, `col` = offset into the current line, `s` = unread bytes, `k` = bytes still to skip. -/
def getLineAndColAux : Bytes → Bytes → Nat → Nat → Nat → LineCol
  | lineRest, _, line, col, 0 => ⟨takeLine lineRest, line, col⟩
  | lineRest, [], line, col, _ + 1 => ⟨takeLine lineRest, line, col⟩
  | lineRest, c :: cs, line, col, k + 1 =>
    if c == 10 then getLineAndColAux cs cs (line + 1) 0 k
    else getLineAndColAux lineRest cs line (col + 1) k

def getLineAndCol (src : Bytes) (pos : Nat) : LineCol :=
  getLineAndColAux src src 1 0 pos

end Jqawk
