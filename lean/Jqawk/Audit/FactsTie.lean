/-
  The second tie between model and code: facts re-extracted from /repo/src on every run
  (Jqawk/Generated/Facts.lean, never committed) must equal what the model and the proofs assume.
  Each `theorem` below is a proof obligation that an edit of the Go source can break.
-/
import Jqawk.Generated.Facts
import Jqawk.Model.Table
import Jqawk.Model.State
import Jqawk.Model.Value
import Jqawk.Model.Natives

namespace Jqawk.FactsTie
open Jqawk

/-- rows in token-tag order (the extractor emits them sorted the same way, so the order of the
    entries in the Go map literal does not matter) -/
def insRow (r : Tag × ParseRule) : RuleTable → RuleTable
  | [] => [r]
  | x :: xs => if r.1.ctorIdx ≤ x.1.ctorIdx then r :: x :: xs else x :: insRow r xs
def canonTable : RuleTable → RuleTable
  | [] => []
  | r :: rs => insRow r (canonTable rs)

/-- nothing went wrong while extracting (every parse function of the table plays exactly one
    role, no duplicate entries, every precedence known, …) -/
theorem extractProblems_tie : Generated.extractProblems = [] := by rfl

/-- the Pratt rule table the model parser is driven by is the one in src/parser.go: same entry
    for every token (parse functions identified by the role they play for the anchor tokens,
    not by name; entry order irrelevant — the model looks entries up by tag, and no tag occurs
    twice) -/
theorem ruleTable_tie : Generated.ruleTable = canonTable expectedRuleTable ∧
    (expectedRuleTable.map (·.1)).Nodup := by decide +kernel

/-- the token tags, in Go's iota order (the model's `Tag` mirrors this order) -/
theorem tokenTags_tie : Generated.tokenTags =
  ["EOF", "Error", "Ident", "Str", "Regex", "Num", "Begin", "End", "BeginFile", "EndFile", "Print",
   "Function", "Return", "If", "Else", "For", "While", "In", "Match", "Break", "Continue", "Next",
   "Newline", "Exit", "Null", "Is", "True", "False", "LCurly", "RCurly", "LSquare", "RSquare",
   "LParen", "RParen", "LessThan", "GreaterThan", "Dollar", "Comma", "Dot", "Equal", "EqualEqual",
   "BangEqual", "LessEqual", "GreaterEqual", "Colon", "SemiColon", "Plus", "Minus", "Multiply",
   "Divide", "PlusEqual", "MinusEqual", "MultiplyEqual", "DivideEqual", "Tilde", "BangTilde",
   "AmpAmp", "PipePipe", "Arrow", "Bang", "PlusPlus", "MinusMinus", "Percent"] := by rfl

theorem precNames_tie : Generated.precNames =
  ["PrecNone", "PrecAssign", "PrecLogical", "PrecComparison", "PrecAddition", "PrecMultiplication",
   "PrecPostfix", "PrecUnary", "PrecCall", "PrecGroup"] := by rfl

/-- what decides associativity: how `binary`, `assign` and `unary` parse their operand -/
theorem operandPrec_binary_tie : Generated.operandPrec_binary = "rule(·).prec+1" := by rfl
theorem operandPrec_assign_tie : Generated.operandPrec_assign = "rule(·).prec" := by rfl
theorem operandPrec_unary_tie : Generated.operandPrec_unary = "PrecUnary" := by rfl

/-- the keyword table (sorted by keyword; a `switch` and a map literal are read alike) -/
theorem keywords_tie : Generated.keywords =
  [("$", "Dollar"), ("BEGIN", "Begin"), ("BEGINFILE", "BeginFile"), ("END", "End"), ("ENDFILE", "EndFile"),
   ("break", "Break"), ("continue", "Continue"), ("else", "Else"), ("exit", "Exit"), ("false", "False"),
   ("for", "For"), ("function", "Function"), ("if", "If"), ("in", "In"), ("is", "Is"), ("match", "Match"),
   ("next", "Next"), ("null", "Null"), ("print", "Print"), ("return", "Return"), ("true", "True"),
   ("while", "While")] := by rfl

/-- the limits of C20 -/
theorem callDepthLimit_tie : Generated.callDepthLimit = callDepthLimit := by rfl
theorem fillLimit_tie : Generated.setMemberComparisons = ["> 1024*1024"] ∧ fillLimit = 1024 * 1024 :=
  ⟨by rfl, by rfl⟩
theorem getMember_never_fills : Generated.getMemberComparisons = ["< 0", "< 0", "< 0"] := by rfl
theorem widthLimit_tie : Generated.printfComparisons.take 3 = ["< 1", "> 65536", "< -65536"] ∧ widthLimit = 65536 :=
  ⟨by rfl, by rfl⟩

/-- the explicit `panic(` sites, by message (where they stand and what the enclosing function is
    called does not matter). Model counterparts: "unhandled literal type" and "speculative object
    has no …" are `throwPanic` sites shown unreachable (`C01.run_never_panics_src`); "unhandled
    (comparison) operator", "attempted compound assignment", "expected a regex token",
    "unhandled value constructor" and "unknown rule type" are default branches of switches over
    closed enumerations that the model's total pattern matches do not have. -/
theorem panicSites_tie : Generated.panicSites =
  ["\"attempted compound assignment with %s\"", "\"expected a regex token but got %s\"",
   "\"speculative object has no Str or Num\"", "\"unhandled comparison operator\"",
   "\"unhandled literal type: %s\"", "\"unhandled operator\"", "\"unhandled value constructor %T\"",
   "\"unknown rule type %s\""] := by rfl

/-- every `range` over a Go map (iteration order is random), found with go/types: the two
    match-binding maps and NewValue's JSON object (each only inserts into another map, no early
    exit, no output) and sortedKeys (collects the keys and sorts them).  Everything else that
    walks an object goes through sortedKeys. -/
theorem mapRanges_tie : Generated.mapRangeSites =
    ["evaluator.go:evalArrayCaseMatch:newBindings", "evaluator.go:evalExpr:bindings",
     "value.go:NewValue:val", "value.go:sortedKeys:*v.Obj"] := by rfl

/-- package-level variables that are written after initialisation (mutable global state through
    which one run could influence the next): only the four lazily built prototype tables, which
    are filled once with the same content whatever the program (C10 history-independence family);
    limits, sentinel errors and lookup tables are never written -/
theorem packageVars_tie : Generated.packageVars =
  ["arrayPrototype", "numPrototype", "objPrototype", "strPrototype"] := by rfl

/-- no time, randomness, environment or concurrency in the interpreter package -/
theorem imports_tie : Generated.nondeterministicImports = [] := by rfl

/-- the standard-library functions the methods and builtins call (C16) -/
theorem stdlibCallees_tie : Generated.stdlibCallees =
  ["prototypes.go:cmp.Compare", "prototypes.go:math.Ceil", "prototypes.go:math.Floor",
   "prototypes.go:math.Round", "prototypes.go:slices.SortStableFunc", "prototypes.go:strings.Split",
   "prototypes.go:strings.ToLower", "prototypes.go:strings.ToUpper", "runtime.go:json.MarshalIndent",
   "runtime.go:strconv.ParseFloat", "runtime.go:strconv.ParseInt", "runtime.go:strings.Repeat",
   "runtime.go:unicode.IsDigit"] := by rfl

end Jqawk.FactsTie
