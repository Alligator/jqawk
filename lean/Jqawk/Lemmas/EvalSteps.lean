/-
  The control combinators of the evaluation monad (`loopIter`, `catchReturn`, `catchSig`, and `>>=`
  itself) are instances of one: run a computation, continue after a normal result, continue after
  some of the signals, let everything else pass.  An invariant of evaluation needs one rule for
  `handle`; the rules for the others are corollaries.
-/
import Jqawk.Model.State

namespace Jqawk

/-- run `m`; continue with `onOk` after a normal result and with `onSig g` after the signal `g`
    where that is defined; every other error, and running out of fuel, passes through -/
def handle {α β : Type} (m : EM α) (onOk : α → EM β) (onSig : Sig → Option (EM β)) : EM β := fun s =>
  match m s with
  | .ok a s' => onOk a s'
  | .err (.sig g) s' =>
    match onSig g with
    | some k => k s'
    | none => .err (.sig g) s'
  | .err e s' => .err e s'
  | .oof => .oof

/-- the value a function call yields after `return`: the content of the return slot -/
def returnSlot : EM Val := fun s =>
  .ok (match s.returnVal with
       | some c => s.heap.get c
       | none => .nil none) s

theorem bind_eq_handle {α β : Type} (m : EM α) (f : α → EM β) :
    m >>= f = handle m f (fun _ => none) := by
  funext s
  show EM.bind m f s = _
  unfold EM.bind handle
  cases m s with
  | err e s' => cases e <;> rfl
  | _ => rfl

theorem loopIter_eq_handle (body k : EM Unit) :
    loopIter body k = handle body (fun _ => k) (fun
      | .brk => some (pure ())
      | .cont => some k
      | _ => none) := by
  funext s
  unfold loopIter handle
  cases body s with
  | err e s' =>
    cases e with
    | sig g => cases g <;> rfl
    | _ => rfl
  | _ => rfl

theorem catchReturn_eq_handle (body : EM Unit) :
    catchReturn body = handle body (fun _ => pure (.nil none)) (fun
      | .ret => some returnSlot
      | _ => none) := by
  funext s
  unfold catchReturn handle
  cases body s with
  | err e s' =>
    cases e with
    | sig g => cases g <;> rfl
    | _ => rfl
  | _ => rfl

theorem catchSig_eq_handle {α : Type} (g : Sig) (dflt : α) (m : EM α) :
    catchSig g dflt m = handle m pure (fun g' => if g' = g then some (pure dflt) else none) := by
  funext s
  unfold catchSig handle
  cases m s with
  | err e s' =>
    cases e with
    | sig g' => dsimp only; split <;> rfl
    | _ => rfl
  | _ => rfl

/-- a frame pushed for a call or a match body, the body run in it, the saved stack restored
    (the common part of `callFunction` and `evalMatchCases`) -/
def framed {α : Type} (name : Bytes) (pos : Nat) (body : EM α) : EM α := do
  let saved := (← getSt).frames
  match (← pushFrame name) with
  | .error m => throwRt pos m
  | .ok () => withFrames saved body

theorem framed_eq {α : Type} (name : Bytes) (pos : Nat) (body : EM α) (s : St) :
    framed name pos body s =
      if s.frames.length > callDepthLimit then throwRt pos "call depth limit exceeded" s
      else withFrames s.frames body { s with frames := ⟨name, []⟩ :: s.frames,
                                             maxDepth := max s.maxDepth (s.frames.length + 1) } := by
  by_cases hd : s.frames.length > callDepthLimit <;>
    simp only [framed, Bind.bind, EM.bind, getSt, pushFrame, hd, ↓reduceIte]

theorem EM.bind_eq_ok {α β : Type} (m : EM α) (f : α → EM β) (s s' : St) (b : β) :
    (m >>= f) s = .ok b s' ↔ ∃ a s1, m s = .ok a s1 ∧ f a s1 = .ok b s' := by
  show EM.bind m f s = _ ↔ _
  unfold EM.bind
  cases m s with
  | ok a s1 =>
    constructor
    · intro h; exact ⟨a, s1, rfl, h⟩
    · rintro ⟨a', s1', h1, h2⟩; cases h1; exact h2
  | err e s1 =>
    constructor
    · intro h; cases h
    · rintro ⟨_, _, h1, _⟩; cases h1
  | oof =>
    constructor
    · intro h; cases h
    · rintro ⟨_, _, h1, _⟩; cases h1

theorem EM.bind_eq_err {α β : Type} (m : EM α) (f : α → EM β) (s s' : St) (e : Err) :
    (m >>= f) s = .err e s' ↔ m s = .err e s' ∨ ∃ a s1, m s = .ok a s1 ∧ f a s1 = .err e s' := by
  show EM.bind m f s = _ ↔ _
  unfold EM.bind
  cases m s with
  | ok a s1 =>
    constructor
    · intro h; exact .inr ⟨a, s1, rfl, h⟩
    · rintro (h | ⟨a', s1', h1, h2⟩)
      · cases h
      · cases h1; exact h2
  | err e1 s1 =>
    constructor
    · intro h; exact .inl (by simpa using h)
    · rintro (h | ⟨_, _, h1, _⟩)
      · simpa using h
      · cases h1
  | oof =>
    constructor
    · intro h; cases h
    · rintro (h | ⟨_, _, h1, _⟩)
      · cases h
      · cases h1

theorem EM.pure_eq_ok {α : Type} (a b : α) (s s' : St) :
    (Pure.pure a : EM α) s = .ok b s' ↔ a = b ∧ s = s' := by
  show EM.pure a s = _ ↔ _
  simp [EM.pure]

theorem EM.pure_eq_err {α : Type} (a : α) (s s' : St) (e : Err) :
    (Pure.pure a : EM α) s = .err e s' ↔ False := by
  show EM.pure a s = _ ↔ _
  simp [EM.pure]

end Jqawk
