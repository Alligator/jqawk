import Jqawk.Lemmas.JsonBytesTree
import Jqawk.Lemmas.Order
/-!
  The tree that comes back from writing and re-reading (`reread`) in closed form: with valid
  UTF-8 text it is the tree with every object turned into the Go map it denotes (`canonJ`: keys
  strictly ascending, last duplicate wins); a tree whose keys are already strictly ascending is
  returned unchanged.
-/
namespace Jqawk.JsonBytes
open Jqawk Jqawk.Json

theorem cmpBytes_eq_cmp : ∀ a b : Bytes, cmpBytes a b = Bytes.cmp a b := by
  intro a
  induction a with
  | nil => intro b; cases b <;> rfl
  | cons x xs ih =>
    intro b
    cases b with
    | nil => rfl
    | cons y ys => simp only [cmpBytes, Bytes.cmp_cons, ih]

def SortedKeys {α : Type} (l : List (Bytes × α)) : Prop := l.Pairwise fun x y => cmpBytes x.1 y.1 = .lt

theorem insertMember_sorted {α : Type} (k : Bytes) (v : α) (l : List (Bytes × α)) (h : SortedKeys l) :
    SortedKeys (insertMember k v l) := by
  induction l with
  | nil => simp [insertMember, SortedKeys]
  | cons x xs ih =>
    obtain ⟨k', v'⟩ := x
    simp only [SortedKeys, List.pairwise_cons] at h
    obtain ⟨h1, h2⟩ := h
    simp only [insertMember]
    split
    · rename_i hlt
      simp only [SortedKeys, List.pairwise_cons]
      refine ⟨?_, h1, h2⟩
      intro y hy
      rcases List.mem_cons.1 hy with rfl | hy
      · exact hlt
      · have := h1 y hy
        rw [cmpBytes_eq_cmp] at *
        exact Bytes.cmp_lt_trans _ _ _ hlt this
    · rename_i heq
      rw [cmpBytes_eq_cmp, Bytes.cmp_eq_iff] at heq
      subst heq
      simp only [SortedKeys, List.pairwise_cons]
      exact ⟨h1, h2⟩
    · rename_i hgt
      rw [cmpBytes_eq_cmp, Bytes.cmp_gt_iff, ← cmpBytes_eq_cmp] at hgt
      simp only [SortedKeys, List.pairwise_cons]
      refine ⟨?_, ih h2⟩
      intro y hy
      rcases mem_insertMember hy with rfl | hy
      · exact hgt
      · exact h1 y hy

theorem canonMembers_sorted {α : Type} (ms : List (Bytes × α)) : SortedKeys (canonMembers ms) := by
  have : ∀ (ms sorted : List (Bytes × α)), SortedKeys sorted →
      SortedKeys (ms.foldl (fun acc kv => insertMember kv.1 kv.2 acc) sorted) := by
    intro ms
    induction ms with
    | nil => intro s h; exact h
    | cons x xs ih => intro s h; exact ih _ (insertMember_sorted _ _ _ h)
  exact this ms [] (by simp [SortedKeys])

theorem insertMember_append {α : Type} (k : Bytes) (v : α) (l : List (Bytes × α))
    (h : ∀ y ∈ l, cmpBytes y.1 k = .lt) : insertMember k v l = l ++ [(k, v)] := by
  induction l with
  | nil => rfl
  | cons x xs ih =>
    obtain ⟨k', v'⟩ := x
    have h1 : cmpBytes k k' = .gt := by
      have := h (k', v') (by simp)
      rw [cmpBytes_eq_cmp] at *
      exact (Bytes.cmp_gt_iff _ _).2 this
    simp only [insertMember, h1, List.cons_append]
    rw [ih fun y hy => h y (by simp [hy])]

theorem foldl_insert_sorted {α : Type} : ∀ (S P : List (Bytes × α)), SortedKeys (P ++ S) →
    S.foldl (fun acc kv => insertMember kv.1 kv.2 acc) P = P ++ S := by
  intro S
  induction S with
  | nil => intro P _; simp
  | cons x xs ih =>
    intro P h
    simp only [List.foldl_cons]
    have hx : insertMember x.1 x.2 P = P ++ [x] := by
      apply insertMember_append
      intro y hy
      simp only [SortedKeys, List.pairwise_append] at h
      exact h.2.2 y hy x (by simp)
    rw [hx, ih (P ++ [x]) (by simpa using h)]
    simp

theorem canonMembers_of_sorted {α : Type} (l : List (Bytes × α)) (h : SortedKeys l) : canonMembers l = l := by
  simpa [canonMembers] using foldl_insert_sorted l [] (by simpa using h)

theorem canonMembers_idem {α : Type} (l : List (Bytes × α)) : canonMembers (canonMembers l) = canonMembers l :=
  canonMembers_of_sorted _ (canonMembers_sorted l)

mutual
/-- the tree with every object replaced by the Go map it denotes: members sorted by key
    (bytewise), of several members with the same key the last one kept -/
def canonJ : JVal → JVal
  | .null => .null
  | .bool b => .bool b
  | .num l => .num l
  | .str s => .str s
  | .arr xs => .arr (canonJList xs)
  | .obj ms => .obj (canonMembers (canonJMembers ms))
def canonJList : List JVal → List JVal
  | [] => []
  | x :: xs => canonJ x :: canonJList xs
def canonJMembers : List (Bytes × JVal) → List (Bytes × JVal)
  | [] => []
  | (k, v) :: ms => (k, canonJ v) :: canonJMembers ms
end

mutual
def Utf8OK : JVal → Prop
  | .str s => validUtf8 0 s = true
  | .arr xs => Utf8OKList xs
  | .obj ms => Utf8OKMembers ms
  | _ => True
def Utf8OKList : List JVal → Prop
  | [] => True
  | x :: xs => Utf8OK x ∧ Utf8OKList xs
def Utf8OKMembers : List (Bytes × JVal) → Prop
  | [] => True
  | (k, v) :: ms => validUtf8 0 k = true ∧ Utf8OK v ∧ Utf8OKMembers ms
end

mutual
/-- true of every tree the decoder builds: `decodeOne_sorted` -/
def SortedJ : JVal → Prop
  | .arr xs => SortedJList xs
  | .obj ms => SortedKeys ms ∧ SortedJMembers ms
  | _ => True
def SortedJList : List JVal → Prop
  | [] => True
  | x :: xs => SortedJ x ∧ SortedJList xs
def SortedJMembers : List (Bytes × JVal) → Prop
  | [] => True
  | (_, v) :: ms => SortedJ v ∧ SortedJMembers ms
end

theorem utf8OKList_iff (l : List JVal) : Utf8OKList l ↔ ∀ v ∈ l, Utf8OK v :=
  forall_mem_iff_of_rec trivial (fun _ _ => Iff.rfl) l

theorem utf8OKMembers_iff (l : List (Bytes × JVal)) :
    Utf8OKMembers l ↔ ∀ kv ∈ l, validUtf8 0 kv.1 = true ∧ Utf8OK kv.2 :=
  forall_mem_iff_of_rec (P := fun kv => validUtf8 0 kv.1 = true ∧ Utf8OK kv.2) trivial
    (fun _ _ => and_assoc.symm) l

theorem sortedJList_iff (l : List JVal) : SortedJList l ↔ ∀ v ∈ l, SortedJ v :=
  forall_mem_iff_of_rec trivial (fun _ _ => Iff.rfl) l

theorem sortedJMembers_iff (l : List (Bytes × JVal)) : SortedJMembers l ↔ ∀ kv ∈ l, SortedJ kv.2 :=
  forall_mem_iff_of_rec (P := fun kv => SortedJ kv.2) trivial (fun _ _ => Iff.rfl) l

theorem canonJMembers_keys (ms : List (Bytes × JVal)) : (canonJMembers ms).map (·.1) = ms.map (·.1) := by
  induction ms with
  | nil => rfl
  | cons kv ms ih => obtain ⟨k, v⟩ := kv; simp [canonJMembers, ih]

theorem utf8_keys {ms : List (Bytes × JVal)} (h : Utf8OKMembers ms) : ∀ kv ∈ ms, validUtf8 0 kv.1 = true :=
  fun kv hkv => ((utf8OKMembers_iff ms).1 h kv hkv).1

theorem reinsert_valid (l : List (Bytes × JVal)) (h : ∀ kv ∈ l, validUtf8 0 kv.1 = true) :
    reinsert l = canonMembers l := by
  have : ∀ (l acc : List (Bytes × JVal)), (∀ kv ∈ l, validUtf8 0 kv.1 = true) →
      l.foldl (fun acc kv => insertMember (sanitize kv.1) kv.2 acc) acc
        = l.foldl (fun acc kv => insertMember kv.1 kv.2 acc) acc := by
    intro l
    induction l with
    | nil => intro acc _; rfl
    | cons x xs ih =>
      intro acc h
      simp only [List.foldl_cons]
      rw [sanitize_valid x.1 (h x (by simp)), ih _ fun kv hkv => h kv (by simp [hkv])]
  exact this l [] h

mutual
theorem reread_eq_canonJ : ∀ (j : JVal), Utf8OK j → reread j = canonJ j
  | .null, _ => rfl
  | .bool _, _ => rfl
  | .num _, _ => rfl
  | .str s, h => by simp only [reread, canonJ]; rw [sanitize_valid s h]
  | .arr xs, h => by simp only [reread, canonJ]; rw [rereadList_eq_canonJ xs h]
  | .obj ms, h => by
    simp only [reread, canonJ]
    rw [rereadMembers_eq_canonJ ms h, reinsert_valid, canonMembers_idem]
    intro kv hkv
    have hk : kv.1 ∈ (canonJMembers ms).map (·.1) := List.mem_map.2 ⟨kv, mem_canonMembers hkv, rfl⟩
    rw [canonJMembers_keys] at hk
    obtain ⟨kv', hkv', e⟩ := List.mem_map.1 hk
    rw [← e]
    exact utf8_keys h kv' hkv'
theorem rereadList_eq_canonJ : ∀ (xs : List JVal), Utf8OKList xs → rereadList xs = canonJList xs
  | [], _ => rfl
  | x :: xs, h => by simp only [rereadList, canonJList]; rw [reread_eq_canonJ x h.1, rereadList_eq_canonJ xs h.2]
theorem rereadMembers_eq_canonJ : ∀ (ms : List (Bytes × JVal)), Utf8OKMembers ms →
    rereadMembers ms = canonJMembers ms
  | [], _ => rfl
  | (k, v) :: ms, h => by
    simp only [rereadMembers, canonJMembers]; rw [reread_eq_canonJ v h.2.1, rereadMembers_eq_canonJ ms h.2.2]
end

mutual
theorem canonJ_of_sorted : ∀ (j : JVal), SortedJ j → canonJ j = j
  | .null, _ => rfl
  | .bool _, _ => rfl
  | .num _, _ => rfl
  | .str _, _ => rfl
  | .arr xs, h => by simp only [canonJ]; rw [canonJList_of_sorted xs h]
  | .obj ms, h => by
    simp only [canonJ]; rw [canonJMembers_of_sorted ms h.2, canonMembers_of_sorted ms h.1]
theorem canonJList_of_sorted : ∀ (xs : List JVal), SortedJList xs → canonJList xs = xs
  | [], _ => rfl
  | x :: xs, h => by simp only [canonJList]; rw [canonJ_of_sorted x h.1, canonJList_of_sorted xs h.2]
theorem canonJMembers_of_sorted : ∀ (ms : List (Bytes × JVal)), SortedJMembers ms → canonJMembers ms = ms
  | [], _ => rfl
  | (k, v) :: ms, h => by
    simp only [canonJMembers]; rw [canonJ_of_sorted v h.1, canonJMembers_of_sorted ms h.2]
end

end Jqawk.JsonBytes
