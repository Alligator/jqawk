/-
  What Props/C05.lean (operators) and Props/C12.lean (blamed tokens) share beyond the node steps of
  Lemmas/EvalNodes.lean: `evalAssignment` with its first `match` named and its two errors, `++` /
  `--` on an existing location, and how the loops over list elements, object members, match cases
  and pattern alternatives get past the entries that raise no error (`Copied`, `CopiedKV`,
  `Skipped`, `AltsSkipped`).
-/
import Jqawk.Lemmas.ReadOnly
import Jqawk.Lemmas.EvalNodes
import Jqawk.Lemmas.MatchSpec

namespace Jqawk.BlameSites
open Jqawk

variable (prog : Program)

theorem isArithOp_iff (t : Tag) :
    isArithOp t = true ↔ t = .plus ∨ t = .minus ∨ t = .multiply ∨ t = .divide ∨ t = .percent := by
  simp only [isArithOp, Bool.or_eq_true, beq_iff_eq, or_assoc]

theorem isCompareOp_of_isArithOp {t : Tag} (h : isArithOp t = true) : isCompareOp t = false := by
  rcases (isArithOp_iff t).mp h with rfl | rfl | rfl | rfl | rfl <;> rfl

/-- `evalAssignment` with its first `match` named -/
theorem evalAssignment_eq (pos : Nat) (left right : CellId) (s : St) :
    evalAssignment pos left right s =
      (do let target ← (if needsCreate (s.heap.get left) then do
              let h ← getHeap
              match (← createSpeculative (h.cells.size + 2) left) with
              | .error m => throwRt pos m
              | .ok c => pure c
            else pure left : EM CellId)
          match (← copyValue right target) with
          | .error m => throwRt pos m
          | .ok c => return c : EM CellId) s := by
  unfold evalAssignment needsCreate
  rfl

theorem evalAssignment_create_err (pos : Nat) (left right : CellId) (s s' : St) (m : String)
    (hn : needsCreate (s.heap.get left) = true)
    (hc : createSpeculative (s.heap.cells.size + 2) left s = .ok (.error m) s') :
    evalAssignment pos left right s = throwRt pos m s' := by
  rw [evalAssignment_eq, hn]
  simp only [↓reduceIte, bind, EM.bind, getHeap, hc]
  rfl

theorem evalAssignment_copy_err (pos : Nat) (left right : CellId) (s : St) (m : String)
    (hn : needsCreate (s.heap.get left) = false)
    (hc : copyVal (s.heap.get right) = .error m) :
    evalAssignment pos left right s = throwRt pos m s := by
  rw [evalAssignment_eq, hn]
  simp only [Bool.false_eq_true, ↓reduceIte, pure, EM.pure, copyValue, bind, EM.bind, readCell, hc]

/-- `++` / `--` on an operand that is an existing location (a variable or a member that exists,
    `needsCreate = false`): three heap changes — a cell for the new number, the store into the
    operand's cell, a cell for the result — and nothing else -/
theorem evalUnary_step_plain (n : Nat) (e : Expr) (op : Token) (p : Bool)
    (hop : op.tag = .plusPlus ∨ op.tag = .minusMinus) (s s1 : St) (c : CellId)
    (he : evalExpr prog n e s = .ok c s1) (hlt : c < s1.heap.cells.size)
    (hn : needsCreate (s1.heap.get c) = false) :
    evalUnary prog (n + 1) e op p s =
      .ok (s1.heap.cells.size + 1)
        { s1 with heap :=
            ((((s1.heap.alloc (.num (stepOp op.tag (s1.heap.get c)))).2).set c
                (.num (stepOp op.tag (s1.heap.get c)))).alloc
              (.num (if p then (s1.heap.get c).asNum else stepOp op.tag (s1.heap.get c)))).2 } := by
  rw [evalUnary_eq, EM.bind_ok he, applyUnary_step hop]
  generalize stepOp op.tag (s1.heap.get c) = x
  have hget : (s1.heap.alloc (.num x)).2.get c = s1.heap.get c := Heap.get_push_old _ _ _ hlt
  have hnew : (s1.heap.alloc (.num x)).2.get (s1.heap.alloc (.num x)).1 = .num x :=
    Heap.get_push_new _ _
  have hsz : ((s1.heap.alloc (.num x)).2.set c (.num x)).cells.size = s1.heap.cells.size + 1 := by
    rw [Heap.size_set, Heap.size_alloc]
  have hset : ((s1.heap.alloc (.num x)).2.set c (.num x)).get c = .num x :=
    Heap.get_set_same' _ _ _ (Heap.size_alloc s1.heap _ ▸ Nat.lt_succ_of_lt hlt)
  simp only [bind, EM.bind, newCell]
  rw [evalAssignment_eq]
  simp only [hget, hn, hnew, Bool.false_eq_true, ↓reduceIte, pure, EM.pure, copyValue, bind,
    EM.bind, readCell, copyVal, writeCell]
  rw [← hsz]
  cases p <;> simp only [Bool.false_eq_true, ↓reduceIte, EM.bind, readCell, hset] <;> rfl

theorem incdec_heap (h : Heap) (c : CellId) (hlt : c < h.cells.size) (v w : Val) :
    (((h.alloc v).2.set c v).alloc w).2.get c = v ∧
    (((h.alloc v).2.set c v).alloc w).2.get (h.cells.size + 1) = w ∧
    (∀ c', c' < h.cells.size → c' ≠ c → (((h.alloc v).2.set c v).alloc w).2.get c' = h.get c') ∧
    (((h.alloc v).2.set c v).alloc w).2.cells.size = h.cells.size + 2 := by
  have hsz : ((h.alloc v).2.set c v).cells.size = h.cells.size + 1 := by
    rw [Heap.size_set, Heap.size_alloc]
  refine ⟨?_, ?_, fun c' hc' hne => ?_, by rw [Heap.size_alloc, hsz]⟩
  · rw [Heap.get_alloc_old _ _ _ (hsz ▸ Nat.lt_succ_of_lt hlt),
      Heap.get_set_same' _ _ _ (Heap.size_alloc h v ▸ Nat.lt_succ_of_lt hlt)]
  · rw [← hsz]; exact Heap.get_push_new _ _
  · rw [Heap.get_alloc_old _ _ _ (hsz ▸ Nat.lt_succ_of_lt hc'), Heap.get_set_ne' _ _ _ _ hne,
      Heap.get_alloc_old _ _ _ hc']

/-- the patterns `evalCaseMatch` handles: a literal, an array, an identifier -/
def patSupported : Expr → Bool
  | .lit _ | .arr .. | .ident _ => true
  | _ => false

theorem patAt_unsupported (k : Nat) {p : Expr} (hp : patSupported p = false) (c : CellId) :
    MatchSpec.patAt prog k p c = throwRt p.token.pos "not supported in match expressions" := by
  -- `cases hp` also succeeds (and closes nothing) where `hp` is `false = false`
  cases p <;> first
    | (cases hp; done)
    | exact MatchSpec.patMatches_unsupported _ _ _ (by simp) (by simp) (by simp)

theorem evalCaseMatch_lit_skip (n : Nat) (value : CellId) (t : Token) (rest : List Expr)
    (s s1 : St) (c : CellId) (r : Int)
    (he : evalExpr prog n (.lit t) s = .ok c s1)
    (hk : (s1.heap.get value).kind ≠ .unknown)
    (hc : (s1.heap.get value).compare (s1.heap.get c) = .ok r) (hr : r ≠ 0) :
    evalCaseMatch prog (n + 1) value (.lit t :: rest) s = evalCaseMatch prog n value rest s1 := by
  have : Spec.patMatches (evalExpr prog n) (.lit t) value s = .ok none s1 := by
    rw [MatchSpec.patMatches_lit, EM.bind_ok he, readCell_bind, readCell_bind, Spec.litMatches,
      if_neg (by simpa using hk), hc]
    simp only [show (r == 0) = false by simpa using hr]
    rfl
  rw [MatchSpec.evalCaseMatch_cons]
  exact EM.bind_ok this _

/-- the values `for … in` iterates over -/
def iterable : Val → Bool
  | .arr _ | .obj _ | .str .. => true
  | _ => false

/-! ### faults behind elements / members / cases that succeed -/

/-- `Copied prog K es s k s'`: starting with fuel `K` in state `s`, the expressions `es` are
    evaluated and copied one after the other without error, leaving fuel `k` and state `s'` -/
inductive Copied : Nat → List Expr → St → Nat → St → Prop
  | nil (k : Nat) (s : St) : Copied k [] s k s
  | cons {k k' : Nat} {e : Expr} {es : List Expr} {s s1 s2 : St} {c : CellId} {w : Val}
      (he : evalExpr prog k e s = .ok c s1) (hlt : c < s1.heap.cells.size)
      (hc : copyVal (s1.heap.get c) = .ok w)
      (hrest : Copied k es (afterCopy s1 (.str [] none) w) k' s2) : Copied (k + 1) (e :: es) s k' s2

theorem evalExprList_copy_err_at {K n : Nat} {pre : List Expr} {s s' : St}
    (hpre : Copied prog K pre s (n + 1) s') (e : Expr) (rest : List Expr) (s1 : St) (c : CellId)
    (m : String) (he : evalExpr prog n e s' = .ok c s1) (hc : copyVal (s1.heap.get c) = .error m) :
    evalExprList prog K (pre ++ e :: rest) true s =
      throwRt e.token.pos m { s1 with heap := (s1.heap.alloc (.str [] none)).2 } := by
  generalize hk : n + 1 = k at hpre
  induction hpre with
  | nil k s =>
    subst hk
    rw [List.nil_append, evalExprList_succ_cons, EM.bind_ok he, EM.bind_rt (copyFresh_err _ _ hc)]
  | cons he' hlt hc' _ ih =>
    rw [List.cons_append, evalExprList_succ_cons, EM.bind_ok he',
      EM.bind_ok (copyFresh_ok _ _ hlt hc'), EM.bind_rt (ih he hk)]

/-- the same for the members of an object literal (`acc`: the members collected so far) -/
inductive CopiedKV : Nat → List (Bytes × Expr) → List (Bytes × CellId) → St → Nat →
    List (Bytes × CellId) → St → Prop
  | nil (k : Nat) (acc : List (Bytes × CellId)) (s : St) : CopiedKV k [] acc s k acc s
  | cons {k k' : Nat} {key : Bytes} {e : Expr} {es : List (Bytes × Expr)}
      {acc acc' : List (Bytes × CellId)} {s s1 s2 : St} {c : CellId} {w : Val}
      (he : evalExpr prog k e s = .ok c s1) (hlt : c < s1.heap.cells.size)
      (hc : copyVal (s1.heap.get c) = .ok w)
      (hrest : CopiedKV k es (objInsert acc key s1.heap.cells.size) (afterCopy s1 .unknown w) k' acc' s2) :
      CopiedKV (k + 1) ((key, e) :: es) acc s k' acc' s2

theorem evalObjItems_copy_err_at {K n : Nat} {pre : List (Bytes × Expr)}
    {acc acc' : List (Bytes × CellId)} {s s' : St}
    (hpre : CopiedKV prog K pre acc s (n + 1) acc' s') (pos : Nat) (key : Bytes) (e : Expr)
    (rest : List (Bytes × Expr)) (s1 : St) (c : CellId)
    (m : String) (he : evalExpr prog n e s' = .ok c s1) (hc : copyVal (s1.heap.get c) = .error m) :
    evalObjItems prog K pos (pre ++ (key, e) :: rest) acc s =
      throwRt pos m { s1 with heap := (s1.heap.alloc .unknown).2 } := by
  generalize hk : n + 1 = k at hpre
  induction hpre with
  | nil k acc s =>
    subst hk
    rw [List.nil_append, evalObjItems_succ_cons, EM.bind_ok he, EM.bind_rt (copyFresh_err _ _ hc)]
  | cons he' hlt hc' _ ih =>
    rw [List.cons_append, evalObjItems_succ_cons, EM.bind_ok he',
      EM.bind_ok (copyFresh_ok _ _ hlt hc')]
    exact ih he hk

/-- `Skipped prog K cases value s k s'`: none of the `cases` matches `value` (and testing them
    raises no error); fuel goes from `K` to `k`, the state from `s` to `s'` -/
inductive Skipped : Nat → List MatchCase → CellId → St → Nat → St → Prop
  | nil (k : Nat) (value : CellId) (s : St) : Skipped k [] value s k s
  | cons {k k' : Nat} {pats : List Expr} {body : Stmt} {cs : List MatchCase} {value : CellId}
      {s s1 s2 : St}
      (hm : evalCaseMatch prog k value pats s = .ok none s1)
      (hrest : Skipped k cs value s1 k' s2) : Skipped (k + 1) (.mk pats body :: cs) value s k' s2

theorem evalMatchCases_skipped {K k : Nat} {pre : List MatchCase} {value : CellId} {s s' : St}
    (hpre : Skipped prog K pre value s k s') (pos : Nat) (rest : List MatchCase) :
    evalMatchCases prog K pos value (pre ++ rest) s = evalMatchCases prog k pos value rest s' := by
  induction hpre with
  | nil k value s => rfl
  | cons hm _ ih =>
    rw [List.cons_append, MatchSpec.evalMatchCases_cons, EM.bind_ok hm]
    exact ih

theorem evalCaseMatch_alt_skip (n : Nat) (value : CellId) (p : Expr) (rest : List Expr)
    (s s1 : St) (h : evalCaseMatch prog (n + 1) value [p] s = .ok none s1) :
    evalCaseMatch prog (n + 1) value (p :: rest) s = evalCaseMatch prog n value rest s1 := by
  rw [MatchSpec.evalCaseMatch_cons] at h ⊢
  obtain ⟨a, s', h1, h2⟩ := (EM.bind_eq_ok _ _ _ _ _).mp h
  rw [EM.bind_ok h1]
  cases a with
  | some b => cases h2
  | none =>
    -- the empty rest answers `none` without touching the state (or runs out of fuel)
    cases n with
    | zero => rw [MatchSpec.evalCaseMatch_zero] at h2; cases h2
    | succ k => rw [MatchSpec.evalCaseMatch_nil] at h2; cases h2; rfl

/-- `AltsSkipped prog K pats value s k s'`: none of the alternatives `pats` matches -/
inductive AltsSkipped : Nat → List Expr → CellId → St → Nat → St → Prop
  | nil (k : Nat) (value : CellId) (s : St) : AltsSkipped k [] value s k s
  | cons {k k' : Nat} {p : Expr} {ps : List Expr} {value : CellId} {s s1 s2 : St}
      (hm : evalCaseMatch prog (k + 1) value [p] s = .ok none s1)
      (hrest : AltsSkipped k ps value s1 k' s2) : AltsSkipped (k + 1) (p :: ps) value s k' s2

theorem evalCaseMatch_skipped {K k : Nat} {pre : List Expr} {value : CellId} {s s' : St}
    (hpre : AltsSkipped prog K pre value s k s') (rest : List Expr) :
    evalCaseMatch prog K value (pre ++ rest) s = evalCaseMatch prog k value rest s' := by
  induction hpre with
  | nil k value s => rfl
  | cons hm _ ih =>
    rw [List.cons_append, evalCaseMatch_alt_skip prog _ _ _ _ _ _ hm]
    exact ih

/-- the state in which a selector expression is evaluated: the converted value in a new cell,
    which is `$` -/
def selectorStart (v : Val) (s0 : St) : St :=
  { s0 with heap := (s0.heap.alloc v).2, root := some s0.heap.cells.size,
            ruleRoot := some s0.heap.cells.size }

theorem selectorRun_eq (rootValue : JVal) (expr : Expr) :
    selectorRun rootValue expr = (do
      let v ← newValueJson rootValue
      let s0 ← getSt
      setSt (selectorStart v s0)
      let cell ← evalExpr Program.empty evalFuel expr
      copyFresh .unknown expr.token.pos cell) := by
  funext s
  unfold selectorRun
  simp only [bind, EM.bind]
  cases newValueJson rootValue s <;> rfl

end Jqawk.BlameSites
