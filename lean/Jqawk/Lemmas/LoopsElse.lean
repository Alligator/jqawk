/-
  The statement parser on token lists, as far as the dangling `else` (Props/C07)
  needs it: the branches of `statement` at run level; that a parse restores the scope flags;
  expression statements; `if ( e ) S` with and without `else` and the block `{ S }` with the
  inner statements as black boxes (`ParsesStmt`); which renderings start an expression statement.
-/
import Jqawk.Lemmas.PrattMain
import Jqawk.Lemmas.ParserScope   -- `allScoped`: the parser functions restore `inFn` / `inLoop`

namespace Jqawk.LoopsElse
open Jqawk Jqawk.Grammar Jqawk.Parser Jqawk.Pratt


@[simp] theorem run_setDidEnd (b : Bool) (s : PS) (ts : List Token) :
    run (setDidEnd b) s ts = .ok (((), { s with didEnd := b }), ts) := rfl

/-- tags that do not start a keyword statement or a block: `statement` takes its default branch -/
def exprStart : Tag → Bool
  | .print | .return_ | .if_ | .while_ | .for_ | .lcurly | .break_ | .continue_ | .next
  | .exit => false
  | _ => true

theorem stmt_default (n : Nat) (s : PS) (ts : List Token) (h : exprStart s.cur.tag = true) :
    run (statement T (n + 1)) s ts
      = (run (expressionWithPrec T n Prec.assign) { s with didEnd := false } ts).bind fun r =>
          .ok ((.expr r.1.1, r.1.2), r.2) := by
  unfold statement
  simp only [run_bind, run_setDidEnd, run_get, ParseRes.bind_ok]
  split <;> first
    | (rename_i heq; rw [show s.cur.tag = _ from heq] at h; exact absurd h (by decide))
    | skip
  simp only [run_bind, run_pure]

theorem stmt_if (n : Nat) (s : PS) (t1 t2 : Token) (ts : List Token) (h : s.cur.tag = .if_)
    (ht1 : t1.tag = .lparen) :
    run (statement T (n + 1)) s (t1 :: t2 :: ts)
      = (run (expressionWithPrec T n Prec.assign) (adv (adv s t1) t2) ts).bind fun r =>
          (run (consume .rparen) r.1.2 r.2).bind fun r1 =>
            (run (statement T n) r1.1.2 r1.2).bind fun r2 =>
              if r2.1.2.cur.tag = .else_ then
                (run (consume .else_) r2.1.2 r2.2).bind fun r3 =>
                  (run (statement T n) r3.1.2 r3.2).bind fun r4 =>
                    .ok ((.if_ r.1.1 r2.1.1 (some r4.1.1), r4.1.2), r4.2)
              else .ok ((.if_ r.1.1 r2.1.1 none, r2.1.2), r2.2) := by
  conv => lhs; unfold statement
  simp only [run_bind, run_setDidEnd, run_get, ParseRes.bind_ok, h]
  rw [run_consume_cons .if_ { s with didEnd := false } t1 _ h]
  simp only [ParseRes.bind_ok]
  rw [run_consume_cons .lparen _ t2 _ ht1]
  simp only [ParseRes.bind_ok, run_curTag, beq_iff_eq]
  refine congrArg _ (funext fun r => congrArg _ (funext fun r1 => congrArg _ (funext fun r2 => ?_)))
  split <;> simp only [run_bind, run_pure] <;> rfl

theorem stmt_block (n : Nat) (s : PS) (ts : List Token) (h : s.cur.tag = .lcurly) :
    run (statement T (n + 1)) s ts = run (block T n) { s with didEnd := false } ts := by
  conv => lhs; unfold statement
  simp only [run_bind, run_setDidEnd, run_get, ParseRes.bind_ok]
  simp only [h]

/-- `atStatementEnd` at a `}`: true, nothing consumed (whether or not a newline was skipped) -/
theorem run_atStatementEnd_rcurly (s : PS) (ts : List Token) (h : s.cur.tag = .rcurly) :
    run atStatementEnd s ts = .ok ((true, s), ts) := by
  unfold atStatementEnd
  simp only [run_bind, run_get, ParseRes.bind_ok]
  split
  · rfl
  · simp only [h]; rfl


theorem allR_runL {α : Type} (Q : α → Prop) (m : PM α) :
    PM.AllR (fun _ => True) Q m → ∀ ts a more, m.runL ts = .ok (a, more) → Q a := by
  induction m with
  | pure a =>
    intro h ts a' more hr
    simp only [PM.runL, ParseRes.ok.injEq, Prod.mk.injEq] at hr
    exact hr.1 ▸ h
  | fail e => intro _ ts a more hr; simp only [PM.runL] at hr; cases hr
  | oof => intro _ ts a more hr; simp only [PM.runL] at hr; cases hr
  | next k ih =>
    intro h ts a more hr
    cases ts with
    | nil => exact ih _ _ (h _ _) [] a more hr
    | cons t ts => exact ih _ _ (h _ _) ts a more hr
  | regex k ih => intro _ ts a more hr; simp only [PM.runL] at hr; cases hr

theorem expr_flags {F p : Nat} {s s' : PS} {ts more : List Token} {e : Expr}
    (h : run (expressionWithPrec T F p) s ts = .ok ((e, s'), more)) :
    s'.inFn = s.inFn ∧ s'.inLoop = s.inLoop := by
  have := allR_runL _ _ ((allScoped (fun _ => True) T F).expressionWithPrec p s) ts (e, s') more h
  exact ⟨this.2.1, this.1⟩

theorem stmt_flags {F : Nat} {s s' : PS} {ts more : List Token} {S : Stmt}
    (h : run (statement T F) s ts = .ok ((S, s'), more)) :
    s'.inFn = s.inFn ∧ s'.inLoop = s.inLoop := by
  have := allR_runL _ _ ((allScoped (fun _ => True) T F).statement s) ts (S, s') more h
  exact ⟨this.2.1, this.1⟩


theorem expr_render_stop (e : PE) (hwf : e.wf = true) (pol : PE → Bool) (q : Nat) (hq : 1 ≤ q)
    (c : Token) (more : List Token) (hstop : precT c.tag < 1) (s : PS) (ts : List Token)
    (hs : s.cur :: ts = render pol q e ++ c :: more) (F : Nat) (hF : cost e + 3 ≤ F) :
    ∃ s', s'.cur = c ∧ s'.inFn = s.inFn ∧ s'.inLoop = s.inLoop ∧
      run (expressionWithPrec T F Prec.assign) s ts = .ok ((toExpr e, s'), more) := by
  obtain ⟨s1, hs1, e1⟩ := (renderOK e hwf pol q).stop (p := 1) hs hq (Or.inr (by omega)) hstop hF
  exact ⟨s1, hs1, (expr_flags e1).1, (expr_flags e1).2, e1⟩

/-- the side condition `e.level < q ∨ precT c.tag ≤ R e` of `renderOK` follows from `precT c.tag < 1` -/
theorem stmt_expr_render (e : PE) (hwf : e.wf = true) (pol : PE → Bool) (q : Nat) (hq : 1 ≤ q)
    (c : Token) (more : List Token) (hstop : precT c.tag < 1) (s : PS) (ts : List Token)
    (hs : s.cur :: ts = render pol q e ++ c :: more) (hx : exprStart s.cur.tag = true)
    (F : Nat) (hF : cost e + 4 ≤ F) :
    ∃ s', s'.cur = c ∧ s'.inFn = s.inFn ∧ s'.inLoop = s.inLoop ∧
      run (statement T F) s ts = .ok ((.expr (toExpr e), s'), more) := by
  obtain ⟨n, rfl⟩ : ∃ n, F = n + 1 := ⟨F - 1, by omega⟩
  rw [stmt_default n s ts hx]
  obtain ⟨s', h1, h2, h3, h4⟩ := expr_render_stop e hwf pol q hq c more hstop
    { s with didEnd := false } ts hs n (by omega)
  rw [h4]
  exact ⟨s', h1, h2, h3, rfl⟩


/-- `ParsesStmt fn lp k h rest S c more`: from every parser state whose current token is `h` and
    whose scope flags are `fn` / `lp`, with `rest` unread, `statement` with any fuel `≥ k` returns
    the statement `S`, stops with current token `c`, and leaves `more` unread. -/
def ParsesStmt (fn lp : Bool) (k : Nat) (h : Token) (rest : List Token) (S : Stmt) (c : Token)
    (more : List Token) : Prop :=
  ∀ (F : Nat) (s : PS), k ≤ F → s.cur = h → s.inFn = fn → s.inLoop = lp →
    ∃ s', s'.cur = c ∧ run (statement T F) s rest = .ok ((S, s'), more)

theorem ParsesStmt.mono {fn lp : Bool} {k k' : Nat} {h : Token} {rest : List Token} {S : Stmt}
    {c : Token} {more : List Token} (hp : ParsesStmt fn lp k h rest S c more) (hk : k ≤ k') :
    ParsesStmt fn lp k' h rest S c more :=
  fun F s hF => hp F s (Nat.le_trans hk hF)

theorem parses_expr (fn lp : Bool) (e : PE) (hwf : e.wf = true) (pol : PE → Bool) (q : Nat)
    (hq : 1 ≤ q) (c : Token) (more : List Token) (hstop : precT c.tag < 1) (hd : Token)
    (tl : List Token) (hr : hd :: tl = render pol q e ++ c :: more)
    (hx : exprStart hd.tag = true) :
    ParsesStmt fn lp (cost e + 4) hd tl (.expr (toExpr e)) c more := by
  intro F s hF hcur _ _
  obtain ⟨s', h1, _, _, h4⟩ := stmt_expr_render e hwf pol q hq c more hstop s tl
    (by rw [hcur]; exact hr) (by rw [hcur]; exact hx) F hF
  exact ⟨s', h1, h4⟩

theorem parses_if_noelse (fn lp : Bool) (e : PE) (hwf : e.wf = true) (pol : PE → Bool) (q : Nat)
    (hq : 1 ≤ q) (i l r : Token) (hi : i.tag = .if_) (hl : l.tag = .lparen) (hr : r.tag = .rparen)
    (k : Nat) (h : Token) (rest : List Token) (S : Stmt) (c : Token) (more : List Token)
    (hS : ParsesStmt fn lp k h rest S c more) (hc : c.tag ≠ .else_) :
    ParsesStmt fn lp (max (cost e + 4) (k + 1)) i (l :: (render pol q e ++ r :: h :: rest))
      (.if_ (toExpr e) S none) c more := by
  intro F s hF hcur hfn hlp
  simp only [Nat.max_le] at hF
  obtain ⟨n, rfl⟩ : ∃ n, F = n + 1 := ⟨F - 1, by omega⟩
  obtain ⟨t2, ts', hcons⟩ := exists_cons (render pol q e) r (h :: rest)
  rw [hcons, stmt_if n s l t2 ts' (by rw [hcur]; exact hi) hl]
  obtain ⟨s1, hs1, hf1, hl1, e1⟩ := expr_render_stop e hwf pol q hq r (h :: rest)
    (by rw [hr]; decide) (adv (adv s l) t2) ts' (by simpa using hcons.symm) n (by omega)
  rw [e1]
  simp only [ParseRes.bind_ok]
  rw [run_consume_cons _ _ _ _ (by rw [hs1]; exact hr)]
  simp only [ParseRes.bind_ok]
  obtain ⟨s2, hs2, e2⟩ := hS n (adv s1 h) (by omega) rfl (by rw [← hfn]; exact hf1)
    (by rw [← hlp]; exact hl1)
  rw [e2]
  simp only [ParseRes.bind_ok]
  rw [if_neg (by rw [hs2]; exact hc)]
  exact ⟨s2, hs2, rfl⟩

theorem parses_if_else (fn lp : Bool) (e : PE) (hwf : e.wf = true) (pol : PE → Bool) (q : Nat)
    (hq : 1 ≤ q) (i l r el : Token) (hi : i.tag = .if_) (hl : l.tag = .lparen)
    (hr : r.tag = .rparen) (hel : el.tag = .else_)
    (k1 : Nat) (h1 : Token) (rest1 : List Token) (S1 : Stmt) (h2 : Token) (rest2 : List Token)
    (k2 : Nat) (S2 : Stmt) (c : Token) (more : List Token)
    (hS1 : ParsesStmt fn lp k1 h1 rest1 S1 el (h2 :: rest2))
    (hS2 : ParsesStmt fn lp k2 h2 rest2 S2 c more) :
    ParsesStmt fn lp (max (cost e + 4) (max k1 k2 + 1)) i
      (l :: (render pol q e ++ r :: h1 :: rest1)) (.if_ (toExpr e) S1 (some S2)) c more := by
  intro F s hF hcur hfn hlp
  simp only [← Nat.add_max_add_right, Nat.max_le] at hF
  obtain ⟨n, rfl⟩ : ∃ n, F = n + 1 := ⟨F - 1, by omega⟩
  obtain ⟨t2, ts', hcons⟩ := exists_cons (render pol q e) r (h1 :: rest1)
  rw [hcons, stmt_if n s l t2 ts' (by rw [hcur]; exact hi) hl]
  obtain ⟨s1, hs1, hf1, hl1, e1⟩ := expr_render_stop e hwf pol q hq r (h1 :: rest1)
    (by rw [hr]; decide) (adv (adv s l) t2) ts' (by simpa using hcons.symm) n (by omega)
  rw [e1]
  simp only [ParseRes.bind_ok]
  rw [run_consume_cons _ _ _ _ (by rw [hs1]; exact hr)]
  simp only [ParseRes.bind_ok]
  have hfn1 : (adv s1 h1).inFn = fn := by rw [← hfn]; exact hf1
  have hlp1 : (adv s1 h1).inLoop = lp := by rw [← hlp]; exact hl1
  obtain ⟨s2, hs2, e2⟩ := hS1 n (adv s1 h1) (by omega) rfl hfn1 hlp1
  have hfl2 := stmt_flags e2
  rw [e2]
  simp only [ParseRes.bind_ok]
  rw [if_pos (by rw [hs2]; exact hel)]
  rw [run_consume_cons _ _ _ _ (by rw [hs2]; exact hel)]
  simp only [ParseRes.bind_ok]
  obtain ⟨s3, hs3, e3⟩ := hS2 n (adv s2 h2) (by omega) rfl (by rw [← hfn1]; exact hfl2.1)
    (by rw [← hlp1]; exact hfl2.2)
  rw [e3]
  exact ⟨s3, hs3, rfl⟩

def startsExpr : List Token → Bool
  | t :: _ => exprStart t.tag
  | [] => false


theorem blockLoop_end (n : Nat) (acc : List Stmt) (s : PS) (ts : List Token)
    (h : s.cur.tag = .rcurly) :
    run (blockLoop T (n + 1) acc) s ts = .ok ((acc.reverse, s), ts) := by
  unfold blockLoop
  simp [h]

theorem parses_block1 (fn lp : Bool) (lc rc : Token) (hlc : lc.tag = .lcurly)
    (hrc : rc.tag = .rcurly) (k : Nat) (h : Token) (rest : List Token) (S : Stmt) (c : Token)
    (more : List Token) (hh1 : h.tag ≠ .eof) (hh2 : h.tag ≠ .rcurly)
    (hS : ParsesStmt fn lp k h rest S rc (c :: more)) :
    ParsesStmt fn lp (k + 3) lc (h :: rest) (.block lc [S]) c more := by
  intro F s hF hcur hfn hlp
  obtain ⟨n, rfl⟩ : ∃ n, F = n + 3 := ⟨F - 3, by omega⟩
  rw [stmt_block (n + 2) s _ (by rw [hcur]; exact hlc)]
  unfold block
  simp only [run_bind, run_get, ParseRes.bind_ok, run_pure]
  rw [run_consume_cons .lcurly { s with didEnd := false } h rest (by rw [← hlc, ← hcur])]
  simp only [ParseRes.bind_ok, adv_prev]
  unfold blockLoop
  have hne : (h.tag == Tag.eof || h.tag == Tag.rcurly) = false := by simp [hh1, hh2]
  simp only [run_bind, run_curTag, ParseRes.bind_ok, adv_cur, hne, Bool.false_eq_true, if_false]
  obtain ⟨s2, hs2, e2⟩ := hS n (adv { s with didEnd := false } h) (by omega) rfl hfn hlp
  rw [e2]
  simp only [ParseRes.bind_ok]
  rw [run_atStatementEnd_rcurly s2 _ (by rw [hs2]; exact hrc)]
  simp only [ParseRes.bind_ok, Bool.not_true, Bool.false_eq_true, if_false]
  obtain ⟨m, rfl⟩ : ∃ m, n = m + 1 := by
    cases n with
    | zero => unfold statement at e2; simp only [run_oof] at e2; cases e2
    | succ m => exact ⟨m, rfl⟩
  rw [blockLoop_end m _ s2 _ (by rw [hs2]; exact hrc)]
  simp only [ParseRes.bind_ok]
  rw [run_consume_cons .rcurly s2 c more (by rw [hs2]; exact hrc)]
  simp only [ParseRes.bind_ok, run_setDidEnd, List.reverse_cons, List.reverse_nil, List.nil_append]
  exact ⟨_, rfl, by rw [hcur]⟩


/-- the leftmost atom of the expression (following left operands / targets) is an object
    literal: the only renderings that may begin with `{` -/
def leftObj : PE → Bool
  | .obj _ => true
  | .bin _ l _ => leftObj l
  | .postfix _ e => leftObj e
  | .isType e _ => leftObj e
  | .member e _ => leftObj e
  | .index e _ => leftObj e
  | .call f _ => leftObj f
  | .assign _ t _ => leftObj t
  | _ => false

theorem startsExpr_append (xs ys : List Token) (h : startsExpr xs = true) :
    startsExpr (xs ++ ys) = true := by
  cases xs with
  | nil => cases h
  | cons x xs => exact h

theorem startsExpr_wrapAt (q lev : Nat) (ts : List Token) (h : startsExpr ts = true) :
    startsExpr (wrapAt q lev ts) = true := by
  unfold wrapAt; split
  · rfl
  · exact h

/-- Every rendering of an expression whose leftmost atom is not an object literal begins with a
    token that sends `statement` to its expression branch (no statement keyword, no `{`): the
    `startsExpr` hypotheses of `C07.dangling_else_exprs` hold for all such `e1`, `e2`. -/
theorem startsExpr_render (e : PE) (h : leftObj e = false) (pol : PE → Bool) (q : Nat) :
    startsExpr (render pol q e) = true := by
  suffices hb : startsExpr (body pol e) = true from startsExpr_wrapAt _ _ _ hb
  induction e using PE.induct with
  | ident n => rfl
  | dollar => rfl
  | lit l => cases l <;> rfl
  | bin op l r hl _ =>
    simp only [body, List.append_assoc]
    exact startsExpr_append _ _ (startsExpr_wrapAt _ _ _ (hl (by simpa [leftObj] using h)))
  | un op e _ => cases op <;> rfl
  | preInc op e _ => cases op <;> rfl
  | postf op e he =>
    simp only [body]
    exact startsExpr_append _ _ (startsExpr_wrapAt _ _ _ (he (by simpa [leftObj] using h)))
  | isType e ty he =>
    simp only [body]
    exact startsExpr_append _ _ (startsExpr_wrapAt _ _ _ (he (by simpa [leftObj] using h)))
  | member e n he =>
    simp only [body]
    exact startsExpr_append _ _ (startsExpr_wrapAt _ _ _ (he (by simpa [leftObj] using h)))
  | index e i he _ =>
    simp only [body, List.append_assoc]
    exact startsExpr_append _ _ (startsExpr_wrapAt _ _ _ (he (by simpa [leftObj] using h)))
  | call f args hf _ =>
    simp only [body, List.append_assoc]
    exact startsExpr_append _ _ (startsExpr_wrapAt _ _ _ (hf (by simpa [leftObj] using h)))
  | arr items _ => rfl
  | obj items _ => simp [leftObj] at h
  | assign op t v ht _ =>
    simp only [body, List.append_assoc]
    exact startsExpr_append _ _ (startsExpr_wrapAt _ _ _ (ht (by simpa [leftObj] using h)))


section examples

def dumpProgSrc (src : Bytes) : Option Bytes :=
  match parseProgramSrc expectedRuleTable src with
  | .ok p => some (dumpProgram p)
  | _ => none

def asgAt (px pe pn : Nat) (n : Bytes) : Stmt :=
  .expr (.binary (.ident ⟨.ident, px, b!"x"⟩) (.lit ⟨.num, pn, n⟩) ⟨.equal, pe, []⟩)

/-- SOURCE TEXT, through the real lexer: `{ if (a) if (b) x = 1 else x = 2 }` is the rule whose
    block holds `if (a) { if (b) x = 1 else x = 2 }` — the `else` sits in the inner `if`, the outer
    `if` has no `else` branch (this is also what the Go binary prints with `-dbg-ast`). -/
example :
    dumpProgSrc b!"{ if (a) if (b) x = 1 else x = 2 }"
      = some (dumpProgram ⟨[⟨.pattern, none, .block ⟨.lcurly, 0, []⟩
          [.if_ (.ident ⟨.ident, 6, b!"a"⟩)
            (.if_ (.ident ⟨.ident, 13, b!"b"⟩) (asgAt 16 18 20 b!"1") (some (asgAt 27 29 31 b!"2")))
            none]⟩], []⟩) := by
  decide +kernel

example :
    dumpProgSrc b!"{ if (a) { if (b) x = 1 } else x = 2 }"
      = some (dumpProgram ⟨[⟨.pattern, none, .block ⟨.lcurly, 0, []⟩
          [.if_ (.ident ⟨.ident, 6, b!"a"⟩)
            (.block ⟨.lcurly, 9, []⟩
              [.if_ (.ident ⟨.ident, 15, b!"b"⟩) (asgAt 18 20 22 b!"1") none])
            (some (asgAt 31 33 35 b!"2"))]⟩], []⟩) := by
  decide +kernel

example : dumpProgSrc b!"{ if (a) if (b) x = 1 else x = 2 }"
    ≠ dumpProgSrc b!"{ if (a) { if (b) x = 1 } else x = 2 }" := by
  decide +kernel

def asgPE (n : Bytes) : PE := .assign .set (.ident b!"x") (.lit (.num n))

def sampleToks : List Token :=
  [opTok .lparen, identTok b!"a", opTok .rparen, opTok .if_, opTok .lparen, identTok b!"b",
   opTok .rparen, identTok b!"x", opTok .equal, ⟨.num, 0, b!"1"⟩, opTok .else_, identTok b!"x",
   opTok .equal, ⟨.num, 0, b!"2"⟩, opTok .rcurly]

example : opTok .lparen :: (renderMin 1 (.ident b!"a") ++ opTok .rparen :: opTok .if_ ::
      opTok .lparen :: (renderMin 1 (.ident b!"b") ++ opTok .rparen ::
        (renderMin 1 (asgPE b!"1") ++ opTok .else_ :: (renderMin 1 (asgPE b!"2") ++
          opTok .rcurly :: [])))) = sampleToks := by
  decide +kernel

end examples


end Jqawk.LoopsElse
