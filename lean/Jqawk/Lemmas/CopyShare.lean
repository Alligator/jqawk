/-
  Copy versus share (C09, third sentence): "Scalars are copied on assignment, argument passing
  and insertion into containers, whereas arrays and objects are shared, so a mutation made
  through one reference is visible through every other reference."

  * argument passing: `bindParams` (closed form, fresh cells), `evalExprList … true` (every
    argument value is stored through `copyValue` into a fresh cell);
  * insertion into containers: array literal, object literal, `push`;
  * sharing: assignment of an array/object value stores the same id; a store through one
    reference is seen through the other (the theorems are in Props/C09; here `copyVal_container`
    and the local effect of a plain assignment).

  Second part (from `isParamTarget` on): a second induction over the evaluator, for functions that
  assign only to their own parameters.  `Expr.roP ps` is `Expr.readOnly false` plus assignments
  `p = e` to a parameter `p ∈ ps`; `PresP N ps` (relation `RelP`, frame invariant `PInv`) says that
  nothing below the mark `N` — the caller's cells — changes; `AllP`/`allP` is the induction (its
  leaves are those of `AllRO` through `PresP.of_pres`; the one new case is the assignment,
  `PresP.assignParam`), and `callFunction_paramOnly` the result for a call.
-/
import Jqawk.Lemmas.AssignFrame


namespace Jqawk

/-- the values the parameters receive: by position, missing → null, surplus ignored -/
def paramVals : List Bytes → List Val → List Val
  | [], _ => []
  | _ :: ps, [] => .nil none :: paramVals ps []
  | _ :: ps, a :: as => a :: paramVals ps as

/-- the locals after binding the parameters, in order, to the consecutive cells `base, base+1, …` -/
def bindLocals : List (Bytes × CellId) → List Bytes → CellId → List (Bytes × CellId)
  | m, [], _ => m
  | m, p :: ps, base => bindLocals (objInsert m p base) ps (base + 1)

theorem paramVals_length (ps : List Bytes) (args : List Val) : (paramVals ps args).length = ps.length := by
  induction ps generalizing args with
  | nil => rfl
  | cons p ps ih => cases args <;> simp [paramVals, ih]

theorem paramVals_getElem? (ps : List Bytes) (args : List Val) (j : Nat) (hj : j < ps.length) :
    (paramVals ps args)[j]? = some (args.getD j (.nil none)) := by
  induction ps generalizing args j with
  | nil => simp at hj
  | cons p ps ih =>
    cases args with
    | nil =>
      cases j with
      | zero => simp [paramVals]
      | succ j =>
        have := ih [] j (by simpa using hj)
        simpa [paramVals] using this
    | cons a as =>
      cases j with
      | zero => simp [paramVals]
      | succ j =>
        have := ih as j (by simpa using hj)
        simpa [paramVals] using this

theorem Heap.allocMany_nil (h : Heap) : h.allocMany [] = h := by
  cases h; simp [Heap.allocMany]

theorem Heap.alloc_allocMany (h : Heap) (v : Val) (vs : List Val) :
    (h.alloc v).2.allocMany vs = h.allocMany (v :: vs) := by
  simp only [Heap.alloc, Heap.allocMany]
  congr 1
  apply Array.toList_inj.mp
  simp

/-- **closed form of `bindParams`**: one fresh cell per parameter, consecutively, holding the
    argument value (null for a missing argument); the names are bound in the innermost frame in
    order (so for a repeated name the last occurrence wins); nothing else changes. -/
theorem bindParams_eq (ps : List Bytes) (args : List Val) (s : St) (f : Frame) (fs : List Frame)
    (hf : s.frames = f :: fs) :
    bindParams ps args s = .ok () { s with
      heap := s.heap.allocMany (paramVals ps args),
      frames := { f with locals := bindLocals f.locals ps s.heap.cells.size } :: fs } := by
  induction ps generalizing args s f with
  | nil =>
    simp only [bindParams, pure, EM.pure, paramVals, Heap.allocMany_nil, bindLocals]
    rw [← hf]
  | cons p ps ih =>
    cases args with
    | nil =>
      simp only [bindParams, bind, EM.bind, newCell, setLocal, hf]
      rw [ih [] _ { f with locals := objInsert f.locals p s.heap.cells.size } rfl]
      simp only [paramVals, bindLocals, Heap.alloc_allocMany]
      simp [Heap.alloc]
    | cons a as =>
      simp only [bindParams, bind, EM.bind, newCell, setLocal, hf]
      rw [ih as _ { f with locals := objInsert f.locals p s.heap.cells.size } rfl]
      simp only [paramVals, bindLocals, Heap.alloc_allocMany]
      simp [Heap.alloc]

/-- without a frame `bindParams` panics as soon as there is a parameter (never happens: a call
    pushes a frame first) -/
theorem bindParams_noframe (p : Bytes) (ps : List Bytes) (args : List Val) (s : St)
    (hf : s.frames = []) : ∃ s', bindParams (p :: ps) args s = .err (.panic "no frame") s' := by
  cases args <;> simp [bindParams, bind, EM.bind, newCell, setLocal, hf]

theorem objLookup_bindLocals_notin (ps : List Bytes) (m : List (Bytes × CellId)) (base : CellId)
    (name : Bytes) (hn : name ∉ ps) : objLookup (bindLocals m ps base) name = objLookup m name := by
  induction ps generalizing m base with
  | nil => rfl
  | cons p ps ih =>
    simp only [List.mem_cons, not_or] at hn
    simp only [bindLocals]
    rw [ih _ _ hn.2, objLookup_objInsert]
    have : p ≠ name := fun e => hn.1 e.symm
    simp [this]

/-- the name at position `j` — if it does not occur again later — is bound to the `j`-th fresh
    cell -/
theorem objLookup_bindLocals_last (ps : List Bytes) (m : List (Bytes × CellId)) (base : CellId)
    (j : Nat) (p : Bytes) (hj : ps[j]? = some p) (hlast : ∀ j', j < j' → ps[j']? ≠ some p) :
    objLookup (bindLocals m ps base) p = some (base + j) := by
  induction ps generalizing m base j with
  | nil => simp at hj
  | cons q ps ih =>
    cases j with
    | zero =>
      simp only [List.getElem?_cons_zero, Option.some.injEq] at hj
      subst hj
      have hn : q ∉ ps := by
        intro hmem
        obtain ⟨i, hi, e⟩ := List.getElem_of_mem hmem
        exact hlast (i + 1) (Nat.succ_pos i) (by simp [hi, e])
      simp only [bindLocals]
      rw [objLookup_bindLocals_notin _ _ _ _ hn, objLookup_objInsert]
      simp
    | succ j =>
      simp only [List.getElem?_cons_succ] at hj
      simp only [bindLocals]
      rw [ih _ (base + 1) j hj (fun j' hlt => by
        have := hlast (j' + 1) (Nat.succ_lt_succ hlt)
        simpa using this)]
      rw [Nat.add_assoc, Nat.add_comm 1 j]

theorem objLookup_bindLocals_mem (ps : List Bytes) (m : List (Bytes × CellId)) (base : CellId)
    (p : Bytes) (hp : p ∈ ps) :
    ∃ j, j < ps.length ∧ ps[j]? = some p ∧ objLookup (bindLocals m ps base) p = some (base + j) := by
  induction ps generalizing m base with
  | nil => simp at hp
  | cons q ps ih =>
    by_cases hin : p ∈ ps
    · obtain ⟨j, hj, hjp, hl⟩ := ih (objInsert m q base) (base + 1) hin
      refine ⟨j + 1, by simpa using hj, by simpa using hjp, ?_⟩
      simp only [bindLocals]
      rw [hl, Nat.add_assoc, Nat.add_comm 1 j]
    · have : p = q := by
        rcases List.mem_cons.mp hp with h | h
        · exact h
        · exact absurd h hin
      subst this
      refine ⟨0, by simp, by simp, ?_⟩
      simp only [bindLocals]
      rw [objLookup_bindLocals_notin _ _ _ _ hin, objLookup_objInsert]
      simp

/-- **`bindParams`, what a caller can rely on** (any state with a frame): it succeeds; the heap
    only grows by `ps.length` cells (every old cell, array and object is unchanged); the `j`-th
    new cell holds the `j`-th argument value, or null if there are fewer arguments; in the
    innermost frame every name that is not a parameter keeps its binding, and the parameter at
    position `j` is bound to the `j`-th new cell — for a name that occurs several times in the
    parameter list, the LAST occurrence wins (`hlast`); in any case every parameter name is bound
    to one of the new cells.  Outer frames, output, roots are untouched. -/
theorem bindParams_spec (ps : List Bytes) (args : List Val) (s : St) (f : Frame) (fs : List Frame)
    (hf : s.frames = f :: fs) :
    ∃ s' f', bindParams ps args s = .ok () s' ∧
      HeapPreserved s.heap s'.heap ∧
      s'.heap.cells.size = s.heap.cells.size + ps.length ∧
      s'.heap.arrs = s.heap.arrs ∧ s'.heap.objs = s.heap.objs ∧
      (∀ j, j < ps.length → s'.heap.get (s.heap.cells.size + j) = args.getD j (.nil none)) ∧
      s'.frames = f' :: fs ∧ f'.name = f.name ∧
      (∀ name, name ∉ ps → objLookup f'.locals name = objLookup f.locals name) ∧
      (∀ j p, ps[j]? = some p → (∀ j', j < j' → ps[j']? ≠ some p) →
        objLookup f'.locals p = some (s.heap.cells.size + j)) ∧
      (∀ p, p ∈ ps → ∃ j, j < ps.length ∧ ps[j]? = some p ∧
        objLookup f'.locals p = some (s.heap.cells.size + j)) ∧
      s'.out = s.out ∧ s'.root = s.root ∧ s'.ruleRoot = s.ruleRoot ∧ s'.returnVal = s.returnVal := by
  refine ⟨_, _, bindParams_eq ps args s f fs hf, HeapPreserved.allocMany _ _, ?_, rfl, rfl, ?_, rfl, rfl,
    fun name hn => objLookup_bindLocals_notin _ _ _ _ hn,
    fun j p hj hl => objLookup_bindLocals_last _ _ _ j p hj hl,
    fun p hp => objLookup_bindLocals_mem _ _ _ p hp, rfl, rfl, rfl, rfl⟩
  · simp [Heap.allocMany, paramVals_length]
  · intro j hj
    have hj' : j < (paramVals ps args).length := by rw [paramVals_length]; exact hj
    have h1 := Heap.get_allocMany_new s.heap (paramVals ps args) j hj'
    have h2 := paramVals_getElem? ps args j hj
    rw [List.getElem?_eq_getElem hj'] at h2
    simp only [Option.some.injEq] at h2
    exact h1.trans h2

/-- a value that `copyValue` produces never stands for a missing member -/
theorem copyVal_not_speculative (v w : Val) (h : copyVal v = .ok w) : w.speculative = false := by
  cases v <;> simp [copyVal] at h <;> subst h <;> rfl

/-- `c` was allocated between `h` and `h'` and holds a copy (`copyVal` of some value: a scalar in
    a fresh payload without remembered parent, or the shared id of an array/object) -/
def FreshCopy (h h' : Heap) (c : CellId) : Prop :=
  h.cells.size ≤ c ∧ c < h'.cells.size ∧ ∃ v, copyVal v = .ok (h'.get c)

theorem FreshCopy.mono {h0 h h' h'' : Heap} {c : CellId} (fc : FreshCopy h h' c)
    (h0h : h0.cells.size ≤ h.cells.size) (p : HeapPreserved h' h'') : FreshCopy h0 h'' c := by
  obtain ⟨a, b, v, hv⟩ := fc
  refine ⟨Nat.le_trans h0h a, Nat.lt_of_lt_of_le b p.cells, v, ?_⟩
  rw [p.get c b]; exact hv

theorem FreshCopy.not_speculative {h h' : Heap} {c : CellId} (fc : FreshCopy h h' c) :
    (h'.get c).speculative = false := by
  obtain ⟨_, _, v, hv⟩ := fc
  exact copyVal_not_speculative _ _ hv

/-- the state after `NewCell(x)` followed by a successful `copyValue(v, cell)` -/
def copiedSt (s : St) (x w : Val) : St :=
  { s with heap := (s.heap.alloc x).2.set s.heap.cells.size w }

/-- one step of `evalExprList … true` (inversion): the element is evaluated, its value is copied
    into a fresh cell — the next free cell id — and the rest is evaluated from there.  (The value
    copied is the one the element's result cell `v` holds; it is read after the fresh cell was
    allocated, which makes a difference only if `v` is not an allocated cell.) -/
theorem evalExprList_copy_cons (prog : Program) (n : Nat) (e : Expr) (rest : List Expr) (s s' : St)
    (cs : List CellId) (h : evalExprList prog (n + 1) (e :: rest) true s = .ok cs s') :
    ∃ v s1 w cs', evalExpr prog n e s = .ok v s1 ∧
      copyVal ((s1.heap.alloc (.str [] none)).2.get v) = .ok w ∧
      cs = s1.heap.cells.size :: cs' ∧
      evalExprList prog n rest true (copiedSt s1 (.str [] none) w) = .ok cs' s' := by
  unfold evalExprList at h
  simp only [bind, EM.bind, ↓reduceIte] at h
  cases h1 : evalExpr prog n e s with
  | oof => rw [h1] at h; cases h
  | err er s1 => rw [h1] at h; cases h
  | ok v s1 =>
    rw [h1] at h
    have hfst : (s1.heap.alloc (.str [] none)).1 = s1.heap.cells.size := rfl
    cases hc : copyVal ((s1.heap.alloc (.str [] none)).2.get v) with
    | error m =>
      simp only [newCell, copyValue, bind, EM.bind, readCell, hc, pure, EM.pure, throwRt] at h
      cases h
    | ok w =>
      simp only [newCell, copyValue, bind, EM.bind, readCell, hc, writeCell, pure, EM.pure, hfst] at h
      cases h2 : evalExprList prog n rest true (copiedSt s1 (.str [] none) w) with
      | oof => simp only [copiedSt] at h2; rw [h2] at h; cases h
      | err er s2 => simp only [copiedSt] at h2; rw [h2] at h; cases h
      | ok cs' s2 =>
        simp only [copiedSt] at h2; rw [h2] at h
        simp only [Res.ok.injEq] at h
        obtain ⟨rfl, rfl⟩ := h
        exact ⟨v, s1, w, cs', rfl, hc, rfl, h2⟩

theorem copiedSt_preserved (s : St) (x w : Val) : HeapPreserved s.heap (copiedSt s x w).heap :=
  HeapPreserved.alloc_set s.heap x w

theorem copiedSt_size (s : St) (x w : Val) : (copiedSt s x w).heap.cells.size = s.heap.cells.size + 1 := by
  simp only [copiedSt]; rw [Heap.size_set, Heap.size_alloc]

theorem copiedSt_get (s : St) (x w : Val) : (copiedSt s x w).heap.get s.heap.cells.size = w := by
  simp only [copiedSt]
  exact Heap.get_set_same' _ _ _ (by rw [Heap.size_alloc]; exact Nat.lt_succ_self _)

theorem copiedSt_inv {k : Bool} (s : St) (x w : Val) (i : Inv k s.heap) : Inv k (copiedSt s x w).heap :=
  i.same_objs rfl (copiedSt_preserved s x w).cells

theorem copiedSt_freshCopy (s : St) (x w v : Val) (hc : copyVal v = .ok w) :
    FreshCopy s.heap (copiedSt s x w).heap s.heap.cells.size :=
  ⟨Nat.le_refl _, by rw [copiedSt_size]; exact Nat.lt_succ_self _, v, by rw [copiedSt_get]; exact hc⟩

/-- **the argument cells of a call (and the element cells of an array literal) are fresh cells
    holding copies**: `evalExprList … true` on read-only element expressions (`k = false`: no
    calls, any program; `k = true`: method calls with literal non-mutating names, function bodies
    read-only, object members in range) changes no existing cell, array or object, yields one
    cell per expression, every one of them allocated during this evaluation and holding a copy;
    the cells are pairwise distinct (increasing). -/
theorem evalExprList_copy_fresh (prog : Program) (k : Bool) (hfn : k = true → prog.FnsRO) :
    ∀ (es : List Expr) (n : Nat) (s s' : St) (cs : List CellId),
      roEs k es = true → Inv k s.heap → evalExprList prog n es true s = .ok cs s' →
      HeapPreserved s.heap s'.heap ∧ Inv k s'.heap ∧ cs.length = es.length ∧
      (∀ c, c ∈ cs → FreshCopy s.heap s'.heap c) ∧ cs.Pairwise (fun a b => a < b) := by
  intro es
  induction es with
  | nil =>
    intro n s s' cs _ i h
    cases n with
    | zero => unfold evalExprList at h; cases h
    | succ n =>
      unfold evalExprList at h
      simp only [pure, EM.pure, Res.ok.injEq] at h
      obtain ⟨rfl, rfl⟩ := h
      exact ⟨HeapPreserved.refl _, i, rfl, (fun c hc => nomatch hc), List.Pairwise.nil⟩
  | cons e rest ih =>
    intro n s s' cs hro i h
    simp only [roEs, Bool.and_eq_true] at hro
    cases n with
    | zero => unfold evalExprList at h; cases h
    | succ n =>
      obtain ⟨v, s1, w, cs', h1, hc, rfl, h2⟩ := evalExprList_copy_cons prog n e rest s s' cs h
      have q1 := (allRO prog k hfn n).expr true e hro.1 s
      rw [h1] at q1
      obtain ⟨r1, i1⟩ := q1 i
      obtain ⟨p2, i2, hlen, hfresh, hpw⟩ :=
        ih n (copiedSt s1 (.str [] none) w) s' cs' hro.2 (copiedSt_inv s1 _ w i1) h2
      have p01 : HeapPreserved s.heap (copiedSt s1 (.str [] none) w).heap :=
        r1.heap.trans (copiedSt_preserved s1 _ w)
      refine ⟨p01.trans p2, i2, by simp [hlen], ?_, ?_⟩
      · intro c hcm
        rcases List.mem_cons.mp hcm with rfl | hcm
        · exact (copiedSt_freshCopy s1 (.str [] none) w _ hc).mono r1.heap.cells p2
        · exact (hfresh c hcm).mono p01.cells (HeapPreserved.refl _)
      · refine List.Pairwise.cons ?_ hpw
        intro c hcm
        have := (hfresh c hcm).1
        rw [copiedSt_size] at this
        exact this

/-- the heap after building an array from the cells `cs` and a cell referring to it -/
def arrLitHeap (h : Heap) (cs : List CellId) : Heap :=
  ((h.allocArr cs.toArray).2.alloc (.arr h.arrs.size)).2

/-- an array literal (inversion): the items are evaluated by `evalExprList … true` (copies in
    fresh cells), then a new array holding exactly these cells and a new cell referring to it
    are allocated -/
theorem evalExpr_arr_inv (prog : Program) (n : Nat) (t : Token) (items : List Expr) (s s' : St)
    (c : CellId) (h : evalExpr prog (n + 1) (.arr t items) s = .ok c s') :
    ∃ cs s1, evalExprList prog n items true s = .ok cs s1 ∧ c = s1.heap.cells.size ∧
      s' = { s1 with heap := arrLitHeap s1.heap cs } := by
  unfold evalExpr at h
  simp only [bind, EM.bind] at h
  cases h1 : evalExprList prog n items true s with
  | oof => rw [h1] at h; cases h
  | err er s1 => rw [h1] at h; cases h
  | ok cs s1 =>
    rw [h1] at h
    simp only [allocArrM, newCell, Heap.allocArr, Heap.alloc, Res.ok.injEq] at h
    obtain ⟨rfl, rfl⟩ := h
    exact ⟨cs, s1, rfl, rfl, rfl⟩

theorem arrLitHeap_spec (h : Heap) (cs : List CellId) :
    HeapPreserved h (arrLitHeap h cs) ∧
    (arrLitHeap h cs).get h.cells.size = .arr h.arrs.size ∧
    (arrLitHeap h cs).arr h.arrs.size = cs.toArray ∧
    (arrLitHeap h cs).cells.size = h.cells.size + 1 ∧
    (arrLitHeap h cs).arrs.size = h.arrs.size + 1 ∧
    (arrLitHeap h cs).objs = h.objs := by
  refine ⟨(HeapPreserved.allocArr h _).trans (HeapPreserved.alloc _ _), ?_, ?_, ?_, ?_, rfl⟩
  · exact Heap.get_push_new _ _
  · simp [arrLitHeap, Heap.allocArr, Heap.alloc, Heap.arr, Array.getD_eq_getD_getElem?]
  · simp [arrLitHeap, Heap.allocArr, Heap.alloc]
  · simp [arrLitHeap, Heap.allocArr, Heap.alloc]

/-- one step of `evalObjItems` (inversion): the member expression is evaluated, its value is
    copied into a fresh cell (the next free cell id), that cell becomes the member -/
theorem evalObjItems_cons (prog : Program) (n pos : Nat) (key : Bytes) (e : Expr)
    (rest : List (Bytes × Expr)) (acc m : List (Bytes × CellId)) (s s' : St)
    (h : evalObjItems prog (n + 1) pos ((key, e) :: rest) acc s = .ok m s') :
    ∃ v s1 w, evalExpr prog n e s = .ok v s1 ∧
      copyVal ((s1.heap.alloc .unknown).2.get v) = .ok w ∧
      evalObjItems prog n pos rest (objInsert acc key s1.heap.cells.size) (copiedSt s1 .unknown w) = .ok m s' := by
  unfold evalObjItems at h
  simp only [bind, EM.bind] at h
  cases h1 : evalExpr prog n e s with
  | oof => rw [h1] at h; cases h
  | err er s1 => rw [h1] at h; cases h
  | ok v s1 =>
    rw [h1] at h
    have hfst : (s1.heap.alloc .unknown).1 = s1.heap.cells.size := rfl
    cases hc : copyVal ((s1.heap.alloc .unknown).2.get v) with
    | error m =>
      simp only [newCell, copyValue, bind, EM.bind, readCell, hc, pure, EM.pure, throwRt] at h
      cases h
    | ok w =>
      simp only [newCell, copyValue, bind, EM.bind, readCell, hc, writeCell, pure, EM.pure, hfst] at h
      exact ⟨v, s1, w, rfl, hc, h⟩

/-- **the members of an object literal are fresh cells holding copies**: every member of the
    result is either a member of the accumulator under a key that does not occur in the literal
    (`acc = []` at the top), or a cell allocated during this evaluation holding a copy; every key
    of the literal is present; no existing cell, array or object changes. -/
theorem evalObjItems_copy_fresh (prog : Program) (k : Bool) (hfn : k = true → prog.FnsRO) :
    ∀ (items : List (Bytes × Expr)) (n pos : Nat) (acc m : List (Bytes × CellId)) (s s' : St),
      roKVs k items = true → Inv k s.heap → evalObjItems prog n pos items acc s = .ok m s' →
      HeapPreserved s.heap s'.heap ∧ Inv k s'.heap ∧
      (∀ key c, objLookup m key = some c →
        (key ∈ items.map (·.1) ∧ FreshCopy s.heap s'.heap c) ∨
        (key ∉ items.map (·.1) ∧ objLookup acc key = some c)) ∧
      (∀ key, key ∈ items.map (·.1) ∨ (objLookup acc key).isSome = true →
        (objLookup m key).isSome = true) := by
  intro items
  induction items with
  | nil =>
    intro n pos acc m s s' _ i h
    cases n with
    | zero => unfold evalObjItems at h; cases h
    | succ n =>
      unfold evalObjItems at h
      simp only [pure, EM.pure, Res.ok.injEq] at h
      obtain ⟨rfl, rfl⟩ := h
      refine ⟨HeapPreserved.refl _, i, fun key c hl => .inr ⟨by simp, hl⟩, ?_⟩
      intro key hk
      rcases hk with hk | hk
      · simp at hk
      · exact hk
  | cons kv rest ih =>
    intro n pos acc m s s' hro i h
    obtain ⟨key0, e⟩ := kv
    simp only [roKVs, Bool.and_eq_true] at hro
    cases n with
    | zero => unfold evalObjItems at h; cases h
    | succ n =>
      obtain ⟨v, s1, w, h1, hc, h2⟩ := evalObjItems_cons prog n pos key0 e rest acc m s s' h
      have q1 := (allRO prog k hfn n).expr true e hro.1 s
      rw [h1] at q1
      obtain ⟨r1, i1⟩ := q1 i
      obtain ⟨p2, i2, hmem, hkeys⟩ :=
        ih n pos _ m (copiedSt s1 .unknown w) s' hro.2 (copiedSt_inv s1 _ w i1) h2
      have p01 : HeapPreserved s.heap (copiedSt s1 .unknown w).heap :=
        r1.heap.trans (copiedSt_preserved s1 _ w)
      refine ⟨p01.trans p2, i2, ?_, ?_⟩
      · intro key c hl
        rcases hmem key c hl with ⟨hin, hf⟩ | ⟨hnin, hacc⟩
        · exact .inl ⟨by simp only [List.map_cons, List.mem_cons]; exact .inr hin,
            hf.mono p01.cells (HeapPreserved.refl _)⟩
        · rw [objLookup_objInsert] at hacc
          split at hacc
          · rename_i heq
            cases hacc
            exact .inl ⟨by simp [heq],
              (copiedSt_freshCopy s1 .unknown w _ hc).mono r1.heap.cells p2⟩
          · rename_i hne
            refine .inr ⟨?_, hacc⟩
            simp only [List.map_cons, List.mem_cons, not_or]
            exact ⟨fun e => hne e.symm, hnin⟩
      · intro key hk
        apply hkeys key
        rw [objLookup_objInsert]
        by_cases heq : key0 = key
        · right; simp [heq]
        · rcases hk with hk | hk
          · simp only [List.map_cons, List.mem_cons] at hk
            rcases hk with hk | hk
            · exact absurd hk.symm heq
            · exact .inl hk
          · right; simp [heq, hk]

/-- the heap after building an object from the members `m` and a cell referring to it -/
def objLitHeap (h : Heap) (m : List (Bytes × CellId)) : Heap :=
  ((h.allocObj m).2.alloc (.obj h.objs.size)).2

theorem evalExpr_obj_inv (prog : Program) (n : Nat) (t : Token) (items : List (Bytes × Expr)) (s s' : St)
    (c : CellId) (h : evalExpr prog (n + 1) (.obj t items) s = .ok c s') :
    ∃ m s1, evalObjItems prog n t.pos items [] s = .ok m s1 ∧ c = s1.heap.cells.size ∧
      s' = { s1 with heap := objLitHeap s1.heap m } := by
  unfold evalExpr at h
  simp only [bind, EM.bind] at h
  cases h1 : evalObjItems prog n t.pos items [] s with
  | oof => rw [h1] at h; cases h
  | err er s1 => rw [h1] at h; cases h
  | ok m s1 =>
    rw [h1] at h
    simp only [allocObjM, newCell, Heap.allocObj, Heap.alloc, Res.ok.injEq] at h
    obtain ⟨rfl, rfl⟩ := h
    exact ⟨m, s1, rfl, rfl, rfl⟩

theorem objLitHeap_spec (h : Heap) (m : List (Bytes × CellId)) :
    HeapPreserved h (objLitHeap h m) ∧
    (objLitHeap h m).get h.cells.size = .obj h.objs.size ∧
    (objLitHeap h m).obj h.objs.size = m ∧
    (objLitHeap h m).cells.size = h.cells.size + 1 ∧
    (objLitHeap h m).objs.size = h.objs.size + 1 ∧
    (objLitHeap h m).arrs = h.arrs := by
  refine ⟨(HeapPreserved.allocObj h _).trans (HeapPreserved.alloc _ _), ?_, ?_, ?_, ?_, rfl⟩
  · exact Heap.get_push_new _ _
  · simp [objLitHeap, Heap.allocObj, Heap.alloc, Heap.obj, Array.getD_eq_getD_getElem?]
  · simp [objLitHeap, Heap.allocObj, Heap.alloc]
  · simp [objLitHeap, Heap.allocObj, Heap.alloc]

/-- **`a.push(v)`**: the array gets exactly one new last cell, the next free cell id, holding
    `v` itself; its earlier cells stay; every old cell keeps its value; every other array and
    every object is unchanged.  (No copy is made here: the argument value `v` of the call was
    already copied into a fresh argument cell by `evalExprList … true`, and `callFunction`
    passes the value of that cell.) -/
theorem pushHeap_spec (h : Heap) (a : ArrId) (v : Val) :
    (pushHeap h a v).cells.size = h.cells.size + 1 ∧
    (pushHeap h a v).get h.cells.size = v ∧
    (∀ c, c < h.cells.size → (pushHeap h a v).get c = h.get c) ∧
    (a < h.arrs.size → (pushHeap h a v).arr a = (h.arr a).push h.cells.size) ∧
    (∀ b, b ≠ a → (pushHeap h a v).arr b = h.arr b) ∧
    (pushHeap h a v).arrs.size = h.arrs.size ∧
    (pushHeap h a v).objs = h.objs := by
  refine ⟨by simp [pushHeap], ?_, ?_, ?_, ?_, by simp [pushHeap], rfl⟩
  · rw [pushHeap_eq, Heap.get_setArr]; exact Heap.get_push_new h v
  · intro c hc; rw [pushHeap_eq, Heap.get_setArr]; exact Heap.get_push_old h v c hc
  · intro ha; rw [pushHeap_eq]; exact Heap.arr_setArr_same _ _ _ (by simpa using ha)
  · intro b hb; rw [pushHeap_eq, Heap.arr_setArr_other _ _ _ _ hb]; rfl

/-- the elements before the pushed one are the same cells -/
theorem pushHeap_prefix (h : Heap) (a : ArrId) (v : Val) (ha : a < h.arrs.size) (i : Nat)
    (hi : i < (h.arr a).size) : ((pushHeap h a v).arr a).getD i 0 = (h.arr a).getD i 0 := by
  rw [(pushHeap_spec h a v).2.2.2.1 ha]
  simp [Array.getD_eq_getD_getElem?, Array.getElem?_push, Nat.ne_of_lt hi, hi]

/-- `push` changes no cell that existed: everything it does to cells is one allocation -/
theorem pushHeap_preservedExcept (h : Heap) (a : ArrId) (v : Val) :
    (∀ c, c < h.cells.size → (pushHeap h a v).get c = h.get c) ∧
    (∀ b, b ≠ a → (pushHeap h a v).arr b = h.arr b) ∧
    (∀ o, (pushHeap h a v).obj o = h.obj o) :=
  ⟨(pushHeap_spec h a v).2.2.1, (pushHeap_spec h a v).2.2.2.2.1, fun _ => rfl⟩

/-- the call of a bound `push` at the level of `callFunction`: callee cell holding the method
    `push` bound to a cell `b` that holds the array `a`, one argument cell: the value of the
    argument cell is pushed; the result is a fresh cell referring to the same array -/
theorem callFunction_push (prog : Program) (n pos : Nat) (fc argc b : CellId) (sp : Option SpecRef)
    (a : ArrId) (s : St) (hf : s.heap.get fc = .native .arrPush (some b) sp)
    (hb : s.heap.get b = .arr a) :
    callFunction prog (n + 1) pos fc [argc] s =
      .ok (s.heap.cells.size + 1)
        { s with heap := ((pushHeap s.heap a (s.heap.get argc)).alloc (.arr a)).2 } := by
  unfold callFunction
  simp only [bind, EM.bind, readCell, getHeap, hf, Option.map_some, hb, List.map_cons, List.map_nil,
    callNative_arrPush, newCell]
  simp [Heap.alloc, pushHeap]

/-- if `h` is `h0` plus allocations, and `h'` differs from `h` (on what existed in `h`) at most in
    the cell `c`, and `c` did not exist in `h0`, then `h'` is `h0` plus allocations -/
theorem HeapPreservedExcept.of_fresh {h0 h h' : Heap} {c : CellId} (p : HeapPreserved h0 h)
    (e : HeapPreservedExcept c h h') (hc : h0.cells.size ≤ c) : HeapPreserved h0 h' := by
  refine ⟨Nat.le_trans p.cells e.cells, Nat.le_trans p.arrs e.arrs, Nat.le_trans p.objs e.objs, ?_, ?_, ?_⟩
  · intro d hd
    rw [e.get d (Nat.ne_of_lt (Nat.lt_of_lt_of_le hd hc)) (Nat.lt_of_lt_of_le hd p.cells), p.get d hd]
  · intro a ha
    rw [e.arr a (Nat.lt_of_lt_of_le ha p.arrs), p.arr a ha]
  · intro o ho
    rw [e.obj o (Nat.lt_of_lt_of_le ho p.objs), p.obj o ho]

/-- arrays and objects: the values that are shared by reference -/
def Val.isContainer : Val → Bool
  | .arr _ | .obj _ => true
  | _ => false

theorem copyVal_container (v : Val) (h : v.isContainer = true) : copyVal v = .ok v := by
  cases v <;> simp [Val.isContainer] at h <;> rfl

/-- a plain assignment (target not a stand-in for a missing member) touches the target cell and
    nothing else, whichever way it ends -/
theorem evalAssignment_plain_local (pos : Nat) (y z : CellId) (s : St)
    (hy : (s.heap.get y).speculative = false) :
    (∀ c s', evalAssignment pos y z s = .ok c s' →
      c = y ∧ s'.heap.arrs = s.heap.arrs ∧ s'.heap.objs = s.heap.objs ∧
      (∀ d, d ≠ y → s'.heap.get d = s.heap.get d) ∧ s'.frames = s.frames) ∧
    (∀ e s', evalAssignment pos y z s = .err e s' → s'.heap = s.heap ∧ s'.frames = s.frames) ∧
    evalAssignment pos y z s ≠ .oof := by
  rw [evalAssignment_plain pos y z s hy]
  cases copyVal (s.heap.get z) with
  | ok w =>
    dsimp only
    refine ⟨?_, (fun e s' h => by cases h), (fun h => by cases h)⟩
    intro c s' h
    simp only [Res.ok.injEq] at h
    obtain ⟨rfl, rfl⟩ := h
    exact ⟨rfl, rfl, rfl, fun d hd => Heap.get_set_ne' _ _ _ _ hd, rfl⟩
  | error m =>
    dsimp only
    refine ⟨(fun c s' h => by cases h), ?_, (fun h => by cases h)⟩
    intro e s' h
    simp only [throwRt, Res.err.injEq] at h
    obtain ⟨_, rfl⟩ := h
    exact ⟨rfl, rfl⟩

/-! ## functions that assign only to their own parameters -/

/-- the target of an allowed assignment: a bare identifier (not `$`) naming a parameter -/
def isParamTarget (ps : List Bytes) : Expr → Bool
  | .ident t => !(t.tag == .dollar) && ps.contains t.text
  | _ => false

mutual
/-- `e.roP ps`: like `Expr.readOnly false` (no `++`/`--`, no call), except that assignments
    `p = e'` to a bare identifier `p ∈ ps` are allowed (also nested in operands, array items and
    the right-hand sides of such assignments; not inside object literals and `match` bodies,
    which must be read-only) -/
def Expr.roP (ps : List Bytes) : Expr → Bool
  | .lit _ => true
  | .ident _ => true
  | .arr _ items => roPEs ps items
  | .obj _ items => roKVs false items
  | .unary e op _ => !(op.tag == .plusPlus) && !(op.tag == .minusMinus) && Expr.roP ps e
  | .binary l r op =>
    (if op.tag == .equal then isParamTarget ps l else Expr.roP ps l) && Expr.roP ps r
  | .call _ _ => false
  | .match_ _ v cases => Expr.roP ps v && roCases false cases
def roPEs (ps : List Bytes) : List Expr → Bool
  | [] => true
  | e :: es => Expr.roP ps e && roPEs ps es
end

mutual
/-- statements over `Expr.roP` expressions; `for … in` is excluded as in `Stmt.readOnly` -/
def Stmt.roP (ps : List Bytes) : Stmt → Bool
  | .block _ body => roPSs ps body
  | .print _ args => roPEs ps args
  | .expr e => Expr.roP ps e
  | .ret none => true
  | .ret (some e) => Expr.roP ps e
  | .brk _ => true
  | .cont _ => true
  | .next _ => true
  | .exit _ => true
  | .if_ c b none => Expr.roP ps c && Stmt.roP ps b
  | .if_ c b (some e) => Expr.roP ps c && Stmt.roP ps b && Stmt.roP ps e
  | .while_ c b => Expr.roP ps c && Stmt.roP ps b
  | .for_ pre c post b => Expr.roP ps pre && Expr.roP ps c && Expr.roP ps post && Stmt.roP ps b
  | .forIn _ _ _ _ => false
def roPSs (ps : List Bytes) : List Stmt → Bool
  | [] => true
  | s :: ss => Stmt.roP ps s && roPSs ps ss
end

/-- what an evaluation in the class guarantees: the heap only grows; every cell below the mark
    `N` (the caller's cells), every array and every object is unchanged; a cell that does not
    stand for a missing member keeps that property; bindings and roots are preserved -/
structure RelP (N : Nat) (s s' : St) : Prop where
  cells : s.heap.cells.size ≤ s'.heap.cells.size
  arrs : s.heap.arrs.size ≤ s'.heap.arrs.size
  objs : s.heap.objs.size ≤ s'.heap.objs.size
  get : ∀ c, c < N → c < s.heap.cells.size → s'.heap.get c = s.heap.get c
  arr : ∀ a, a < s.heap.arrs.size → s'.heap.arr a = s.heap.arr a
  obj : ∀ o, o < s.heap.objs.size → s'.heap.obj o = s.heap.obj o
  nspec : ∀ c, c < s.heap.cells.size → (s.heap.get c).speculative = false →
    (s'.heap.get c).speculative = false
  frames : FramesPreserved s.frames s'.frames
  root : s'.root = s.root
  ruleRoot : s'.ruleRoot = s.ruleRoot

theorem RelP.refl (N : Nat) (s : St) : RelP N s s :=
  ⟨Nat.le_refl _, Nat.le_refl _, Nat.le_refl _, fun _ _ _ => rfl, fun _ _ => rfl, fun _ _ => rfl,
   fun _ _ h => h, fun _ _ h => h, rfl, rfl⟩

theorem RelP.trans {N : Nat} {a b c : St} (h1 : RelP N a b) (h2 : RelP N b c) : RelP N a c := by
  refine ⟨Nat.le_trans h1.cells h2.cells, Nat.le_trans h1.arrs h2.arrs, Nat.le_trans h1.objs h2.objs,
    ?_, ?_, ?_, ?_, fun n x hx => h2.frames n x (h1.frames n x hx), h2.root.trans h1.root,
    h2.ruleRoot.trans h1.ruleRoot⟩
  · intro x hN hx
    rw [h2.get x hN (Nat.lt_of_lt_of_le hx h1.cells), h1.get x hN hx]
  · intro x hx
    rw [h2.arr x (Nat.lt_of_lt_of_le hx h1.arrs), h1.arr x hx]
  · intro x hx
    rw [h2.obj x (Nat.lt_of_lt_of_le hx h1.objs), h1.obj x hx]
  · intro x hx hs
    exact h2.nspec x (Nat.lt_of_lt_of_le hx h1.cells) (h1.nspec x hx hs)

theorem RelP.of_rel {N : Nat} {s s' : St} (r : Rel true s s') : RelP N s s' :=
  ⟨r.heap.cells, r.heap.arrs, r.heap.objs, fun c _ hc => r.heap.get c hc, r.heap.arr, r.heap.obj,
   fun c hc hs => by rw [r.heap.get c hc]; exact hs, r.frames rfl, r.root, r.ruleRoot⟩

/-- the frame invariant: every parameter name is bound (dynamic lookup) to an allocated cell at
    or above the mark that does not stand for a missing member -/
def PInv (N : Nat) (ps : List Bytes) (s : St) : Prop :=
  ∀ p, p ∈ ps → ∃ c, lookupFrames s.frames p = some c ∧ N ≤ c ∧ c < s.heap.cells.size ∧
    (s.heap.get c).speculative = false

theorem PInv.step {N : Nat} {ps : List Bytes} {s s' : St} (h : PInv N ps s) (r : RelP N s s') :
    PInv N ps s' := by
  intro p hp
  obtain ⟨c, h1, h2, h3, h4⟩ := h p hp
  exact ⟨c, r.frames p c h1, h2, Nat.lt_of_lt_of_le h3 r.cells, r.nspec c h3 h4⟩

def QRP {α : Type} (N : Nat) (s : St) : Res α → Prop
  | .ok _ s' => RelP N s s'
  | .err _ s' => RelP N s s'
  | .oof => True

theorem QRP.trans {α : Type} {N : Nat} {s s1 : St} {r : Res α} (hg : RelP N s s1) (h : QRP N s1 r) :
    QRP N s r := by
  cases r with
  | ok a s' => exact hg.trans h
  | err e s' => exact hg.trans h
  | oof => trivial

def PresP {α : Type} (N : Nat) (ps : List Bytes) (m : EM α) : Prop :=
  ∀ s, PInv N ps s → QRP N s (m s)

theorem inv_false (h : Heap) : Inv false h := fun e => by cases e

namespace PresP

variable {N : Nat} {ps : List Bytes}

theorem of_pres {α : Type} {m : EM α} (h : Pres false true m) : PresP N ps m := by
  intro s _
  have hq := h s
  cases hr : m s with
  | ok a s' => rw [hr] at hq; exact RelP.of_rel (hq (inv_false _)).1
  | err e s' => rw [hr] at hq; exact RelP.of_rel (hq (inv_false _)).1
  | oof => trivial

theorem handle {α β : Type} {m : EM α} {onOk : α → EM β} {onSig : Sig → Option (EM β)}
    (hm : PresP N ps m) (hok : ∀ a, PresP N ps (onOk a))
    (hsig : ∀ g kk, onSig g = some kk → PresP N ps kk) : PresP N ps (Jqawk.handle m onOk onSig) := by
  intro s hP
  unfold Jqawk.handle
  have h := hm s hP
  cases hr : m s with
  | ok a s1 => rw [hr] at h; exact QRP.trans h (hok a s1 (hP.step h))
  | err e s1 =>
    rw [hr] at h
    cases e with
    | sig g =>
      dsimp only
      cases hg : onSig g with
      | some kk => exact QRP.trans h (hsig g kk hg s1 (hP.step h))
      | none => exact h
    | _ => exact h
  | oof => trivial

theorem bind {α β : Type} {m : EM α} {f : α → EM β} (hm : PresP N ps m) (hf : ∀ a, PresP N ps (f a)) :
    PresP N ps (m >>= f) := by
  rw [bind_eq_handle]
  exact handle hm hf (fun _ _ hg => by cases hg)

theorem loopIter {body kk : EM Unit} (hb : PresP N ps body) (hk : PresP N ps kk) :
    PresP N ps (Jqawk.loopIter body kk) := by
  rw [loopIter_eq_handle]
  refine handle hb (fun _ => hk) (fun g k' hg => ?_)
  cases g <;> cases hg <;> first | exact of_pres (Pres.pure _) | exact hk

theorem catchReturn {body : EM Unit} (hb : PresP N ps body) : PresP N ps (Jqawk.catchReturn body) := by
  rw [catchReturn_eq_handle]
  refine handle hb (fun _ => of_pres (Pres.pure _)) (fun g k' hg => ?_)
  cases g <;> cases hg
  exact fun s _ => RelP.refl N s

/-- **the allowed assignment** `p = e` for a parameter `p`: the identifier evaluates to the
    parameter's cell (at or above the mark), the right-hand side is evaluated (in the class), and
    the store writes that one cell with a copy -/
theorem assignParam (prog : Program) (n pos : Nat) (t : Token) {m : EM CellId}
    (ht : (t.tag == Tag.dollar) = false) (hp : t.text ∈ ps) (hm : PresP N ps m) :
    PresP N ps (evalExpr prog n (.ident t) >>= fun left => m >>= fun right =>
      evalAssignment pos left right) := by
  intro s hP
  cases n with
  | zero =>
    have h0 : evalExpr prog 0 (.ident t) s = .oof := by unfold evalExpr; rfl
    simp only [Bind.bind, EM.bind, h0]
    trivial
  | succ n =>
    obtain ⟨c, hl, hN, hlt, hns⟩ := hP t.text hp
    have h1 := evalExpr_ident_bound prog n t s c ht hl
    simp only [Bind.bind, EM.bind, h1]
    have h := hm s hP
    cases hr : m s with
    | oof => trivial
    | err e s2 => rw [hr] at h; exact h
    | ok right s2 =>
      rw [hr] at h
      dsimp only
      have hlt2 : c < s2.heap.cells.size := Nat.lt_of_lt_of_le hlt h.cells
      have hns2 : (s2.heap.get c).speculative = false := h.nspec c hlt hns
      rw [evalAssignment_plain pos c right s2 hns2]
      cases hcv : copyVal (s2.heap.get right) with
      | error msg =>
        refine QRP.trans h ?_
        exact ⟨Nat.le_refl _, Nat.le_refl _, Nat.le_refl _, fun _ _ _ => rfl, fun _ _ => rfl,
          fun _ _ => rfl, fun _ _ h => h, fun _ _ h => h, rfl, rfl⟩
      | ok w =>
        refine QRP.trans h ?_
        refine ⟨by rw [Heap.size_set]; exact Nat.le_refl _, Nat.le_refl _, Nat.le_refl _, ?_,
          fun _ _ => rfl, fun _ _ => rfl, ?_, fun _ _ h => h, rfl, rfl⟩
        · intro d hd _
          exact Heap.get_set_ne' _ _ _ _ (Nat.ne_of_lt (Nat.lt_of_lt_of_le hd hN))
        · intro d hd hs
          by_cases e : d = c
          · subst e
            show ((s2.heap.set d w).get d).speculative = false
            rw [Heap.get_set_same' _ _ _ hd]
            exact copyVal_not_speculative _ _ hcv
          · show ((s2.heap.set c w).get d).speculative = false
            rw [Heap.get_set_ne' _ _ _ _ e]; exact hs

end PresP

structure AllP (prog : Program) (N : Nat) (ps : List Bytes) (n : Nat) : Prop where
  expr : ∀ e, Expr.roP ps e = true → PresP N ps (evalExpr prog n e)
  exprList : ∀ es c, roPEs ps es = true → PresP N ps (evalExprList prog n es c)
  unary : ∀ e op p, (op.tag == Tag.plusPlus) = false → (op.tag == Tag.minusMinus) = false →
    Expr.roP ps e = true → PresP N ps (evalUnary prog n e op p)
  binary : ∀ l r op,
    ((if op.tag == Tag.equal then isParamTarget ps l else Expr.roP ps l) && Expr.roP ps r) = true →
    PresP N ps (evalBinary prog n l r op)
  stmt : ∀ st, Stmt.roP ps st = true → PresP N ps (evalStmt prog n st)
  block : ∀ sts, roPSs ps sts = true → PresP N ps (evalBlock prog n sts)
  whileL : ∀ c b, Expr.roP ps c = true → Stmt.roP ps b = true → PresP N ps (whileLoop prog n c b)
  forL : ∀ c p b, Expr.roP ps c = true → Expr.roP ps p = true → Stmt.roP ps b = true →
    PresP N ps (forLoop prog n c p b)

theorem allP_zero (prog : Program) (N : Nat) (ps : List Bytes) : AllP prog N ps 0 := by
  constructor <;> intros <;> unfold_eval <;> exact PresP.of_pres Pres.oof

theorem allP_succ (prog : Program) (N : Nat) (ps : List Bytes) (n : Nat)
    (ih : AllP prog N ps n) : AllP prog N ps (n + 1) := by
  have all := allRO prog false (fun h => by cases h) n
  have all' := allRO prog false (fun h => by cases h) (n + 1)
  have cond : ∀ {c : Expr} {a b : EM Unit}, Expr.roP ps c = true → PresP N ps a → PresP N ps b →
      PresP N ps (do
        let cell ← evalExpr prog n c
        if (← readCell cell).truthy then a else b) := by
    intro c a b hc ha hb
    refine PresP.bind (ih.expr c hc) (fun cell =>
      PresP.bind (PresP.of_pres (Pres.readCell _)) (fun v => ?_))
    split
    · exact ha
    · exact hb
  constructor
  case expr =>
    intro e he
    cases e with
    | lit t => exact PresP.of_pres (all'.expr true _ (readOnly_lit _ _))
    | ident t => exact PresP.of_pres (all'.expr true _ (readOnly_ident _ _))
    | obj t items =>
      simp only [Expr.roP] at he
      exact PresP.of_pres (all'.expr true _ (by simp only [Expr.readOnly]; exact he))
    | call f args => simp [Expr.roP] at he
    | arr t items =>
      simp only [Expr.roP] at he
      unfold evalExpr
      exact PresP.bind (ih.exprList items true he) (fun cells =>
        PresP.of_pres (Pres.bind (Pres.allocArrM _) (fun a => Pres.newCell _)))
    | unary e op p =>
      simp only [Expr.roP, Bool.and_eq_true, Bool.not_eq_true'] at he
      unfold evalExpr
      exact ih.unary e op p he.1.1 he.1.2 he.2
    | binary l r op =>
      simp only [Expr.roP] at he
      unfold evalExpr
      exact ih.binary l r op he
    | match_ t v cases =>
      simp only [Expr.roP, Bool.and_eq_true] at he
      unfold evalExpr
      exact PresP.bind (ih.expr v he.1) (fun c => PresP.of_pres (all.matchCases true _ c cases he.2))
  case exprList =>
    intro es c h
    cases es with
    | nil => unfold evalExprList; exact PresP.of_pres (Pres.pure _)
    | cons e rest =>
      simp only [roPEs, Bool.and_eq_true] at h
      unfold evalExprList
      exact PresP.bind (ih.expr e h.1) (fun v => PresP.bind (PresP.of_pres (Pres.copyArg c v _))
        (fun c' => PresP.bind (ih.exprList rest c h.2) (fun cs => PresP.of_pres (Pres.pure _))))
  case unary =>
    intro e op p h1 h2 h3
    unfold evalUnary
    refine PresP.bind (ih.expr e h3) (fun val => ?_)
    apply PresP.of_pres
    refine Pres.bind (Pres.readCell _) (fun v => ?_)
    split
    case h_4 => rename_i heq; rw [heq] at h1; cases h1 -- `++` (`h_k`: k-th alternative of the `match` on `op.tag`)
    case h_5 => rename_i heq; rw [heq] at h2; cases h2 -- `--`
    case h_6 => exact Pres.throwRt _ _ -- any other operator
    all_goals exact Pres.newCell _
  case binary =>
    intro l r op h
    unfold evalBinary
    by_cases hop : op.tag = Tag.equal
    · -- an assignment: the target is a parameter
      simp only [hop, beq_self_eq_true, ↓reduceIte, Bool.and_eq_true] at h
      obtain ⟨hl, hr⟩ := h
      cases l with
      | ident t =>
        simp only [isParamTarget, Bool.and_eq_true, Bool.not_eq_true', List.contains_iff_mem] at hl
        simp only [hop]
        exact PresP.assignParam prog n _ t hl.1 hl.2 (ih.expr r hr)
      | _ => simp [isParamTarget] at hl
    · have hne : (op.tag == Tag.equal) = false := by simpa using hop
      simp only [hne, Bool.false_eq_true, ↓reduceIte, Bool.and_eq_true] at h
      obtain ⟨hl, hr⟩ := h
      refine PresP.bind (ih.expr l hl) (fun left => ?_)
      have truthyR : PresP N ps (do
          let right ← evalExpr prog n r
          newCell (.bool (← readCell right).truthy)) :=
        PresP.bind (ih.expr r hr) (fun right =>
          PresP.of_pres (Pres.bind (Pres.readCell _) (fun _ => Pres.newCell _)))
      split
      · refine PresP.bind (PresP.of_pres (Pres.readCell _)) (fun v => ?_)
        split
        · exact truthyR
        · exact PresP.of_pres (Pres.newCell _)
      · refine PresP.bind (PresP.of_pres (Pres.readCell _)) (fun v => ?_)
        split
        · exact PresP.of_pres (Pres.newCell _)
        · exact truthyR
      · apply PresP.of_pres
        split
        · exact Pres.bind (Pres.readCell _) (fun _ => Pres.newCell _)
        · exact Pres.throwRt _ _
      · refine PresP.bind (ih.expr r hr) (fun right => ?_)
        exact PresP.of_pres (Pres.binaryTail hne)
  case stmt =>
    intro st h
    unfold evalStmt
    cases st with
    | block t body => simp only [Stmt.roP] at h; exact ih.block body h
    | print t args =>
      simp only [Stmt.roP] at h
      exact PresP.bind (ih.exprList args false h) (fun cells => PresP.of_pres (Pres.printTail cells))
    | expr e =>
      simp only [Stmt.roP] at h
      exact PresP.bind (ih.expr e h) (fun _ => PresP.of_pres (Pres.pure _))
    | ret e =>
      cases e with
      | none => exact PresP.of_pres (Pres.bind (Pres.setReturnVal _) (fun _ => Pres.throwSig _))
      | some e =>
        simp only [Stmt.roP] at h
        exact PresP.bind (ih.expr e h) (fun c =>
          PresP.of_pres (Pres.bind (Pres.setReturnVal _) (fun _ => Pres.throwSig _)))
    | brk t => exact PresP.of_pres (Pres.throwSig _)
    | cont t => exact PresP.of_pres (Pres.throwSig _)
    | next t => exact PresP.of_pres (Pres.throwSig _)
    | exit t => exact PresP.of_pres (Pres.throwSig _)
    | if_ c b els =>
      cases els with
      | none =>
        simp only [Stmt.roP, Bool.and_eq_true] at h
        exact cond h.1 (ih.stmt b h.2) (PresP.of_pres (Pres.pure _))
      | some eb =>
        simp only [Stmt.roP, Bool.and_eq_true] at h
        exact cond h.1.1 (ih.stmt b h.1.2) (ih.stmt eb h.2)
    | while_ c b =>
      simp only [Stmt.roP, Bool.and_eq_true] at h
      exact ih.whileL c b h.1 h.2
    | for_ pre c post b =>
      simp only [Stmt.roP, Bool.and_eq_true] at h
      exact PresP.bind (ih.expr pre h.1.1.1) (fun _ => ih.forL c post b h.1.1.2 h.1.2 h.2)
    | forIn id idx iter b => simp [Stmt.roP] at h
  case block =>
    intro sts h
    cases sts with
    | nil => unfold evalBlock; exact PresP.of_pres (Pres.pure _)
    | cons st rest =>
      simp only [roPSs, Bool.and_eq_true] at h
      unfold evalBlock
      exact PresP.bind (ih.stmt st h.1) (fun _ => ih.block rest h.2)
  case whileL =>
    intro c b hc hb
    unfold whileLoop
    exact cond hc (PresP.loopIter (ih.stmt b hb) (ih.whileL c b hc hb)) (PresP.of_pres (Pres.pure _))
  case forL =>
    intro c p b hc hp hb
    unfold forLoop
    exact cond hc (PresP.loopIter (ih.stmt b hb)
      (PresP.bind (ih.expr p hp) (fun _ => ih.forL c p b hc hp hb))) (PresP.of_pres (Pres.pure _))

theorem allP (prog : Program) (N : Nat) (ps : List Bytes) : ∀ n, AllP prog N ps n
  | 0 => allP_zero prog N ps
  | n + 1 => allP_succ prog N ps n (allP prog N ps n)

/-- `callFunction` on a user function: in a new frame, bind the parameters to the values of the
    argument cells, run the body, wrap the result -/
theorem callFunction_fn_eq (prog : Program) (n pos : Nat) (fc : CellId) (argCells : List CellId)
    (s : St) (i : Nat) (f : FuncDef) (hv : s.heap.get fc = .fn i) (hf : prog.functions[i]? = some f) :
    callFunction prog (n + 1) pos fc argCells s =
      framed f.ident.text pos (bindParams f.args (argCells.map s.heap.get) >>= fun _ =>
        catchReturn (evalStmt prog n f.body) >>= fun rv => newCell rv) s := by
  unfold callFunction
  simp only [bind, EM.bind, readCell, getHeap, hv, hf, framed]
  rfl

theorem getD_not_speculative (args : List Val) (j : Nat)
    (h : ∀ a, a ∈ args → a.speculative = false) : (args.getD j (.nil none)).speculative = false := by
  rw [List.getD_eq_getElem?_getD]
  cases hj : args[j]? with
  | none => rfl
  | some a => exact h a (List.mem_of_getElem? hj)

/-- **a user function that assigns only to its own parameters cannot change anything of its
    caller**: if the body of `f` is in the class `Stmt.roP f.args` (read-only without calls,
    except for assignments `p = e` to a bare identifier `p` that is one of `f`'s parameters),
    then calling `f` — with argument cells whose values are not stand-ins for missing members,
    which holds for every argument list built by a call expression — leaves every cell, array
    and object that existed at the call unchanged, and every variable binding and root as they
    were, whichever way the call ends (the invariant `QR false true` of Lemmas/ReadOnly.lean). -/
theorem callFunction_paramOnly (prog : Program) (n pos : Nat) (fc : CellId) (argCells : List CellId)
    (s : St) (i : Nat) (f : FuncDef) (hv : s.heap.get fc = .fn i) (hf : prog.functions[i]? = some f)
    (hbody : Stmt.roP f.args f.body = true)
    (hargs : ∀ c, c ∈ argCells → (s.heap.get c).speculative = false) :
    QR false true s (callFunction prog (n + 1) pos fc argCells s) := by
  rw [callFunction_fn_eq prog n pos fc argCells s i f hv hf, framed_eq]
  split
  · exact Pres.throwRt pos _ s
  · obtain ⟨s1, f', hb, hp01, hsz, harrs, hobjs, hvals, hfr, _, _, _, hmem, _, hroot, hrr, _⟩ :=
      bindParams_spec f.args (argCells.map s.heap.get)
        { s with frames := ⟨f.ident.text, []⟩ :: s.frames,
                 maxDepth := max s.maxDepth (s.frames.length + 1) } ⟨f.ident.text, []⟩ s.frames rfl
    have hPinv : PInv s.heap.cells.size f.args s1 := by
      intro p hp
      obtain ⟨j, hj, _, hl⟩ := hmem p hp
      refine ⟨s.heap.cells.size + j, ?_, Nat.le_add_right _ _, ?_, ?_⟩
      · rw [hfr]; simp only [lookupFrames, hl]
      · rw [hsz]; exact Nat.add_lt_add_left hj _
      · rw [hvals j hj]
        apply getD_not_speculative
        intro a ha
        obtain ⟨c, hc, rfl⟩ := List.mem_map.mp ha
        exact hargs c hc
    have hP : PresP s.heap.cells.size f.args
        (catchReturn (evalStmt prog n f.body) >>= fun rv => newCell rv) :=
      PresP.bind (PresP.catchReturn ((allP prog s.heap.cells.size f.args n).stmt f.body hbody))
        (fun rv => PresP.of_pres (Pres.newCell rv))
    have hq := hP s1 hPinv
    have fix : ∀ s2 : St, RelP s.heap.cells.size s1 s2 →
        Good false true s { s2 with frames := s.frames } := by
      intro s2 r _
      refine ⟨⟨⟨Nat.le_trans hp01.cells r.cells, Nat.le_trans hp01.arrs r.arrs,
        Nat.le_trans hp01.objs r.objs, ?_, ?_, ?_⟩, fun _ _ _ h => h, r.root.trans hroot,
        r.ruleRoot.trans hrr⟩, inv_false _⟩
      · intro c hc
        show s2.heap.get c = s.heap.get c
        rw [r.get c hc (Nat.lt_of_lt_of_le hc hp01.cells)]; exact hp01.get c hc
      · intro a ha
        show s2.heap.arr a = s.heap.arr a
        rw [r.arr a (Nat.lt_of_lt_of_le ha hp01.arrs)]; exact hp01.arr a ha
      · intro o ho
        show s2.heap.obj o = s.heap.obj o
        rw [r.obj o (Nat.lt_of_lt_of_le ho hp01.objs)]; exact hp01.obj o ho
    unfold withFrames
    have e : (bindParams f.args (argCells.map s.heap.get) >>= fun _ =>
          catchReturn (evalStmt prog n f.body) >>= fun rv => newCell rv)
        { s with frames := ⟨f.ident.text, []⟩ :: s.frames,
                 maxDepth := max s.maxDepth (s.frames.length + 1) } =
        (catchReturn (evalStmt prog n f.body) >>= fun rv => newCell rv) s1 := by
      show EM.bind _ _ _ = _
      unfold EM.bind
      rw [hb]
    rw [e]
    cases hr : (catchReturn (evalStmt prog n f.body) >>= fun rv => newCell rv) s1 with
    | ok a s2 => rw [hr] at hq; exact fix s2 hq
    | err er s2 => rw [hr] at hq; exact fix s2 hq
    | oof => trivial

end Jqawk
