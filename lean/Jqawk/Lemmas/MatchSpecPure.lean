/-
  C19, second layer: pattern matching as a function of the heap alone.

  * `patMatches_grows` (for any literal evaluator that only allocates): matching changes nothing
    but the heap, and the heap only by allocating fresh cells (`Grows`): frames, output, root,
    rule root, return slot and all existing cells / arrays / objects are as before — in
    particular no binding of any alternative, matching or not, is visible anywhere before
    `runCase` binds the selected ones;
  * `patMatches_eq_pure`: from a state whose heap is well formed and contains the subject cell,
    `patMatches` answers exactly what the state-free `patMatchesPure` computes from that heap.
-/
import Jqawk.Lemmas.MatchSpec
import Jqawk.Lemmas.Heap


namespace Jqawk.MatchSpec
open Jqawk Jqawk.Spec


/-- `h'` is `h` plus freshly allocated cells: arrays, objects and all cells of `h` unchanged -/
structure HeapExt (h h' : Heap) : Prop where
  arrs : h'.arrs = h.arrs
  objs : h'.objs = h.objs
  cells : ∃ l : Array Val, h'.cells = h.cells ++ l

theorem HeapExt.refl (h : Heap) : HeapExt h h := ⟨rfl, rfl, ⟨#[], by simp⟩⟩

theorem HeapExt.trans {a b c : Heap} (h1 : HeapExt a b) (h2 : HeapExt b c) : HeapExt a c := by
  obtain ⟨a1, o1, l1, c1⟩ := h1
  obtain ⟨a2, o2, l2, c2⟩ := h2
  exact ⟨a2.trans a1, o2.trans o1, ⟨l1 ++ l2, by rw [c2, c1, Array.append_assoc]⟩⟩

theorem HeapExt.size_le {h h' : Heap} (e : HeapExt h h') : h.cells.size ≤ h'.cells.size := by
  obtain ⟨_, _, l, hc⟩ := e
  rw [hc, Array.size_append]; omega

theorem HeapExt.get {h h' : Heap} (e : HeapExt h h') (c : CellId) (hc : c < h.cells.size) :
    h'.get c = h.get c := by
  obtain ⟨_, _, l, hl⟩ := e
  simp only [Heap.get, hl, Array.getD_eq_getD_getElem?, Array.getElem?_append_left hc]

theorem HeapExt.arr {h h' : Heap} (e : HeapExt h h') (a : ArrId) : h'.arr a = h.arr a := by
  simp only [Heap.arr, e.arrs]

theorem HeapExt.obj {h h' : Heap} (e : HeapExt h h') (o : ObjId) : h'.obj o = h.obj o := by
  simp only [Heap.obj, e.objs]

theorem HeapExt.push (h : Heap) (v : Val) : HeapExt h { h with cells := h.cells.push v } :=
  ⟨rfl, rfl, ⟨#[v], by simp⟩⟩

theorem HeapExt.wf {h h' : Heap} (e : HeapExt h h') (wf : h.WF) : h'.WF := by
  constructor
  · intro a c hc
    rw [e.arr] at hc
    exact Nat.lt_of_lt_of_le (wf.arrs a c hc) e.size_le
  · intro o k c hc
    rw [e.obj] at hc
    exact Nat.lt_of_lt_of_le (wf.objs o k c hc) e.size_le

/-- `s'` is `s` with a heap that only grew by fresh cells (the ghost fault counters aside) -/
structure Grows (s s' : St) : Prop where
  heap : HeapExt s.heap s'.heap
  frames : s'.frames = s.frames
  out : s'.out = s.out
  root : s'.root = s.root
  ruleRoot : s'.ruleRoot = s.ruleRoot
  returnVal : s'.returnVal = s.returnVal
  maxDepth : s'.maxDepth = s.maxDepth

theorem Grows.refl (s : St) : Grows s s := ⟨HeapExt.refl _, rfl, rfl, rfl, rfl, rfl, rfl⟩

theorem Grows.trans {a b c : St} (h1 : Grows a b) (h2 : Grows b c) : Grows a c :=
  ⟨h1.heap.trans h2.heap, h2.frames.trans h1.frames, h2.out.trans h1.out, h2.root.trans h1.root,
    h2.ruleRoot.trans h1.ruleRoot, h2.returnVal.trans h1.returnVal, h2.maxDepth.trans h1.maxDepth⟩

/-- a computation that, however it ends, only allocated fresh cells -/
def GrowsOnly {α : Type} (m : EM α) : Prop := ∀ s s', endState (m s) = some s' → Grows s s'

namespace GrowsOnly

theorem pure {α : Type} (a : α) : GrowsOnly (Pure.pure a : EM α) := by
  intro s s' h
  simp [Pure.pure, EM.pure, endState] at h
  subst h; exact Grows.refl _

theorem bind {α β : Type} {m : EM α} {f : α → EM β} (hm : GrowsOnly m) (hf : ∀ a, GrowsOnly (f a)) :
    GrowsOnly (m >>= f) := by
  intro s s' h
  change endState (EM.bind m f s) = some s' at h
  unfold EM.bind at h
  cases hr : m s with
  | ok a s1 =>
    rw [hr] at h
    exact (hm s s1 (by rw [hr]; rfl)).trans (hf a s1 s' h)
  | err e s1 =>
    rw [hr] at h
    exact hm s s' (by rw [hr]; exact h)
  | oof => rw [hr] at h; simp [endState] at h

theorem readCell (c : CellId) : GrowsOnly (Jqawk.readCell c) := by
  intro s s' h
  simp [Jqawk.readCell, endState] at h
  subst h; exact Grows.refl _

theorem getHeap : GrowsOnly Jqawk.getHeap := by
  intro s s' h
  simp [Jqawk.getHeap, endState] at h
  subst h; exact Grows.refl _

theorem newCell (v : Val) : GrowsOnly (Jqawk.newCell v) := by
  intro s s' h
  simp [Jqawk.newCell, Heap.alloc, endState] at h
  subst h
  exact ⟨HeapExt.push _ _, rfl, rfl, rfl, rfl, rfl, rfl⟩

theorem throwRt {α : Type} (pos : Nat) (msg : String) : GrowsOnly (Jqawk.throwRt pos msg : EM α) := by
  intro s s' h
  simp [Jqawk.throwRt, endState] at h
  subst h
  exact ⟨HeapExt.refl _, rfl, rfl, rfl, rfl, rfl, rfl⟩

end GrowsOnly


def litAction : Except Err Val → EM CellId
  | .ok v => newCell v
  | .error (.runtime p m) => throwRt p m
  | .error e => fun s => .err e s

theorem litAction_grows (r : Except Err Val) : GrowsOnly (litAction r) := by
  cases r with
  | ok v => exact GrowsOnly.newCell v
  | error e =>
    cases e with
    | runtime p m => exact GrowsOnly.throwRt p m
    | sig g => intro s s' h; simp [litAction, endState] at h; subst h; exact Grows.refl _
    | panic m => intro s s' h; simp [litAction, endState] at h; subst h; exact Grows.refl _
    | unmodelled w => intro s s' h; simp [litAction, endState] at h; subst h; exact Grows.refl _

theorem evalExpr_lit_eq (prog : Program) (k : Nat) (t : Token) :
    evalExpr prog (k + 1) (.lit t) = litAction (litValue t) := by
  simp only [evalExpr, litValue]
  generalize t.tag = tg
  cases tg <;> dsimp only <;> first
    | rfl
    | (generalize evalStringLit t.text = r; cases r <;> rfl)
    | (generalize F64.parse t.text = r; cases r <;> rfl)

theorem evalExpr_lit_grows (prog : Program) (m : Nat) (t : Token) :
    GrowsOnly (evalExpr prog m (.lit t)) := by
  cases m with
  | zero => rw [evalExpr_zero]; intro s s' h; simp [oof, endState] at h
  | succ k => rw [evalExpr_lit_eq]; exact litAction_grows _

/-! ### matching only allocates

As in `MatchSpec.patMatches_mono_aux`: pattern and element list together, by induction on a bound
of their size (`patFuel` / `elemsFuel`), because `Expr` is nested. -/

theorem patMatches_grows_aux {ev : Expr → EM CellId} (h : ∀ t, GrowsOnly (ev (.lit t))) :
    ∀ k, (∀ p c, patFuel p ≤ k → GrowsOnly (patMatches ev p c)) ∧
      (∀ ps cs acc, elemsFuel ps ≤ k → GrowsOnly (elemsMatch ev ps cs acc))
  | 0 => ⟨fun p c hk => by have := patFuel_pos p; omega,
          fun ps cs acc hk => by have := elemsFuel_pos ps; omega⟩
  | k + 1 => by
    obtain ⟨ihp, ihe⟩ := patMatches_grows_aux h k
    constructor
    · intro p c hk
      cases p with
      | lit t =>
        rw [patMatches_lit]
        refine GrowsOnly.bind (h t) (fun lc => GrowsOnly.bind (GrowsOnly.readCell _) (fun v =>
          GrowsOnly.bind (GrowsOnly.readCell _) (fun lv => ?_)))
        split
        · exact GrowsOnly.throwRt _ _
        · exact GrowsOnly.pure _
        · exact GrowsOnly.pure _
      | ident t => rw [patMatches_ident]; exact GrowsOnly.pure _
      | arr t items =>
        simp only [patFuel] at hk
        rw [patMatches_arr]
        refine GrowsOnly.bind (GrowsOnly.readCell _) (fun v => ?_)
        cases v <;> try exact GrowsOnly.pure _
        refine GrowsOnly.bind GrowsOnly.getHeap (fun hp => ?_)
        dsimp only
        split
        · exact GrowsOnly.pure _
        · exact ihe _ _ _ (by omega)
      | _ =>
        rw [patMatches_unsupported _ _ _ (by simp) (by simp) (by simp)]; exact GrowsOnly.throwRt _ _
    · intro ps cs acc hk
      cases ps with
      | nil => rw [elemsMatch_nil_left]; exact GrowsOnly.pure _
      | cons p ps =>
        cases cs with
        | nil => rw [elemsMatch_nil_right]; exact GrowsOnly.pure _
        | cons c cs =>
          simp only [elemsFuel] at hk
          rw [elemsMatch_cons]
          refine GrowsOnly.bind (ihp p c (by omega)) (fun r => ?_)
          cases r with
          | none => exact GrowsOnly.pure _
          | some nb => exact ihe _ _ _ (by omega)

theorem patMatches_grows {ev : Expr → EM CellId} (h : ∀ t, GrowsOnly (ev (.lit t))) (p : Expr)
    (c : CellId) : GrowsOnly (patMatches ev p c) :=
  (patMatches_grows_aux h (patFuel p)).1 p c (Nat.le_refl _)

theorem elemsMatch_grows {ev : Expr → EM CellId} (h : ∀ t, GrowsOnly (ev (.lit t))) (ps : List Expr)
    (cs : List CellId) (acc : Bindings) : GrowsOnly (elemsMatch ev ps cs acc) :=
  (patMatches_grows_aux h (elemsFuel ps)).2 ps cs acc (Nat.le_refl _)

theorem firstAlt_grows {ev : Expr → EM CellId} (h : ∀ t, GrowsOnly (ev (.lit t))) (c : CellId) :
    ∀ pats, GrowsOnly (firstAlt ev c pats)
  | [] => GrowsOnly.pure _
  | p :: rest => by
    rw [firstAlt_cons]
    refine GrowsOnly.bind (patMatches_grows h p c) (fun r => ?_)
    cases r with
    | none => exact firstAlt_grows h c rest
    | some b => exact GrowsOnly.pure _

theorem firstMatch_grows {ev : Expr → EM CellId} (h : ∀ t, GrowsOnly (ev (.lit t))) (c : CellId) :
    ∀ cases, GrowsOnly (firstMatch ev c cases)
  | [] => GrowsOnly.pure _
  | .mk pats body :: rest => by
    rw [firstMatch_cons]
    refine GrowsOnly.bind (firstAlt_grows h c pats) (fun r => ?_)
    cases r with
    | none => exact firstMatch_grows h c rest
    | some b => exact GrowsOnly.pure _


def answerRes : PatAnswer → St → Res (Option Bindings)
  | .binds b, s' => .ok (some b) s'
  | .noMatch, s' => .ok none s'
  | .fault e, s' => .err e s'

theorem endState_answerRes (a : PatAnswer) (s' : St) : endState (answerRes a s') = some s' := by
  cases a <;> rfl

theorem litAction_apply (r : Except Err Val) (s : St) :
    (∃ v, r = .ok v ∧ litAction r s =
        .ok s.heap.cells.size { s with heap := { s.heap with cells := s.heap.cells.push v } }) ∨
    (∃ e s', r = .error e ∧ litAction r s = .err e s') := by
  cases r with
  | ok v => exact .inl ⟨v, rfl, rfl⟩
  | error e =>
    cases e with
    | runtime p m => exact .inr ⟨_, _, rfl, rfl⟩
    | sig g => exact .inr ⟨_, _, rfl, rfl⟩
    | panic m => exact .inr ⟨_, _, rfl, rfl⟩
    | unmodelled w => exact .inr ⟨_, _, rfl, rfl⟩

theorem patMatches_eq_pure_aux {ev : Expr → EM CellId} {lit : Token → Except Err Val}
    (hlit : ∀ t, ev (.lit t) = litAction (lit t)) (h0 : Heap) (wf : h0.WF) :
    ∀ k, (∀ p c s, patFuel p ≤ k → HeapExt h0 s.heap → c < h0.cells.size →
        ∃ s', patMatches ev p c s = answerRes (patMatchesPure h0 lit p c) s') ∧
      (∀ ps cs acc s, elemsFuel ps ≤ k → HeapExt h0 s.heap → (∀ c ∈ cs, c < h0.cells.size) →
        ∃ s', elemsMatch ev ps cs acc s = answerRes (elemsMatchPure h0 lit ps cs acc) s')
  | 0 => ⟨fun p c s hk => by have := patFuel_pos p; omega,
          fun ps cs acc s hk => by have := elemsFuel_pos ps; omega⟩
  | k + 1 => by
    obtain ⟨ihp, ihe⟩ := patMatches_eq_pure_aux hlit h0 wf k
    have hg : ∀ t, GrowsOnly (ev (.lit t)) := fun t => by rw [hlit]; exact litAction_grows _
    constructor
    · intro p c s hk hext hc
      cases p with
      | lit t =>
        rw [patMatches_lit]
        simp only [patMatchesPure, bind, EM.bind, hlit, Jqawk.readCell]
        rcases litAction_apply (lit t) s with ⟨v, hv, ha⟩ | ⟨e, s1, he, ha⟩
        · rw [ha, hv]
          dsimp only
          have hsz : c < s.heap.cells.size := Nat.lt_of_lt_of_le hc hext.size_le
          rw [Heap.get_push_new, Heap.get_push_old _ _ _ hsz, hext.get c hc]
          cases litMatches (h0.get c) v with
          | error m => exact ⟨_, rfl⟩
          | ok b => cases b <;> exact ⟨_, rfl⟩
        · rw [ha, he]
          exact ⟨_, rfl⟩
      | ident t => rw [patMatches_ident]; exact ⟨s, rfl⟩
      | arr t items =>
        simp only [patFuel] at hk
        rw [patMatches_arr]
        simp only [patMatchesPure, bind, EM.bind, Jqawk.readCell]
        rw [hext.get c hc]
        cases hv : h0.get c <;> try exact ⟨s, rfl⟩
        rename_i a
        simp only [EM.bind, Jqawk.getHeap, hext.arr]
        by_cases hl : ((h0.arr a).toList.length != items.length) = true
        · simp only [hl, ↓reduceIte]; exact ⟨s, rfl⟩
        · simp only [hl, Bool.false_eq_true, ↓reduceIte]
          exact ihe items _ [] s (by omega) hext (fun c' hc' => wf.arrs a c' hc')
      | _ =>
        rw [patMatches_unsupported _ _ _ (by simp) (by simp) (by simp)]; exact ⟨_, rfl⟩
    · intro ps cs acc s hk hext hcs
      cases ps with
      | nil => rw [elemsMatch_nil_left]; cases cs <;> exact ⟨s, rfl⟩
      | cons p ps =>
        cases cs with
        | nil => rw [elemsMatch_nil_right]; exact ⟨s, rfl⟩
        | cons c cs =>
          simp only [elemsFuel] at hk
          rw [elemsMatch_cons]
          obtain ⟨s1, h1⟩ := ihp p c s (by omega) hext (hcs c (by simp))
          have hg1 : Grows s s1 :=
            patMatches_grows hg p c s s1 (by rw [h1]; exact endState_answerRes _ _)
          simp only [elemsMatchPure, bind, EM.bind, h1]
          cases patMatchesPure h0 lit p c with
          | binds nb =>
            exact ihe ps cs _ s1 (by omega) (hext.trans hg1.heap)
              (fun c' hc' => hcs c' (by simp [hc']))
          | noMatch => exact ⟨s1, rfl⟩
          | fault e => exact ⟨s1, rfl⟩

theorem patMatches_eq_pure {ev : Expr → EM CellId} {lit : Token → Except Err Val}
    (hlit : ∀ t, ev (.lit t) = litAction (lit t)) (p : Expr) (c : CellId) (s : St)
    (wf : s.heap.WF) (hc : c < s.heap.cells.size) :
    ∃ s', patMatches ev p c s = answerRes (patMatchesPure s.heap lit p c) s' ∧ Grows s s' := by
  obtain ⟨s', h⟩ := (patMatches_eq_pure_aux hlit s.heap wf (patFuel p)).1 p c s (Nat.le_refl _)
    (HeapExt.refl _) hc
  have hg : ∀ t, GrowsOnly (ev (.lit t)) := fun t => by rw [hlit]; exact litAction_grows _
  refine ⟨s', h, patMatches_grows hg p c s s' ?_⟩
  rw [h]; exact endState_answerRes _ _

theorem firstAlt_eq_pure {ev : Expr → EM CellId} {lit : Token → Except Err Val}
    (hlit : ∀ t, ev (.lit t) = litAction (lit t)) (c : CellId) (h0 : Heap) (wf : h0.WF)
    (hc : c < h0.cells.size) :
    ∀ (pats : List Expr) (s : St), HeapExt h0 s.heap →
      ∃ s', firstAlt ev c pats s = answerRes (firstAltPure h0 lit c pats) s' ∧ Grows s s'
  | [], s, _ => ⟨s, rfl, Grows.refl _⟩
  | p :: rest, s, hext => by
    have hg : ∀ t, GrowsOnly (ev (.lit t)) := fun t => by rw [hlit]; exact litAction_grows _
    obtain ⟨s1, h1⟩ := (patMatches_eq_pure_aux hlit h0 wf (patFuel p)).1 p c s (Nat.le_refl _) hext hc
    have hg1 : Grows s s1 := patMatches_grows hg p c s s1 (by rw [h1]; exact endState_answerRes _ _)
    simp only [firstAlt_cons, firstAltPure, bind, EM.bind, h1]
    cases patMatchesPure h0 lit p c with
    | binds b => exact ⟨s1, rfl, hg1⟩
    | noMatch =>
      obtain ⟨s2, h2, hg2⟩ := firstAlt_eq_pure hlit c h0 wf hc rest s1 (hext.trans hg1.heap)
      exact ⟨s2, h2, hg1.trans hg2⟩
    | fault e => exact ⟨s1, rfl, hg1⟩


theorem equalEqual_eq_litMatches (v l : Val) (hl : l.kind ≠ .unknown) :
    binaryOp .equalEqual v l =
      (match litMatches v l with
       | .ok b => .val (.bool b)
       | .error m => .err false m) := by
  have hl' : (l.kind == Kind.unknown) = false := by simpa using hl
  simp only [binaryOp, isCompareOp, beq_self_eq_true, Bool.or_true, Bool.true_or, ↓reduceIte,
    litMatches, hl', Bool.or_false]
  by_cases hu : (v.kind == Kind.unknown) = true
  · simp [hu]
  · simp only [hu, Bool.false_eq_true, ↓reduceIte]
    cases v.compare l with
    | error m => rfl
    | ok c => simp [cmpResult]

theorem litValue_kind (t : Token) (v : Val) (h : litValue t = .ok v) : v.kind ≠ .unknown := by
  unfold litValue at h
  split at h
  · split at h <;> simp at h; subst h; simp [Val.kind]
  · split at h <;> simp at h; subst h; simp [Val.kind]
  · simp at h; subst h; simp [Val.kind]
  · split at h <;> simp at h; subst h; simp [Val.kind]
  · simp at h; subst h; simp [Val.kind]
  · simp at h; subst h; simp [Val.kind]
  · simp at h; subst h; simp [Val.kind]
  · simp at h


def wfCheck (h : Heap) : Bool :=
  h.arrs.all (fun a => a.all (fun c => decide (c < h.cells.size))) &&
  h.objs.all (fun m => m.all (fun kv => decide (kv.2 < h.cells.size)))

theorem wf_of_wfCheck (h : Heap) (hc : wfCheck h = true) : h.WF := by
  simp only [wfCheck, Bool.and_eq_true, Array.all_eq_true_iff_forall_mem, List.all_eq_true,
    decide_eq_true_eq] at hc
  constructor
  · intro a c hmem
    simp only [Heap.arr, Array.getD_eq_getD_getElem?] at hmem
    cases hg : h.arrs[a]? with
    | none => rw [hg] at hmem; simp at hmem
    | some x =>
      rw [hg] at hmem
      simp only [Option.getD_some, Array.mem_toList_iff] at hmem
      exact hc.1 x (Array.mem_of_getElem? hg) c hmem
  · intro o k c hmem
    simp only [Heap.obj, Array.getD_eq_getD_getElem?] at hmem
    cases hg : h.objs[o]? with
    | none => rw [hg] at hmem; simp at hmem
    | some x =>
      rw [hg] at hmem
      simp only [Option.getD_some] at hmem
      exact hc.2 x (Array.mem_of_getElem? hg) (k, c) hmem

end Jqawk.MatchSpec
