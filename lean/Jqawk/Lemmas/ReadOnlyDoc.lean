/-
  Read-only evaluation and the rendered document (C09): if the heap is preserved in the sense
  of `HeapPreserved`, the JSON rendering of every value whose document lies in the old heap is
  unchanged.
-/
import Jqawk.Lemmas.ReadOnly
import Jqawk.Lemmas.Reach
import Jqawk.Lemmas.NewValue


namespace Jqawk

/-- the document rooted at `v0` lies in the heap: every array / object in it is allocated and so
    is every cell they refer to (no dangling ids; implied by any reasonable well-formedness of
    the heap, true for everything loaded from JSON: `newValueJson_docAllocated`) -/
structure DocAllocated (h : Heap) (v0 : Val) : Prop where
  arr : ∀ a, RootReach h v0 (.arr a) → a < h.arrs.size ∧ ∀ c ∈ (h.arr a).toList, c < h.cells.size
  obj : ∀ o, RootReach h v0 (.obj o) → o < h.objs.size ∧ ∀ kv ∈ h.obj o, kv.2 < h.cells.size

theorem toJVal_preserved {h h' : Heap} (p : HeapPreserved h h') {v0 : Val} (hs : DocAllocated h v0) :
    ∀ (n : Nat) (path : List Cont) (check : Bool) (v : Val), RootReach h v0 v →
      toJVal h' n path check v = toJVal h n path check v := by
  intro n
  induction n with
  | zero => intro path check v _; rfl
  | succ n ih =>
    intro path check v hr
    by_cases hon : (check && onPath path v) = true
    · rw [toJVal.eq_def, toJVal.eq_def h]; simp [hon]
    · have hon' : (check && onPath path v) = false := by simpa using hon
      cases v with
      | arr a =>
        have hp : (check && path.contains (.a a)) = false := by simpa [onPath_arr] using hon'
        rw [toJVal_arr_unfold h' n path check a hp, toJVal_arr_unfold h n path check a hp,
          p.arr a (hs.arr a hr).1]
        congr 2
        apply List.map_congr_left
        intro c hc
        have hch : RootReach h v0 (h.get c) := hr.child rfl (Child.arr a c hc)
        rw [p.get c ((hs.arr a hr).2 c hc)]
        exact ih _ _ _ hch
      | obj o =>
        have hp : (check && path.contains (.o o)) = false := by simpa [onPath_obj] using hon'
        rw [toJVal_obj_unfold h' n path check o hp, toJVal_obj_unfold h n path check o hp,
          p.obj o (hs.obj o hr).1]
        congr 2
        apply List.map_congr_left
        intro kv hkv
        have hmem := mem_sortByKey hkv
        have hch : RootReach h v0 (h.get kv.2) := hr.child rfl (Child.obj o kv hmem)
        rw [p.get kv.2 ((hs.obj o hr).2 kv hmem)]
        rw [ih _ _ _ hch]
      | _ => rw [toJVal.eq_def, toJVal.eq_def h]

/-- the JSON form (`ToGoValue`, what `json()` and the output use) of such a value is the same
    in the new heap -/
theorem toJValTop_preserved {h h' : Heap} (p : HeapPreserved h h') {v : Val} (hs : DocAllocated h v) :
    toJValTop h' v = toJValTop h v := by
  unfold toJValTop
  have hne : toJVal h (renderFuel h) [] false v ≠ .oof :=
    toJVal_ne_oof_gen h _ [] false v (PathOk.nil h) (Or.inr (by cases v <;> rfl))
      (by simp [renderFuel, Heap.nconts])
  have e1 := toJVal_preserved p hs (renderFuel h) [] false v (Or.inl rfl)
  have hle : renderFuel h ≤ renderFuel h' := by
    have := p.arrs; have := p.objs
    simp only [renderFuel]; omega
  rw [toJVal_fuel_mono h' (renderFuel h) (renderFuel h') hle [] false v (by rw [e1]; exact hne), e1]

theorem toJValTop_cell_preserved {h h' : Heap} (p : HeapPreserved h h') (c : CellId)
    (hc : c < h.cells.size) (hs : DocAllocated h (h.get c)) :
    h'.get c = h.get c ∧ toJValTop h' (h'.get c) = toJValTop h (h.get c) := by
  have e : h'.get c = h.get c := p.get c hc
  exact ⟨e, by rw [e]; exact toJValTop_preserved p hs⟩

/-- a set of values closed under "element / member of" that contains `v0` contains the whole
    document of `v0` -/
theorem rootReach_closed (h : Heap) (v0 : Val) (S : Val → Prop) (h0 : S v0)
    (hstep : ∀ v d w, S v → v.cont? = some d → Child h d w → S w) :
    ∀ v, RootReach h v0 v → S v := by
  have hreach : ∀ c d, Reach h c d → (∃ v, S v ∧ v.cont? = some c) → ∃ v, S v ∧ v.cont? = some d := by
    intro c d r
    induction r with
    | step hv hd =>
      rintro ⟨u, hu, hc⟩
      exact ⟨_, hstep u _ _ hu hc hv, hd⟩
    | trans _ _ ih1 ih2 => intro hc; exact ih2 (ih1 hc)
  intro v hv
  rcases hv with rfl | ⟨d, hd, hr⟩
  · exact h0
  · rcases hr with hc | ⟨e, hre, hc⟩
    · exact hstep v0 d v h0 hd hc
    · obtain ⟨u, hu, hue⟩ := hreach d e hre ⟨v0, h0, hd⟩
      exact hstep u e v hu hue hc

theorem DocAllocated.of_closed (h : Heap) (v0 : Val) (S : Val → Prop) (h0 : S v0)
    (hstep : ∀ v d w, S v → v.cont? = some d → Child h d w → S w)
    (harr : ∀ a, S (.arr a) → a < h.arrs.size ∧ ∀ c ∈ (h.arr a).toList, c < h.cells.size)
    (hobj : ∀ o, S (.obj o) → o < h.objs.size ∧ ∀ kv ∈ h.obj o, kv.2 < h.cells.size) :
    DocAllocated h v0 :=
  ⟨fun a hv => harr a (rootReach_closed h v0 S h0 hstep _ hv),
   fun o hv => hobj o (rootReach_closed h v0 S h0 hstep _ hv)⟩

/-- a tree-shaped copy of a JSON value (what `newValueJson` builds) lies in the heap -/
theorem ReprB.docAllocated {h : Heap} {na no : Nat} {v : Val} {j : JVal} (r : ReprB h na no v j) :
    DocAllocated h v := by
  apply DocAllocated.of_closed h v (fun v => ∃ na no j, ReprB h na no v j) ⟨na, no, j, r⟩
  · rintro v d w ⟨na, no, j, hv⟩ hd hw
    cases hv with
    | null | bool | str | num => cases hd
    | arr na no a Z hna ha harr hlt hrec =>
      cases hd
      cases hw with
      | arr a c hc =>
        rw [harr] at hc
        simp only [List.mem_map] at hc
        obtain ⟨z, hz, rfl⟩ := hc
        exact ⟨_, _, _, hrec z hz⟩
    | obj na no o Z hno ho hobj hlt hrec =>
      cases hd
      cases hw with
      | obj o kv hkv =>
        rw [hobj] at hkv
        simp only [List.mem_map] at hkv
        obtain ⟨z, hz, rfl⟩ := hkv
        exact ⟨_, _, _, hrec z hz⟩
  · rintro a ⟨na, no, j, hv⟩
    cases hv with
    | arr na no a Z hna ha harr hlt hrec =>
      refine ⟨ha, ?_⟩
      intro c hc
      rw [harr] at hc
      simp only [List.mem_map] at hc
      obtain ⟨z, hz, rfl⟩ := hc
      exact hlt z hz
  · rintro o ⟨na, no, j, hv⟩
    cases hv with
    | obj na no o Z hno ho hobj hlt hrec =>
      refine ⟨ho, ?_⟩
      intro kv hkv
      rw [hobj] at hkv
      simp only [List.mem_map] at hkv
      obtain ⟨z, hz, rfl⟩ := hkv
      exact hlt z hz

/-- every document loaded from (plain) JSON lies in the heap -/
theorem newValueJson_docAllocated (j : JVal) (hj : j.Plain) (s s' : St) (v : Val)
    (e : newValueJson j s = .ok v s') : DocAllocated s'.heap v :=
  (newValueJson_spec j s v s' hj e).2.docAllocated

end Jqawk
