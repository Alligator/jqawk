/-
  `splitOn` (strings.Split with a non-empty separator): joining the pieces with the separator
  gives the text back, and no piece contains the separator.  The second needs an invariant of
  the scan, `NoOcc sep pre s`: no occurrence of `sep` starts inside the piece `pre` collected so
  far, not even one that runs on into the unread text `s`.
  `explode` (the empty separator): the pieces are the UTF-8 sequences, 1 to 4 bytes each, and
  concatenate to the text.
-/
import Jqawk.Model.Natives
import Jqawk.Lemmas.Ite

namespace Jqawk

theorem isPrefixOf_iff (a b : Bytes) : Bytes.isPrefixOf a b = true ↔ a <+: b := by
  induction a generalizing b with
  | nil => simp [Bytes.isPrefixOf]
  | cons x a ih =>
    cases b with
    | nil => simp [Bytes.isPrefixOf]
    | cons y b => simp [Bytes.isPrefixOf, ih, List.cons_prefix_cons]

theorem isPrefixOf_eq_append (a b : Bytes) (h : Bytes.isPrefixOf a b = true) :
    b = a ++ b.drop a.length := by
  obtain ⟨t, rfl⟩ := (isPrefixOf_iff a b).mp h
  simp

theorem joinSep_cons_of_ne_nil (sep x : Bytes) (xs : List Bytes) (h : xs ≠ []) :
    joinSep sep (x :: xs) = x ++ sep ++ joinSep sep xs := by
  cases xs with
  | nil => exact absurd rfl h
  | cons y ys => rfl

theorem splitOnAux_ne_nil (sep : Bytes) (fuel : Nat) (s cur : Bytes) : splitOnAux sep fuel s cur ≠ [] := by
  induction fuel generalizing s cur with
  | zero => simp [splitOnAux]
  | succ fuel ih =>
    cases s with
    | nil => simp [splitOnAux]
    | cons c cs =>
      simp only [splitOnAux]
      split
      · simp
      · exact ih _ _

theorem joinSep_splitOnAux (sep : Bytes) (hsep : sep ≠ []) (fuel : Nat) (s cur : Bytes)
    (hf : s.length < fuel) :
    joinSep sep (splitOnAux sep fuel s cur) = cur.reverse ++ s := by
  induction fuel generalizing s cur with
  | zero => omega
  | succ fuel ih =>
    cases s with
    | nil => simp [splitOnAux, joinSep]
    | cons c cs =>
      simp only [splitOnAux]
      split
      · rename_i hp
        have hlen : 0 < sep.length := List.length_pos_iff.mpr hsep
        rw [joinSep_cons_of_ne_nil _ _ _ (splitOnAux_ne_nil _ _ _ _), ih _ _ (by
          simp only [List.length_drop, List.length_cons] at hf ⊢; omega)]
        simp only [List.reverse_nil, List.nil_append, List.append_assoc]
        rw [← isPrefixOf_eq_append _ _ hp]
      · rw [ih _ _ (by simp only [List.length_cons] at hf; omega)]
        simp

def NoOcc (sep pre s : Bytes) : Prop := ∀ a b, pre = a ++ b → b ≠ [] → ¬ sep <+: (b ++ s)

theorem NoOcc.nil (sep s : Bytes) : NoOcc sep [] s :=
  fun _ _ h hb => absurd (List.nil_eq_append_iff.mp h).2 hb

theorem NoOcc.not_infix (sep pre s : Bytes) (hsep : sep ≠ []) (h : NoOcc sep pre s) : ¬ sep <:+: pre := by
  rintro ⟨a, b, hab⟩
  apply h a (sep ++ b) (by rw [← hab]; simp) (by simp [hsep])
  exact ⟨b ++ s, by simp⟩

theorem NoOcc.snoc (sep pre cs : Bytes) (c : UInt8) (h : NoOcc sep pre (c :: cs))
    (hc : ¬ sep <+: (c :: cs)) : NoOcc sep (pre ++ [c]) cs := by
  intro a b hab hb
  rcases List.eq_nil_or_concat b with rfl | ⟨b', x, rfl⟩
  · exact absurd rfl hb
  · rw [List.concat_eq_append, ← List.append_assoc] at hab
    have hx := List.append_inj' hab rfl
    obtain ⟨h1, h2⟩ := hx
    cases h2
    by_cases hb' : b' = []
    · subst hb'; simpa using hc
    · have := h a b' h1 hb'
      simpa using this

theorem splitOnAux_no_sep (sep : Bytes) (hsep : sep ≠ []) (fuel : Nat) (s cur : Bytes)
    (h : NoOcc sep cur.reverse s) : ∀ p ∈ splitOnAux sep fuel s cur, ¬ sep <:+: p := by
  induction fuel generalizing s cur with
  | zero =>
    intro p hp
    simp only [splitOnAux, List.mem_singleton] at hp
    subst hp; exact h.not_infix _ _ _ hsep
  | succ fuel ih =>
    cases s with
    | nil =>
      intro p hp
      simp only [splitOnAux, List.mem_singleton] at hp
      subst hp; exact h.not_infix _ _ _ hsep
    | cons c cs =>
      simp only [splitOnAux]
      split
      · intro p hp
        rcases List.mem_cons.mp hp with rfl | hp
        · exact h.not_infix _ _ _ hsep
        · exact ih _ _ (by simpa using NoOcc.nil sep _) p hp
      · rename_i hp
        apply ih
        rw [List.reverse_cons]
        exact h.snoc _ _ _ _ (fun hh => hp ((isPrefixOf_iff _ _).mpr hh))

theorem utf8DecodeHead_width (b0 : UInt8) (rest : Bytes) :
    1 ≤ (utf8DecodeHead (b0 :: rest)).2 ∧ (utf8DecodeHead (b0 :: rest)).2 ≤ 4 := by
  -- every leaf of the decision tree is a pair whose width is a literal
  let W (p : Nat × Nat) : Prop := 1 ≤ p.2 ∧ p.2 ≤ 4
  have leaf (r : Nat) {w : Nat} (h : 1 ≤ w ∧ w ≤ 4) : W (r, w) := h
  have ite {c : Prop} [Decidable c] {p q : Nat × Nat} (hp : W p) (hq : W q) : W (if c then p else q) :=
    ite_elim (fun _ => hp) fun _ => hq
  show W _
  unfold utf8DecodeHead
  refine ite (leaf _ (by decide)) (ite ?_ (ite ?_ (ite ?_ (leaf _ (by decide)))))
  all_goals (split; exact ite (leaf _ (by decide)) (leaf _ (by decide)); exact leaf _ (by decide))

theorem explodeAux_flatten (fuel : Nat) (s : Bytes) (hf : s.length ≤ fuel) :
    (explodeAux fuel s).flatten = s := by
  induction fuel generalizing s with
  | zero =>
    have : s = [] := List.eq_nil_of_length_eq_zero (by omega)
    subst this; simp [explodeAux]
  | succ fuel ih =>
    cases s with
    | nil => simp [explodeAux]
    | cons c cs =>
      have hw := utf8DecodeHead_width c cs
      simp only [explodeAux, List.flatten_cons]
      rw [ih _ (by simp only [List.length_drop, List.length_cons] at hf ⊢; omega)]
      exact List.take_append_drop _ _

theorem explodeAux_pieces (fuel : Nat) (s : Bytes) :
    ∀ p ∈ explodeAux fuel s, 1 ≤ p.length ∧ p.length ≤ 4 := by
  induction fuel generalizing s with
  | zero => simp [explodeAux]
  | succ fuel ih =>
    cases s with
    | nil => simp [explodeAux]
    | cons c cs =>
      have hw := utf8DecodeHead_width c cs
      intro p hp
      simp only [explodeAux, List.mem_cons] at hp
      rcases hp with rfl | hp
      · simp only [List.length_take, List.length_cons]; omega
      · exact ih _ p hp

end Jqawk
