/-
  Invariants of a whole run.  The driver (`processFile` … `runProgram`) strings together five kinds
  of evaluator steps; a state property `J` that each of them keeps, together with a claim `F` about
  the outcome reported when one of them fails, is carried through the input loop once and for all.
  What is not shared is the walk below the steps, over `evalRules`, `evalElems`, `evalPatternRules`,
  `evalSpecialRules`, `processRoot`, `processRoots`: each invariant has its own copy with the same
  skeleton (`SafeD` in DriverInvariant, `NoSig` in DriverSignals, `RtPos` in ProvenanceDriver, `NP`
  in NoPanicDriver, `Good` in HeapInvDriver); `RtPos` in ProvenanceDriver is the plainest to start from.
-/
import Jqawk.Model.Driver

namespace Jqawk.Run
open Jqawk

def Keeps (J : St → Prop) (F : Outcome → St → Prop) (src : Bytes) {α : Type} (m : EM α) : Prop :=
  ∀ s, J s → match m s with
    | .ok _ s' => J s'
    | .err e s' => F (errOutcome src e) s'
    | .oof => True

/-- what the driver needs of `J` (between steps) and `F` (when the run is over), for a run with the
    selectors `sels` -/
structure Invariant (prog : Program) (tbl : RuleTable) (src : Bytes) (sels : List Bytes)
    (J : St → Prop) (F : Outcome → St → Prop) : Prop where
  setFile : ∀ name : Bytes, Keeps J F src (do
    let c ← newCell (.str name none)
    setGlobal b!"$file" c : EM Unit)
  newRoot : ∀ v : JVal, Keeps J F src (do let val ← newValueJson v; newCell val : EM CellId)
  roots : ∀ cs, Keeps J F src (processRoots prog cs)
  special : ∀ k, Keeps J F src (evalSpecialRules prog (newCell (.nil none)) (rulesOf prog k))
  selector : ∀ sel ∈ sels, ∀ v s, J s →
    (∀ o s', evalSelector tbl sel v s = .inl (o, s') → F o s') ∧
    (∀ x s', evalSelector tbl sel v s = .inr (x, s') → J s')
  /-- the outcomes that are reported with a state in which nothing has gone wrong -/
  quiet : ∀ s, J s → F .ok s ∧ F .oof s ∧ ∀ name, F (.jsonErr name) s

def RootsOK (J : St → Prop) (F : Outcome → St → Prop) : Roots → Prop
  | .cells _ s => J s
  | .exit s => J s
  | .stop o s => F o s

def StepOK (J : St → Prop) (F : Outcome → St → Prop) : StepRes → Prop
  | .done s => J s
  | .finished o s => F o s

/-- a run without a final state has run out of fuel -/
def OK (F : Outcome → St → Prop) (r : RunResult) : Prop :=
  match r.st with
  | some s => F r.outcome s
  | none => r.outcome = .oof

namespace Invariant

variable {prog : Program} {tbl : RuleTable} {src : Bytes} {sels : List Bytes} {J : St → Prop}
  {F : Outcome → St → Prop} (h : Invariant prog tbl src sels J F)
include h

theorem evalSelectors (v : JVal) (l : List Bytes) (hl : ∀ sel ∈ l, sel ∈ sels) (acc : List CellId)
    (s : St) (hs : J s) : RootsOK J F (evalSelectors tbl v l acc s) := by
  induction l generalizing acc s with
  | nil => exact hs
  | cons sel rest ih =>
    have ih := ih (fun x hx => hl x (List.mem_cons_of_mem _ hx))
    unfold Jqawk.evalSelectors
    have hg := h.selector sel (hl sel List.mem_cons_self) v s hs
    cases he : evalSelector tbl sel v s with
    | inl p => exact hg.1 p.1 p.2 he
    | inr p =>
      obtain ⟨x, s1⟩ := p
      have h1 := hg.2 x s1 he
      cases x with
      | ok c => exact ih (c :: acc) s1 h1
      | error g => cases g <;> first | exact h1 | exact ih acc s1 h1

theorem processFile (file : InputFile) :
    ∀ (fuel : Nat) (data : Bytes) (s : St), J s →
      StepOK J F (processFile prog src tbl sels file fuel data s) := by
  intro fuel
  induction fuel with
  | zero => intro data s hs; exact (h.quiet s hs).2.1
  | succ fuel ih =>
    intro data s hs
    unfold Jqawk.processFile
    split
    · exact hs
    · exact (h.quiet s hs).2.2 _
    · exact (h.quiet s hs).2.2 _
    · rename_i v rest _
      have h1 := h.setFile file.name s hs
      dsimp only
      split
      · rename_i hr; rw [hr] at h1; exact h1
      · exact (h.quiet s hs).2.1
      · rename_i s1 hr
        rw [hr] at h1
        generalize hro : (if sels.isEmpty = true then _ else _ : Roots) = roots
        have hroots : RootsOK J F roots := by
          rw [← hro]
          split
          · have h2 := h.newRoot v s1 h1
            split
            · rename_i hr2; rw [hr2] at h2; exact h2
            · rename_i hr2; rw [hr2] at h2; exact h2
            · exact (h.quiet s1 h1).2.1
          · exact h.evalSelectors _ sels (fun _ hx => hx) [] s1 h1
        cases roots with
        | stop o s2 => exact hroots
        | exit s2 => exact (h.quiet s2 hroots).1
        | cells cs s2 =>
          have h3 := h.roots cs s2 hroots
          dsimp only
          split
          · rename_i hr3; rw [hr3] at h3; exact (h.quiet _ h3).1
          · rename_i hr3; rw [hr3] at h3; exact ih _ _ h3
          · rename_i hr3; rw [hr3] at h3; exact h3
          · exact (h.quiet s2 hroots).2.1

theorem processFiles :
    ∀ (files : List InputFile) (s : St), J s → StepOK J F (processFiles prog src tbl sels files s) := by
  intro files
  induction files with
  | nil => intro s hs; exact hs
  | cons f rest ih =>
    intro s hs
    unfold Jqawk.processFiles
    have h1 := h.processFile f (f.data.length + 2) f.data s hs
    split
    · rename_i hr; rw [hr] at h1; exact ih _ h1
    · rename_i hr; rw [hr] at h1; exact h1

theorem runEnd (s : St) (hs : J s) : OK F (runEnd prog src s) := by
  unfold Jqawk.runEnd
  have h1 := h.special .end_ s hs
  split
  · rename_i hr; rw [hr] at h1; exact h1
  · rfl
  · rename_i hr; rw [hr] at h1; exact (h.quiet _ h1).1

theorem runFiles (files : List InputFile) (s : St) (hs : J s) :
    OK F (runFiles prog src tbl sels files s) := by
  unfold Jqawk.runFiles
  have h1 := h.processFiles files s hs
  split
  · rename_i hr; rw [hr] at h1; exact h1
  · rename_i hr; rw [hr] at h1; exact h.runEnd _ h1

/-- **an invariant of the driver's steps holds of the whole run** -/
theorem runProgram (files : List InputFile)
    (h0 : J (newEvaluator prog Heap.empty [] 0)) : OK F (runProgram prog src tbl sels files) := by
  unfold Jqawk.runProgram
  have h1 := h.special .begin_ _ h0
  split
  · rename_i hr; rw [hr] at h1; exact h1
  · rfl
  · rename_i hr; rw [hr] at h1; exact (h.quiet _ h1).1
  · rename_i hr; rw [hr] at h1; exact h.runFiles files _ h1

end Invariant

/-- the state of the main evaluator after a selector whose nested evaluator ended in `s1` -/
def selectorBack (s s1 : St) : St :=
  { s with heap := s1.heap, out := s1.out, faults := s1.faults, faultOut := s1.faultOut,
           maxDepth := max s.maxDepth s1.maxDepth }

/-- The `selector` obligation of `Invariant`, from what the nested run of the selector does:
    a value, `exit` and `next` hand the state back (`J`), every other error is reported as
    `errOutcome sel` reports it (`F`).  The one place where `evalSelector` is taken apart. -/
theorem selector_of_run {tbl : RuleTable} {J : St → Prop} {F : Outcome → St → Prop} (sel : Bytes) (v : JVal)
    (s : St) (hsyn : ∀ e, parseExpressionSrc tbl sel = .syntaxErr e → F (.syntaxErr sel e) s) (hoof : F .oof s)
    (hrun : ∀ expr, parseExpressionSrc tbl sel = .ok expr →
      match selectorRun v expr (newEvaluator Program.empty s.heap s.out s.faults) with
      | .ok _ s1 => J (selectorBack s s1)
      | .err e s1 => if e = .sig .exit ∨ e = .sig .next then J (selectorBack s s1)
                     else F (errOutcome sel e) (selectorBack s s1)
      | .oof => True) :
    (∀ o s', evalSelector tbl sel v s = .inl (o, s') → F o s') ∧
    (∀ x s', evalSelector tbl sel v s = .inr (x, s') → J s') := by
  -- what is claimed of a reported outcome resp. of a state handed back
  have inl : ∀ {o : Outcome} {t : St}, F o t →
      (∀ o' s', (.inl (o, t) : (Outcome × St) ⊕ (Except Sig CellId × St)) = .inl (o', s') → F o' s') ∧
      (∀ x s', (.inl (o, t) : (Outcome × St) ⊕ (Except Sig CellId × St)) = .inr (x, s') → J s') :=
    fun hF => ⟨fun _ _ h => by cases h; exact hF, fun _ _ h => (nomatch h)⟩
  have inr : ∀ {x : Except Sig CellId} {t : St}, J t →
      (∀ o' s', (.inr (x, t) : (Outcome × St) ⊕ (Except Sig CellId × St)) = .inl (o', s') → F o' s') ∧
      (∀ x' s', (.inr (x, t) : (Outcome × St) ⊕ (Except Sig CellId × St)) = .inr (x', s') → J s') :=
    fun hJ => ⟨fun _ _ h => (nomatch h), fun _ _ h => by cases h; exact hJ⟩
  unfold evalSelector
  split
  · exact inl (hsyn _ ‹_›)
  · exact inl hoof
  · have h0 := hrun _ ‹_›
    dsimp only
    split <;> simp only [*] at h0
    · exact inr h0
    · exact inr (by simp at h0; exact h0)
    · exact inr (by simp at h0; exact h0)
    · rename_i g s1 hne hnn _
      exact inl (by rw [if_neg (by simp; exact ⟨hne, hnn⟩)] at h0; exact h0)
    · exact inl (by simp at h0; exact h0)
    · exact inl (by simp at h0; exact h0)
    · exact inl (by simp at h0; exact h0)
    · exact inl hoof

end Jqawk.Run
