/-
  C13, newline insertion up to positions: `Nl.IsNlSimE` (like `Nl.IsNlSim`, but the tokens of the
  two sources need only agree up to positions), reduced to `IsNlSim` and to the parametricity of
  the parser in token positions (`parseProgram_sim`) through a product source that answers with
  the right-hand tokens and the left-hand flags; then the lexer on texts that differ in
  vertical trivia (`Lexer.nextNN_vtrivia`, Lemmas/Layout.lean) as an instance.
-/
import Jqawk.Lemmas.NewlineSrc
import Jqawk.Lemmas.Param
import Jqawk.Lemmas.Layout

namespace Jqawk
namespace Nl

structure IsNlSimE {σ₁ σ₂ : Type} (src₁ : TokSrc σ₁) (src₂ : TokSrc σ₂)
    (Rσ : G → σ₁ → σ₂ → Prop) : Prop where
  next : ∀ g s₁ s₂, Rσ g s₁ s₂ → ∀ t nl s₁', src₁.next s₁ = .ok (t, nl, s₁') →
    ∃ t' nl' s₂', src₂.next s₂ = .ok (t', nl', s₂') ∧ erase t = erase t' ∧ FlagOK g t nl nl' ∧
      Rσ (g.step t) s₁' s₂'
  regex : ∀ g s₁ s₂, Rσ g s₁ s₂ → ∀ t s₁', src₁.regex s₁ = .ok (t, s₁') →
    t.tag = .regex ∧ ∃ t' s₂', src₂.regex s₂ = .ok (t', s₂') ∧ erase t = erase t' ∧
      Rσ (g.step t) s₁' s₂'

/-- the product source: tokens (and errors) of the right source, flags of the left one -/
def midSrc {σ₁ σ₂ : Type} (src₁ : TokSrc σ₁) (src₂ : TokSrc σ₂) : TokSrc (σ₁ × σ₂) where
  next := fun s => match src₁.next s.1 with
    | .error e => .error e
    | .ok (_, nl, a') => match src₂.next s.2 with
      | .error e => .error e
      | .ok (t', _, b') => .ok (t', nl, (a', b'))
  regex := fun s => match src₁.regex s.1 with
    | .error e => .error e
    | .ok (_, a') => match src₂.regex s.2 with
      | .error e => .error e
      | .ok (t', b') => .ok (t', (a', b'))

theorem erase_tag_eq {t t' : Token} (h : erase t = erase t') : t.tag = t'.tag :=
  ((erase_token_eq_iff t t').mp h).1

theorem step_congr (g : G) {t t' : Token} (h : erase t = erase t') : g.step t = g.step t' := by
  unfold G.step; rw [erase_tag_eq h]

theorem flagOK_congr (g : G) {t t' : Token} (h : erase t = erase t') (nl nl' : Bool) :
    FlagOK g t nl nl' ↔ FlagOK g t' nl nl' := by
  unfold FlagOK Allowed; rw [erase_tag_eq h]

variable {σ₁ σ₂ : Type} {src₁ : TokSrc σ₁} {src₂ : TokSrc σ₂} {Rσ : G → σ₁ → σ₂ → Prop}

theorem midSrc_simE (hS : IsNlSimE src₁ src₂ Rσ) :
    PM.IsSimE src₁ (midSrc src₁ src₂) (fun a s => a = s.1 ∧ ∃ g, Rσ g s.1 s.2) where
  next := by
    rintro a ⟨a₀, b⟩ ⟨rfl, g, hR⟩
    simp only [midSrc]
    cases h₁ : src₁.next a with
    | error e => exact rfl
    | ok r =>
      obtain ⟨t, nl, a'⟩ := r
      obtain ⟨t', nl', b', h₂, ht, _, hR'⟩ := hS.next g a b hR t nl a' h₁
      simp only [h₂]
      exact ⟨ht, rfl, rfl, _, hR'⟩
  regex := by
    rintro a ⟨a₀, b⟩ ⟨rfl, g, hR⟩
    simp only [midSrc]
    cases h₁ : src₁.regex a with
    | error e => exact rfl
    | ok r =>
      obtain ⟨t, a'⟩ := r
      obtain ⟨_, t', b', h₂, ht, hR'⟩ := hS.regex g a b hR t a' h₁
      simp only [h₂]
      exact ⟨ht, rfl, _, hR'⟩

theorem midSrc_nlSim (hS : IsNlSimE src₁ src₂ Rσ) :
    IsNlSim (midSrc src₁ src₂) src₂ (fun g s b => s.2 = b ∧ Rσ g s.1 s.2) where
  next := by
    rintro g ⟨a, b⟩ b₂ ⟨rfl, hR⟩ t' nl s' h
    simp only [midSrc] at h
    cases h₁ : src₁.next a with
    | error e => rw [h₁] at h; cases h
    | ok r =>
      obtain ⟨t, nl₁, a'⟩ := r
      obtain ⟨t₂, nl', b', h₂, ht, hfl, hR'⟩ := hS.next g a b hR t nl₁ a' h₁
      rw [h₁] at h
      simp only [h₂, Except.ok.injEq, Prod.mk.injEq] at h
      obtain ⟨rfl, rfl, rfl⟩ := h
      refine ⟨nl', b', h₂, (flagOK_congr g ht _ _).mp hfl, rfl, ?_⟩
      rw [← step_congr g ht]; exact hR'
  regex := by
    rintro g ⟨a, b⟩ b₂ ⟨rfl, hR⟩ t' s' h
    simp only [midSrc] at h
    cases h₁ : src₁.regex a with
    | error e => rw [h₁] at h; cases h
    | ok r =>
      obtain ⟨t, a'⟩ := r
      obtain ⟨htag, t₂, b', h₂, ht, hR'⟩ := hS.regex g a b hR t a' h₁
      rw [h₁] at h
      simp only [h₂, Except.ok.injEq, Prod.mk.injEq] at h
      obtain ⟨rfl, rfl⟩ := h
      refine ⟨by rw [← erase_tag_eq ht]; exact htag, b', h₂, rfl, ?_⟩
      rw [← step_congr g ht]; exact hR'

theorem runE {α : Type} [Erase α] {m₁ m₂ : P α} (hsim : PSim m₁ m₂)
    (hnl : NlP (fun _ s _ => isBracket s.cur.tag = false) 0 0 m₂) (hS : IsNlSimE src₁ src₂ Rσ)
    {s₁ : σ₁} {s₂ : σ₂} (hs : Rσ G.init s₁ s₂) {a : α} {st : PS}
    (hr : (m₁ PS.init).runWith src₁ s₁ = .ok (a, st)) :
    ∃ a' st', (m₂ PS.init).runWith src₂ s₂ = .ok (a', st') ∧ erase a = erase a' := by
  obtain ⟨a₁, st₁, hm, he⟩ := PM.run_sim_ok (midSrc_simE hS) (hsim PS.init PS.init rfl)
    (s₂ := (s₁, s₂)) ⟨rfl, _, hs⟩ hr
  obtain ⟨st', h'⟩ := run_nlp hnl (midSrc_nlSim hS) (s₁ := (s₁, s₂)) ⟨rfl, hs⟩ hm
  exact ⟨a₁, st', h', he⟩

theorem parseProgram_runE {tbl : RuleTable} (hT : TableOK tbl = true) (n₁ n₂ : Nat) (hn : n₁ ≤ n₂)
    (hS : IsNlSimE src₁ src₂ Rσ) {s₁ : σ₁} {s₂ : σ₂} (hs : Rσ G.init s₁ s₂) {p : Program} {st : PS}
    (hr : (Parser.parseProgram tbl n₁ PS.init).runWith src₁ s₁ = .ok (p, st)) :
    ∃ p' st', (Parser.parseProgram tbl n₂ PS.init).runWith src₂ s₂ = .ok (p', st') ∧
      erase p = erase p' :=
  runE (parseProgram_sim tbl n₁ n₂ hn) (parseProgram_nl hT n₂) hS hs hr

theorem parseExpression_runE {tbl : RuleTable} (hT : TableOK tbl = true) (n₁ n₂ : Nat) (hn : n₁ ≤ n₂)
    (hS : IsNlSimE src₁ src₂ Rσ) {s₁ : σ₁} {s₂ : σ₂} (hs : Rσ G.init s₁ s₂) {p : Expr} {st : PS}
    (hr : (Parser.parseExpression tbl n₁ PS.init).runWith src₁ s₁ = .ok (p, st)) :
    ∃ p' st', (Parser.parseExpression tbl n₂ PS.init).runWith src₂ s₂ = .ok (p', st') ∧
      erase p = erase p' :=
  runE (parseExpression_sim tbl n₁ n₂ hn) (parseExpression_nl hT n₂) hS hs hr

open Lexer

theorem sameRest_nlSimE_next (g : G) (s₁ s₂ : LexState) (h : SameRest s₁ s₂) (t : Token) (nl : Bool)
    (s₁' : LexState) (h₁ : lexerSrc.next s₁ = .ok (t, nl, s₁')) :
    ∃ t' nl' s₂', lexerSrc.next s₂ = .ok (t', nl', s₂') ∧ erase t = erase t' ∧ FlagOK g t nl nl' ∧
      SameRest s₁' s₂' := by
  have := (sameRest_isSimE).next s₁ s₂ h
  rw [h₁] at this
  cases h₂ : lexerSrc.next s₂ with
  | error e => rw [h₂] at this; exact this.elim
  | ok r =>
    obtain ⟨t', nl', s₂'⟩ := r
    rw [h₂] at this
    obtain ⟨ht, rfl, hs⟩ := this
    exact ⟨t', nl, s₂', rfl, ht, .inl rfl, hs⟩

theorem sameRest_nlSimE_regex (s₁ s₂ : LexState) (h : SameRest s₁ s₂) (t : Token)
    (s₁' : LexState) (h₁ : lexerSrc.regex s₁ = .ok (t, s₁')) :
    t.tag = .regex ∧ ∃ t' s₂', lexerSrc.regex s₂ = .ok (t', s₂') ∧ erase t = erase t' ∧
      SameRest s₁' s₂' := by
  refine ⟨regex_tag s₁ t s₁' h₁, ?_⟩
  have := (sameRest_isSimE).regex s₁ s₂ h
  rw [h₁] at this
  cases h₂ : lexerSrc.regex s₂ with
  | error e => rw [h₂] at this; exact this.elim
  | ok r =>
    obtain ⟨t', s₂'⟩ := r
    rw [h₂] at this
    exact ⟨t', s₂', rfl, this.1, this.2⟩

theorem sameRest_or_isNlSimE (s₁ s₂ : LexState)
    (hn : ∀ t nl s₁', lexerSrc.next s₁ = .ok (t, nl, s₁') → ∃ t' nl' s₂',
      lexerSrc.next s₂ = .ok (t', nl', s₂') ∧ erase t = erase t' ∧ FlagOK G.init t nl nl' ∧
        SameRest s₁' s₂')
    (hr : ∀ t s₁', lexerSrc.regex s₁ ≠ .ok (t, s₁')) :
    IsNlSimE lexerSrc lexerSrc (fun g a b => SameRest a b ∨ (g = G.init ∧ a = s₁ ∧ b = s₂)) where
  next := by
    rintro g a b (h | ⟨rfl, rfl, rfl⟩) t nl a' h₁
    · obtain ⟨t', nl', b', e1, e2, e3, e4⟩ := sameRest_nlSimE_next g a b h t nl a' h₁
      exact ⟨t', nl', b', e1, e2, e3, .inl e4⟩
    · obtain ⟨t', nl', b', e1, e2, e3, e4⟩ := hn t nl a' h₁
      exact ⟨t', nl', b', e1, e2, e3, .inl e4⟩
  regex := by
    rintro g a b (h | ⟨rfl, rfl, rfl⟩) t a' h₁
    · obtain ⟨e0, t', b', e1, e2, e4⟩ := sameRest_nlSimE_regex a b h t a' h₁
      exact ⟨e0, t', b', e1, e2, .inl e4⟩
    · exact absurd h₁ (hr t a')

end Nl

end Jqawk
