/-
  C13, newline insertion for program texts without a `/` byte (no regex literal can be requested,
  so the token sequence of a text does not depend on the parser): the lexer from a text is
  similar up to positions to the list source over the text's flagged token list (`lexFlags`).
-/
import Jqawk.Lemmas.NewlineTokens
import Jqawk.Lemmas.NewlineLayout

namespace Jqawk
namespace Nl
open Lexer

/-- like `flagSrc`, but every `regex` request fails the way the lexer fails on a text without
    a `/` -/
def flagSrcNR : TokSrc (List (Token × Bool)) where
  next := fun ts => match ts with
    | [] => .ok (eofTok, false, [])
    | (t, nl) :: ts => .ok (t, nl, ts)
  regex := fun _ => .error ⟨0, "unexpected EOF while reading regex"⟩

theorem flagSrcNR_isNlSim : IsNlSim flagSrcNR flagSrcNR NlMoreAt where
  next := flagSrc_next_nlSim
  regex := fun _ _ _ _ _ _ h₁ => nomatch h₁

theorem next_suffix (s : LexState) (t : Token) (s' : LexState) (h : next s = .ok (t, s')) :
    ∃ pre, s.rest = pre ++ s'.rest :=
  Lexer.next_suffix s t s' h

theorem regex_no_slash (s : LexState) (h : (47 : UInt8) ∉ s.rest) :
    regex s = .error ⟨s.tokenStart, "unexpected EOF while reading regex"⟩ := by
  unfold regex
  rw [(scanTo_none_iff 47 s.rest).mpr h]

def LexRel (s : LexState) (ts : List (Token × Bool)) : Prop :=
  (47 : UInt8) ∉ s.rest ∧ ((∃ fuel, lexFlags fuel s = some ts) ∨ (s.rest = [] ∧ ts = []))

theorem lexRel_isSimE : PM.IsSimE lexerSrc flagSrcNR LexRel where
  next := by
    rintro s ts ⟨h47, h | ⟨hr, rfl⟩⟩
    · obtain ⟨fuel, hl⟩ := h
      cases fuel with
      | zero => cases hl
      | succ fuel =>
        rw [lexFlags] at hl
        show PM.AnsNextE _ (nextNN (s.rest.length + 1) s false) _
        cases hn : nextNN (s.rest.length + 1) s false with
        | error e => rw [hn] at hl; cases hl
        | ok r =>
          obtain ⟨t, nl, s'⟩ := r
          rw [hn] at hl
          dsimp only at hl
          obtain ⟨⟨pre, hpre⟩, heof, _⟩ := nextNN_suffix _ _ _ _ _ _ hn
          have h47' : (47 : UInt8) ∉ s'.rest := fun hm => h47 (by rw [hpre]; simp [hm])
          split at hl
          · rename_i ht
            simp only [Option.some.injEq] at hl
            subst hl
            exact ⟨rfl, rfl, h47', .inr ⟨heof (by simpa using ht), rfl⟩⟩
          · cases hr : lexFlags fuel s' with
            | none => rw [hr] at hl; cases hl
            | some r =>
              rw [hr] at hl
              simp only [Option.some.injEq] at hl
              subst hl
              exact ⟨rfl, rfl, h47', .inl ⟨fuel, hr⟩⟩
    · show PM.AnsNextE _ (nextNN (s.rest.length + 1) s false) _
      rw [hr]
      have : next s = .ok (⟨.eof, s.tokenStart, []⟩, ⟨[], s.pos, s.tokenStart⟩) := by
        rw [next_eq]; simp [hr, skipWs]
      simp only [List.length_nil, nextNN, this]
      exact ⟨rfl, rfl, by simp, .inr ⟨rfl, rfl⟩⟩
  regex := by
    rintro s ts ⟨h47, _⟩
    show PM.AnsRegexE _ (regex s) _
    rw [regex_no_slash s h47]
    exact rfl

theorem parseProgram_texts {tbl : RuleTable} (hT : TableOK tbl = true) {src₁ src₂ : Bytes}
    (h₁ : (47 : UInt8) ∉ src₁) (h₂ : (47 : UInt8) ∉ src₂) {ts₁ ts₂ : List (Token × Bool)}
    (hl₁ : lexFlags (src₁.length + 2) (LexState.init src₁) = some ts₁)
    (hl₂ : lexFlags (src₂.length + 2) (LexState.init src₂) = some ts₂)
    (hm : NlMoreAt G.init ts₁ ts₂) (n₁ n₂ : Nat) (hn : n₁ ≤ n₂) {p : Program} {st : PS}
    (hr : (Parser.parseProgram tbl n₁ PS.init).runWith lexerSrc (LexState.init src₁) = .ok (p, st)) :
    ∃ p' st', (Parser.parseProgram tbl n₂ PS.init).runWith lexerSrc (LexState.init src₂)
      = .ok (p', st') ∧ erase p = erase p' := by
  -- the text `src₁` and its token list; the newlines; the token list of `src₂` and the text
  obtain ⟨p₁, st₁, hm₁, e1⟩ := PM.run_sim_ok lexRel_isSimE
    (parseProgram_sim tbl n₁ n₁ (Nat.le_refl _) PS.init PS.init rfl)
    (s₂ := ts₁) ⟨h₁, .inl ⟨_, hl₁⟩⟩ hr
  obtain ⟨st₂, hm₂⟩ := run_nlp (parseProgram_nl hT _) flagSrcNR_isNlSim hm hm₁
  obtain ⟨p₃, st₃, hm₃, e3⟩ := PM.run_sim_ok lexRel_isSimE.symm
    (parseProgram_sim tbl n₁ n₂ hn PS.init PS.init rfl)
    (s₁ := ts₂) (s₂ := LexState.init src₂) ⟨h₂, .inl ⟨_, hl₂⟩⟩ hm₂
  exact ⟨p₃, st₃, hm₃, e1.trans e3⟩

def parseFlagsNR (tbl : RuleTable) (n : Nat) (ts : List (Token × Bool)) : ParseRes Program :=
  match (Parser.parseProgram tbl n PS.init).runWith flagSrcNR ts with
  | .ok (p, _) => .ok p
  | .syntaxErr e => .syntaxErr e
  | .oof => .oof

end Nl
end Jqawk
