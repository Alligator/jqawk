/-
  Read-only evaluation (C09): an expression (or statement) that contains no assignment, no
  `++`/`--`, no `for … in` and no call other than a method call `recv.name(args)` /
  `recv["name"](args)` whose name is not `push`, `pop` or `popfirst` never writes to a cell,
  array or object that existed before: everything it does to the heap is allocation.  (A read of a
  member of an unset base does not turn the base into a container; only `createSpeculative` does,
  when the member is assigned to.)

  Architecture: as Lemmas/Invariant.lean — a relation between start and end state (`Rel`), a
  predicate `Pres` on computations closed under the monad operations, primitives, and one mutual
  induction over all evaluator functions (`AllRO`).  `Pres` does not hold of `writeCell` or
  `setHeap`, so it is not an instance of `Quiet`.
-/
import Jqawk.Model.Eval
import Jqawk.Lemmas.Heap
import Jqawk.Lemmas.EvalSteps
import Jqawk.Lemmas.Shaped


namespace Jqawk

/-- the names of the prototype methods that change their receiver -/
def mutatingName (k : Bytes) : Bool := k == b!"push" || k == b!"pop" || k == b!"popfirst"

/-- the natives that change their receiver (`sort` returns a new array; `printf` only writes
    output) -/
def Native.mutating : Native → Bool
  | .arrPush | .arrPop | .arrPopfirst => true
  | _ => false

/-- a literal member name (`.name` or `["name"]`) that does not denote a mutating method -/
def safeKey (t : Token) : Bool :=
  (t.tag == .str || t.tag == .ident) &&
  match evalStringLit t.text with
  | .ok k => !mutatingName k
  | .error _ => true

mutual
/-- `e.readOnly calls`: no assignment (`=`, hence no compound assignment: the parser rewrites
    `a op= b` to `a = a op b`), no `++`/`--`, and
    * `calls = false`: no call at all;
    * `calls = true`: only calls whose callee is syntactically a member access with a literal
      name other than push/pop/popfirst. -/
def Expr.readOnly (k : Bool) : Expr → Bool
  | .lit _ => true
  | .ident _ => true
  | .arr _ items => roEs k items
  | .obj _ items => roKVs k items
  | .unary e op _ => !(op.tag == .plusPlus) && !(op.tag == .minusMinus) && Expr.readOnly k e
  | .binary l r op => !(op.tag == .equal) && Expr.readOnly k l && Expr.readOnly k r
  | .call (.binary recv (.lit t) op) args =>
    k && (op.tag == .dot || op.tag == .lsquare) && safeKey t && Expr.readOnly k recv && roEs k args
  | .call _ _ => false
  | .match_ _ v cases => Expr.readOnly k v && roCases k cases
def roEs (k : Bool) : List Expr → Bool
  | [] => true
  | e :: es => Expr.readOnly k e && roEs k es
def roKVs (k : Bool) : List (Bytes × Expr) → Bool
  | [] => true
  | (_, e) :: es => Expr.readOnly k e && roKVs k es
/-- patterns are never a problem: only literals in them are evaluated -/
def roCases (k : Bool) : List MatchCase → Bool
  | [] => true
  | (.mk _ body) :: cs => Stmt.readOnly k body && roCases k cs
/-- statements: `for … in` assigns its loop variables, everything else is as good as its parts
    (`print` writes output, `return` sets the return slot: neither is part of any value) -/
def Stmt.readOnly (k : Bool) : Stmt → Bool
  | .block _ body => roSs k body
  | .print _ args => roEs k args
  | .expr e => Expr.readOnly k e
  | .ret none => true
  | .ret (some e) => Expr.readOnly k e
  | .brk _ => true
  | .cont _ => true
  | .next _ => true
  | .exit _ => true
  | .if_ c b none => Expr.readOnly k c && Stmt.readOnly k b
  | .if_ c b (some e) => Expr.readOnly k c && Stmt.readOnly k b && Stmt.readOnly k e
  | .while_ c b => Expr.readOnly k c && Stmt.readOnly k b
  | .for_ pre c post b => Expr.readOnly k pre && Expr.readOnly k c && Expr.readOnly k post && Stmt.readOnly k b
  | .forIn _ _ _ _ => false
def roSs (k : Bool) : List Stmt → Bool
  | [] => true
  | s :: ss => Stmt.readOnly k s && roSs k ss
end

/-- every function body of the program is read-only (needed when calls are allowed: a member
    of an object may hold a function value, and then `o.name(…)` runs that function) -/
def Program.FnsRO (prog : Program) : Prop :=
  ∀ f ∈ prog.functions, Stmt.readOnly true f.body = true

/-- `h'` is `h` plus allocations: every cell keeps its value (an unset cell stays unset),
    every array keeps its cells, every object its members. -/
structure HeapPreserved (h h' : Heap) : Prop where
  cells : h.cells.size ≤ h'.cells.size
  arrs : h.arrs.size ≤ h'.arrs.size
  objs : h.objs.size ≤ h'.objs.size
  get : ∀ c, c < h.cells.size → h'.get c = h.get c
  arr : ∀ a, a < h.arrs.size → h'.arr a = h.arr a
  obj : ∀ o, o < h.objs.size → h'.obj o = h.obj o

theorem Heap.lt_of_get_ne_unknown (h : Heap) (c : CellId) (hne : h.get c ≠ .unknown) :
    c < h.cells.size :=
  Classical.byContradiction fun hc => hne (Heap.get_of_not_valid h c hc)

namespace HeapPreserved

theorem refl (h : Heap) : HeapPreserved h h :=
  ⟨Nat.le_refl _, Nat.le_refl _, Nat.le_refl _, fun _ _ => rfl, fun _ _ => rfl, fun _ _ => rfl⟩

theorem trans {a b c : Heap} (h1 : HeapPreserved a b) (h2 : HeapPreserved b c) :
    HeapPreserved a c := by
  refine ⟨Nat.le_trans h1.cells h2.cells, Nat.le_trans h1.arrs h2.arrs,
    Nat.le_trans h1.objs h2.objs, ?_, ?_, ?_⟩
  · intro x hx
    rw [h2.get x (Nat.lt_of_lt_of_le hx h1.cells), h1.get x hx]
  · intro x hx
    rw [h2.arr x (Nat.lt_of_lt_of_le hx h1.arrs), h1.arr x hx]
  · intro x hx
    rw [h2.obj x (Nat.lt_of_lt_of_le hx h1.objs), h1.obj x hx]

/-- a cell that holds a value is allocated, hence keeps it -/
theorem get_of_ne {h h' : Heap} (p : HeapPreserved h h') (c : CellId)
    (hne : h.get c ≠ .unknown) : h'.get c = h.get c :=
  p.get c (Heap.lt_of_get_ne_unknown h c hne)

theorem alloc (h : Heap) (v : Val) : HeapPreserved h (h.alloc v).2 :=
  ⟨by simp [Heap.alloc], Nat.le_refl _, Nat.le_refl _,
   fun c hc => Heap.get_push_old h v c hc, fun _ _ => rfl, fun _ _ => rfl⟩

theorem allocArr (h : Heap) (x : Array CellId) : HeapPreserved h (h.allocArr x).2 :=
  ⟨Nat.le_refl _, by simp [Heap.allocArr], Nat.le_refl _, fun _ _ => rfl,
   fun a ha => Heap.arr_allocArr_old h x a (Nat.ne_of_lt ha), fun _ _ => rfl⟩

theorem allocObj (h : Heap) (x : List (Bytes × CellId)) : HeapPreserved h (h.allocObj x).2 :=
  ⟨Nat.le_refl _, Nat.le_refl _, by simp [Heap.allocObj], fun _ _ => rfl, fun _ _ => rfl,
   fun o ho => Heap.obj_allocObj_old h x o (Nat.ne_of_lt ho)⟩

theorem allocMany (h : Heap) (vs : List Val) : HeapPreserved h (h.allocMany vs) :=
  ⟨by simp [Heap.allocMany], Nat.le_refl _, Nat.le_refl _,
   fun c hc => Heap.get_allocMany_old h vs c hc, fun _ _ => rfl, fun _ _ => rfl⟩

end HeapPreserved

theorem HeapPreserved.alloc_set (h : Heap) (x w : Val) :
    HeapPreserved h ((h.alloc x).2.set h.cells.size w) := by
  refine ⟨?_, Nat.le_refl _, Nat.le_refl _, ?_, fun _ _ => rfl, fun _ _ => rfl⟩
  · rw [Heap.size_set]; simp [Heap.alloc]
  · intro c hc
    rw [Heap.get_set_ne' _ _ _ _ (Nat.ne_of_lt hc)]
    exact Heap.get_push_old h x c hc

/-- every member of every object is an allocated cell (the `objs` half of `Heap.WF`) -/
def ObjsInRange (h : Heap) : Prop :=
  ∀ o k c, objLookup (h.obj o) k = some c → c < h.cells.size

/-- side invariant, needed only when calls are allowed -/
def Inv (k : Bool) (h : Heap) : Prop := k = true → ObjsInRange h

theorem Inv.same_objs {k : Bool} {h h' : Heap} (i : Inv k h) (ho : h'.objs = h.objs)
    (hc : h.cells.size ≤ h'.cells.size) : Inv k h' := by
  intro hk o key c hl
  have : h'.obj o = h.obj o := by simp [Heap.obj, ho]
  rw [this] at hl
  exact Nat.lt_of_lt_of_le (i hk o key c hl) hc

theorem Inv.push_obj {k : Bool} {h : Heap} (i : Inv k h) (m : List (Bytes × CellId))
    (hm : ∀ key c, objLookup m key = some c → c < h.cells.size) : Inv k (h.allocObj m).2 := by
  intro hk o key c hl
  by_cases ho : o < h.objs.size
  · rw [Heap.obj_allocObj_old h m o (Nat.ne_of_lt ho)] at hl
    exact i hk o key c hl
  · by_cases ho' : o = h.objs.size
    · subst ho'
      have : (h.allocObj m).2.obj h.objs.size = m := by
        simp [Heap.allocObj, Heap.obj, Array.getD_eq_getD_getElem?]
      rw [this] at hl
      exact hm key c hl
    · have : (h.allocObj m).2.obj o = [] := by
        have : h.objs.size < o := Nat.lt_of_le_of_ne (Nat.le_of_not_lt ho) (Ne.symm ho')
        simp only [Heap.allocObj, Heap.obj, Array.getD_eq_getD_getElem?]
        rw [Array.getElem?_eq_none (by simp; exact this)]
        rfl
      rw [this] at hl
      simp [objLookup] at hl

def FramesPreserved (f f' : List Frame) : Prop :=
  ∀ name c, lookupFrames f name = some c → lookupFrames f' name = some c

/-- what a read-only evaluation guarantees about the state it ends in.  `fr = false` drops the
    clause about frames (used inside a pushed frame, which is discarded afterwards). -/
structure Rel (fr : Bool) (s s' : St) : Prop where
  heap : HeapPreserved s.heap s'.heap
  frames : fr = true → FramesPreserved s.frames s'.frames
  root : s'.root = s.root
  ruleRoot : s'.ruleRoot = s.ruleRoot

theorem Rel.refl (fr : Bool) (s : St) : Rel fr s s :=
  ⟨HeapPreserved.refl _, fun _ _ _ h => h, rfl, rfl⟩

theorem Rel.trans {fr : Bool} {a b c : St} (h1 : Rel fr a b) (h2 : Rel fr b c) : Rel fr a c :=
  ⟨h1.heap.trans h2.heap, fun e n x hx => h2.frames e n x (h1.frames e n x hx),
   h2.root.trans h1.root, h2.ruleRoot.trans h1.ruleRoot⟩

theorem Rel.weaken {fr : Bool} {a b : St} (h : Rel fr a b) : Rel false a b :=
  ⟨h.heap, (fun e => by cases e), h.root, h.ruleRoot⟩

theorem Rel.heapOnly {fr : Bool} (s : St) (h' : Heap) (hp : HeapPreserved s.heap h') :
    Rel fr s { s with heap := h' } := ⟨hp, fun _ _ _ h => h, rfl, rfl⟩

def Good (k fr : Bool) (s s' : St) : Prop := Inv k s.heap → Rel fr s s' ∧ Inv k s'.heap

theorem Good.refl (k fr : Bool) (s : St) : Good k fr s s := fun i => ⟨Rel.refl fr s, i⟩

theorem Good.trans {k fr : Bool} {a b c : St} (h1 : Good k fr a b) (h2 : Good k fr b c) :
    Good k fr a c := fun i =>
  let ⟨r1, i1⟩ := h1 i
  let ⟨r2, i2⟩ := h2 i1
  ⟨r1.trans r2, i2⟩

theorem Good.weaken {k fr : Bool} {a b : St} (h : Good k fr a b) : Good k false a b := fun i =>
  let ⟨r1, i1⟩ := h i
  ⟨r1.weaken, i1⟩

def QR {α : Type} (k fr : Bool) (s : St) : Res α → Prop
  | .ok _ s' => Good k fr s s'
  | .err _ s' => Good k fr s s'
  | .oof => True

theorem QR.trans {α : Type} {k fr : Bool} {s s1 : St} {r : Res α} (hg : Good k fr s s1)
    (h : QR k fr s1 r) : QR k fr s r := by
  cases r with
  | ok a s' => exact hg.trans h
  | err e s' => exact hg.trans h
  | oof => trivial

theorem QR.weaken {α : Type} {k fr : Bool} {s : St} {r : Res α} (h : QR k fr s r) : QR k false s r := by
  cases r with
  | ok a s' => exact Good.weaken h
  | err e s' => exact Good.weaken h
  | oof => trivial

def Pres {α : Type} (k fr : Bool) (m : EM α) : Prop := ∀ s, QR k fr s (m s)

theorem QR.bind {α β : Type} {k fr : Bool} {s : St} {m : EM α} {f : α → EM β}
    (hm : QR k fr s (m s)) (hf : ∀ a, Pres k fr (f a)) : QR k fr s ((m >>= f) s) := by
  show QR k fr s (EM.bind m f s)
  unfold EM.bind
  cases hr : m s with
  | ok a s1 => rw [hr] at hm; exact QR.trans hm (hf a s1)
  | err e s1 => rw [hr] at hm; exact hm
  | oof => trivial

theorem EM.bind_assoc' {α β γ : Type} (m : EM α) (f : α → EM β) (g : β → EM γ) :
    (m >>= fun a => f a >>= g) = ((m >>= f) >>= g) := by
  funext s
  show EM.bind m (fun a => EM.bind (f a) g) s = EM.bind (EM.bind m f) g s
  unfold EM.bind
  cases m s <;> rfl

namespace Pres

variable {k fr : Bool}

theorem weaken {α : Type} {m : EM α} (h : Pres k fr m) : Pres k false m := fun s => (h s).weaken

theorem pure {α : Type} (a : α) : Pres k fr (Pure.pure a : EM α) := fun s => Good.refl k fr s

theorem bind {α β : Type} {m : EM α} {f : α → EM β} (hm : Pres k fr m) (hf : ∀ a, Pres k fr (f a)) :
    Pres k fr (m >>= f) := fun s => QR.bind (hm s) hf

theorem oof {α : Type} : Pres k fr (Jqawk.oof : EM α) := fun _ => trivial
theorem getSt : Pres k fr Jqawk.getSt := fun s => Good.refl k fr s
theorem getHeap : Pres k fr Jqawk.getHeap := fun s => Good.refl k fr s
theorem readCell (c : CellId) : Pres k fr (Jqawk.readCell c) := fun s => Good.refl k fr s
theorem throwSig {α : Type} (g : Sig) : Pres k fr (Jqawk.throwSig g : EM α) := fun s => Good.refl k fr s
theorem throwPanic {α : Type} (m : String) : Pres k fr (Jqawk.throwPanic m : EM α) :=
  fun s => Good.refl k fr s
theorem throwUnmodelled {α : Type} (m : String) : Pres k fr (Jqawk.throwUnmodelled m : EM α) :=
  fun s => Good.refl k fr s

theorem throwRt {α : Type} (p : Nat) (m : String) : Pres k fr (Jqawk.throwRt p m : EM α) :=
  fun _ i => ⟨⟨HeapPreserved.refl _, fun _ _ _ h => h, rfl, rfl⟩, i⟩

theorem liftExcept {α : Type} (p : Nat) (e : Except String α) : Pres k fr (Jqawk.liftExcept p e) := by
  cases e with
  | ok a => exact pure a
  | error m => exact throwRt p m

theorem newCell (v : Val) : Pres k fr (Jqawk.newCell v) := fun s i =>
  ⟨Rel.heapOnly s _ (HeapPreserved.alloc s.heap v), i.same_objs rfl (HeapPreserved.alloc s.heap v).cells⟩

theorem allocArrM (items : Array CellId) : Pres k fr (Jqawk.allocArrM items) := fun s i =>
  ⟨Rel.heapOnly s _ (HeapPreserved.allocArr s.heap items), i.same_objs rfl (Nat.le_refl _)⟩

/-- the empty object is always fine; a non-empty one needs its members in range (`Inv.push_obj`) -/
theorem allocObjM_nil : Pres k fr (Jqawk.allocObjM []) := fun s i =>
  ⟨Rel.heapOnly s _ (HeapPreserved.allocObj s.heap []), i.push_obj [] (by simp [objLookup])⟩

theorem emit (b : Bytes) : Pres k fr (Jqawk.emit b) := fun _ i =>
  ⟨⟨HeapPreserved.refl _, fun _ _ _ h => h, rfl, rfl⟩, i⟩

theorem setReturnVal (c : Option CellId) :
    Pres k fr (Jqawk.modifySt fun s => { s with returnVal := c }) := fun _ i =>
  ⟨⟨HeapPreserved.refl _, fun _ _ _ h => h, rfl, rfl⟩, i⟩

/-- binding a local: nothing but the innermost frame changes (so: `fr = false`) -/
theorem setLocal (name : Bytes) (c : CellId) : Pres k false (Jqawk.setLocal name c) := by
  intro s
  unfold Jqawk.setLocal
  cases hf : s.frames with
  | nil => exact Good.refl k false s
  | cons f fs => exact fun i => ⟨⟨HeapPreserved.refl _, (fun e => by cases e), rfl, rfl⟩, i⟩

end Pres


theorem lookupFrames_setLocal (f : Frame) (fs : List Frame) (name : Bytes) (c : CellId) (name' : Bytes) :
    lookupFrames ({ f with locals := objInsert f.locals name c } :: fs) name' =
      if name = name' then some c else lookupFrames (f :: fs) name' := by
  simp only [lookupFrames, objLookup_objInsert]
  by_cases e : name = name'
  · simp [e]
  · simp [e]

theorem newCell_setLocal_eq (v : Val) (name : Bytes) (s : St) :
    (Jqawk.newCell v >>= fun c => Jqawk.setLocal name c >>= fun _ => (Pure.pure (Except.ok c) : EM (Except String CellId))) s =
      match s.frames with
      | [] => .err (.panic "no frame") { s with heap := (s.heap.alloc v).2 }
      | f :: fs => .ok (.ok s.heap.cells.size)
          { s with heap := (s.heap.alloc v).2,
                   frames := { f with locals := objInsert f.locals name s.heap.cells.size } :: fs } := by
  cases hf : s.frames <;>
    simp [bind, EM.bind, Jqawk.newCell, Jqawk.setLocal, hf, pure, EM.pure, Heap.alloc]

namespace Pres

variable {k fr : Bool}

theorem withSt {α : Type} {f : St → EM α} (h : ∀ s, QR k fr s (f s s)) : Pres k fr (Jqawk.getSt >>= f) :=
  fun s => h s

/-- `getVariable`: an unknown name gets a fresh unset cell in the innermost frame; no existing
    binding changes -/
theorem getVariable (name : Bytes) : Pres k fr (Jqawk.getVariable name) := by
  unfold Jqawk.getVariable
  apply withSt
  intro s
  cases hl : lookupFrames s.frames name with
  | some c => exact Good.refl k fr s
  | none =>
    dsimp only
    split
    · exact Good.refl k fr s
    · rw [newCell_setLocal_eq]
      cases hf : s.frames with
      | nil =>
        exact fun i => ⟨⟨HeapPreserved.alloc s.heap _, fun _ n c h => by rw [hf] at h; exact h, rfl, rfl⟩,
          i.same_objs rfl (HeapPreserved.alloc s.heap .unknown).cells⟩
      | cons f fs =>
        refine fun i => ⟨⟨HeapPreserved.alloc s.heap _, ?_, rfl, rfl⟩,
          i.same_objs rfl (HeapPreserved.alloc s.heap .unknown).cells⟩
        intro _ name' c' hc'
        simp only [hf] at hc' ⊢
        rw [lookupFrames_setLocal]
        split
        · rename_i e; subst e; rw [hf] at hl; rw [hl] at hc'; cases hc'
        · exact hc'

theorem bindAll (l : List (Bytes × CellId)) : Pres k false (Jqawk.bindAll l) := by
  induction l with
  | nil => exact pure ()
  | cons kv rest ih =>
    obtain ⟨key, c⟩ := kv
    exact bind (setLocal key c) (fun _ => ih)

theorem bindParams (ps : List Bytes) (as : List Val) : Pres k false (Jqawk.bindParams ps as) := by
  induction ps generalizing as with
  | nil => exact pure ()
  | cons p ps ih =>
    cases as with
    | nil => exact bind (newCell _) (fun c => bind (setLocal _ _) (fun _ => ih []))
    | cons a as => exact bind (newCell _) (fun c => bind (setLocal _ _) (fun _ => ih as))

theorem allocCells (vs : List Val) : Pres k fr (Jqawk.allocCells vs) := by
  induction vs with
  | nil => exact pure []
  | cons v vs ih => exact bind (newCell v) (fun c => bind ih (fun cs => pure _))

theorem newArrayOf (vs : List Val) : Pres k fr (Jqawk.newArrayOf vs) := by
  intro s
  rw [newArrayOf_eq]
  exact fun i => ⟨Rel.heapOnly s _ ((HeapPreserved.allocMany s.heap vs).trans
      (HeapPreserved.allocArr (s.heap.allocMany vs) _)),
    i.same_objs rfl (HeapPreserved.allocMany s.heap vs).cells⟩

/-- a value copied into a cell allocated for it: `NewCell(…)` followed by `copyValue(v, cell)` -/
theorem newCopy0 (x : Val) (v : CellId) :
    Pres k fr (Jqawk.newCell x >>= fun c => Jqawk.copyValue v c) := by
  intro s
  simp only [Bind.bind, EM.bind, Jqawk.newCell, Heap.alloc, Jqawk.copyValue, Jqawk.readCell]
  cases copyVal (Heap.get { cells := s.heap.cells.push x, arrs := s.heap.arrs, objs := s.heap.objs } v) with
  | ok w =>
    exact fun i => ⟨Rel.heapOnly s _ (HeapPreserved.alloc_set s.heap x w),
      i.same_objs rfl (HeapPreserved.alloc_set s.heap x w).cells⟩
  | error m =>
    exact fun i => ⟨Rel.heapOnly s _ (HeapPreserved.alloc s.heap x),
      i.same_objs rfl (HeapPreserved.alloc s.heap x).cells⟩

theorem newCopy {α : Type} (x : Val) (v : CellId) {K : Except String CellId → EM α}
    (hK : ∀ r, Pres k fr (K r)) :
    Pres k fr (Jqawk.newCell x >>= fun c => Jqawk.copyValue v c >>= K) := by
  rw [EM.bind_assoc']
  intro s
  exact QR.bind (newCopy0 x v s) hK

end Pres


namespace Pres

variable {k fr : Bool}

theorem readThen {α : Type} (c : CellId) {f : Val → EM α}
    (h : ∀ s, QR k fr s (f (s.heap.get c) s)) : Pres k fr (Jqawk.readCell c >>= f) := fun s => h s

theorem kind_unknown {v : Val} (h : (v.kind == Kind.unknown) = true) : v = .unknown := by
  cases v <;> simp [Val.kind] at h ⊢

/-- **the member / index step** only allocates: a missing member — and every member of an unset
    base — is NOT created; the result is a fresh cell that only remembers parent and key -/
theorem memberStep (pos : Nat) (left right : CellId) : Pres k fr (Jqawk.memberStep pos left right) := by
  unfold Jqawk.memberStep
  refine bind (readCell _) (fun rv => bind (readCell _) (fun lv => ?_))
  split
  · exact newCell _
  · refine bind getHeap (fun h => ?_)
    split
    case h_1 => exact throwRt _ _ -- `getMember` fails (`h_k`: the k-th alternative of the `match`)
    case h_6 => -- a live cell
      split
      · exact newCell _
      · exact pure _
    all_goals exact newCell _

theorem pluck (args : List Val) (this : Option Val) :
    Pres k fr (Jqawk.callNative .objPluck args this) := by
  by_cases ho : ∃ o, this = some (.obj o)
  · obtain ⟨o, rfl⟩ := ho
    intro s
    rw [callNative_objPluck]
    split
    · exact Good.refl k fr s
    · rename_i kvs _
      intro i
      have i1 : Inv k (s.heap.allocMany (kvs.map (·.2))) :=
        i.same_objs rfl (HeapPreserved.allocMany s.heap _).cells
      -- the members are stated explicitly: left to unification this step is slow
      have i2 := i1.push_obj
        (pluckMembers ((kvs.map (·.1)).zip (List.range' s.heap.cells.size kvs.length)) []) (by
          apply objLookup_pluckMembers_inv (fun _ c => c < (s.heap.allocMany (kvs.map (·.2))).cells.size)
          · intro key c hl; simp [objLookup] at hl
          · intro kc hkc
            have := (List.of_mem_zip hkc).2
            rw [List.mem_range'_1] at this
            simp [Heap.allocMany]
            exact this.2)
      exact ⟨Rel.heapOnly s _ ((HeapPreserved.allocMany s.heap _).trans (HeapPreserved.allocObj _ _)), i2⟩
  · unfold Jqawk.callNative
    refine bind getHeap (fun h => ?_)
    dsimp only
    split
    · rename_i o; exact absurd ⟨o, rfl⟩ ho
    · exact pure _

/-- a native that is not push/pop/popfirst, or whose receiver is not an array, only allocates
    (and `printf` writes output) -/
theorem callNative (f : Native) (args : List Val) (this : Option Val)
    (hok : f.mutating = false ∨ ∀ a, this ≠ some (.arr a)) :
    Pres k fr (Jqawk.callNative f args this) := by
  by_cases hp : f = .objPluck
  · subst hp; exact pluck args this
  · have hne : f.mutating = true → ∀ a, this ≠ some (.arr a) := by
      intro hm; rcases hok with h | h
      · rw [hm] at h; cases h
      · exact h
    unfold Jqawk.callNative
    apply bind getHeap
    intro h
    -- `split`, not `cases f`: that would simplify the whole match once more in each of the 18 cases
    split
    case h_11 => exact absurd rfl hp -- pluck (`h_k`: the k-th alternative of `callNative`'s `match`)
    case h_5 | h_6 | h_7 => -- push, pop, popfirst
      split
      · rename_i a; exact absurd rfl (hne rfl a)
      · exact pure _
    -- the remaining natives compute a scalar or allocate a new array (`printf` writes output)
    all_goals repeat' first
      | dsimp only
      | split
      | exact pure _
      | exact oof
      | exact throwUnmodelled _
      | exact bind (emit _) (fun _ => pure _)
      | exact bind (newArrayOf _) (fun _ => pure _)

theorem handle {α β : Type} {m : EM α} {onOk : α → EM β} {onSig : Sig → Option (EM β)}
    (hm : Pres k fr m) (hok : ∀ a, Pres k fr (onOk a))
    (hsig : ∀ g kk, onSig g = some kk → Pres k fr kk) : Pres k fr (Jqawk.handle m onOk onSig) := by
  intro s
  unfold Jqawk.handle
  have h := hm s
  cases hr : m s with
  | ok a s1 => rw [hr] at h; exact QR.trans h (hok a s1)
  | err e s1 =>
    rw [hr] at h
    cases e with
    | sig g =>
      dsimp only
      cases hg : onSig g with
      | some kk => exact QR.trans h (hsig g kk hg s1)
      | none => exact h
    | _ => exact h
  | oof => trivial

theorem loopIter {body kk : EM Unit} (hb : Pres k fr body) (hk : Pres k fr kk) :
    Pres k fr (Jqawk.loopIter body kk) := by
  rw [loopIter_eq_handle]
  refine handle hb (fun _ => hk) (fun g k' hg => ?_)
  cases g <;> cases hg <;> first | exact pure _ | exact hk

theorem catchReturn {body : EM Unit} (hb : Pres k fr body) : Pres k fr (Jqawk.catchReturn body) := by
  rw [catchReturn_eq_handle]
  refine handle hb (fun _ => pure _) (fun g k' hg => ?_)
  cases g <;> cases hg
  exact fun s => Good.refl k fr s

/-- whatever the body did to its own frame is gone afterwards -/
theorem framed {α : Type} (name : Bytes) (pos : Nat) (body : EM α) (hb : Pres k false body) :
    Pres k fr (Jqawk.framed name pos body) := by
  intro s
  rw [framed_eq]
  split
  · exact throwRt pos _ s
  · have h := hb { s with frames := ⟨name, []⟩ :: s.frames,
                          maxDepth := max s.maxDepth (s.frames.length + 1) }
    have fix : ∀ s0 s1 : St, Good k false s0 s1 → s0.heap = s.heap → s0.root = s.root →
        s0.ruleRoot = s.ruleRoot → Good k fr s { s1 with frames := s.frames } := by
      intro s0 s1 hg e1 e2 e3 i
      obtain ⟨r, i1⟩ := hg (e1 ▸ i)
      exact ⟨⟨e1 ▸ r.heap, fun _ _ _ hx => hx, r.root.trans e2, r.ruleRoot.trans e3⟩, i1⟩
    unfold Jqawk.withFrames
    split
    · rename_i hr; rw [hr] at h; exact fix _ _ h rfl rfl rfl
    · rename_i hr; rw [hr] at h; exact fix _ _ h rfl rfl rfl
    · trivial

theorem getIdentifier (prog : Program) (t : Token) : Pres k fr (Jqawk.getIdentifier prog t) := by
  unfold Jqawk.getIdentifier
  split
  · refine bind getSt (fun s => ?_)
    split
    · exact pure _
    · exact throwRt _ _
  · refine bind (getVariable _) (fun r => ?_)
    split
    · exact pure _
    · exact throwRt _ _

/-! Parts of evaluator functions that contain no recursive call; `allRO_succ` and `allP_succ`
    (Lemmas/CopyShare.lean) share them. -/

/-- an element of `evalExprList`: copied into a fresh cell, or passed on as it is -/
theorem copyArg (copy : Bool) (v : CellId) (pos : Nat) :
    Pres k fr (if copy then do
        let fresh ← Jqawk.newCell (.str [] none)
        match (← Jqawk.copyValue v fresh) with
        | .error m => Jqawk.throwRt pos m
        | .ok c => Pure.pure c
      else Pure.pure v : EM CellId) := by
  split
  · refine newCopy _ _ (fun r => ?_)
    split
    · exact throwRt _ _
    · exact pure _
  · exact pure _

/-- what `print` does once its arguments are evaluated -/
theorem printTail (cells : List CellId) :
    Pres k fr (do
      let s ← Jqawk.getSt
      if cells.isEmpty then
        match s.ruleRoot with
        | none => Jqawk.throwPanic "print without a rule root"
        | some c =>
          match prettyTop s.heap (s.heap.get c) with
          | none => Jqawk.oof
          | some r => Jqawk.emit (r ++ [10])
      else
        match cells.mapM (fun c => prettyTop s.heap (s.heap.get c)) with
        | none => Jqawk.oof
        | some parts => Jqawk.emit (joinSep [32] parts ++ [10])) := by
  refine bind getSt (fun s => ?_)
  split
  · split
    · exact throwPanic _
    · split
      · exact oof
      · exact emit _
  · split
    · exact oof
    · exact emit _

/-- a binary operator other than `&&`, `||`, `is` and `=`, once both operands are evaluated -/
theorem binaryTail {l r : Expr} {op : Token} {left right : CellId}
    (hop : (op.tag == Tag.equal) = false) :
    Pres k fr (match op.tag with
      | .lsquare | .dot => Jqawk.memberStep l.token.pos left right
      | .equal => Jqawk.evalAssignment l.token.pos left right
      | t =>
        if isCompareOp t || isArithOp t || t == .tilde || t == .bangTilde then do
          match binaryOp t (← Jqawk.readCell left) (← Jqawk.readCell right) with
          | .val v => Jqawk.newCell v
          | .err atRight m =>
            Jqawk.throwRt (if atRight then r.token.pos
                     else if isCompareOp t then l.token.pos else op.pos) m
          | .unmodelled why => Jqawk.throwUnmodelled why
        else Jqawk.throwRt op.pos "unknown operator") := by
  split
  · exact memberStep _ _ _
  · exact memberStep _ _ _
  · rename_i heq; rw [heq] at hop; cases hop
  · split
    · refine bind (readCell _) (fun lv => bind (readCell _) (fun rv => ?_))
      split
      · exact newCell _
      · exact throwRt _ _
      · exact throwUnmodelled _
    · exact throwRt _ _

end Pres


/-- what evaluating the callee of a read-only call guarantees about the cell it yields: it is
    allocated, and if it holds a native function, that is not push/pop/popfirst or its receiver
    is (and stays) something other than an array -/
def CalleeOK (h : Heap) (c : CellId) : Prop :=
  c < h.cells.size ∧ ∀ f b sp, h.get c = .native f b sp →
    f.mutating = false ∨ ∀ bc, b = some bc → h.get bc ≠ .unknown ∧ ∀ a, h.get bc ≠ .arr a



/-- `memberStep` on a base that is set -/
def memberRead (pos : Nat) (left : CellId) (rv : Val) : EM CellId := do
  let lv ← readCell left
  let h ← getHeap
  match getMember h lv rv with
  | .error m => throwRt pos m
  | .ok .missing =>
    let key : Key := match rv with
      | .num x => .num x
      | _ => .str rv.str!
    newCell (.nil (some ⟨left, key⟩))
  | .ok (.method f) => newCell (.native f (some left) (some ⟨left, .str rv.str!⟩))
  | .ok (.char none x) => newCell (.nil (some ⟨left, .num x⟩))
  | .ok (.char (some ch) x) => newCell (.str ch (some ⟨left, .num x⟩))
  | .ok (.cell c) =>
    match h.get c with
    | .native f _ _ => newCell (.native f (some left) (some ⟨left, .str rv.str!⟩))
    | _ => return c

theorem memberStep_str (pos : Nat) (left right : CellId) (s : St) (key : Bytes) (sp : Option SpecRef)
    (hr : s.heap.get right = .str key sp) :
    memberStep pos left right s =
      if s.heap.get left = .unknown then
        Jqawk.newCell (.nil (some ⟨left, .str key⟩)) s
      else memberRead pos left (.str key sp) s := by
  unfold memberStep memberRead
  by_cases hu : s.heap.get left = .unknown
  · simp only [bind, EM.bind, readCell, hr, hu, Val.kind, ↓reduceIte, beq_self_eq_true, Val.str!]
  · have hk : ((s.heap.get left).kind == Kind.unknown) = false := by
      cases hv : s.heap.get left <;> simp_all [Val.kind]
    simp only [bind, EM.bind, readCell, hr, hu, hk, getHeap, ↓reduceIte, Bool.false_eq_true, pure]
    rfl

theorem proto_nonmutating (key : Bytes) (f : Native) (hm : mutatingName key = false)
    (h : arrayProto key = some f ∨ objProto key = some f ∨ strProto key = some f ∨ numProto key = some f) :
    f.mutating = false := by
  simp only [mutatingName, Bool.or_eq_false_iff] at hm
  obtain ⟨⟨h1, h2⟩, h3⟩ := hm
  rcases h with h | h | h | h
  · simp only [arrayProto, h1, h2, h3, Bool.false_eq_true, ↓reduceIte] at h
    repeat' split at h
    all_goals first | (cases h; done) | (cases h; rfl)
  · simp only [objProto] at h
    repeat' split at h
    all_goals first | (cases h; done) | (cases h; rfl)
  · simp only [strProto] at h
    repeat' split at h
    all_goals first | (cases h; done) | (cases h; rfl)
  · simp only [numProto] at h
    repeat' split at h
    all_goals first | (cases h; done) | (cases h; rfl)

theorem protoGet_cases (tbl : Bytes → Option Native) (m : Val) :
    (∃ f, protoGet tbl m = .ok (.method f)) ∨ protoGet tbl m = .ok .missing ∨
      ∃ e, protoGet tbl m = .error e := by
  unfold protoGet
  split
  · cases tbl _ with
    | some f => exact .inl ⟨f, rfl⟩
    | none => exact .inr (.inl rfl)
  · cases tbl _ with
    | some f => exact .inl ⟨f, rfl⟩
    | none => exact .inr (.inl rfl)
  · exact .inr (.inr ⟨_, rfl⟩)

theorem protoGet_not_cell (tbl : Bytes → Option Native) (m : Val) (c : CellId) :
    protoGet tbl m ≠ .ok (.cell c) := by
  intro h
  rcases protoGet_cases tbl m with ⟨f, e⟩ | e | ⟨e', e⟩ <;> rw [e] at h <;> cases h

theorem getMember_str (h : Heap) (lv : Val) (key : Bytes) (sp : Option SpecRef) (m : Member)
    (hg : getMember h lv (.str key sp) = .ok m) :
    m = .missing ∨
    (∃ f, m = .method f ∧ (arrayProto key = some f ∨ objProto key = some f ∨ strProto key = some f ∨
      numProto key = some f)) ∨
    (∃ o c, lv = .obj o ∧ m = .cell c ∧ objLookup (h.obj o) key = some c) := by
  have hp : ∀ tbl, protoGet tbl (.str key sp) = .ok m →
      m = .missing ∨ ∃ f, m = .method f ∧ tbl key = some f := by
    intro tbl hp
    simp only [protoGet, Val.str!] at hp
    split at hp
    · rename_i f hf; cases hp; exact .inr ⟨f, rfl, hf⟩
    · cases hp; exact .inl rfl
  cases lv with
  | arr a =>
    simp only [getMember] at hg
    rcases hp _ hg with h | ⟨f, h1, h2⟩
    · exact .inl h
    · exact .inr (.inl ⟨f, h1, .inl h2⟩)
  | obj o =>
    simp only [getMember, Val.str!] at hg
    split at hg
    · rename_i c hc; cases hg; exact .inr (.inr ⟨o, c, rfl, rfl, hc⟩)
    · rcases hp _ hg with h | ⟨f, h1, h2⟩
      · exact .inl h
      · exact .inr (.inl ⟨f, h1, .inr (.inl h2)⟩)
  | str s0 sp0 =>
    simp only [getMember] at hg
    rcases hp _ hg with h | ⟨f, h1, h2⟩
    · exact .inl h
    · exact .inr (.inl ⟨f, h1, .inr (.inr (.inl h2))⟩)
  | num x =>
    simp only [getMember] at hg
    rcases hp _ hg with h | ⟨f, h1, h2⟩
    · exact .inl h
    · exact .inr (.inl ⟨f, h1, .inr (.inr (.inr h2))⟩)
  | _ => simp only [getMember] at hg; cases hg; exact .inl rfl

theorem newCell_ok (v : Val) (s : St) (c : CellId) (s' : St) (h : Jqawk.newCell v s = .ok c s') :
    c = s.heap.cells.size ∧ s'.heap = (s.heap.alloc v).2 := by
  simp only [Jqawk.newCell, Heap.alloc, Res.ok.injEq] at h
  obtain ⟨rfl, rfl⟩ := h
  exact ⟨rfl, rfl⟩

theorem memberRead_callee (pos : Nat) (left : CellId) (key : Bytes) (sp : Option SpecRef) (s : St)
    (c : CellId) (s' : St) (hk : ObjsInRange s.heap) (hm : mutatingName key = false)
    (h : memberRead pos left (.str key sp) s = .ok c s') : CalleeOK s'.heap c := by
  unfold memberRead at h
  simp only [bind, EM.bind, readCell, getHeap] at h
  have fresh : ∀ v, Jqawk.newCell v s = .ok c s' →
      (∀ f b sp', v = .native f b sp' → f.mutating = false ∨
        (b = some left ∧ s.heap.get left ≠ .unknown ∧ ∀ a, s.heap.get left ≠ .arr a)) →
      CalleeOK s'.heap c := by
    intro v hn hv
    obtain ⟨rfl, e⟩ := newCell_ok v s c s' hn
    rw [e]
    refine ⟨by rw [Heap.size_alloc]; exact Nat.lt_succ_self _, ?_⟩
    intro f b sp' hget
    rw [Heap.get_alloc_new] at hget
    rcases hv f b sp' hget with h1 | ⟨rfl, h2, h3⟩
    · exact .inl h1
    · right
      intro bc hbc
      cases hbc
      rw [Heap.get_alloc_old _ _ _ (Heap.lt_of_get_ne_unknown _ _ h2)]
      exact ⟨h2, h3⟩
  cases hg : getMember s.heap (s.heap.get left) (.str key sp) with
  | error m => rw [hg] at h; simp [Jqawk.throwRt] at h
  | ok mem =>
    rw [hg] at h
    rcases getMember_str _ _ _ _ _ hg with rfl | ⟨f, rfl, hf⟩ | ⟨o, c0, hlv, rfl, hl⟩
    · exact fresh _ h (fun f b sp' e => by cases e)
    · refine fresh _ h (fun f' b sp' e => ?_)
      cases e
      exact .inl (proto_nonmutating key _ hm hf)
    · dsimp only at h
      have hc0 : c0 < s.heap.cells.size := hk o key c0 hl
      cases hv : s.heap.get c0 with
      | native f b0 sp0 =>
        rw [hv] at h
        refine fresh _ h (fun f' b sp' e => ?_)
        cases e
        right
        refine ⟨rfl, by rw [hlv]; simp, by rw [hlv]; simp⟩
      | _ =>
        rw [hv] at h
        simp only [pure, EM.pure, Res.ok.injEq] at h
        obtain ⟨rfl, rfl⟩ := h
        exact ⟨hc0, fun f b sp' e => by rw [hv] at e; cases e⟩


theorem CalleeOK.stable {h h' : Heap} {c : CellId} (hc : CalleeOK h c) (p : HeapPreserved h h') :
    CalleeOK h' c := by
  refine ⟨Nat.lt_of_lt_of_le hc.1 p.cells, ?_⟩
  intro f b sp hget
  rw [p.get c hc.1] at hget
  rcases hc.2 f b sp hget with h1 | h1
  · exact .inl h1
  · right
    intro bc hbc
    obtain ⟨h2, h3⟩ := h1 bc hbc
    rw [p.get_of_ne bc h2]
    exact ⟨h2, h3⟩

theorem evalExpr_lit_key (prog : Program) (n : Nat) (t : Token) (s : St) (hs : safeKey t = true) :
    evalExpr prog n (.lit t) s = .oof ∨
    (∃ p m, evalExpr prog n (.lit t) s = Jqawk.throwRt p m s) ∨
    (∃ key, mutatingName key = false ∧ evalExpr prog n (.lit t) s = Jqawk.newCell (.str key none) s) := by
  cases n with
  | zero => left; unfold evalExpr; rfl
  | succ n =>
    right
    unfold evalExpr
    simp only [safeKey, Bool.and_eq_true, Bool.or_eq_true, beq_iff_eq] at hs
    obtain ⟨htag, hkey⟩ := hs
    cases hk : evalStringLit t.text with
    | error m =>
      left
      refine ⟨t.pos, m, ?_⟩
      rcases htag with h | h <;> simp only [h, hk]
    | ok key =>
      right
      rw [hk] at hkey
      refine ⟨key, by simpa using hkey, ?_⟩
      rcases htag with h | h <;> simp only [h, hk]

theorem readOnly_lit (k : Bool) (t : Token) : Expr.readOnly k (.lit t) = true := by
  simp [Expr.readOnly]

theorem readOnly_ident (k : Bool) (t : Token) : Expr.readOnly k (.ident t) = true := by
  simp [Expr.readOnly]

/-! A second, state-level kit.  `Pres` and its rules suffice wherever nothing has to be known about
    a result; `QP` adds a claim about the value of a successful result in the state it is returned
    in (members in range for `objItems`, `CalleeOK` for the callee of a call), which a later step
    needs.  `QP.bind_left` / `QR.bind_of_QP` sequence across the two, `QR.readThen` / `QR.heapThen`
    expose what a read returns. -/

def QP {α : Type} (k fr : Bool) (s : St) (P : α → St → Prop) : Res α → Prop
  | .ok a s' => Inv k s.heap → Rel fr s s' ∧ Inv k s'.heap ∧ P a s'
  | .err _ s' => Good k fr s s'
  | .oof => True

theorem QR.of_inv {α : Type} {k fr : Bool} {s : St} {r : Res α} (h : Inv k s.heap → QR k fr s r) :
    QR k fr s r := by
  cases r with
  | ok a s' => exact fun i => h i i
  | err e s' => exact fun i => h i i
  | oof => trivial

theorem QP.trans {α : Type} {k fr : Bool} {s s1 : St} {P : α → St → Prop} {r : Res α}
    (hg : Good k fr s s1) (h : Inv k s.heap → Rel fr s s1 → Inv k s1.heap → QP k fr s1 P r) :
    QP k fr s P r := by
  cases r with
  | ok a s' =>
    intro i
    obtain ⟨r1, i1⟩ := hg i
    obtain ⟨r2, i2, p⟩ := h i r1 i1 i1
    exact ⟨r1.trans r2, i2, p⟩
  | err e s' =>
    intro i
    obtain ⟨r1, i1⟩ := hg i
    obtain ⟨r2, i2⟩ := h i r1 i1 i1
    exact ⟨r1.trans r2, i2⟩
  | oof => trivial

theorem QP.bind_left {α β : Type} {k fr : Bool} {s : St} {m : EM α} {f : α → EM β} {P : β → St → Prop}
    (hm : QR k fr s (m s))
    (hf : ∀ a s1, m s = .ok a s1 → Inv k s.heap → Rel fr s s1 → Inv k s1.heap → QP k fr s1 P (f a s1)) :
    QP k fr s P ((m >>= f) s) := by
  show QP k fr s P (EM.bind m f s)
  unfold EM.bind
  cases hr : m s with
  | ok a s1 => rw [hr] at hm; exact QP.trans hm (hf a s1 hr)
  | err e s1 => rw [hr] at hm; exact hm
  | oof => trivial

theorem QR.bind_of_QP {α β : Type} {k fr : Bool} {s : St} {m : EM α} {f : α → EM β} {P : α → St → Prop}
    (hm : QP k fr s P (m s)) (hf : ∀ a s1, P a s1 → QR k fr s1 (f a s1)) :
    QR k fr s ((m >>= f) s) := by
  show QR k fr s (EM.bind m f s)
  unfold EM.bind
  cases hr : m s with
  | ok a s1 =>
    rw [hr] at hm
    exact QR.of_inv (fun i => by
      obtain ⟨r1, i1, p⟩ := hm i
      exact QR.trans (fun _ => ⟨r1, i1⟩) (hf a s1 p))
  | err e s1 => rw [hr] at hm; exact hm
  | oof => trivial

theorem QR.readThen {α : Type} {k fr : Bool} {s : St} {c : CellId} {f : Val → EM α}
    (h : QR k fr s (f (s.heap.get c) s)) : QR k fr s ((Jqawk.readCell c >>= f) s) := h

theorem QR.heapThen {α : Type} {k fr : Bool} {s : St} {f : Heap → EM α}
    (h : QR k fr s (f s.heap s)) : QR k fr s ((Jqawk.getHeap >>= f) s) := h

theorem newCopy_eq (x : Val) (v : CellId) (s : St) :
    (Jqawk.newCell x >>= fun c => Jqawk.copyValue v c) s =
      match copyVal ((s.heap.alloc x).2.get v) with
      | .ok w => .ok (.ok s.heap.cells.size)
          { s with heap := (s.heap.alloc x).2.set s.heap.cells.size w }
      | .error m => .ok (.error m) { s with heap := (s.heap.alloc x).2 } := by
  simp only [bind, EM.bind, Jqawk.newCell, Jqawk.copyValue, Jqawk.readCell, Heap.alloc]
  cases copyVal (Heap.get { cells := s.heap.cells.push x, arrs := s.heap.arrs, objs := s.heap.objs } v) <;> rfl

theorem newCopy_ok (x : Val) (v : CellId) (s : St) (r : Except String CellId) (s' : St)
    (h : (Jqawk.newCell x >>= fun c => Jqawk.copyValue v c) s = .ok r s') :
    s.heap.cells.size < s'.heap.cells.size ∧ ∀ c, r = .ok c → c = s.heap.cells.size := by
  rw [newCopy_eq] at h
  split at h
  · simp only [Res.ok.injEq] at h
    obtain ⟨rfl, rfl⟩ := h
    refine ⟨?_, fun c e => by cases e; rfl⟩
    rw [Heap.size_set, Heap.size_alloc]; exact Nat.lt_succ_self _
  · simp only [Res.ok.injEq] at h
    obtain ⟨rfl, rfl⟩ := h
    refine ⟨?_, fun c e => by cases e⟩
    rw [Heap.size_alloc]; exact Nat.lt_succ_self _

theorem readOnly_call {k : Bool} {f : Expr} {args : List Expr}
    (h : Expr.readOnly k (.call f args) = true) :
    ∃ recv t op, f = .binary recv (.lit t) op ∧ k = true ∧ (op.tag = .dot ∨ op.tag = .lsquare) ∧
      safeKey t = true ∧ Expr.readOnly k recv = true ∧ roEs k args = true := by
  cases f with
  | binary l r op =>
    cases r with
    | lit t =>
      simp only [Expr.readOnly, Bool.and_eq_true, Bool.or_eq_true, beq_iff_eq] at h
      obtain ⟨⟨⟨⟨a, b⟩, c⟩, d⟩, e⟩ := h
      exact ⟨l, t, op, rfl, a, b, c, d, e⟩
    | _ => simp [Expr.readOnly] at h
  | _ => simp [Expr.readOnly] at h

theorem memberStep_callee {k fr : Bool} (hk : k = true) (pos : Nat) (left right : CellId) (s : St)
    (key : Bytes) (sp : Option SpecRef) (hr : s.heap.get right = .str key sp)
    (hm : mutatingName key = false) :
    QP k fr s (fun c s' => CalleeOK s'.heap c) (memberStep pos left right s) := by
  have hg := Pres.memberStep (k := k) (fr := fr) pos left right s
  cases hres : memberStep pos left right s with
  | oof => trivial
  | err e s' => rw [hres] at hg; exact hg
  | ok c s' =>
    rw [hres] at hg
    intro i
    obtain ⟨r, i'⟩ := hg i
    refine ⟨r, i', ?_⟩
    rw [memberStep_str pos left right s key sp hr] at hres
    split at hres
    · obtain ⟨rfl, e⟩ := newCell_ok _ s c s' hres
      rw [e]
      refine ⟨by rw [Heap.size_alloc]; exact Nat.lt_succ_self _, ?_⟩
      intro f b sp' hget
      rw [Heap.get_alloc_new] at hget
      cases hget
    · exact memberRead_callee pos left key sp s c s' (i hk) hm hres

/-- the induction hypothesis: `Pres` for each evaluator function on read-only syntax.
    * Every field quantifies over `fr`, because the body of a pushed frame is run with
      `fr = false` (`Pres.framed`) whatever the caller's `fr` is.
    * `objItems` alone carries a postcondition (`QP`): the members it returns are allocated cells,
      which `allocObjM` needs to keep `Inv` (`Inv.push_obj`).
    * `call` is about a callee cell that is `CalleeOK`: a native it holds is not push/pop/popfirst
      or is not bound to an array; `calleeE`/`calleeB` say that evaluating the callee expression of
      an allowed call yields such a cell (`calleeE` is `calleeB` after one unfolding of `evalExpr`).
    * There is no field for `forInLoop`: `for … in` assigns its loop variables and is excluded. -/
structure AllRO (prog : Program) (k : Bool) (n : Nat) : Prop where
  expr : ∀ fr e, Expr.readOnly k e = true → Pres k fr (evalExpr prog n e)
  objItems : ∀ fr pos items acc, roKVs k items = true → ∀ s,
    (∀ key c, objLookup acc key = some c → c < s.heap.cells.size) →
    QP k fr s (fun m s' => ∀ key c, objLookup m key = some c → c < s'.heap.cells.size)
      (evalObjItems prog n pos items acc s)
  exprList : ∀ fr es c, roEs k es = true → Pres k fr (evalExprList prog n es c)
  matchCases : ∀ fr pos v cs, roCases k cs = true → Pres k fr (evalMatchCases prog n pos v cs)
  caseMatch : ∀ fr v ps, Pres k fr (evalCaseMatch prog n v ps)
  arrayCaseMatch : ∀ fr v ps, Pres k fr (evalArrayCaseMatch prog n v ps)
  matchElems : ∀ fr cs ps acc, Pres k fr (Jqawk.matchElems prog n cs ps acc)
  call : k = true → ∀ fr pos f args s, CalleeOK s.heap f → QR k fr s (callFunction prog n pos f args s)
  calleeE : k = true → ∀ fr recv t op, Expr.readOnly k recv = true → (op.tag = .dot ∨ op.tag = .lsquare) →
    safeKey t = true → ∀ s, QP k fr s (fun c s' => CalleeOK s'.heap c)
      (evalExpr prog n (.binary recv (.lit t) op) s)
  calleeB : k = true → ∀ fr recv t op, Expr.readOnly k recv = true → (op.tag = .dot ∨ op.tag = .lsquare) →
    safeKey t = true → ∀ s, QP k fr s (fun c s' => CalleeOK s'.heap c)
      (evalBinary prog n recv (.lit t) op s)
  unary : ∀ fr e op p, (op.tag == Tag.plusPlus) = false → (op.tag == Tag.minusMinus) = false →
    Expr.readOnly k e = true → Pres k fr (evalUnary prog n e op p)
  binary : ∀ fr l r op, (op.tag == Tag.equal) = false → Expr.readOnly k l = true →
    Expr.readOnly k r = true → Pres k fr (evalBinary prog n l r op)
  stmt : ∀ fr st, Stmt.readOnly k st = true → Pres k fr (evalStmt prog n st)
  block : ∀ fr sts, roSs k sts = true → Pres k fr (evalBlock prog n sts)
  whileL : ∀ fr c b, Expr.readOnly k c = true → Stmt.readOnly k b = true →
    Pres k fr (whileLoop prog n c b)
  forL : ∀ fr c p b, Expr.readOnly k c = true → Expr.readOnly k p = true → Stmt.readOnly k b = true →
    Pres k fr (forLoop prog n c p b)

theorem allRO_zero (prog : Program) (k : Bool) : AllRO prog k 0 := by
  constructor <;> intros <;> unfold_eval <;> first | exact Pres.oof | trivial | exact Pres.oof (k := k) _

theorem allRO_succ (prog : Program) (k : Bool) (hfn : k = true → prog.FnsRO) (n : Nat)
    (ih : AllRO prog k n) : AllRO prog k (n + 1) := by
  have cond : ∀ {fr : Bool} {c : Expr} {a b : EM Unit}, Expr.readOnly k c = true → Pres k fr a →
      Pres k fr b → Pres k fr (do
        let cell ← evalExpr prog n c
        if (← Jqawk.readCell cell).truthy then a else b) := by
    intro fr c a b hc ha hb
    refine Pres.bind (ih.expr fr c hc) (fun cell => Pres.bind (Pres.readCell _) (fun v => ?_))
    split
    · exact ha
    · exact hb
  constructor
  case expr =>
    intro fr e he
    unfold evalExpr
    cases e with
    | lit t =>
      dsimp only
      split
      case h_1 | h_2 | h_4 => -- str, ident, num (`h_k`: the k-th alternative of the `match` on `t.tag`)
        split
        · exact Pres.throwRt _ _
        · exact Pres.newCell _
      case h_8 => exact Pres.throwPanic _ -- any other tag
      all_goals exact Pres.newCell _
    | ident t => exact Pres.getIdentifier _ _
    | arr t items =>
      simp only [Expr.readOnly] at he
      exact Pres.bind (ih.exprList fr items true he) (fun cells =>
        Pres.bind (Pres.allocArrM _) (fun a => Pres.newCell _))
    | obj t items =>
      simp only [Expr.readOnly] at he
      dsimp only
      intro s
      refine QR.bind_of_QP (ih.objItems fr t.pos items [] he s (by simp [objLookup])) (fun m s1 hm => ?_)
      refine QR.bind (m := Jqawk.allocObjM m) ?_ (fun o => Pres.newCell _)
      exact fun i => ⟨Rel.heapOnly s1 _ (HeapPreserved.allocObj s1.heap m), i.push_obj m hm⟩
    | unary e op p =>
      simp only [Expr.readOnly, Bool.and_eq_true, Bool.not_eq_true'] at he
      exact ih.unary fr e op p he.1.1 he.1.2 he.2
    | binary l r op =>
      simp only [Expr.readOnly, Bool.and_eq_true, Bool.not_eq_true'] at he
      exact ih.binary fr l r op he.1.1 he.1.2 he.2
    | call f args =>
      obtain ⟨recv, t, op, rfl, hk, hop, hkey, hrecv, hargs⟩ := readOnly_call he
      dsimp only
      intro s
      refine QR.bind_of_QP (ih.calleeE hk fr recv t op hrecv hop hkey s) (fun fc s1 hc1 => ?_)
      show QR k fr s1 (EM.bind _ _ s1)
      unfold EM.bind
      have h2 := ih.exprList fr args true hargs s1
      cases hr2 : evalExprList prog n args true s1 with
      | ok acs s2 =>
        rw [hr2] at h2
        exact QR.of_inv (fun i1 => by
          obtain ⟨r2, i2⟩ := h2 i1
          exact QR.trans h2 (ih.call hk fr _ fc acs s2 (hc1.stable r2.heap)))
      | err e s2 => rw [hr2] at h2; exact h2
      | oof => trivial
    | match_ t v cases =>
      simp only [Expr.readOnly, Bool.and_eq_true] at he
      exact Pres.bind (ih.expr fr v he.1) (fun value => ih.matchCases fr _ _ _ he.2)
  case objItems =>
    intro fr pos items acc h s hacc
    cases items with
    | nil => unfold evalObjItems; exact fun i => ⟨Rel.refl fr s, i, hacc⟩
    | cons kv rest =>
      obtain ⟨key, e⟩ := kv
      simp only [roKVs, Bool.and_eq_true] at h
      obtain ⟨h1, h2⟩ := h
      unfold evalObjItems
      refine QP.bind_left (ih.expr fr e h1 s) (fun value s1 _ i r1 i1 => ?_)
      rw [EM.bind_assoc']
      refine QP.bind_left (Pres.newCopy0 _ _ s1) (fun r s2 hr2 i1' r2 i2 => ?_)
      obtain ⟨hlt, hc⟩ := newCopy_ok _ _ _ _ _ hr2
      cases r with
      | error m => exact Pres.throwRt (α := List (Bytes × CellId)) pos m s2
      | ok c =>
        dsimp only
        apply ih.objItems fr pos rest _ h2 s2
        intro key' c' hl
        rw [objLookup_objInsert] at hl
        split at hl
        · cases hl; rw [hc c rfl]; exact hlt
        · exact Nat.lt_trans (Nat.lt_of_lt_of_le (hacc key' c' hl) r1.heap.cells) hlt
  case exprList =>
    intro fr es c h
    cases es with
    | nil => unfold evalExprList; exact Pres.pure _
    | cons e rest =>
      simp only [roEs, Bool.and_eq_true] at h
      unfold evalExprList
      exact Pres.bind (ih.expr fr e h.1) (fun v => Pres.bind (Pres.copyArg c v _) (fun c' =>
        Pres.bind (ih.exprList fr rest c h.2) (fun cs => Pres.pure _)))
  case matchCases =>
    intro fr pos v cs h
    cases cs with
    | nil => unfold evalMatchCases; exact Pres.newCell _
    | cons c rest =>
      obtain ⟨pats, body⟩ := c
      simp only [roCases, Bool.and_eq_true] at h
      unfold evalMatchCases
      refine Pres.bind (ih.caseMatch fr v pats) (fun r => ?_)
      split
      · exact ih.matchCases fr _ _ _ h.2
      · apply Pres.framed
        refine Pres.bind (Pres.bindAll _) (fun _ => ?_)
        split
        · exact ih.expr false _ (by simpa [Stmt.readOnly] using h.1)
        · exact Pres.bind (ih.stmt false _ h.1) (fun _ => Pres.newCell _)
  case caseMatch =>
    intro fr v ps
    cases ps with
    | nil => unfold evalCaseMatch; exact Pres.pure _
    | cons p rest =>
      have hrest := ih.caseMatch fr v rest
      unfold evalCaseMatch
      cases p with
      | lit t =>
        dsimp only
        refine Pres.bind (ih.expr fr _ (readOnly_lit k t)) (fun cv =>
          Pres.bind (Pres.readCell _) (fun x => Pres.bind (Pres.readCell _) (fun y => ?_)))
        split
        · exact hrest
        · split
          · exact Pres.throwRt _ _
          · split
            · exact Pres.pure _
            · exact hrest
      | arr t items =>
        dsimp only
        refine Pres.bind (ih.arrayCaseMatch fr v items) (fun r => ?_)
        split
        · exact Pres.pure _
        · exact hrest
      | ident t => exact Pres.pure _
      | _ => exact Pres.throwRt _ _
  case arrayCaseMatch =>
    intro fr v ps
    unfold evalArrayCaseMatch
    refine Pres.bind (Pres.readCell _) (fun x => ?_)
    split
    · refine Pres.bind Pres.getHeap (fun h => ?_)
      dsimp only
      split
      · exact Pres.pure _
      · exact ih.matchElems fr _ _ _
    · exact Pres.pure _
  case matchElems =>
    intro fr cs ps acc
    cases cs with
    | nil => unfold Jqawk.matchElems; exact Pres.pure _
    | cons c cs =>
      cases ps with
      | nil => unfold Jqawk.matchElems; exact Pres.pure _
      | cons p ps =>
        unfold Jqawk.matchElems
        refine Pres.bind (ih.caseMatch fr c [p]) (fun r => ?_)
        split
        · exact Pres.pure _
        · exact ih.matchElems fr _ _ _
  case call =>
    intro hk fr pos fc args s hc
    subst hk
    unfold callFunction
    refine QR.readThen ?_
    refine QR.heapThen ?_
    dsimp only
    cases hv : s.heap.get fc with
    | native f b sp =>
      dsimp only
      refine QR.bind (Pres.callNative f _ _ ?_ s) (fun r => ?_)
      · rcases hc.2 f b sp hv with h | h
        · exact .inl h
        · right
          intro a e
          cases b with
          | none => cases e
          | some bc =>
            simp only [Option.map_some, Option.some.injEq] at e
            exact (h bc rfl).2 a e
      · split
        · exact Pres.throwRt _ _
        · exact Pres.newCell _
        · exact Pres.newCell _
    | fn i =>
      dsimp only
      refine (?_ : Pres true fr _) s
      split
      · exact Pres.throwPanic _
      · rename_i fd hfd
        have hbody : Stmt.readOnly true fd.body = true := hfn rfl fd (List.mem_of_getElem? hfd)
        apply Pres.framed
        exact Pres.bind (Pres.bindParams _ _) (fun _ =>
          Pres.bind (Pres.catchReturn (ih.stmt false fd.body hbody)) (fun rv => Pres.newCell rv))
    | _ => exact Pres.throwRt _ _ s
  case calleeE =>
    intro hk fr recv t op h1 h2 h3 s
    unfold evalExpr
    exact ih.calleeB hk fr recv t op h1 h2 h3 s
  case calleeB =>
    intro hk fr recv t op hrecv hop hkey s
    unfold evalBinary
    refine QP.bind_left (ih.expr fr recv hrecv s) (fun left s1 _ i r1 i1 => ?_)
    have goal' : QP k fr s1 (fun c s' => CalleeOK s'.heap c)
        ((evalExpr prog n (.lit t) >>= fun right => memberStep recv.token.pos left right) s1) := by
      show QP k fr s1 _ (EM.bind (evalExpr prog n (.lit t)) _ s1)
      unfold EM.bind
      rcases evalExpr_lit_key prog n t s1 hkey with h0 | ⟨p, m, h0⟩ | ⟨key, hmut, h0⟩
      · rw [h0]; trivial
      · rw [h0]; exact Pres.throwRt (α := CellId) p m s1
      · rw [h0]
        exact QP.trans (Pres.newCell (.str key none) s1) (fun _ _ _ =>
          memberStep_callee hk _ _ _ _ key none (Heap.get_alloc_new _ _) hmut)
    rcases hop with h | h <;> simp only [h] <;> exact goal'
  case unary =>
    intro fr e op p h1 h2 h3
    unfold evalUnary
    refine Pres.bind (ih.expr fr e h3) (fun val => Pres.bind (Pres.readCell _) (fun v => ?_))
    split
    case h_4 => rename_i heq; rw [heq] at h1; cases h1 -- `++` (`h_k`: k-th alternative of the `match` on `op.tag`)
    case h_5 => rename_i heq; rw [heq] at h2; cases h2 -- `--`
    case h_6 => exact Pres.throwRt _ _ -- any other operator
    all_goals exact Pres.newCell _
  case binary =>
    intro fr l r op h1 h2 h3
    unfold evalBinary
    refine Pres.bind (ih.expr fr l h2) (fun left => ?_)
    have truthyR : Pres k fr (do
        let right ← evalExpr prog n r
        Jqawk.newCell (.bool (← Jqawk.readCell right).truthy)) :=
      Pres.bind (ih.expr fr r h3) (fun right => Pres.bind (Pres.readCell _) (fun _ => Pres.newCell _))
    split
    · refine Pres.bind (Pres.readCell _) (fun v => ?_)
      split
      · exact truthyR
      · exact Pres.newCell _
    · refine Pres.bind (Pres.readCell _) (fun v => ?_)
      split
      · exact Pres.newCell _
      · exact truthyR
    · split
      · exact Pres.bind (Pres.readCell _) (fun _ => Pres.newCell _)
      · exact Pres.throwRt _ _
    · exact Pres.bind (ih.expr fr r h3) (fun right => Pres.binaryTail h1)
  case stmt =>
    intro fr st h
    unfold evalStmt
    cases st with
    | block t body => simp only [Stmt.readOnly] at h; exact ih.block fr body h
    | print t args =>
      simp only [Stmt.readOnly] at h
      exact Pres.bind (ih.exprList fr args false h) (fun cells => Pres.printTail cells)
    | expr e =>
      simp only [Stmt.readOnly] at h
      exact Pres.bind (ih.expr fr e h) (fun _ => Pres.pure _)
    | ret e =>
      cases e with
      | none => exact Pres.bind (Pres.setReturnVal _) (fun _ => Pres.throwSig _)
      | some e =>
        simp only [Stmt.readOnly] at h
        exact Pres.bind (ih.expr fr e h) (fun c =>
          Pres.bind (Pres.setReturnVal _) (fun _ => Pres.throwSig _))
    | brk t => exact Pres.throwSig _
    | cont t => exact Pres.throwSig _
    | next t => exact Pres.throwSig _
    | exit t => exact Pres.throwSig _
    | if_ c b els =>
      cases els with
      | none =>
        simp only [Stmt.readOnly, Bool.and_eq_true] at h
        exact cond h.1 (ih.stmt fr b h.2) (Pres.pure _)
      | some eb =>
        simp only [Stmt.readOnly, Bool.and_eq_true] at h
        exact cond h.1.1 (ih.stmt fr b h.1.2) (ih.stmt fr eb h.2)
    | while_ c b =>
      simp only [Stmt.readOnly, Bool.and_eq_true] at h
      exact ih.whileL fr c b h.1 h.2
    | for_ pre c post b =>
      simp only [Stmt.readOnly, Bool.and_eq_true] at h
      exact Pres.bind (ih.expr fr pre h.1.1.1) (fun _ => ih.forL fr c post b h.1.1.2 h.1.2 h.2)
    | forIn id idx iter b => simp [Stmt.readOnly] at h
  case block =>
    intro fr sts h
    cases sts with
    | nil => unfold evalBlock; exact Pres.pure _
    | cons st rest =>
      simp only [roSs, Bool.and_eq_true] at h
      unfold evalBlock
      exact Pres.bind (ih.stmt fr st h.1) (fun _ => ih.block fr rest h.2)
  case whileL =>
    intro fr c b hc hb
    unfold whileLoop
    exact cond hc (Pres.loopIter (ih.stmt fr b hb) (ih.whileL fr c b hc hb)) (Pres.pure _)
  case forL =>
    intro fr c p b hc hp hb
    unfold forLoop
    exact cond hc (Pres.loopIter (ih.stmt fr b hb)
      (Pres.bind (ih.expr fr p hp) (fun _ => ih.forL fr c p b hc hp hb))) (Pres.pure _)


/-- **Read-only evaluation**: every evaluator function, at every fuel, from every state.
    `k = false`: no calls at all, any program.  `k = true`: method calls with a literal,
    non-mutating name, in a program whose function bodies are read-only. -/
theorem allRO (prog : Program) (k : Bool) (hfn : k = true → prog.FnsRO) : ∀ n, AllRO prog k n
  | 0 => allRO_zero prog k
  | n + 1 => allRO_succ prog k hfn n (allRO prog k hfn n)

end Jqawk
