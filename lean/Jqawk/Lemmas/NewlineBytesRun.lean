/-
  C13, newline insertion at the level of bytes, part 2: following the parser's own run.
  `Nl.nextStates` records, for a run of a parser program against the lexer, the ghost state and
  the lexer state at every `next` request.  `Nl.trackSrc` is the lexer together with the program it
  is serving: it answers only the request that program makes next, so a relation between its
  states and lexer states has to be closed only under the requests of the run.  If one of the
  recorded lexer states has the unread text `v ++ b` (`v` vertical trivia), the text with `w` in
  place of `v` is related to it in that sense (`Nl.bytesRel_isNlSimE`): the same tokens up to
  positions, the token after the trivia possibly with the newline flag raised — and `Nl.runE`
  applies (`Nl.run_bytes`).
-/
import Jqawk.Lemmas.NewlineBytes
import Jqawk.Lemmas.NewlineLayout

namespace Jqawk
namespace Nl
open Lexer

/-- ghost state and lexer state at every `next` request of the run of `m` from `s`, up to and
    including the request that is answered by the end of the text -/
def nextStates {α : Type} : G → PM α → LexState → List (G × LexState)
  | g, .next k, s => (g, s) ::
    match Lexer.nextNN (s.rest.length + 1) s false with
    | .ok (t, nl, s') => if t.tag = .eof then [] else nextStates (g.step t) (k t nl) s'
    | .error _ => []
  | g, .regex k, s =>
    match Lexer.regex s with
    | .ok (t, s') => nextStates (g.step t) (k t) s'
    | .error _ => []
  | _, .pure _, _ => []
  | _, .fail _, _ => []
  | _, .oof, _ => []

theorem nextStates_suffix {α : Type} (m : PM α) : ∀ (g : G) (s : LexState) (g' : G) (s' : LexState),
    (g', s') ∈ nextStates g m s → ∃ pre, s.rest = pre ++ s'.rest := by
  induction m with
  | pure a => intro g s g' s' h; simp [nextStates] at h
  | fail e => intro g s g' s' h; simp [nextStates] at h
  | oof => intro g s g' s' h; simp [nextStates] at h
  | next k ih =>
    intro g s g' s' h
    simp only [nextStates, List.mem_cons, Prod.mk.injEq] at h
    rcases h with ⟨_, rfl⟩ | h
    · exact ⟨[], rfl⟩
    · cases hn : nextNN (s.rest.length + 1) s false with
      | error e => rw [hn] at h; simp at h
      | ok r =>
        obtain ⟨t, nl, s₁⟩ := r
        rw [hn] at h
        dsimp only at h
        split at h
        · simp at h
        obtain ⟨pre₂, h2⟩ := ih t nl _ _ _ _ h
        obtain ⟨⟨pre₁, h1⟩, _⟩ := nextNN_suffix _ _ _ _ _ _ hn
        exact ⟨pre₁ ++ pre₂, by rw [h1, h2, List.append_assoc]⟩
  | regex k ih =>
    intro g s g' s' h
    simp only [nextStates] at h
    cases hn : regex s with
    | error e => rw [hn] at h; simp at h
    | ok r =>
      obtain ⟨t, s₁⟩ := r
      rw [hn] at h
      obtain ⟨pre₂, h2⟩ := ih t _ _ _ _ h
      obtain ⟨pre₁, h1⟩ := regex_suffix s t s₁ hn
      exact ⟨pre₁ ++ pre₂, by rw [h1, h2, List.append_assoc]⟩

theorem nextStates_length_le {α : Type} {m : PM α} {g g' : G} {s s' : LexState}
    (h : (g', s') ∈ nextStates g m s) : s'.rest.length ≤ s.rest.length := by
  obtain ⟨pre, hpre⟩ := nextStates_suffix m g s g' s' h
  rw [hpre, List.length_append]; exact Nat.le_add_left _ _

theorem vtrivia_sepStart {w b : Bytes} (hw : VTrivia w b) (hne : w ≠ []) : SepStart (w ++ b) := by
  cases hw with
  | nil => exact absurd rfl hne
  | blank c t rest hc _ =>
    intro d hd
    simp only [List.cons_append, List.head?_cons, Option.some.injEq] at hd
    subst hd
    simp only [isBlankB, Bool.or_eq_true, beq_iff_eq] at hc
    rcases hc with (rfl | rfl) | rfl <;> rfl
  | comment body t rest _ _ _ =>
    intro d hd
    simp only [List.cons_append, List.head?_cons, Option.some.injEq] at hd
    subst hd; rfl
  | newline t rest _ =>
    intro d hd
    simp only [List.cons_append, List.head?_cons, Option.some.injEq] at hd
    subst hd; rfl

theorem boundary_answers {v w b : Bytes} (hv : VTrivia v b) (hw : VTrivia w b) (p ts p' ts' : Nat)
    (t : Token) (nl : Bool) (s₁' : LexState)
    (h : nextNN ((v ++ b).length + 1) ⟨v ++ b, p, ts⟩ false = .ok (t, nl, s₁')) :
    ∃ t' nl₀ s₂', nextNN ((w ++ b).length + 1) ⟨w ++ b, p', ts'⟩ false
        = .ok (t', nl₀ || w.contains 10, s₂') ∧
      nl = (nl₀ || v.contains 10) ∧ erase t = erase t' ∧ SameRest s₁' s₂' := by
  -- both requests are the request at `b`, with the flag of the trivia skipped
  have lt := Nat.lt_succ_self
  rw [nextNN_vappend hv p ts false _ (b.length + 1) (lt _) (lt _), Bool.false_or,
    nextNN_or_flag (b.length + 1) ⟨b, _, _⟩ _] at h
  rw [nextNN_vappend hw p' ts' false _ (b.length + 1) (lt _) (lt _), Bool.false_or,
    nextNN_or_flag (b.length + 1) ⟨b, _, _⟩ _]
  have hs := nextNN_shift (b.length + 1) ⟨b, p + v.length, vts v p ts⟩
    ⟨b, p' + w.length, vts w p' ts'⟩ false rfl
  revert h hs
  cases nextNN (b.length + 1) ⟨b, p + v.length, vts v p ts⟩ false with
  | error e => intro h; cases h
  | ok r₁ =>
    cases nextNN (b.length + 1) ⟨b, p' + w.length, vts w p' ts'⟩ false with
    | error e => intro _ hs; exact hs.elim
    | ok r₂ =>
      obtain ⟨t₁, nl₁, a₁⟩ := r₁
      obtain ⟨t₂, nl₂, a₂⟩ := r₂
      rintro h ⟨e1, rfl, e3⟩
      cases h
      exact ⟨t₂, nl₁, a₂, rfl, rfl, e1, e3⟩

theorem lexerSrc_next (s : LexState) : lexerSrc.next s = nextNN (s.rest.length + 1) s false := rfl
theorem lexerSrc_regex (s : LexState) : lexerSrc.regex s = regex s := rfl

/-- the data of an insertion point: trivia `v` replaced by `w` in front of `b`; `gb`, `sb` the
    ghost and lexer state of the recorded `next` request -/
structure Ins (v w b : Bytes) (gb : G) (sb : LexState) : Prop where
  hv : VTrivia v b
  hw : VTrivia w b
  wne : w ≠ []
  more : v.contains 10 = true → w.contains 10 = true
  rest : sb.rest = v ++ b
  allowed : v.contains 10 = false → w.contains 10 = true →
    ∀ t nl s', nextNN (sb.rest.length + 1) sb false = .ok (t, nl, s') → nl = false →
      Allowed gb t = true

/-- the lexer serving the program `m`: it answers the request `m` makes and moves on to the
    continuation; any other request is refused -/
def trackSrc (α : Type) : TokSrc (PM α × LexState) where
  next := fun s => match s.1 with
    | .next k => match lexerSrc.next s.2 with
      | .ok (t, nl, s') => .ok (t, nl, (k t nl, s'))
      | .error e => .error e
    | _ => .error ⟨0, "no such request"⟩
  regex := fun s => match s.1 with
    | .regex k => match lexerSrc.regex s.2 with
      | .ok (t, s') => .ok (t, (k t, s'))
      | .error e => .error e
    | _ => .error ⟨0, "no such request"⟩

theorem runWith_trackSrc {α : Type} (m : PM α) (s : LexState) :
    m.runWith (trackSrc α) (m, s) = m.runWith lexerSrc s := by
  induction m generalizing s with
  | pure a => rfl
  | fail e => rfl
  | oof => rfl
  | next k ih =>
    simp only [PM.runWith, trackSrc]
    cases lexerSrc.next s with
    | error e => rfl
    | ok r => exact ih _ _ _
  | regex k ih =>
    simp only [PM.runWith, trackSrc]
    cases lexerSrc.regex s with
    | error e => rfl
    | ok r => exact ih _ _

/-- the served program has the recorded state still ahead and the two texts differ only in the
    trivia `v` / `w` at that state; or the boundary is passed and the unread texts are equal -/
def BytesRel (α : Type) (v w b : Bytes) (gb : G) (sb : LexState) (g : G) (a : PM α × LexState)
    (c : LexState) : Prop :=
  SameRest a.2 c ∨
  ∃ x, a.2.rest = x ++ (v ++ b) ∧ c = ⟨x ++ (w ++ b), a.2.pos, a.2.tokenStart⟩ ∧
    (gb, sb) ∈ nextStates g a.1 a.2

theorem bytesRel_isNlSimE {α : Type} {v w b : Bytes} {gb : G} {sb : LexState} (I : Ins v w b gb sb) :
    IsNlSimE (trackSrc α) lexerSrc (BytesRel α v w b gb sb) where
  next := by
    rintro g ⟨m, a⟩ c hR t nl ⟨m', a'⟩ h₁
    cases m with
    | next k =>
      simp only [trackSrc] at h₁
      cases hn : lexerSrc.next a with
      | error e => rw [hn] at h₁; cases h₁
      | ok r =>
        obtain ⟨t₀, nl₀, a₀⟩ := r
        rw [hn] at h₁
        cases h₁
        rcases hR with hR | ⟨x, hx, rfl, hm⟩
        · obtain ⟨t', nl', c', e1, e2, e3, e4⟩ := sameRest_nlSimE_next g a c hR t nl a' hn
          exact ⟨t', nl', c', e1, e2, e3, .inl e4⟩
        obtain ⟨r₁, p₁, ts₁⟩ := a
        dsimp only at hx hn ⊢
        subst hx
        simp only [nextStates, List.mem_cons, Prod.mk.injEq] at hm
        rw [lexerSrc_next] at hn
        dsimp only at hn
        rcases hm with ⟨hg, hs⟩ | hm
        · -- the boundary
          have hx0 : x = [] := by
            have hlen := congrArg List.length (hs ▸ I.rest)
            simp only [List.length_append] at hlen
            exact List.eq_nil_of_length_eq_zero (by omega)
          subst hx0
          obtain ⟨t', nl₁, c', h2, hnl, het, hsr⟩ :=
            boundary_answers I.hv I.hw p₁ ts₁ p₁ ts₁ t nl a' hn
          refine ⟨t', _, c', h2, het, ?_, .inl hsr⟩
          rw [hnl]
          cases hcv : v.contains 10 with
          | true => rw [I.more hcv]; exact .inl rfl
          | false =>
            cases hcw : w.contains 10 with
            | false => exact .inl rfl
            | true =>
              cases nl₁ with
              | true => exact .inl rfl
              | false =>
                have hal := I.allowed hcv hcw t nl a'
                rw [hs, hg] at hal
                exact .inr ⟨rfl, rfl, hal (by simpa using hn) (by rw [hnl, hcv]; rfl)⟩
        · -- before the boundary
          rw [hn] at hm
          dsimp only at hm
          have hteof : t.tag ≠ .eof := by
            intro he; rw [if_pos he] at hm; simp at hm
          rw [if_neg hteof] at hm
          have hl : (v ++ b).length ≤ a'.rest.length := I.rest ▸ nextStates_length_le hm
          obtain ⟨x', e1, hnR⟩ := lexerSrc_next_stable (v ++ b) (w ++ b)
            (vtrivia_sepStart I.hw I.wne) x _ _ t nl a' hteof hn hl
          exact ⟨t, nl, _, hnR, rfl, .inl rfl, .inr ⟨x', e1, rfl, hm⟩⟩
    | pure _ => cases h₁
    | fail _ => cases h₁
    | oof => cases h₁
    | regex _ => cases h₁
  regex := by
    rintro g ⟨m, a⟩ c hR t ⟨m', a'⟩ h₁
    cases m with
    | regex k =>
      simp only [trackSrc] at h₁
      cases hn : lexerSrc.regex a with
      | error e => rw [hn] at h₁; cases h₁
      | ok r =>
        obtain ⟨t₀, a₀⟩ := r
        rw [hn] at h₁
        cases h₁
        rcases hR with hR | ⟨x, hx, rfl, hm⟩
        · obtain ⟨e0, t', c', e1, e2, e4⟩ := sameRest_nlSimE_regex a c hR t a' hn
          exact ⟨e0, t', c', e1, e2, .inl e4⟩
        obtain ⟨r₁, p₁, ts₁⟩ := a
        dsimp only at hx hn ⊢
        subst hx
        simp only [nextStates] at hm
        rw [lexerSrc_regex] at hn
        rw [hn] at hm
        have hl : (v ++ b).length ≤ a'.rest.length := I.rest ▸ nextStates_length_le hm
        obtain ⟨x', e1, e2⟩ := regex_stable (v ++ b) (w ++ b) x _ _ t a' hn hl
        exact ⟨regex_tag _ _ _ hn, t, _, e2, rfl, .inr ⟨x', e1, rfl, hm⟩⟩
    | pure _ => cases h₁
    | fail _ => cases h₁
    | oof => cases h₁
    | next _ => cases h₁

theorem run_bytes {α : Type} [Erase α] {m₁ m₂ : P α} (hsim : PSim m₁ m₂)
    (hnl : NlP (fun _ s _ => isBracket s.cur.tag = false) 0 0 m₂) {a v w b : Bytes} {gb : G}
    {sb : LexState} (I : Ins v w b gb sb)
    (hreach : (gb, sb) ∈ nextStates G.init (m₁ PS.init) (LexState.init (a ++ (v ++ b))))
    {x : α} {st : PS} (hr : (m₁ PS.init).run (LexState.init (a ++ (v ++ b))) = .ok (x, st)) :
    ∃ x' st', (m₂ PS.init).run (LexState.init (a ++ (w ++ b))) = .ok (x', st') ∧
      erase x = erase x' := by
  rw [PM.run_eq_runWith, ← runWith_trackSrc] at hr
  obtain ⟨x', st', h', he⟩ := runE hsim hnl (bytesRel_isNlSimE I)
    (s₂ := LexState.init (a ++ (w ++ b))) (.inr ⟨a, rfl, rfl, hreach⟩) hr
  exact ⟨x', st', by rw [PM.run_eq_runWith]; exact h', he⟩

end Nl
end Jqawk
