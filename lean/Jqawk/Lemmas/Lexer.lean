/-
  Lemmas about the lexer model (Model/Lexer.lean): `getLineAndCol`, `skipWs`, `spanB`, `scanTo`,
  the dispatch `lexAt` of `Lexer.next` on the first byte and its case analysis `LexAtRes`,
  `Tag.spelling` / `Token.lexeme` (the bytes a token is written with) and `Prov.SpelledNext`: what
  the scanners and `Lexer.next` return is spelled at the offset it carries (`lexAt_spelled`,
  `next_spelled`), `next` decomposed (`next_cases`, `next_progress`; on a text with nothing to skip:
  `next_solid`) and `regex` characterised (`regex_ok_iff`).
-/
import Jqawk.Model.Lexer
import Jqawk.Lemmas.Ite

namespace Jqawk

namespace LineColLemmas

theorem takeLine_append_of_not_mem (cur after : Bytes) (h : (10 : UInt8) ∉ cur) :
    takeLine (cur ++ after) = cur ++ takeLine after := by
  induction cur with
  | nil => rfl
  | cons c cs ih =>
    rw [List.cons_append, takeLine, if_neg (by simpa using (List.ne_of_not_mem_cons h).symm),
      ih (List.not_mem_of_not_mem_cons h), List.cons_append]

theorem takeLine_of_not_mem (cur : Bytes) (h : (10 : UInt8) ∉ cur) : takeLine cur = cur := by
  simpa [takeLine] using takeLine_append_of_not_mem cur [] h

theorem aux_zero (lr s : Bytes) (line col : Nat) :
    getLineAndColAux lr s line col 0 = ⟨takeLine lr, line, col⟩ := by
  cases s <;> rfl

theorem aux_skip_noNl (cur : Bytes) (h : (10 : UInt8) ∉ cur) (lr after : Bytes) (line col k : Nat) :
    getLineAndColAux lr (cur ++ after) line col (cur.length + k)
      = getLineAndColAux lr after line (col + cur.length) k := by
  induction cur generalizing col with
  | nil => simp
  | cons c cs ih =>
    rw [List.length_cons, Nat.add_right_comm, List.cons_append, getLineAndColAux,
      if_neg (by simpa using (List.ne_of_not_mem_cons h).symm), ih (List.not_mem_of_not_mem_cons h),
      Nat.add_assoc, Nat.add_comm 1]

/-- skipping a stretch that ends in a newline: the line counter advances by the number of
    newlines, the current line restarts right after it -/
theorem aux_skip_lines (pre : Bytes) (h : pre.getLast? = some 10) (rest lr : Bytes)
    (line col k : Nat) :
    getLineAndColAux lr (pre ++ rest) line col (pre.length + k)
      = getLineAndColAux rest rest (line + pre.count 10) 0 k := by
  induction pre generalizing lr line col with
  | nil => simp at h
  | cons c cs ih =>
    rw [List.length_cons, Nat.add_right_comm, List.cons_append, getLineAndColAux, List.count_cons]
    cases cs with
    | nil =>
      obtain rfl : c = 10 := by simpa using h
      simp
    | cons d ds =>
      rw [List.getLast?_cons_cons] at h
      split
      · rw [ih h, Nat.add_assoc, Nat.add_comm 1]
      · exact ih h _ _ _

theorem aux_beyond (s lr : Bytes) (line col k : Nat) (hk : s.length ≤ k) :
    getLineAndColAux lr s line col k = getLineAndColAux lr s line col s.length := by
  induction s generalizing lr line col k with
  | nil => cases k <;> rfl
  | cons c cs ih =>
    cases k with
    | zero => simp at hk
    | succ k =>
      simp only [List.length_cons, getLineAndColAux, ih _ _ _ _ (Nat.le_of_succ_le_succ hk)]

theorem split_last_line (a : Bytes) :
    ∃ pre cur, a = pre ++ cur ∧ (pre = [] ∨ pre.getLast? = some 10) ∧ (10 : UInt8) ∉ cur := by
  induction a with
  | nil => exact ⟨[], [], rfl, .inl rfl, by simp⟩
  | cons c cs ih =>
    obtain ⟨pre, cur, rfl, hp, hc⟩ := ih
    rcases hp with rfl | hp
    · by_cases h10 : c = 10
      · exact ⟨[c], cur, rfl, .inr (by rw [h10]; rfl), hc⟩
      · exact ⟨[], c :: cur, rfl, .inl rfl, List.not_mem_cons_of_ne_of_not_mem (Ne.symm h10) hc⟩
    · exact ⟨c :: pre, cur, rfl, .inr (by rw [List.getLast?_cons, hp]; rfl), hc⟩

end LineColLemmas

/-- the fixed spelling of keyword and operator tokens (empty for the tags whose tokens carry
    their own text, and for EOF) -/
def Tag.spelling : Tag → Bytes
  | .begin_ => b!"BEGIN" | .end_ => b!"END" | .beginFile => b!"BEGINFILE" | .endFile => b!"ENDFILE"
  | .print => b!"print" | .dollar => b!"$" | .function => b!"function" | .return_ => b!"return"
  | .if_ => b!"if" | .else_ => b!"else" | .for_ => b!"for" | .while_ => b!"while" | .in_ => b!"in"
  | .match_ => b!"match" | .true_ => b!"true" | .false_ => b!"false" | .break_ => b!"break"
  | .continue_ => b!"continue" | .next => b!"next" | .exit => b!"exit" | .null => b!"null"
  | .is => b!"is"
  | .newline => [10]
  | .lcurly => b!"{" | .rcurly => b!"}" | .lsquare => b!"[" | .rsquare => b!"]"
  | .lparen => b!"(" | .rparen => b!")" | .lessThan => b!"<" | .greaterThan => b!">"
  | .comma => b!"," | .dot => b!"." | .equal => b!"=" | .equalEqual => b!"==" | .bangEqual => b!"!="
  | .lessEqual => b!"<=" | .greaterEqual => b!">=" | .colon => b!":" | .semiColon => b!";"
  | .plus => b!"+" | .minus => b!"-" | .multiply => b!"*" | .divide => b!"/"
  | .plusEqual => b!"+=" | .minusEqual => b!"-=" | .multiplyEqual => b!"*=" | .divideEqual => b!"/="
  | .tilde => b!"~" | .bangTilde => b!"!~" | .ampAmp => b!"&&" | .pipePipe => b!"||"
  | .arrow => b!"=>" | .bang => b!"!" | .plusPlus => b!"++" | .minusMinus => b!"--"
  | .percent => b!"%"
  | .eof | .error | .ident | .str | .regex | .num => []

def Tag.hasText : Tag → Bool
  | .ident | .num | .str | .regex => true
  | _ => false

/-- the bytes a token is written with (for strings and regexes: without the delimiters) -/
def Token.lexeme (t : Token) : Bytes := if t.tag.hasText then t.text else t.tag.spelling

namespace Lexer

/-- The dispatch part of `Lexer.next` (everything after `skipWhitespace`), as a function of the
    first byte `c`, the bytes after it and the offset of `c`.  (`Lexer.next` uses a private
    helper, so the copy is stated with explicit results: `next_eq`.) -/
def lexAt (c : UInt8) (cs : Bytes) (p : Nat) : Except SynErr (Token × LexState) :=
  let simple (t : Tag) (r : Bytes) (n : Nat) : Except SynErr (Token × LexState) :=
    .ok (⟨t, p, []⟩, ⟨r, p + n, p⟩)
  if c == 10 then simple .newline cs 1
  else if c == 36 then .ok (identifier [36] p cs)
  else if isDigitB c then .ok (number p (c :: cs))
  else if isLetterB c || c == 95 then .ok (identifier [] p (c :: cs))
  else
    let two (t2 : Tag) (rest2 : Bytes) := simple t2 rest2 2
    let one (t1 : Tag) := simple t1 cs 1
    if c == 123 then one .lcurly
    else if c == 125 then one .rcurly
    else if c == 91 then one .lsquare
    else if c == 93 then one .rsquare
    else if c == 40 then one .lparen
    else if c == 41 then one .rparen
    else if c == 44 then one .comma
    else if c == 46 then one .dot
    else if c == 59 then one .semiColon
    else if c == 58 then one .colon
    else if c == 126 then one .tilde
    else if c == 37 then one .percent
    else if c == 60 then
      match cs with | 61 :: r2 => two .lessEqual r2 | _ => one .lessThan
    else if c == 62 then
      match cs with | 61 :: r2 => two .greaterEqual r2 | _ => one .greaterThan
    else if c == 43 then
      match cs with
      | 43 :: r2 => two .plusPlus r2
      | 61 :: r2 => two .plusEqual r2
      | _ => one .plus
    else if c == 45 then
      match cs with
      | 45 :: r2 => two .minusMinus r2
      | 61 :: r2 => two .minusEqual r2
      | _ => one .minus
    else if c == 42 then
      match cs with | 61 :: r2 => two .multiplyEqual r2 | _ => one .multiply
    else if c == 47 then
      match cs with | 61 :: r2 => two .divideEqual r2 | _ => one .divide
    else if c == 61 then
      match cs with
      | 61 :: r2 => two .equalEqual r2
      | 62 :: r2 => two .arrow r2
      | _ => one .equal
    else if c == 33 then
      match cs with
      | 61 :: r2 => two .bangEqual r2
      | 126 :: r2 => two .bangTilde r2
      | _ => one .bang
    else if c == 38 then
      match cs with
      | 38 :: r2 => two .ampAmp r2
      | _ => .error ⟨p, "unexpected character"⟩
    else if c == 124 then
      match cs with
      | 124 :: r2 => two .pipePipe r2
      | _ => .error ⟨p, "unexpected character"⟩
    else if c == 39 || c == 34 then string c p cs
    else .error ⟨p, "unexpected character"⟩

/-- look at one byte: `k` starts a two-byte token -/
def peek1 {β : Type} (k : UInt8) (A : Bytes → β) (B : β) : Bytes → β
  | d :: r2 => if d == k then A r2 else B
  | [] => B

theorem peek1_eq {β : Type} {k : UInt8} {A : Bytes → β} {B x : β} {cs : Bytes}
    (hA : ∀ r2, cs = k :: r2 → x = A r2) (hB : (∀ r2, cs ≠ k :: r2) → x = B) :
    x = peek1 k A B cs := by
  cases cs with
  | nil => exact hB nofun
  | cons d r =>
    by_cases hd : d = k
    · subst hd; rw [peek1, if_pos (by simp)]; exact hA r rfl
    · rw [peek1, if_neg (by simpa using hd)]
      exact hB fun r2 h => hd (List.cons.inj h).1

/-! The two-byte look-ahead of `lexAt` in terms of `peek1`.  (Stated in this file, so that the
    `match` expressions below elaborate to the very matchers of `lexAt`.) -/
section
variable {β : Type} (A A' : Bytes → β) (B : β) (cs : Bytes)

theorem peek_61 : (match cs with | 61 :: r2 => A r2 | _ => B) = peek1 61 A B cs :=
  peek1_eq (fun _ h => by subst h; rfl) fun h => by
    split
    · exact absurd rfl (h _)
    · rfl

theorem peek_38 : (match cs with | 38 :: r2 => A r2 | _ => B) = peek1 38 A B cs :=
  peek1_eq (fun _ h => by subst h; rfl) fun h => by
    split
    · exact absurd rfl (h _)
    · rfl

theorem peek_124 : (match cs with | 124 :: r2 => A r2 | _ => B) = peek1 124 A B cs :=
  peek1_eq (fun _ h => by subst h; rfl) fun h => by
    split
    · exact absurd rfl (h _)
    · rfl

theorem peek_43_61 : (match cs with | 43 :: r2 => A r2 | 61 :: r2 => A' r2 | _ => B)
    = peek1 43 A (peek1 61 A' B cs) cs :=
  peek1_eq (fun _ h => by subst h; rfl) fun h => peek1_eq (fun _ h => by subst h; rfl) fun h' => by
    split
    · exact absurd rfl (h _)
    · exact absurd rfl (h' _)
    · rfl

theorem peek_45_61 : (match cs with | 45 :: r2 => A r2 | 61 :: r2 => A' r2 | _ => B)
    = peek1 45 A (peek1 61 A' B cs) cs :=
  peek1_eq (fun _ h => by subst h; rfl) fun h => peek1_eq (fun _ h => by subst h; rfl) fun h' => by
    split
    · exact absurd rfl (h _)
    · exact absurd rfl (h' _)
    · rfl

theorem peek_61_62 : (match cs with | 61 :: r2 => A r2 | 62 :: r2 => A' r2 | _ => B)
    = peek1 61 A (peek1 62 A' B cs) cs :=
  peek1_eq (fun _ h => by subst h; rfl) fun h => peek1_eq (fun _ h => by subst h; rfl) fun h' => by
    split
    · exact absurd rfl (h _)
    · exact absurd rfl (h' _)
    · rfl

theorem peek_61_126 : (match cs with | 61 :: r2 => A r2 | 126 :: r2 => A' r2 | _ => B)
    = peek1 61 A (peek1 126 A' B cs) cs :=
  peek1_eq (fun _ h => by subst h; rfl) fun h => peek1_eq (fun _ h => by subst h; rfl) fun h' => by
    split
    · exact absurd rfl (h _)
    · exact absurd rfl (h' _)
    · rfl

end

theorem next_eq (s : LexState) :
    next s = match skipWs (s.rest.length + 1) s.rest s.pos with
      | ([], p) => .ok (⟨.eof, s.tokenStart, []⟩, ⟨[], p, s.tokenStart⟩)
      | (c :: cs, p) => lexAt c cs p := by
  unfold next
  generalize skipWs (s.rest.length + 1) s.rest s.pos = x
  obtain ⟨r, p⟩ := x
  cases r <;> rfl

/-- the bytes `skipWhitespace` skips one at a time -/
def isBlankB (c : UInt8) : Bool := c == 32 || c == 13 || c == 9

theorem skipWs_succ_cons (fuel : Nat) (c : UInt8) (cs : Bytes) (p : Nat) :
    skipWs (fuel + 1) (c :: cs) p =
      if isBlankB c then skipWs fuel cs (p + 1)
      else if c == 35 then skipWs fuel (skipComment cs (p + 1)).1 (skipComment cs (p + 1)).2
      else (c :: cs, p) := by
  simp only [skipWs, isBlankB]
  rfl

theorem skipWs_nil (fuel p : Nat) : skipWs fuel [] p = ([], p) := by
  cases fuel <;> rfl

theorem skipComment_spec (body rest : Bytes) (p : Nat) (hb : (10 : UInt8) ∉ body)
    (hr : rest = [] ∨ rest.head? = some 10) :
    skipComment (body ++ rest) p = (rest, p + body.length) := by
  induction body generalizing p with
  | nil =>
    cases rest with
    | nil => rfl
    | cons d ds =>
      obtain rfl : d = 10 := by simpa using hr
      simp [skipComment]
  | cons c cs ih =>
    rw [List.cons_append, skipComment, if_neg (by simpa using (List.ne_of_not_mem_cons hb).symm),
      ih _ (List.not_mem_of_not_mem_cons hb), List.length_cons, Nat.add_assoc, Nat.add_comm 1]

theorem skipComment_decomp (cs : Bytes) (p : Nat) :
    ∃ body, cs = body ++ (skipComment cs p).1 ∧ (skipComment cs p).2 = p + body.length ∧
      (10 : UInt8) ∉ body ∧
      ((skipComment cs p).1 = [] ∨ (skipComment cs p).1.head? = some 10) := by
  by_cases h : (10 : UInt8) ∈ cs
  · obtain ⟨body, bs, rfl, hb⟩ := List.eq_append_cons_of_mem h
    rw [skipComment_spec body (10 :: bs) p hb (.inr rfl)]
    exact ⟨body, rfl, rfl, hb, .inr rfl⟩
  · have := skipComment_spec cs [] p h (.inl rfl)
    rw [List.append_nil] at this
    rw [this]
    exact ⟨cs, (List.append_nil cs).symm, rfl, h, .inl rfl⟩

theorem skipWs_decomp (fuel : Nat) (r : Bytes) (p : Nat) :
    ∃ ws, r = ws ++ (skipWs fuel r p).1 ∧ (skipWs fuel r p).2 = p + ws.length := by
  induction fuel generalizing r p with
  | zero => exact ⟨[], rfl, rfl⟩
  | succ fuel ih =>
    cases r with
    | nil => exact ⟨[], rfl, rfl⟩
    | cons c cs =>
      rw [skipWs_succ_cons]
      split
      · obtain ⟨ws, h1, h2⟩ := ih cs (p + 1)
        exact ⟨c :: ws, by rw [List.cons_append, ← h1], by rw [h2, List.length_cons]; omega⟩
      · split
        · obtain ⟨body, b1, b2, _, _⟩ := skipComment_decomp cs (p + 1)
          obtain ⟨ws, h1, h2⟩ := ih (skipComment cs (p + 1)).1 (skipComment cs (p + 1)).2
          refine ⟨c :: body ++ ws, ?_, ?_⟩
          · rw [List.cons_append, List.cons_append, List.append_assoc, ← h1, ← b1]
          · rw [h2, b2]; simp; omega
        · exact ⟨[], rfl, rfl⟩

theorem skipWs_fuel (f1 f2 : Nat) (r : Bytes) (p : Nat) (h1 : r.length < f1) (h2 : r.length < f2) :
    skipWs f1 r p = skipWs f2 r p := by
  induction f1 generalizing f2 r p with
  | zero => omega
  | succ f1 ih =>
    cases f2 with
    | zero => omega
    | succ f2 =>
      cases r with
      | nil => rfl
      | cons c cs =>
        simp only [List.length_cons] at h1 h2
        rw [skipWs_succ_cons, skipWs_succ_cons]
        split
        · exact ih _ _ _ (by omega) (by omega)
        · split
          · obtain ⟨body, b1, _⟩ := skipComment_decomp cs (p + 1)
            have := congrArg List.length b1
            rw [List.length_append] at this
            exact ih _ _ _ (by omega) (by omega)
          · rfl

theorem skipWs_blanks (t : Bytes) (ht : ∀ c ∈ t, isBlankB c = true) (rest : Bytes) (fuel p : Nat) :
    skipWs (t.length + fuel) (t ++ rest) p = skipWs fuel rest (p + t.length) := by
  induction t generalizing p with
  | nil => simp
  | cons c cs ih =>
    obtain ⟨hc, hcs⟩ := List.forall_mem_cons.mp ht
    rw [List.length_cons, Nat.add_right_comm, List.cons_append, skipWs_succ_cons, if_pos hc, ih hcs,
      Nat.add_assoc, Nat.add_comm 1]

theorem skipWs_comment (body rest : Bytes) (hb : (10 : UInt8) ∉ body)
    (hr : rest = [] ∨ rest.head? = some 10) (fuel p : Nat) :
    skipWs (fuel + 1) (35 :: body ++ rest) p = skipWs fuel rest (p + (35 :: body).length) := by
  rw [List.cons_append, skipWs_succ_cons, if_neg (by decide), if_pos (by decide),
    skipComment_spec body rest (p + 1) hb hr, List.length_cons, Nat.add_assoc, Nat.add_comm 1]

/-- Horizontal trivia in front of `rest`: blanks, tabs, CRs and `#` comments, each comment
    running up to a newline or the end of the text. -/
inductive Trivia : Bytes → Bytes → Prop
  | nil (rest : Bytes) : Trivia [] rest
  | blank (c : UInt8) (t rest : Bytes) : isBlankB c = true → Trivia t rest → Trivia (c :: t) rest
  | comment (body t rest : Bytes) : (10 : UInt8) ∉ body →
      (t ++ rest = [] ∨ (t ++ rest).head? = some 10) → Trivia t rest →
      Trivia (35 :: body ++ t) rest

theorem skipWs_trivia_gen {t rest : Bytes} (ht : Trivia t rest) (f1 f2 p : Nat)
    (h1 : (t ++ rest).length < f1) (h2 : rest.length < f2) :
    skipWs f1 (t ++ rest) p = skipWs f2 rest (p + t.length) := by
  induction ht generalizing f1 p with
  | nil rest => exact skipWs_fuel f1 f2 rest p h1 h2
  | blank c t rest hc _ ih =>
    obtain ⟨f, rfl⟩ : ∃ f, f1 = f + 1 := ⟨f1 - 1, by omega⟩
    rw [List.cons_append, skipWs_succ_cons, if_pos hc, ih f (p + 1) (by simpa using h1) h2,
      List.length_cons, Nat.add_assoc, Nat.add_comm 1]
  | comment body t rest hb hr _ ih =>
    obtain ⟨f, rfl⟩ : ∃ f, f1 = f + 1 := ⟨f1 - 1, by omega⟩
    rw [List.append_assoc, skipWs_comment body (t ++ rest) hb hr,
      ih f _ (by simp at h1 ⊢; omega) h2, Nat.add_assoc, ← List.length_append]

theorem spanB_cons (f : UInt8 → Bool) (c : UInt8) (cs : Bytes) :
    spanB f (c :: cs) = if f c then (c :: (spanB f cs).1, (spanB f cs).2) else ([], c :: cs) := by
  simp only [spanB]

theorem spanB_append (f : UInt8 → Bool) (r : Bytes) : (spanB f r).1 ++ (spanB f r).2 = r := by
  induction r with
  | nil => rfl
  | cons c cs ih => rw [spanB_cons]; split <;> simp [ih]

theorem spanB_all (f : UInt8 → Bool) (r : Bytes) : ∀ c ∈ (spanB f r).1, f c = true := by
  induction r with
  | nil => simp [spanB]
  | cons c cs ih =>
    rw [spanB_cons]; split
    · exact List.forall_mem_cons.mpr ⟨‹_›, ih⟩
    · simp

theorem spanB_rest (f : UInt8 → Bool) (r : Bytes) :
    ∀ c, (spanB f r).2.head? = some c → f c = false := by
  induction r with
  | nil => simp [spanB]
  | cons c cs ih =>
    rw [spanB_cons]; split
    · exact ih
    · rintro _ ⟨⟩; exact Bool.of_not_eq_true ‹_›

theorem spanB_spec (f : UInt8 → Bool) (w rest : Bytes) (hw : ∀ c ∈ w, f c = true)
    (hr : ∀ c, rest.head? = some c → f c = false) : spanB f (w ++ rest) = (w, rest) := by
  induction w with
  | nil =>
    cases rest with
    | nil => rfl
    | cons d ds => simp [spanB_cons, hr d rfl]
  | cons c cs ih =>
    obtain ⟨hc, hcs⟩ := List.forall_mem_cons.mp hw
    rw [List.cons_append, spanB_cons, if_pos hc, ih hcs]

theorem scanTo_some_iff (q : UInt8) (r body r' : Bytes) :
    scanTo q r = some (body, r') ↔ r = body ++ q :: r' ∧ q ∉ body := by
  constructor
  · intro h
    induction r generalizing body with
    | nil => cases h
    | cons c cs ih =>
      rw [scanTo] at h
      split at h
      · obtain rfl := eq_of_beq ‹_›
        cases h
        exact ⟨rfl, List.not_mem_nil⟩
      · rename_i hc
        split at h
        · rename_i a b hs
          cases h
          obtain ⟨rfl, hn⟩ := ih a hs
          exact ⟨rfl, List.not_mem_cons_of_ne_of_not_mem (Ne.symm (by simpa using hc)) hn⟩
        · cases h
  · rintro ⟨rfl, hn⟩
    induction body with
    | nil => simp [scanTo]
    | cons b bs ih =>
      rw [List.cons_append, scanTo, if_neg (by simpa using (List.ne_of_not_mem_cons hn).symm),
        ih (List.not_mem_of_not_mem_cons hn)]

theorem scanTo_none_iff (q : UInt8) (r : Bytes) : scanTo q r = none ↔ q ∉ r := by
  induction r with
  | nil => simp [scanTo]
  | cons c cs ih =>
    rw [scanTo, List.mem_cons, not_or, ← ih]
    by_cases hc : c = q
    · simp [hc]
    · cases scanTo q cs <;> simp [hc, Ne.symm hc]

theorem identifier_eq (pre : Bytes) (start : Nat) (r : Bytes) :
    identifier pre start r =
      ((match keyword (pre ++ (spanB isIdentB r).1) with
        | some t => ⟨t, start, []⟩
        | none => ⟨.ident, start, pre ++ (spanB isIdentB r).1⟩),
       ⟨(spanB isIdentB r).2, start + (pre ++ (spanB isIdentB r).1).length, start⟩) := by
  unfold identifier
  generalize spanB isIdentB r = x
  obtain ⟨w, r'⟩ := x
  dsimp only
  cases keyword (pre ++ w) <;> rfl

theorem number_eq (start : Nat) (r : Bytes) :
    number start r =
      match (spanB isDigitB r).2 with
      | 46 :: d :: r2 =>
        if isDigitB d then
          (⟨.num, start, (spanB isDigitB r).1 ++ 46 :: (spanB isDigitB (d :: r2)).1⟩,
           ⟨(spanB isDigitB (d :: r2)).2,
            start + ((spanB isDigitB r).1 ++ 46 :: (spanB isDigitB (d :: r2)).1).length, start⟩)
        else (⟨.num, start, (spanB isDigitB r).1⟩,
              ⟨(spanB isDigitB r).2, start + (spanB isDigitB r).1.length, start⟩)
      | _ => (⟨.num, start, (spanB isDigitB r).1⟩,
              ⟨(spanB isDigitB r).2, start + (spanB isDigitB r).1.length, start⟩) := by
  unfold number
  rfl

def isKeywordTag (t : Tag) : Bool :=
  [Tag.begin_, .end_, .beginFile, .endFile, .print, .dollar, .function, .return_, .if_, .else_,
   .for_, .while_, .in_, .match_, .true_, .false_, .break_, .continue_, .next, .exit, .null,
   .is].contains t

/-- `keyword` answers with a keyword tag, and only on that tag's spelling -/
theorem keyword_some (s : Bytes) :
    ∀ t, keyword s = some t → isKeywordTag t = true ∧ t.spelling = s := by
  unfold keyword
  iterate 22 refine ite_some_elim (fun h => ⟨rfl, (eq_of_beq h).symm⟩) ?_
  intro t h; cases h

theorem keywordTag_plain (t : Tag) (h : isKeywordTag t = true) :
    t ≠ .ident ∧ t ≠ .num ∧ t ≠ .eof ∧ t.hasText = false := by
  replace h := List.contains_iff_mem.mp h
  revert t
  decide

/-- `tok` are the bytes a scanner consumed from `r` at offset `p`, yielding token `t` and
    successor state `s'`. -/
def Consumed (r : Bytes) (p : Nat) (t : Token) (s' : LexState) : Prop :=
  ∃ tok, tok ≠ [] ∧ r = tok ++ s'.rest ∧ s'.pos = p + tok.length ∧ p ≤ t.pos ∧ t.pos ≤ s'.pos

theorem number_spec (start : Nat) (r : Bytes) :
    (number start r).1.tag = .num ∧ (number start r).1.pos = start ∧
    r = (number start r).1.text ++ (number start r).2.rest ∧
    (number start r).2.pos = start + (number start r).1.text.length ∧
    (number start r).2.tokenStart = start ∧
    (∀ c, (number start r).2.rest.head? = some c → isDigitB c = false) ∧
    (∀ c ∈ (spanB isDigitB r).1, isDigitB c = true) ∧
    (((number start r).1.text = (spanB isDigitB r).1 ∧
        ∀ d r2, (number start r).2.rest = 46 :: d :: r2 → isDigitB d = false) ∨
     ∃ fs, fs ≠ [] ∧ (∀ c ∈ fs, isDigitB c = true) ∧
        (number start r).1.text = (spanB isDigitB r).1 ++ [46] ++ fs) := by
  have happ := spanB_append isDigitB r
  have hall := spanB_all isDigitB r
  have hrest := spanB_rest isDigitB r
  rw [number_eq]
  generalize (spanB isDigitB r).1 = ds at *
  generalize (spanB isDigitB r).2 = r1 at *
  subst happ
  split
  · rename_i d r2
    split
    · rename_i hd
      exact ⟨rfl, rfl, by simp [spanB_append], rfl, rfl, spanB_rest isDigitB (d :: r2), hall, .inr
        ⟨(spanB isDigitB (d :: r2)).1, by simp [spanB_cons, hd], spanB_all isDigitB (d :: r2), by simp⟩⟩
    · rename_i hd
      exact ⟨rfl, rfl, rfl, rfl, rfl, hrest, hall,
        .inl ⟨rfl, by rintro _ _ ⟨⟩; exact Bool.of_not_eq_true hd⟩⟩
  · rename_i hno
    exact ⟨rfl, rfl, rfl, rfl, rfl, hrest, hall, .inl ⟨rfl, fun d r2 h => (hno d r2 h).elim⟩⟩

theorem string_ok_iff (q : UInt8) (start : Nat) (r : Bytes) (t : Token) (s' : LexState) :
    string q start r = .ok (t, s') ↔
      ∃ body rest', r = body ++ q :: rest' ∧ q ∉ body ∧ t = ⟨.str, start + 1, body⟩ ∧
        s' = ⟨rest', start + 1 + body.length + 1, start + 1⟩ := by
  constructor
  · intro h
    unfold string at h
    split at h
    · cases h
    · rename_i body rest' hs
      cases h
      obtain ⟨h1, h2⟩ := (scanTo_some_iff q r body rest').mp hs
      exact ⟨body, rest', h1, h2, rfl, rfl⟩
  · rintro ⟨body, rest', h1, h2, rfl, rfl⟩
    rw [string, (scanTo_some_iff q r body rest').mpr ⟨h1, h2⟩]

theorem string_error_iff (q : UInt8) (start : Nat) (r : Bytes) (e : SynErr) :
    string q start r = .error e ↔
      q ∉ r ∧ e = ⟨start + 1, "unexpected EOF while reading string"⟩ := by
  constructor
  · intro h
    unfold string at h
    split at h
    · rename_i hs
      cases h
      exact ⟨(scanTo_none_iff q r).mp hs, rfl⟩
    · cases h
  · rintro ⟨hn, rfl⟩
    rw [string, (scanTo_none_iff q r).mpr hn]

end Lexer

namespace Prov
open Lexer

/-! ### what the scanners return is spelled where it says -/

/-- `t` (and successor state `s'`) is what the dispatch returns on the bytes `r` at offset `p`:
    either a token written `t.lexeme` at `p`, or a string token: a quote at `p`, the text, the
    same quote again. -/
def SpelledNext (r : Bytes) (p : Nat) (t : Token) (s' : LexState) : Prop :=
  (t.tag ≠ .str ∧ t.tag ≠ .eof ∧ t.tag ≠ .regex ∧ t.pos = p ∧ t.lexeme ≠ [] ∧
    r = t.lexeme ++ s'.rest ∧ s'.pos = p + t.lexeme.length ∧ s'.tokenStart = p) ∨
  (t.tag = .str ∧ ∃ q, (q = 39 ∨ q = 34) ∧ q ∉ t.text ∧ r = q :: t.text ++ q :: s'.rest ∧
    t.pos = p + 1 ∧ s'.pos = p + t.text.length + 2 ∧ s'.tokenStart = p + 1)

theorem spelled_fixed (tg : Tag) (r' : Bytes) (p : Nat) (h1 : tg.hasText = false)
    (h2 : tg.spelling ≠ []) :
    SpelledNext (tg.spelling ++ r') p ⟨tg, p, []⟩ ⟨r', p + tg.spelling.length, p⟩ := by
  have hl : (⟨tg, p, []⟩ : Token).lexeme = tg.spelling := by simp only [Token.lexeme, h1]; rfl
  rw [← hl] at h2 ⊢
  refine .inl ⟨?_, ?_, ?_, rfl, h2, rfl, rfl, rfl⟩
  · rintro ⟨⟩; cases h1
  · rintro ⟨⟩; exact h2 rfl
  · rintro ⟨⟩; cases h1

theorem identifier_spelled (pre : Bytes) (p : Nat) (r : Bytes)
    (h : pre ≠ [] ∨ ∃ c cs, r = c :: cs ∧ isIdentB c = true) :
    SpelledNext (pre ++ r) p (identifier pre p r).1 (identifier pre p r).2 := by
  have hne : pre ++ (spanB isIdentB r).1 ≠ [] := by
    rcases h with h | ⟨c, cs, rfl, hc⟩
    · simp [h]
    · simp [spanB_cons, hc]
  rw [identifier_eq, ← spanB_append isIdentB r, ← List.append_assoc, spanB_append]
  generalize pre ++ (spanB isIdentB r).1 = w at *
  cases hk : keyword w with
  | none => exact .inl ⟨nofun, nofun, nofun, rfl, hne, rfl, rfl, rfl⟩
  | some kw =>
    obtain ⟨hkw, rfl⟩ := keyword_some w kw hk
    exact spelled_fixed kw _ p (keywordTag_plain kw hkw).2.2.2 hne

theorem number_spelled (p : Nat) (c : UInt8) (cs : Bytes) (hc : isDigitB c = true) :
    SpelledNext (c :: cs) p (number p (c :: cs)).1 (number p (c :: cs)).2 := by
  obtain ⟨h1, h2, h3, h4, h5, _, _, h8⟩ := number_spec p (c :: cs)
  have hne : (number p (c :: cs)).1.text ≠ [] := by
    rcases h8 with ⟨h, _⟩ | ⟨fs, _, _, h⟩ <;> simp [h, spanB_cons, hc]
  generalize number p (c :: cs) = x at *
  have hl : x.1.lexeme = x.1.text := by rw [Token.lexeme, h1]; rfl
  rw [← hl] at h3 h4 hne
  refine .inl ⟨?_, ?_, ?_, h2, hne, h3, h4, h5⟩ <;> (rw [h1]; decide)

theorem string_spelled (q : UInt8) (hq : q = 39 ∨ q = 34) (p : Nat) (r : Bytes) (t : Token)
    (s' : LexState) (h : Lexer.string q p r = .ok (t, s')) : SpelledNext (q :: r) p t s' := by
  obtain ⟨body, rest', rfl, hnot, rfl, rfl⟩ := (string_ok_iff q p r t s').mp h
  exact .inr ⟨rfl, q, hq, hnot, rfl, rfl, by dsimp only; rw [Nat.add_right_comm p 1], rfl⟩

theorem SpelledNext.consumed {r : Bytes} {p : Nat} {t : Token} {s' : LexState}
    (h : SpelledNext r p t s') : Consumed r p t s' ∧ s'.tokenStart = t.pos := by
  rcases h with ⟨_, _, _, rfl, hne, hr, hpos, hts⟩ | ⟨_, q, _, _, hr, hp, hpos, hts⟩
  · exact ⟨⟨t.lexeme, hne, hr, hpos, Nat.le_refl _, hpos ▸ Nat.le_add_right _ _⟩, hts⟩
  · refine ⟨⟨q :: t.text ++ [q], List.cons_ne_nil _ _, ?_, ?_, hp ▸ Nat.le_add_right _ _, ?_⟩,
      hts.trans hp.symm⟩
    · rw [hr, List.append_assoc]; rfl
    · rw [hpos, List.length_append, List.length_cons, List.length_singleton]; rfl
    · rw [hp, hpos]; exact Nat.add_le_add (Nat.le_add_right _ _) (Nat.le_succ 1)

end Prov

namespace Lexer
open Prov

def isPunctTag (t : Tag) : Bool :=
  [Tag.newline, .lcurly, .rcurly, .lsquare, .rsquare, .lparen, .rparen, .lessThan, .greaterThan,
   .comma, .dot, .equal, .equalEqual, .bangEqual, .lessEqual, .greaterEqual, .colon, .semiColon,
   .plus, .minus, .multiply, .divide, .plusEqual, .minusEqual, .multiplyEqual, .divideEqual,
   .tilde, .bangTilde, .ampAmp, .pipePipe, .arrow, .bang, .plusPlus, .minusMinus, .percent].contains t

inductive LexAtRes (c : UInt8) (cs : Bytes) (p : Nat) : Except SynErr (Token × LexState) → Prop
  | one (tg : Tag) (h : isPunctTag tg = true) : LexAtRes c cs p (.ok (⟨tg, p, []⟩, ⟨cs, p + 1, p⟩))
  | two (tg : Tag) (h : isPunctTag tg = true) (d : UInt8) (r2 : Bytes) (hcs : cs = d :: r2) :
      LexAtRes c cs p (.ok (⟨tg, p, []⟩, ⟨r2, p + 2, p⟩))
  | dollar (h : c = 36) : LexAtRes c cs p (.ok (identifier [36] p cs))
  | ident (h : isIdentB c = true) (h : isDigitB c = false) : LexAtRes c cs p (.ok (identifier [] p (c :: cs)))
  | num (h : isDigitB c = true) : LexAtRes c cs p (.ok (number p (c :: cs)))
  | str (h : c = 39 ∨ c = 34) : LexAtRes c cs p (string c p cs)
  | bad : LexAtRes c cs p (.error ⟨p, "unexpected character"⟩)

theorem lexAt_res (c : UInt8) (cs : Bytes) (p : Nat) : LexAtRes c cs p (lexAt c cs p) := by
  unfold lexAt
  -- the `let`s of `lexAt`; `dsimp only` does the same at twenty times the cost on this term
  conv => zeta
  refine ite_elim (fun _ => .one _ (by decide)) (fun _ => ?_)
  refine ite_elim (fun h => .dollar (eq_of_beq h)) (fun _ => ?_)
  refine ite_elim (fun h => .num h) (fun hd => ?_)
  refine ite_elim (fun h => .ident ?_ (Bool.of_not_eq_true hd)) (fun _ => ?_)
  · rw [isIdentB, Bool.or_comm (c == 95), h, Bool.true_or]
  iterate 12 refine ite_elim (fun _ => .one _ (by decide)) (fun _ => ?_)
  iterate 10
    refine ite_elim (fun _ => ?_) (fun _ => ?_)
    · split <;> first | exact .one _ (by decide) | exact .two _ (by decide) _ _ rfl | exact .bad
  refine ite_elim (fun h => .str (by simpa using h)) (fun _ => .bad)

variable {c : UInt8} {cs : Bytes} {p : Nat} {res : Except SynErr (Token × LexState)}

theorem isPunctTag_ne (tg : Tag) (h : isPunctTag tg = true) : tg ≠ .num ∧ tg ≠ .eof := by
  replace h := List.contains_iff_mem.mp h
  revert tg
  decide

theorem identifier_tag (pre : Bytes) (start : Nat) (r : Bytes) :
    (identifier pre start r).1.tag ≠ .num ∧ (identifier pre start r).1.tag ≠ .eof := by
  rw [identifier_eq]; dsimp only
  split
  · exact ⟨(keywordTag_plain _ (keyword_some _ _ ‹_›).1).2.1, (keywordTag_plain _ (keyword_some _ _ ‹_›).1).2.2.1⟩
  · exact ⟨nofun, nofun⟩

/-- What a successful dispatch returns: the token's bytes were consumed from the input; its tag is
    never `.eof`, and `.num` only when `number` scanned it. -/
theorem LexAtRes.of_ok (hr : LexAtRes c cs p res) {x : Token × LexState} (h : res = .ok x) :
    Consumed (c :: cs) p x.1 x.2 ∧
    ((x.1.tag ≠ .num ∧ x.1.tag ≠ .eof) ∨
      (x.1.tag = .num ∧ isDigitB c = true ∧ number p (c :: cs) = x)) := by
  cases hr with
  | one tg ht =>
    cases h
    exact ⟨⟨[c], by simp, rfl, rfl, Nat.le_refl _, by simp⟩, .inl (isPunctTag_ne tg ht)⟩
  | two tg ht d r2 hcs =>
    cases h; subst hcs
    exact ⟨⟨[c, d], by simp, rfl, rfl, Nat.le_refl _, by simp⟩, .inl (isPunctTag_ne tg ht)⟩
  | dollar hc =>
    cases h; subst hc
    exact ⟨(identifier_spelled [36] p cs (.inl (by simp))).consumed.1, .inl (identifier_tag [36] p cs)⟩
  | ident hi _ =>
    cases h
    exact ⟨(identifier_spelled [] p (c :: cs) (.inr ⟨c, cs, rfl, hi⟩)).consumed.1,
      .inl (identifier_tag [] p (c :: cs))⟩
  | num hd => cases h; exact ⟨(number_spelled p c cs hd).consumed.1, .inr ⟨(number_spec p (c :: cs)).1, hd, rfl⟩⟩
  | str hq =>
    obtain ⟨body, rest', _, _, ht, _⟩ := (string_ok_iff c p cs x.1 x.2).mp h
    exact ⟨(string_spelled c hq p cs x.1 x.2 h).consumed.1, .inl (by rw [ht]; exact ⟨nofun, nofun⟩)⟩
  | bad => cases h

theorem LexAtRes.consumed (hr : LexAtRes c cs p res) {t : Token} {s' : LexState}
    (h : res = .ok (t, s')) : Consumed (c :: cs) p t s' :=
  (hr.of_ok h).1

theorem LexAtRes.ne_eof (hr : LexAtRes c cs p res) {t : Token} {s' : LexState}
    (h : res = .ok (t, s')) : t.tag ≠ .eof := by
  rcases (hr.of_ok h).2 with h' | h'
  · exact h'.2
  · exact h'.1 ▸ nofun

theorem LexAtRes.num_only (hr : LexAtRes c cs p res) {t : Token} {s' : LexState}
    (h : res = .ok (t, s')) (ht : t.tag = .num) :
    isDigitB c = true ∧ number p (c :: cs) = (t, s') := by
  rcases (hr.of_ok h).2 with h' | h'
  · exact absurd ht h'.1
  · exact h'.2

theorem LexAtRes.error (hr : LexAtRes c cs p res) {e : SynErr} (h : res = .error e) :
    e = ⟨p, "unexpected character"⟩ ∨
    ((c = 39 ∨ c = 34) ∧ c ∉ cs ∧ e = ⟨p + 1, "unexpected EOF while reading string"⟩) := by
  cases hr with
  | str hq => exact .inr ⟨hq, (string_error_iff c p cs e).mp h⟩
  | bad => cases h; exact .inl rfl
  | _ => cases h

/-- bytes that begin some token on their own (`&` and `|` need a second, equal byte) -/
def canStartToken (c : UInt8) : Bool :=
  c == 10 || c == 36 || isDigitB c || (isLetterB c || c == 95) ||
  c == 123 || c == 125 || c == 91 || c == 93 || c == 40 || c == 41 || c == 44 || c == 46 ||
  c == 59 || c == 58 || c == 126 || c == 37 || c == 60 || c == 62 || c == 43 || c == 45 ||
  c == 42 || c == 47 || c == 61 || c == 33 || c == 39 || c == 34

def UnexpOK (c : UInt8) (cs : Bytes) (res : Except SynErr (Token × LexState)) : Prop :=
  ∀ e, res = .error e → e.msg = "unexpected character" →
      (canStartToken c = false ∧ c ≠ 38 ∧ c ≠ 124) ∨ (c = 38 ∧ cs.head? ≠ some 38) ∨
      (c = 124 ∧ cs.head? ≠ some 124)

theorem unexpOK_ok (c : UInt8) (cs : Bytes) (x : Token × LexState) : UnexpOK c cs (.ok x) :=
  fun _ h => nomatch h

theorem head?_ne_some {k : UInt8} {cs : Bytes} (h : ∀ r2, cs = k :: r2 → False) :
    cs.head? ≠ some k :=
  fun hh => (List.head?_eq_some_iff.mp hh).elim h

theorem lexAt_unexpected (c : UInt8) (cs : Bytes) (p : Nat) : UnexpOK c cs (lexAt c cs p) := by
  unfold lexAt
  conv => zeta
  iterate 16 refine ite_elim (fun _ => unexpOK_ok c cs _) (fun _ => ?_)
  iterate 8
    refine ite_elim (fun _ => ?_) (fun _ => ?_)
    · split <;> exact unexpOK_ok _ _ _
  refine ite_elim (fun hc => ?_) (fun h38 => ?_)
  · split
    · exact unexpOK_ok _ _ _
    · exact fun e _ _ => .inr (.inl ⟨eq_of_beq hc, head?_ne_some ‹_›⟩)
  refine ite_elim (fun hc => ?_) (fun h124 => ?_)
  · split
    · exact unexpOK_ok _ _ _
    · exact fun e _ _ => .inr (.inr ⟨eq_of_beq hc, head?_ne_some ‹_›⟩)
  refine ite_elim (fun _ e h hm => ?_) (fun _ e h hm => ?_)
  · obtain ⟨_, rfl⟩ := (string_error_iff c p cs e).mp h
    simp at hm
  · simp only [Bool.not_eq_true, Bool.or_eq_false_iff] at *
    refine .inl ⟨?_, ne_of_beq_false h38, ne_of_beq_false h124⟩
    simp only [canStartToken, Bool.or_eq_false_iff, *, and_self]

theorem lexAt_of_cannotStart (c : UInt8) (cs : Bytes) (p : Nat) (h : canStartToken c = false)
    (h38 : c ≠ 38) (h124 : c ≠ 124) : lexAt c cs p = .error ⟨p, "unexpected character"⟩ := by
  simp only [canStartToken, Bool.or_eq_false_iff] at h
  unfold lexAt
  conv => zeta
  simp only [h, beq_eq_false_iff_ne.mpr h38, beq_eq_false_iff_ne.mpr h124, Bool.false_eq_true,
    ↓reduceIte, Bool.or_self]

theorem next_cases (s : LexState) :
    ∃ ws r, s.rest = ws ++ r ∧ skipWs (s.rest.length + 1) s.rest s.pos = (r, s.pos + ws.length) ∧
      next s = match r with
        | [] => .ok (⟨.eof, s.tokenStart, []⟩, ⟨[], s.pos + ws.length, s.tokenStart⟩)
        | c :: cs => lexAt c cs (s.pos + ws.length) := by
  obtain ⟨ws, h1, h2⟩ := skipWs_decomp (s.rest.length + 1) s.rest s.pos
  rw [next_eq]
  generalize skipWs (s.rest.length + 1) s.rest s.pos = x at *
  obtain ⟨r, q⟩ := x
  cases h2
  exact ⟨ws, r, h1, rfl, by cases r <;> rfl⟩

theorem next_progress (s : LexState) (t : Token) (s' : LexState) (h : next s = .ok (t, s'))
    (ht : t.tag ≠ .eof) : s'.rest.length < s.rest.length := by
  obtain ⟨ws, r, h1, _, h3⟩ := next_cases s
  rw [h3] at h
  cases r with
  | nil => cases h; exact absurd rfl ht
  | cons c cs =>
    obtain ⟨tok, hne, h4, _⟩ := (lexAt_res c cs _).consumed h
    have : 0 < tok.length := List.length_pos_iff.mpr hne
    rw [h1, h4]; simp; omega

end Lexer

namespace Prov
open Lexer

/-- the dispatch of `Lexer.next`: the token returned is spelled at the offset of the byte the
    dispatch looked at (strings: just behind it) -/
def SpOK (c : UInt8) (cs : Bytes) (p : Nat) (res : Except SynErr (Token × LexState)) : Prop :=
  ∀ t s', res = .ok (t, s') → SpelledNext (c :: cs) p t s'

theorem SpOK.ok {c : UInt8} {cs : Bytes} {p : Nat} {x : Token × LexState}
    (h : SpelledNext (c :: cs) p x.1 x.2) : SpOK c cs p (.ok x) := by
  rintro t s' ⟨⟩; exact h

theorem SpOK.error {c : UInt8} {cs : Bytes} {p : Nat} {e : SynErr} : SpOK c cs p (.error e) :=
  fun _ _ h => nomatch h

theorem SpOK.one {c k : UInt8} {cs : Bytes} {p : Nat} {tg : Tag} (hc : (c == k) = true)
    (ht : tg.hasText = false) (hs : tg.spelling = [k]) :
    SpOK c cs p (.ok (⟨tg, p, []⟩, ⟨cs, p + 1, p⟩)) := by
  cases eq_of_beq hc
  have := spelled_fixed tg cs p ht (by rw [hs]; exact List.cons_ne_nil _ _)
  rw [hs] at this; exact .ok this

theorem SpOK.two {c k d : UInt8} {r2 : Bytes} {p : Nat} {tg : Tag} (hc : (c == k) = true)
    (ht : tg.hasText = false) (hs : tg.spelling = [k, d]) :
    SpOK c (d :: r2) p (.ok (⟨tg, p, []⟩, ⟨r2, p + 2, p⟩)) := by
  cases eq_of_beq hc
  have := spelled_fixed tg r2 p ht (by rw [hs]; exact List.cons_ne_nil _ _)
  rw [hs] at this; exact .ok this

theorem lexAt_spelled (c : UInt8) (cs : Bytes) (p : Nat) : SpOK c cs p (lexAt c cs p) := by
  unfold lexAt
  refine ite_elim (P := SpOK c cs p) (fun h => .one h rfl rfl) (fun _ => ?_)
  refine ite_elim (P := SpOK c cs p) (fun h => ?_) (fun _ => ?_)
  · cases eq_of_beq h; exact .ok (identifier_spelled [36] p cs (.inl (List.cons_ne_nil _ _)))
  refine ite_elim (P := SpOK c cs p) (fun h => .ok (number_spelled p c cs h)) (fun _ => ?_)
  refine ite_elim (P := SpOK c cs p) (fun h => ?_) (fun _ => ?_)
  · refine .ok (identifier_spelled [] p (c :: cs) (.inr ⟨c, cs, rfl, ?_⟩))
    rw [isIdentB, Bool.or_comm (c == 95), h, Bool.true_or]
  iterate 12 refine ite_elim (P := SpOK c cs p) (fun h => .one h rfl rfl) (fun _ => ?_)
  iterate 2 -- `<`, `>`
    refine ite_elim (P := SpOK c cs p) (fun h => ?_) (fun _ => ?_)
    · split
      · exact .two h rfl rfl
      · exact .one h rfl rfl
  iterate 2 -- `+`, `-`
    refine ite_elim (P := SpOK c cs p) (fun h => ?_) (fun _ => ?_)
    · split
      · exact .two h rfl rfl
      · exact .two h rfl rfl
      · exact .one h rfl rfl
  iterate 2 -- `*`, `/`
    refine ite_elim (P := SpOK c cs p) (fun h => ?_) (fun _ => ?_)
    · split
      · exact .two h rfl rfl
      · exact .one h rfl rfl
  iterate 2 -- `=`, `!`
    refine ite_elim (P := SpOK c cs p) (fun h => ?_) (fun _ => ?_)
    · split
      · exact .two h rfl rfl
      · exact .two h rfl rfl
      · exact .one h rfl rfl
  iterate 2 -- `&`, `|`
    refine ite_elim (P := SpOK c cs p) (fun h => ?_) (fun _ => ?_)
    · split
      · exact .two h rfl rfl
      · exact .error
  refine ite_elim (fun h => ?_) (fun _ => .error)
  exact string_spelled c (((Bool.or_eq_true _ _).mp h).imp eq_of_beq eq_of_beq) p cs

/-- `Lexer.next`, success: the EOF token at the end of the text (carrying the stale
    `tokenStart`), or a token spelled behind the skipped trivia `ws` -/
theorem next_spelled (s : LexState) (t : Token) (s' : LexState) (h : Lexer.next s = .ok (t, s')) :
    ∃ ws r, s.rest = ws ++ r ∧
      ((r = [] ∧ t = ⟨.eof, s.tokenStart, []⟩ ∧ s' = ⟨[], s.pos + ws.length, s.tokenStart⟩) ∨
       (r ≠ [] ∧ SpelledNext r (s.pos + ws.length) t s')) := by
  obtain ⟨ws, r, h1, _, h3⟩ := next_cases s
  rw [h3] at h
  refine ⟨ws, r, h1, ?_⟩
  cases r with
  | nil => cases h; exact .inl ⟨rfl, rfl, rfl⟩
  | cons c cs => exact .inr ⟨List.cons_ne_nil _ _, lexAt_spelled c cs _ t s' h⟩

theorem next_eof {s : LexState} {t : Token} {s' : LexState} (h : Lexer.next s = .ok (t, s'))
    (he : t.tag = .eof) : t = ⟨.eof, s.tokenStart, []⟩ ∧ s'.rest = [] := by
  obtain ⟨ws, r, _, hc⟩ := next_spelled s t s' h
  rcases hc with ⟨_, rfl, rfl⟩ | ⟨_, ⟨_, h2, _⟩ | ⟨h2, _⟩⟩
  · exact ⟨rfl, rfl⟩
  · exact absurd he h2
  · rw [h2] at he; cases he

/-- `Lexer.next`, failure: an illegal byte behind the skipped trivia `ws`, or a string whose
    opening quote stands there and is never closed -/
theorem next_error_eq (s : LexState) (e : SynErr) (h : Lexer.next s = .error e) :
    ∃ ws c cs, s.rest = ws ++ c :: cs ∧
      (e = ⟨s.pos + ws.length, "unexpected character"⟩ ∨
       ((c = 39 ∨ c = 34) ∧ c ∉ cs ∧
        e = ⟨s.pos + ws.length + 1, "unexpected EOF while reading string"⟩)) := by
  obtain ⟨ws, r, h1, _, h3⟩ := next_cases s
  rw [h3] at h
  cases r with
  | nil => cases h
  | cons c cs => exact ⟨ws, c, cs, h1, (lexAt_res c cs _).error h⟩

/-- `Lexer.next`, failure: an illegal byte at the offset reported, or a string whose opening
    quote stands just before the offset reported and is never closed -/
theorem next_error (s : LexState) (e : SynErr) (h : Lexer.next s = .error e) :
    ∃ ws c cs, s.rest = ws ++ c :: cs ∧
      (e.pos = s.pos + ws.length ∨ ((c = 39 ∨ c = 34) ∧ c ∉ cs ∧ e.pos = s.pos + ws.length + 1)) := by
  obtain ⟨ws, c, cs, h1, h2⟩ := next_error_eq s e h
  refine ⟨ws, c, cs, h1, ?_⟩
  rcases h2 with rfl | ⟨hq, hn, rfl⟩
  · exact .inl rfl
  · exact .inr ⟨hq, hn, rfl⟩

theorem divide_lexeme {t : Token} (h : t.tag = .divide) : t.lexeme = [47] := by
  rw [Token.lexeme, h]; rfl

theorem SpelledNext.divide {r : Bytes} {p : Nat} {t : Token} {s' : LexState}
    (h : SpelledNext r p t s') (hd : t.tag = .divide) :
    t.pos = p ∧ s'.pos = p + 1 ∧ r = 47 :: s'.rest := by
  rcases h with ⟨_, _, _, hp, _, hr, hpos, _⟩ | ⟨hs, _⟩
  · rw [divide_lexeme hd] at hr hpos; exact ⟨hp, hpos, hr⟩
  · rw [hs] at hd; cases hd

end Prov

namespace Lexer
open Prov

theorem next_suffix (s : LexState) (t : Token) (s' : LexState) (h : next s = .ok (t, s')) :
    ∃ pre, s.rest = pre ++ s'.rest := by
  obtain ⟨ws, r, h1, _, h3⟩ := next_cases s
  rw [h3] at h
  cases r with
  | nil => cases h; exact ⟨s.rest, by simp⟩
  | cons c cs =>
    obtain ⟨tok, _, h4, _⟩ := (lexAt_res c cs _).consumed h
    exact ⟨ws ++ tok, by rw [h1, h4, List.append_assoc]⟩

/-- an answer other than EOF does not depend on `tokenStart` -/
theorem next_ts (r : Bytes) (q ts₁ ts₂ : Nat) (t : Token) (s' : LexState)
    (h : next ⟨r, q, ts₁⟩ = .ok (t, s')) (ht : t.tag ≠ .eof) : next ⟨r, q, ts₂⟩ = .ok (t, s') := by
  rw [next_eq] at h ⊢
  dsimp only at h ⊢
  generalize skipWs (r.length + 1) r q = sk at h ⊢
  obtain ⟨r', q'⟩ := sk
  cases r' with
  | nil =>
    simp only [Except.ok.injEq, Prod.mk.injEq] at h
    exact absurd (by rw [← h.1]) ht
  | cons c cs => exact h

theorem next_trivia {t rest : Bytes} (ht : Trivia t rest) (p ts : Nat) :
    next ⟨t ++ rest, p, ts⟩ = next ⟨rest, p + t.length, ts⟩ := by
  rw [next_eq, next_eq]
  dsimp only
  rw [skipWs_trivia_gen ht _ (rest.length + 1) p (Nat.lt_succ_self _) (Nat.lt_succ_self _)]

/-- nothing to skip: the text is empty or begins with a byte that is no blank, `#` or newline -/
def Solid (x : Bytes) : Prop := ∀ c, x.head? = some c → isBlankB c = false ∧ c ≠ 35 ∧ c ≠ 10

theorem next_solid {c : UInt8} {cs : Bytes} (h : Solid (c :: cs)) (q ts : Nat) :
    next ⟨c :: cs, q, ts⟩ = lexAt c cs q := by
  obtain ⟨h1, h2, _⟩ := h c rfl
  rw [next_eq]; dsimp only
  rw [skipWs_succ_cons, if_neg (by rw [h1]; decide), if_neg (by simpa using h2)]

theorem lexAt_newline {c : UInt8} {cs : Bytes} {q : Nat} {t : Token} {s' : LexState}
    (h : lexAt c cs q = .ok (t, s')) (ht : t.tag = .newline) : c = 10 := by
  rcases lexAt_spelled c cs q t s' h with ⟨_, _, _, _, _, hr, _⟩ | ⟨hs, _⟩
  · have hl : t.lexeme = [10] := by rw [Token.lexeme, ht]; rfl
    rw [hl] at hr
    exact (List.cons.inj hr).1
  · rw [hs] at ht; cases ht

theorem regex_ok_iff (s : LexState) (t : Token) (s' : LexState) :
    regex s = .ok (t, s') ↔
      ∃ body rest', s.rest = body ++ 47 :: rest' ∧ (47 : UInt8) ∉ body ∧
        t = ⟨.regex, s.tokenStart + 1, body⟩ ∧
        s' = ⟨rest', s.pos + body.length + 1, s.tokenStart + 1⟩ := by
  unfold regex
  constructor
  · intro h
    split at h
    · cases h
    · rename_i b r' hs
      cases h
      obtain ⟨h1, h2⟩ := (scanTo_some_iff 47 s.rest b r').mp hs
      exact ⟨b, r', h1, h2, rfl, rfl⟩
  · rintro ⟨body, rest', h1, h2, rfl, rfl⟩
    rw [(scanTo_some_iff 47 s.rest body rest').mpr ⟨h1, h2⟩]

theorem regex_error_iff (s : LexState) (e : SynErr) :
    regex s = .error e ↔
      (47 : UInt8) ∉ s.rest ∧ e = ⟨s.tokenStart, "unexpected EOF while reading regex"⟩ := by
  unfold regex
  constructor
  · intro h
    split at h
    · rename_i hs
      cases h
      exact ⟨(scanTo_none_iff 47 s.rest).mp hs, rfl⟩
    · cases h
  · rintro ⟨hn, rfl⟩
    rw [(scanTo_none_iff 47 s.rest).mpr hn]

theorem regex_tag (s : LexState) (t : Token) (s' : LexState) (h : regex s = .ok (t, s')) :
    t.tag = .regex := by
  obtain ⟨_, _, _, _, rfl, _⟩ := (regex_ok_iff s t s').mp h; rfl

theorem regex_suffix (s : LexState) (t : Token) (s' : LexState) (h : regex s = .ok (t, s')) :
    ∃ pre, s.rest = pre ++ s'.rest := by
  obtain ⟨body, r', he, _, _, rfl⟩ := (regex_ok_iff s t s').mp h
  exact ⟨body ++ [47], by rw [he, List.append_assoc]; rfl⟩

end Lexer

end Jqawk
