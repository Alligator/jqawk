/-
  The master invariant of the evaluator (DESIGN.md §1c, §6 C01/C08/C11/C20):
  whatever way an evaluation ends, (1) the frame stack has the shape it had before — same
  depth, every deeper frame untouched, the innermost frame keeps its name (it may have gained
  locals) —, (2) `root` and `ruleRoot` are unchanged, (3) output was only appended,
  (4) the ghost fault counter grew by exactly one iff the result is a runtime error, and then
  nothing was printed after the fault, (5) the ghost `maxDepth` only grows and stays below
  `callDepthLimit + 1` unless it was above already (`Keeps.depth`).
  `Safe` holds of the primitives and is kept by `handle` and `framed`, hence of every `Shaped`
  computation (`Safe.of_shaped`); `allSafe` reads it off `allShaped` field by field.
-/
import Jqawk.Lemmas.ShapedEval


namespace Jqawk

def FramesKeep : List Frame → List Frame → Prop
  | [], [] => True
  | a :: as, b :: bs => b.name = a.name ∧ bs = as
  | _, _ => False

theorem FramesKeep.refl (f : List Frame) : FramesKeep f f := by
  cases f <;> simp [FramesKeep]

theorem FramesKeep.trans {a b c : List Frame} (h1 : FramesKeep a b) (h2 : FramesKeep b c) :
    FramesKeep a c := by
  cases a <;> cases b <;> cases c <;> simp_all [FramesKeep]

theorem FramesKeep.length {a b : List Frame} (h : FramesKeep a b) : b.length = a.length := by
  cases a <;> cases b <;> simp_all [FramesKeep]

structure Keeps (s s' : St) : Prop where
  frames : FramesKeep s.frames s'.frames
  root : s'.root = s.root
  ruleRoot : s'.ruleRoot = s.ruleRoot
  out : ∃ c, s'.out = c ++ s.out
  depth : s.maxDepth ≤ s'.maxDepth ∧ s'.maxDepth ≤ max s.maxDepth (callDepthLimit + 1)

theorem depth_refl (s : St) : s.maxDepth ≤ s.maxDepth ∧ s.maxDepth ≤ max s.maxDepth (callDepthLimit + 1) :=
  ⟨Nat.le_refl _, Nat.le_max_left _ _⟩

theorem Keeps.refl (s : St) : Keeps s s := ⟨FramesKeep.refl _, rfl, rfl, ⟨[], rfl⟩, depth_refl s⟩

theorem Keeps.trans {a b c : St} (h1 : Keeps a b) (h2 : Keeps b c) : Keeps a c := by
  obtain ⟨f1, r1, rr1, ⟨c1, o1⟩, d1⟩ := h1
  obtain ⟨f2, r2, rr2, ⟨c2, o2⟩, d2⟩ := h2
  exact ⟨f1.trans f2, r2.trans r1, rr2.trans rr1, ⟨c2 ++ c1, by rw [o2, o1, List.append_assoc]⟩,
    ⟨by omega, by omega⟩⟩

/-- the invariant on a result, relative to the state the evaluation started from -/
def Q {α : Type} (s : St) : Res α → Prop
  | .ok _ s' => Keeps s s' ∧ s'.faults = s.faults
  | .err (.runtime _ _) s' => Keeps s s' ∧ s'.faults = s.faults + 1 ∧ s'.faultOut = s'.out.length
  | .err (.sig _) s' => Keeps s s' ∧ s'.faults = s.faults
  | .err (.panic _) s' => Keeps s s'
  | .err (.unmodelled _) s' => Keeps s s'
  | .oof => True

theorem Q.trans {α : Type} {s s1 : St} {r : Res α} (hk : Keeps s s1) (hf : s1.faults = s.faults)
    (h : Q s1 r) : Q s r := by
  cases r with
  | ok a s' => exact ⟨hk.trans h.1, h.2.trans hf⟩
  | err e s' =>
    cases e with
    | runtime p m => exact ⟨hk.trans h.1, by rw [h.2.1, hf], h.2.2⟩
    | sig g => exact ⟨hk.trans h.1, h.2.trans hf⟩
    | panic m => exact hk.trans h
    | unmodelled w => exact hk.trans h
  | oof => trivial

theorem Q.keeps {α : Type} {s s' : St} {r : Res α}
    (hs : (match r with | .ok _ t => some t | .err _ t => some t | .oof => none) = some s') (h : Q s r) :
    Keeps s s' := by
  cases r with
  | ok a t => cases hs; exact h.1
  | err e t =>
    cases hs
    cases e with
    | runtime p m => exact h.1
    | sig g => exact h.1
    | panic m => exact h
    | unmodelled w => exact h
  | oof => cases hs

def Safe {α : Type} (m : EM α) : Prop := ∀ s, Q s (m s)

namespace Safe

theorem pure {α : Type} (a : α) : Safe (Pure.pure a : EM α) := fun s => ⟨Keeps.refl s, rfl⟩

/-- the one rule for the control combinators (`Lemmas/EvalSteps.lean`) -/
theorem handle {α β : Type} {m : EM α} {onOk : α → EM β} {onSig : Sig → Option (EM β)}
    (hm : Safe m) (hok : ∀ a, Safe (onOk a)) (hsig : ∀ g k, onSig g = some k → Safe k) :
    Safe (Jqawk.handle m onOk onSig) := by
  intro s
  have h := hm s
  unfold Jqawk.handle
  split <;> simp only [*] at h
  · exact Q.trans h.1 h.2 (hok _ _)
  · split
    · exact Q.trans h.1 h.2 (hsig _ _ ‹_› _)
    · exact h
  · rename_i e _ _ _; cases e <;> exact h
  · trivial

theorem bind {α β : Type} {m : EM α} {f : α → EM β} (hm : Safe m) (hf : ∀ a, Safe (f a)) :
    Safe (m >>= f) :=
  bind_eq_handle m f ▸ handle hm hf (fun _ _ h => nomatch h)

theorem map {α β : Type} {m : EM α} (g : α → β) (hm : Safe m) : Safe (g <$> m) := by
  have : (g <$> m) = (m >>= fun a => Pure.pure (g a)) := rfl
  rw [this]; exact bind hm (fun a => pure _)

theorem seq_unit {β : Type} {m : EM Unit} {k : EM β} (hm : Safe m) (hk : Safe k) :
    Safe (do m; k) := bind hm (fun _ => hk)

theorem oof {α : Type} : Safe (Jqawk.oof : EM α) := fun _ => trivial
theorem getSt : Safe Jqawk.getSt := fun s => ⟨Keeps.refl s, rfl⟩
theorem getHeap : Safe Jqawk.getHeap := fun s => ⟨Keeps.refl s, rfl⟩
theorem readCell (c : CellId) : Safe (Jqawk.readCell c) := fun s => ⟨Keeps.refl s, rfl⟩
theorem throwSig {α : Type} (g : Sig) : Safe (Jqawk.throwSig g : EM α) := fun s => ⟨Keeps.refl s, rfl⟩
theorem throwPanic {α : Type} (m : String) : Safe (Jqawk.throwPanic m : EM α) := fun s => Keeps.refl s
theorem throwUnmodelled {α : Type} (m : String) : Safe (Jqawk.throwUnmodelled m : EM α) :=
  fun s => Keeps.refl s

theorem throwRt {α : Type} (p : Nat) (m : String) : Safe (Jqawk.throwRt p m : EM α) := by
  intro s
  exact ⟨⟨FramesKeep.refl _, rfl, rfl, ⟨[], rfl⟩, depth_refl s⟩, rfl, rfl⟩

theorem liftExcept {α : Type} (p : Nat) (e : Except String α) : Safe (Jqawk.liftExcept p e) := by
  cases e with
  | ok a => exact pure a
  | error m => exact throwRt p m

theorem heapOnly {α : Type} (f : St → α × Heap) :
    Safe (fun s => let r := f s; Res.ok r.1 { s with heap := r.2 } : EM α) :=
  fun s => ⟨⟨FramesKeep.refl _, rfl, rfl, ⟨[], rfl⟩, depth_refl s⟩, rfl⟩

theorem newCell (v : Val) : Safe (Jqawk.newCell v) := heapOnly fun s => s.heap.alloc v
theorem writeCell (c : CellId) (v : Val) : Safe (Jqawk.writeCell c v) :=
  heapOnly fun s => ((), s.heap.set c v)
theorem setHeap (h : Heap) : Safe (Jqawk.setHeap h) := heapOnly fun _ => ((), h)
theorem allocArrM (items : Array CellId) : Safe (Jqawk.allocArrM items) :=
  heapOnly fun s => s.heap.allocArr items
theorem allocObjM (m : List (Bytes × CellId)) : Safe (Jqawk.allocObjM m) :=
  heapOnly fun s => s.heap.allocObj m
theorem emit (b : Bytes) : Safe (Jqawk.emit b) :=
  fun s => ⟨⟨FramesKeep.refl _, rfl, rfl, ⟨[b], rfl⟩, depth_refl s⟩, rfl⟩
theorem setReturnVal (c : Option CellId) :
    Safe (Jqawk.modifySt fun s => { s with returnVal := c }) :=
  fun s => ⟨⟨FramesKeep.refl _, rfl, rfl, ⟨[], rfl⟩, depth_refl s⟩, rfl⟩

theorem setLocal (name : Bytes) (c : CellId) : Safe (Jqawk.setLocal name c) := by
  intro s
  unfold Jqawk.setLocal
  cases hf : s.frames with
  | nil => exact Keeps.refl s
  | cons f fs =>
    refine ⟨⟨?_, rfl, rfl, ⟨[], rfl⟩, depth_refl s⟩, rfl⟩
    simp [FramesKeep, hf]

attribute [eval_rule] pure oof getSt getHeap readCell throwSig throwPanic throwUnmodelled throwRt
  newCell writeCell setHeap allocArrM allocObjM emit setReturnVal setLocal

end Safe

theorem Safe.framed {α : Type} (name : Bytes) (pos : Nat) (body : EM α) (hb : Safe body) :
    Safe (Jqawk.framed name pos body) := by
  intro s
  rw [framed_eq]
  split
  · exact Safe.throwRt pos _ s
  · rename_i hd
    have h := hb { s with frames := ⟨name, []⟩ :: s.frames,
                          maxDepth := max s.maxDepth (s.frames.length + 1) }
    -- what the body keeps relative to the pushed stack, the whole keeps relative to `s`
    have fix : ∀ s1 : St,
        Keeps { s with frames := ⟨name, []⟩ :: s.frames,
                       maxDepth := max s.maxDepth (s.frames.length + 1) } s1 →
        Keeps s { s1 with frames := s.frames } := by
      intro s1 ⟨_, hroot, hrr, hout, hdep⟩
      refine ⟨FramesKeep.refl _, hroot, hrr, hout, ?_⟩
      simp only at hdep ⊢
      omega
    unfold Jqawk.withFrames
    split <;> simp only [*] at h
    · exact ⟨fix _ h.1, h.2⟩
    · rename_i e _ _; cases e
      · exact ⟨fix _ h.1, h.2.1, h.2.2⟩
      · exact ⟨fix _ h.1, h.2⟩
      · exact fix _ h
      · exact fix _ h
    · trivial

/-- what holds of the primitives and is kept by `handle` and `framed` holds of every shaped
    computation that does without the driver's writes -/
theorem Safe.of_shaped {G : Nat → Prop} {S : Sig → Prop} {α : Type} {m : EM α}
    (h : Shaped False G S m) : Safe m := by
  induction h with
  | handle _ _ _ _ ihm ihok ihsig => exact handle ihm ihok ihsig
  | framed name _ _ ih => exact framed name _ _ ih
  | setRoots d => exact d.elim
  | setGlobal d => exact d.elim
  | _ => simp only [eval_rule]

/-- the reading of a `Shaped` fact that has no hypothesis left: every position and signal allowed -/
theorem Safe.of_shaped_top {α : Type} {m : EM α} (h : Shaped False (fun _ => True) (fun _ => True) m) :
    Safe m := .of_shaped h

theorem Safe.copyValue (a b : CellId) : Safe (Jqawk.copyValue a b) := .of_shaped_top (.copyValue a b)

theorem Safe.createSpeculative (n : Nat) (c : CellId) : Safe (Jqawk.createSpeculative n c) :=
  .of_shaped_top (.createSpeculative n c)

macro "safe_step" : tactic => `(tactic| em_step)

/-- `safe_step` as often as possible, with one extra closing lemma -/
macro "safe_auto_with" t:term : tactic =>
  `(tactic| repeat' (first
      | safe_step
      | (with_reducible_and_instances first
          | exact $t | exact $t _ | exact $t _ _ | exact $t _ _ _ | exact $t _ _ _ _
          | exact $t _ _ _ _ _)))

theorem Safe.memberStep (pos : Nat) (l r : CellId) : Safe (Jqawk.memberStep pos l r) :=
  .of_shaped_top (.memberStep trivial l r)

theorem Safe.evalAssignment (pos : Nat) (l r : CellId) : Safe (Jqawk.evalAssignment pos l r) :=
  .of_shaped_top (.evalAssignment trivial l r)

theorem Safe.loopIter {body k : EM Unit} (hb : Safe body) (hk : Safe k) :
    Safe (Jqawk.loopIter body k) :=
  loopIter_eq_handle body k ▸ handle hb (fun _ => hk) (by
    intro g k' h; cases g <;> cases h <;> first | exact pure _ | exact hk)

theorem Safe.catchReturn {body : EM Unit} (hb : Safe body) : Safe (Jqawk.catchReturn body) :=
  catchReturn_eq_handle body ▸ handle hb (fun _ => pure _) (by
    intro g k h; cases g <;> cases h; exact fun s => ⟨Keeps.refl s, rfl⟩)

theorem Safe.catchSig {α : Type} {m : EM α} (g : Sig) (d : α) (hm : Safe m) :
    Safe (Jqawk.catchSig g d m) :=
  catchSig_eq_handle g d m ▸ handle hm pure (by intro g' k h; split at h <;> cases h; exact pure _)

structure AllSafe (prog : Program) (n : Nat) : Prop where
  expr : ∀ e, Safe (evalExpr prog n e)
  objItems : ∀ pos items acc, Safe (evalObjItems prog n pos items acc)
  exprList : ∀ es c, Safe (evalExprList prog n es c)
  matchCases : ∀ pos v cs, Safe (evalMatchCases prog n pos v cs)
  caseMatch : ∀ v ps, Safe (evalCaseMatch prog n v ps)
  arrayCaseMatch : ∀ v ps, Safe (evalArrayCaseMatch prog n v ps)
  matchElems : ∀ cs ps acc, Safe (Jqawk.matchElems prog n cs ps acc)
  call : ∀ pos f args, Safe (callFunction prog n pos f args)
  unary : ∀ e op p, Safe (evalUnary prog n e op p)
  binary : ∀ l r op, Safe (evalBinary prog n l r op)
  stmt : ∀ st, Safe (evalStmt prog n st)
  block : ∀ sts, Safe (evalBlock prog n sts)
  whileL : ∀ c b, Safe (whileLoop prog n c b)
  forL : ∀ c p b, Safe (forLoop prog n c p b)
  forInL : ∀ l il b items, Safe (forInLoop prog n l il b items)

/-- **The master invariant**: every evaluator function, at every fuel, from every state. -/
theorem allSafe (prog : Program) (n : Nat) : AllSafe prog n :=
  have h : AllShaped False (fun _ => True) (fun _ => True) prog n :=
    allShaped (fun _ _ _ _ => trivial) n _ fun _ _ _ _ => .inr trivial
  have tok : ∀ {l : List Token}, TokOK (fun _ => True) l := fun _ _ => trivial
  have loop : ∀ {b : Sig → Bool}, Conf (InLoop fun _ => True) b := fun _ _ => .inr trivial
  { expr e := .of_shaped (h.expr e .top tok)
    objItems pos items acc := .of_shaped (h.objItems pos items acc trivial .top tok)
    exprList es c := .of_shaped (h.exprList es c .top tok)
    matchCases pos v cs := .of_shaped (h.matchCases pos v cs trivial .top tok)
    caseMatch v ps := .of_shaped (h.caseMatch v ps .top tok)
    arrayCaseMatch v ps := .of_shaped (h.arrayCaseMatch v ps .top tok)
    matchElems cs ps acc := .of_shaped (h.matchElems cs ps acc .top tok)
    call pos f args := .of_shaped (h.call pos f args trivial)
    unary e op p := .of_shaped (h.unary e op p .top tok trivial)
    binary l r op := .of_shaped (h.binary l r op .top .top tok tok trivial)
    stmt st := .of_shaped (h.stmt st .top tok)
    block sts := .of_shaped (h.block sts .top tok)
    whileL c b := .of_shaped (h.whileL c b .top loop tok tok)
    forL c p b := .of_shaped (h.forL c p b .top .top loop tok tok tok)
    forInL l il b items := .of_shaped (h.forInL l il b items loop tok) }

end Jqawk
