/-
  C13, `;` for a newline at the level of bytes: the three texts `a ++ "\n" ++ b`,
  `a ++ " " ++ b`, `a ++ ";" ++ b` (one byte replaced: offsets, and hence positions, are the same
  in all three).  Before the replaced byte the three runs are the same (prefix stability of the
  lexer, Lemmas/NewlineBytes.lean); at it they receive `(t₀, newline)`, `(t₀, flag of b)` and
  `;` — the situation of `Semi.BTree`; after it the three lexers are in the same state.
-/
import Jqawk.Lemmas.NewlineBytesRun
import Jqawk.Lemmas.NewlineSemiRun

namespace Jqawk
namespace Semi
open Lexer Nl

theorem nextNN_at_blank (b : Bytes) (p ts : Nat) :
    nextNN ((32 :: b).length + 1) ⟨32 :: b, p, ts⟩ false = nextNN (b.length + 1) ⟨b, p + 1, ts⟩ false :=
  nextNN_trivia (t := [32]) (.blank 32 [] b rfl (.nil b)) p ts false

theorem nextNN_at_semi (b : Bytes) (p ts : Nat) :
    nextNN ((59 :: b).length + 1) ⟨59 :: b, p, ts⟩ false
      = .ok (⟨.semiColon, p, []⟩, false, ⟨b, p + 1, p⟩) := by
  simp only [List.length_cons]
  have : next ⟨59 :: b, p, ts⟩ = .ok (⟨.semiColon, p, []⟩, ⟨b, p + 1, p⟩) := by
    rw [next_eq]; dsimp only
    rw [skipWs_succ_cons]
    rfl
  rw [nextNN, this]
  rfl

theorem sepStart_cons (c : UInt8) (r : Bytes) (h : isSepB c = true) : SepStart (c :: r) := by
  intro d hd
  simp only [List.head?_cons, Option.some.injEq] at hd
  subst hd; exact h

/-- The three runs of a program tree satisfying `BTree` against the lexer: on `x ++ "\n" ++ b`
    (L), `x ++ " " ++ b` (Z) and `x ++ ";" ++ b` (R), where the L run passes the recorded state
    `⟨"\n" ++ b, pb, tsb⟩` and `t₀` is the token then delivered.  (`nextStates` also records the
    ghost state at each request, for the newline insertion of NewlineBytesRun; here `gb` is
    never looked at.) -/
theorem run_btree_bytes {α : Type} {Q : α → PS → PS → Prop} {t₀ : Token} (b : Bytes) (pb tsb : Nat)
    (gb : G) (nl₀ : Bool) (s' : LexState)
    (ht₀ : nextNN (b.length + 1) ⟨b, pb + 1, pb⟩ false = .ok (t₀, nl₀, s')) (hne : t₀.tag ≠ .eof) :
    ∀ (m : PM (α × PS)), BTree t₀ ⟨.semiColon, pb, []⟩ Q m → ∀ (g : G) (x : Bytes) (p ts : Nat),
      (gb, (⟨10 :: b, pb, tsb⟩ : LexState)) ∈ nextStates g m ⟨x ++ 10 :: b, p, ts⟩ →
      ∀ r, m.runWith lexerSrc ⟨x ++ 10 :: b, p, ts⟩ = .ok r →
        (∃ r', m.runWith lexerSrc ⟨x ++ 32 :: b, p, ts⟩ = .ok r' ∧ r'.1 = r.1) ∨
        (∃ r', m.runWith lexerSrc ⟨x ++ 59 :: b, p, ts⟩ = .ok r' ∧ r'.1 = r.1) := by
  intro m
  induction m with
  | pure a => intro _ g x p ts hm; simp [nextStates] at hm
  | fail e => intro _ g x p ts hm; simp [nextStates] at hm
  | oof => intro _ g x p ts hm; simp [nextStates] at hm
  | next k ih =>
    intro hb g x p ts hm r hr
    simp only [nextStates, List.mem_cons, Prod.mk.injEq] at hm
    simp only [PM.runWith, lexerSrc_next] at hr ⊢
    rcases hm with ⟨_, hs⟩ | hm
    · -- the boundary
      simp only [LexState.mk.injEq] at hs
      obtain ⟨hrest, rfl, rfl⟩ := hs
      have hx0 : x = [] := by
        have hlen := congrArg List.length hrest
        simp only [List.length_append, List.length_cons] at hlen
        exact List.eq_nil_of_length_eq_zero (by omega)
      subst hx0
      simp only [List.nil_append] at hr ⊢
      have hL : nextNN ((10 :: b).length + 1) ⟨10 :: b, pb, tsb⟩ false = .ok (t₀, true, s') := by
        rw [nextNN_at_newline, nextNN_or_flag, ht₀]; simp
      rw [hL] at hr
      dsimp only at hr
      have hZ : nextNN ((32 :: b).length + 1) ⟨32 :: b, pb, tsb⟩ false = .ok (t₀, nl₀, s') := by
        rw [nextNN_at_blank]
        exact nextNN_ts _ _ _ _ _ _ _ _ _ ht₀ hne
      rw [hZ, nextNN_at_semi]
      dsimp only
      cases nl₀ with
      | true => exact .inl ⟨r, hr, rfl⟩
      | false => exact hb.2.run lexerSrc (sR := ⟨b, pb + 1, pb⟩) ht₀ hr
    · -- before the boundary
      cases hn : nextNN ((x ++ 10 :: b).length + 1) ⟨x ++ 10 :: b, p, ts⟩ false with
      | error e => rw [hn] at hm; simp at hm
      | ok y =>
        obtain ⟨t, nl, s₁'⟩ := y
        rw [hn] at hm hr
        dsimp only at hm hr
        have hteof : t.tag ≠ .eof := by
          intro he; rw [if_pos he] at hm; simp at hm
        rw [if_neg hteof] at hm
        have hl : (10 :: b).length ≤ s₁'.rest.length := nextStates_length_le hm
        have key : ∀ c : UInt8, isSepB c = true → ∃ x', s₁'.rest = x' ++ 10 :: b ∧
            nextNN ((x ++ c :: b).length + 1) ⟨x ++ c :: b, p, ts⟩ false
              = .ok (t, nl, ⟨x' ++ c :: b, s₁'.pos, s₁'.tokenStart⟩) := fun c hc =>
          lexerSrc_next_stable (10 :: b) (c :: b) (sepStart_cons c b hc) x _ _ t nl s₁' hteof hn hl
        obtain ⟨x', e1, e32⟩ := key 32 rfl
        obtain ⟨x'', e1', e59⟩ := key 59 rfl
        have : x'' = x' := by
          have := e1.symm.trans e1'
          exact (List.append_cancel_right this).symm
        subst this
        rw [e32, e59]
        dsimp only
        have hs₁ : s₁' = ⟨x'' ++ 10 :: b, s₁'.pos, s₁'.tokenStart⟩ := by rw [← e1]
        rw [hs₁] at hm hr
        exact ih t nl (hb.1 t nl) (g.step t) x'' _ _ hm r hr
  | regex k ih =>
    intro hb g x p ts hm r hr
    simp only [nextStates] at hm
    simp only [PM.runWith, lexerSrc_regex] at hr ⊢
    cases hn : regex ⟨x ++ 10 :: b, p, ts⟩ with
    | error e => rw [hn] at hm; simp at hm
    | ok y =>
      obtain ⟨t, s₁'⟩ := y
      rw [hn] at hm hr
      dsimp only at hm hr
      have hl : (10 :: b).length ≤ s₁'.rest.length := nextStates_length_le hm
      obtain ⟨x', e1, e32⟩ := regex_stable (10 :: b) (32 :: b) x _ _ t s₁' hn hl
      obtain ⟨x'', e1', e59⟩ := regex_stable (10 :: b) (59 :: b) x _ _ t s₁' hn hl
      have : x'' = x' := by
        have := e1.symm.trans e1'
        exact (List.append_cancel_right this).symm
      subst this
      rw [e32, e59]
      dsimp only
      have hs₁ : s₁' = ⟨x'' ++ 10 :: b, s₁'.pos, s₁'.tokenStart⟩ := by rw [← e1]
      rw [hs₁] at hm hr
      exact ih t (hb t) (g.step t) x'' _ _ hm r hr

/-- the three texts have the same length, hence get the same fuel `n` -/
theorem parseProgram_semi_bytes {tbl : RuleTable} (hprec : (lookupRule tbl .semiColon).prec = 0)
    (a b : Bytes) (pb tsb : Nat) (gb : G) (t₀ : Token) (nl₀ : Bool) (s' : LexState)
    (ht₀ : nextNN (b.length + 1) ⟨b, pb + 1, pb⟩ false = .ok (t₀, nl₀, s'))
    (H : Hyp t₀ ⟨.semiColon, pb, []⟩) (n : Nat)
    (hreach : (gb, (⟨10 :: b, pb, tsb⟩ : LexState)) ∈
      nextStates G.init (Parser.parseProgram tbl n PS.init) (LexState.init (a ++ 10 :: b)))
    {p : Program} {st : PS}
    (hr : (Parser.parseProgram tbl n PS.init).run (LexState.init (a ++ 10 :: b)) = .ok (p, st)) :
    (∃ st', (Parser.parseProgram tbl n PS.init).run (LexState.init (a ++ 32 :: b)) = .ok (p, st')) ∨
    (∃ st', (Parser.parseProgram tbl n PS.init).run (LexState.init (a ++ 59 :: b)) = .ok (p, st')) := by
  simp only [PM.run_eq_runWith] at hr ⊢
  rcases run_btree_bytes b pb tsb gb nl₀ s' ht₀ H.ne_eof _ (parseProgram_btree H hprec n PS.init)
    G.init a 0 0 hreach (p, st) hr with ⟨⟨p', st'⟩, h, he⟩ | ⟨⟨p', st'⟩, h, he⟩
  · left
    dsimp only at he; subst he
    exact ⟨st', h⟩
  · right
    dsimp only at he; subst he
    exact ⟨st', h⟩

end Semi
end Jqawk
