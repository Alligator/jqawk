/-
  Lemmas for C18: the directive loop of `printfLoop` unfolded case by case, its width scan against
  the reference parser `Spec.parseDirective` (`scan_agrees`), and the loop as a whole against the
  two-phase reference formatter (`loop_refines`, `printfFormat_refines`).
-/
import Jqawk.Spec.PrintfRef

namespace Jqawk
open Spec

theorem Equiv_refl (x : Out) : Out.Equiv x x := by
  rcases x with _ | (_ | _) <;> simp [Out.Equiv]

theorem padTo_eq (w : Int) (c : UInt8) (s : Bytes) :
    padTo w c s =
      if 0 < w ∧ (s.length : Int) < w then List.replicate (w.toNat - s.length) c ++ s
      else if w < 0 ∧ (s.length : Int) < -w then s ++ List.replicate ((-w).toNat - s.length) c
      else s := by
  simp only [padTo, repeatByte, Bool.and_eq_true, decide_eq_true_iff, gt_iff_lt]

variable (render : Val → Option Bytes) (args : List Val)

theorem printfLoop_nil {fuel i : Nat} {acc : Bytes} :
    printfLoop render args (fuel + 1) [] i acc = some (.ok acc) := rfl

theorem printfLoop_lit {fuel i : Nat} {acc rest : Bytes} {b : UInt8} (hb : b ≠ 37) :
    printfLoop render args (fuel + 1) (b :: rest) i acc = printfLoop render args fuel rest i (acc ++ [b]) :=
  if_pos (bne_iff_ne.mpr hb)

theorem printfLoop_run {run : Bytes} (h : 37 ∉ run) :
    ∀ (fuel i : Nat) (acc rest : Bytes),
    printfLoop render args (fuel + run.length) (run ++ rest) i acc
      = printfLoop render args fuel rest i (acc ++ run) := by
  induction run with
  | nil => intros; simp
  | cons b run ih =>
    intro fuel i acc rest
    simp only [List.mem_cons, not_or] at h
    have hb : b ≠ 37 := fun e => h.1 e.symm
    rw [List.length_cons, ← Nat.add_assoc, List.cons_append, printfLoop_lit render args hb, ih h.2]
    simp

theorem drop_takeWhile_length {α} (p : α → Bool) (l : List α) :
    l.drop (l.takeWhile p).length = l.dropWhile p := by
  induction l with
  | nil => rfl
  | cons a l ih => by_cases h : p a <;> simp [List.takeWhile, List.dropWhile, h, ih]

theorem isDigitB_ne_45 {c : UInt8} (h : isDigitB c = true) : c ≠ 45 := by
  rintro rfl; revert h; decide

theorem parseWidth_neg (ds : Bytes) :
    parseWidth (45 :: ds) =
      if ds.isEmpty then none
      else if digitsToNat ds > 9223372036854775808 then none else some (-(digitsToNat ds : Int)) := by
  simp [parseWidth]

theorem parseWidth_pos (c : UInt8) (ds : Bytes) (hc : c ≠ 45) :
    parseWidth (c :: ds) =
      if digitsToNat (c :: ds) > 9223372036854775807 then none else some (digitsToNat (c :: ds) : Int) := by
  simp [parseWidth, hc]

/-- the width scan of `printfLoop`, as a function of the text after `%` (first byte `c`) -/
def widthScan (c : UInt8) (rest : Bytes) : Except String Int × UInt8 × Bytes :=
  if isDigitB c || c == 45 then
    let numStr := c :: (rest.drop 1).takeWhile isDigitB
    let after := rest.drop numStr.length
    match parseWidth numStr with
    | none => (.error "invalid width specifier", 32, after)
    | some w =>
      if w > widthLimit || w < -widthLimit then (.error "width specifier too large", 32, after)
      else (.ok w, (if c == 48 then 48 else 32), after)
  else (.ok 0, 32, rest)

theorem widthLimit_eq : widthLimit = (maxWidth : Int) := rfl

/-- an `int64` parse of a number of absolute value `n` followed by the width limit check: only
    the limit matters, the `int64` range decides the error message -/
theorem limitCheck {α} (n bound : Nat) (w : Int) (hw : w = n ∨ w = -n) (hb : maxWidth ≤ bound)
    (e1 e2 : α) (k : Int → α) :
    (match (if n > bound then none else some w) with
      | none => e1
      | some w => if w > widthLimit || w < -widthLimit then e2 else k w) =
    if n > maxWidth then (if n > bound then e1 else e2) else k w := by
  have hlim : (w > widthLimit || w < -widthLimit) = true ↔ n > maxWidth := by
    rw [Bool.or_eq_true, decide_eq_true_iff, decide_eq_true_iff, widthLimit_eq]
    omega
  by_cases h3 : n > maxWidth
  · rw [if_pos h3]
    by_cases h2 : n > bound
    · rw [if_pos h2, if_pos h2]
    · rw [if_neg h2, if_neg h2]
      exact if_pos (hlim.mpr h3)
  · rw [if_neg h3, if_neg (fun h2 => h3 (Nat.lt_of_le_of_lt hb h2))]
    exact if_neg (mt hlim.mp h3)

theorem widthScan_neg (tl : Bytes) :
    widthScan 45 (45 :: tl) =
      let ds := tl.takeWhile isDigitB
      let after := tl.dropWhile isDigitB
      if ds.isEmpty then (.error "invalid width specifier", 32, after)
      else if digitsToNat ds > maxWidth then
        (if digitsToNat ds > 9223372036854775808 then (.error "invalid width specifier", 32, after)
         else (.error "width specifier too large", 32, after))
      else (.ok (-(digitsToNat ds : Int)), 32, after) := by
  simp only [widthScan, parseWidth_neg, List.drop_succ_cons, List.drop_zero, List.length_cons,
    drop_takeWhile_length]
  rw [if_pos (by decide)]
  by_cases h1 : (tl.takeWhile isDigitB).isEmpty = true
  · rw [if_pos h1, if_pos h1]
  · rw [if_neg h1, if_neg h1]
    exact limitCheck _ _ _ (.inr rfl) (by decide) _ _ _

theorem widthScan_digit (c : UInt8) (tl : Bytes) (hc : isDigitB c = true) :
    widthScan c (c :: tl) =
      let ds := c :: tl.takeWhile isDigitB
      let after := tl.dropWhile isDigitB
      if digitsToNat ds > maxWidth then
        (if digitsToNat ds > 9223372036854775807 then (.error "invalid width specifier", 32, after)
         else (.error "width specifier too large", 32, after))
      else (.ok (digitsToNat ds : Int), (if c == 48 then 48 else 32), after) := by
  simp only [widthScan, parseWidth_pos _ _ (isDigitB_ne_45 hc), List.drop_succ_cons, List.drop_zero,
    List.length_cons, drop_takeWhile_length]
  rw [if_pos (by rw [hc]; rfl)]
  exact limitCheck _ _ _ (.inl rfl) (by decide) _ _ _

theorem widthScan_other (c : UInt8) (tl : Bytes) (hc : isDigitB c = false) (h45 : c ≠ 45) :
    widthScan c (c :: tl) = (.ok 0, 32, c :: tl) := by
  simp [widthScan, hc, h45]

theorem parseDirective_neg (tl : Bytes) :
    parseDirective (45 :: tl) =
      let ds := tl.takeWhile isDigitB
      if ds.isEmpty then .error "unparsable width"
      else if digitsToNat ds > maxWidth then .error "width too large"
      else match tl.dropWhile isDigitB with
        | [] => .error "dangling width"
        | code :: rest' =>
          if isCode code then .ok (.dir false (-(digitsToNat ds : Int)) code, rest') else .error "unknown code" :=
  rfl

theorem parseDirective_digit (c : UInt8) (tl : Bytes) (hc : isDigitB c = true) :
    parseDirective (c :: tl) =
      let ds := c :: tl.takeWhile isDigitB
      if digitsToNat ds > maxWidth then .error "width too large"
      else match tl.dropWhile isDigitB with
        | [] => .error "dangling width"
        | code :: rest' =>
          if isCode code then .ok (.dir (c == 48) (digitsToNat ds : Int) code, rest') else .error "unknown code" := by
  have h45 : (c == 45) = false := beq_eq_false_iff_ne.mpr (isDigitB_ne_45 hc)
  simp [parseDirective, hc, h45]
  rfl

theorem parseDirective_other (c : UInt8) (tl : Bytes) (hc : isDigitB c = false) (h45 : c ≠ 45) :
    parseDirective (c :: tl) =
      if isCode c then .ok (.dir false 0 c, tl) else .error "unknown code" := by
  simp [parseDirective, maxWidth, h45, hc, digitsToNat]

/-- how the scan of the implementation relates to the reference parser of a directive -/
def ScanAgrees (scan : Except String Int × UInt8 × Bytes) (n : Nat) :
    Except String (Item × Bytes) → Prop
  | .ok (it, rest') => ∃ z w code, it = .dir z w code ∧ isCode code = true ∧ rest'.length < n ∧
      scan = (.ok w, (if z then 48 else 32), code :: rest')
  | .error _ => (∃ m, scan.1 = .error m) ∨ (∃ w, scan.1 = .ok w ∧ scan.2.2 = []) ∨
      (∃ w code r, scan.1 = .ok w ∧ scan.2.2 = code :: r ∧ isCode code = false)

theorem scanAgrees_code (w : Int) (z : Bool) (after : Bytes) (n : Nat) (hn : after.length ≤ n)
    (m : String) :
    ScanAgrees (.ok w, (if z then 48 else 32), after) n
      (match (generalizing := false) after with
        | [] => .error m
        | code :: rest' => if isCode code then .ok (.dir z w code, rest') else .error "unknown code") := by
  cases after with
  | nil => exact .inr (.inl ⟨w, rfl, rfl⟩)
  | cons code rest' =>
    dsimp only
    by_cases hc : isCode code = true
    · rw [if_pos hc]
      exact ⟨z, w, code, rfl, hc, hn, rfl⟩
    · rw [if_neg hc]
      exact .inr (.inr ⟨w, code, rest', rfl, rfl, Bool.eq_false_iff.mpr hc⟩)

theorem scan_agrees (c : UInt8) (tl : Bytes) :
    ScanAgrees (widthScan c (c :: tl)) (tl.length + 1) (parseDirective (c :: tl)) := by
  have hl : (tl.dropWhile isDigitB).length ≤ tl.length + 1 :=
    Nat.le_succ_of_le (List.dropWhile_suffix _).length_le
  by_cases h45 : c = 45
  · subst h45
    rw [parseDirective_neg, widthScan_neg]
    dsimp only
    by_cases h1 : (tl.takeWhile isDigitB).isEmpty = true
    · rw [if_pos h1, if_pos h1]
      exact .inl ⟨_, rfl⟩
    rw [if_neg h1, if_neg h1]
    by_cases h3 : digitsToNat (tl.takeWhile isDigitB) > maxWidth
    · rw [if_pos h3, if_pos h3]
      exact .inl (by split <;> exact ⟨_, rfl⟩)
    · rw [if_neg h3, if_neg h3]
      exact scanAgrees_code _ false _ _ hl _
  by_cases hd : isDigitB c = true
  · rw [parseDirective_digit c tl hd, widthScan_digit c tl hd]
    dsimp only
    by_cases h3 : digitsToNat (c :: tl.takeWhile isDigitB) > maxWidth
    · rw [if_pos h3, if_pos h3]
      exact .inl (by split <;> exact ⟨_, rfl⟩)
    · rw [if_neg h3, if_neg h3]
      exact scanAgrees_code _ _ _ _ hl _
  · have hd := Bool.eq_false_iff.mpr hd
    rw [parseDirective_other c tl hd h45, widthScan_other c tl hd h45]
    exact scanAgrees_code 0 false (c :: tl) _ (Nat.le_refl _) ""

/-- what `printfLoop` does with a directive once width, pad byte and code (one of `%`, `s`, `f`, `v`)
    are known -/
def dirStep (fuel : Nat) (width : Int) (padChar code : UInt8) (rest : Bytes) (i : Nat) (acc : Bytes) : Out :=
  if code == 37 then printfLoop render args fuel rest i (acc ++ [37])
  else
    match args[i]? with
    | none => some (.error "missing argument")
    | some v =>
      match renderArg render code v with
      | none => none
      | some (.error m) => some (.error m)
      | some (.ok r) => printfLoop render args fuel rest (i + 1) (acc ++ padTo width padChar r)

/-- the loop's argument check for `%s` and `%f`, followed by `k`, in terms of `renderArg` -/
theorem checkArg_renderArg (i : Nat) (code : UInt8) (kind : Kind) (k : Bytes → Out)
    (h : code = 115 ∧ kind = .str ∨ code = 102 ∧ kind = .num) :
    (match checkArg args i kind with
      | .error m => some (.error m)
      | .ok v => k v.str! : Out) =
      match args[i]? with
      | none => some (.error "missing argument")
      | some v =>
        match renderArg render code v with
        | none => none
        | some (.error m) => some (.error m)
        | some (.ok r) => k r := by
  unfold checkArg
  cases args[i]? with
  | none => rfl
  | some v => rcases h with ⟨rfl, rfl⟩ | ⟨rfl, rfl⟩ <;> cases v <;> rfl

theorem printfLoop_percent {fuel i : Nat} {c : UInt8} {tl acc : Bytes} :
    printfLoop render args (fuel + 1) (37 :: c :: tl) i acc =
      match widthScan c (c :: tl) with
      | (.error m, _, _) => some (.error m)
      | (.ok _, _, []) => some (.error "expected something after width specifier")
      | (.ok width, padChar, code :: rest) =>
        if isCode code then dirStep render args fuel width padChar code rest i acc
        else some (.error "unknown format code") := by
  rw [printfLoop, if_neg (by decide)]
  dsimp only [widthScan]
  generalize (if (isDigitB c || c == 45) = true then _ else _ : Except String Int × UInt8 × Bytes) = ws
  rcases ws with ⟨_ | w, pc, _ | ⟨code, r⟩⟩
  · rfl
  · rfl
  · rfl
  dsimp only [dirStep]
  have checked := fun kind => checkArg_renderArg render args i code kind
    fun s => printfLoop render args fuel r (i + 1) (acc ++ padTo w pc s)
  by_cases h37 : code = 37
  · subst h37; rfl
  by_cases hs : code = 115
  · subst hs; exact checked .str (.inl ⟨rfl, rfl⟩)
  by_cases hf : code = 102
  · subst hf; exact checked .num (.inr ⟨rfl, rfl⟩)
  by_cases hv : code = 118
  · subst hv
    cases args[i]? with
    | none => rfl
    | some v => dsimp only [renderArg]; cases render v <;> rfl
  · simp [isCode, h37, hs, hf, hv]

theorem printfLoop_dir_error (fuel i : Nat) (acc : Bytes) {rest : Bytes} {m : String}
    (h : parseDirective rest = .error m) :
    ∃ m', printfLoop render args (fuel + 1) (37 :: rest) i acc = some (.error m') := by
  cases rest with
  | nil => exact ⟨_, rfl⟩
  | cons c tl =>
    rw [printfLoop_percent]
    have := scan_agrees c tl
    rw [h] at this
    rcases hs : widthScan c (c :: tl) with ⟨wr, pc, r⟩
    rw [hs] at this
    rcases this with ⟨m, rfl⟩ | ⟨w, rfl, rfl⟩ | ⟨w, code, r', rfl, rfl, hc⟩
    · exact ⟨_, rfl⟩
    · exact ⟨_, rfl⟩
    · exact ⟨_, if_neg (Bool.eq_false_iff.mp hc)⟩

theorem printfLoop_dir_ok (fuel i : Nat) (acc : Bytes) {rest rest' : Bytes} {it : Item}
    (h : parseDirective rest = .ok (it, rest')) :
    ∃ z w code, it = .dir z w code ∧ rest'.length < rest.length ∧
      printfLoop render args (fuel + 1) (37 :: rest) i acc
        = dirStep render args fuel w (if z then 48 else 32) code rest' i acc := by
  cases rest with
  | nil => cases h
  | cons c tl =>
    rw [printfLoop_percent]
    have := scan_agrees c tl
    rw [h] at this
    obtain ⟨z, w, code, rfl, hc, hl, hs⟩ := this
    rw [hs]
    exact ⟨z, w, code, rfl, hl, if_pos hc⟩

/-- the reference started in the middle: parse the remaining format, render it with the remaining
    arguments, and put the output so far in front -/
def refFrom (fuel : Nat) (fmt : Bytes) (rem : List Val) (acc : Bytes) : Out :=
  match parseItems fuel fmt with
  | .error m => some (.error m)
  | .ok items => prepend acc (renderItems render items rem)

theorem prepend_prepend (a b : Bytes) (x : Out) : prepend a (prepend b x) = prepend (a ++ b) x := by
  rcases x with _ | (_ | _) <;> simp [prepend]

theorem prepend_nil (x : Out) : prepend [] x = x := by
  rcases x with _ | (_ | _) <;> rfl

theorem renderItems_consLit (b : UInt8) (items : List Item) (rem : List Val) :
    renderItems render (consLit b items) rem = prepend [b] (renderItems render items rem) := by
  rcases items with _ | ⟨_ | _, _⟩ <;> simp [consLit, renderItems, prepend_prepend]

theorem refFrom_nil {fuel : Nat} {rem : List Val} {acc : Bytes} :
    refFrom render (fuel + 1) [] rem acc = some (.ok acc) := by
  simp [refFrom, parseItems, renderItems, prepend]

theorem refFrom_lit {fuel : Nat} {b : UInt8} (hb : b ≠ 37) {rest : Bytes} {rem : List Val} {acc : Bytes} :
    refFrom render (fuel + 1) (b :: rest) rem acc = refFrom render fuel rest rem (acc ++ [b]) := by
  simp only [refFrom, parseItems, bne_iff_ne, ne_eq, hb, not_false_eq_true, ↓reduceIte]
  cases parseItems fuel rest with
  | error m => rfl
  | ok items => simp [renderItems_consLit, prepend_prepend]

theorem refFrom_dir_error {fuel : Nat} {rest : Bytes} {rem : List Val} {acc : Bytes} {m : String}
    (h : parseDirective rest = .error m) :
    refFrom render (fuel + 1) (37 :: rest) rem acc = some (.error m) := by
  simp [refFrom, parseItems, h]

theorem refFrom_dir {fuel : Nat} {rest rest' : Bytes} {rem : List Val} {acc : Bytes} {it : Item}
    (h : parseDirective rest = .ok (it, rest')) :
    refFrom render (fuel + 1) (37 :: rest) rem acc =
      match parseItems fuel rest' with
      | .error m => some (.error m)
      | .ok items => prepend acc (renderItems render (it :: items) rem) := by
  simp only [refFrom, parseItems, bne_self_eq_false, Bool.false_eq_true, ↓reduceIte, h]
  cases parseItems fuel rest' <;> rfl

theorem refFrom_piece {fuel : Nat} {rest' : Bytes} {rem' : List Val} {acc piece : Bytes} :
    (match parseItems fuel rest' with
      | .error m => some (.error m)
      | .ok items => prepend acc (prepend piece (renderItems render items rem')))
      = refFrom render fuel rest' rem' (acc ++ piece) := by
  unfold refFrom
  cases parseItems fuel rest' with
  | error m => rfl
  | ok items => exact prepend_prepend ..

/-- the loop agrees with `y`, or it ran out of fuel inside `render` -/
def LoopOK (x y : Out) : Prop :=
  match x with
  | none => ∃ v ∈ args, render v = none
  | some r => Out.Equiv (some r) y

theorem renderArg_eq_none {code : UInt8} {v : Val} (h : renderArg render code v = none) :
    render v = none := by
  unfold renderArg at h
  split at h
  · split at h <;> cases h
  · split at h
    · split at h <;> cases h
    · split at h
      · assumption
      · cases h

theorem dirStep_refines {k1 k2 : Nat} {rest' : Bytes} (z : Bool) (w : Int) (code : UInt8) (i : Nat)
    (acc : Bytes)
    (ih : ∀ i acc, LoopOK render args (printfLoop render args k1 rest' i acc)
      (refFrom render k2 rest' (args.drop i) acc)) :
    LoopOK render args (dirStep render args k1 w (if z then 48 else 32) code rest' i acc)
      (match parseItems k2 rest' with
        | .error m => some (.error m)
        | .ok items => prepend acc (renderItems render (.dir z w code :: items) (args.drop i))) := by
  unfold dirStep
  by_cases h37 : (code == 37) = true
  · simp only [renderItems, if_pos h37]
    rw [refFrom_piece]
    exact ih i _
  simp only [renderItems, if_neg h37]
  cases hv : args[i]? with
  | none =>
    rw [List.drop_eq_nil_iff.mpr (List.getElem?_eq_none_iff.mp hv)]
    cases parseItems k2 rest' <;> exact trivial
  | some v =>
    obtain ⟨hi, hvi⟩ := List.getElem?_eq_some_iff.mp hv
    rw [List.drop_eq_getElem_cons hi, hvi]
    dsimp only
    cases hra : renderArg render code v with
    | none => exact ⟨v, hvi ▸ List.getElem_mem hi, renderArg_eq_none render hra⟩
    | some e =>
      cases e with
      | error m => cases parseItems k2 rest' <;> exact trivial
      | ok r =>
        rw [refFrom_piece]
        exact ih (i + 1) _

/-- the one-pass loop against the two-phase reference, continued from any point of the format
    (`i` arguments consumed, `acc` written so far).  The fuel only has to exceed what is left
    of the format: every step takes at least one byte off it, on both sides. -/
theorem loop_refines :
    ∀ (f : Nat) (fmt : Bytes) (i : Nat) (acc : Bytes), fmt.length < f →
      LoopOK render args (printfLoop render args f fmt i acc)
        (refFrom render f fmt (args.drop i) acc) := by
  intro f
  induction f with
  | zero => intro fmt i acc h; exact absurd h (Nat.not_lt_zero _)
  | succ k ih =>
    intro fmt i acc h
    cases fmt with
    | nil =>
      rw [printfLoop_nil, refFrom_nil]
      exact rfl
    | cons b rest =>
      have hk : rest.length < k := Nat.lt_of_succ_lt_succ h
      by_cases hb : b = 37
      · subst hb
        cases hpd : parseDirective rest with
        | error m =>
          obtain ⟨m', hm'⟩ := printfLoop_dir_error render args k i acc hpd
          rw [hm', refFrom_dir_error render hpd]
          exact trivial
        | ok p =>
          obtain ⟨it, rest'⟩ := p
          obtain ⟨z, w, code, rfl, hlen, hstep⟩ := printfLoop_dir_ok render args k i acc hpd
          rw [hstep, refFrom_dir render hpd]
          exact dirStep_refines render args z w code i acc fun i acc =>
            ih rest' i acc (Nat.lt_trans hlen hk)
      · rw [printfLoop_lit render args hb, refFrom_lit render hb]
        exact ih rest i (acc ++ [b]) hk

/-- `printfFormat` against `printfRef`, for all formats and argument lists: the two agree up to
    the error message, unless `render` ran out of fuel on an argument -/
theorem printfFormat_refines :
    LoopOK render args (printfFormat render args) (printfRef render args) := by
  unfold printfFormat printfRef
  cases args with
  | nil => exact trivial
  | cons fmtVal rest =>
    cases fmtVal with
    | str fmt sp =>
      have := loop_refines render (.str fmt sp :: rest) (fmt.length + 1) fmt 1 []
        (Nat.lt_succ_self _)
      unfold refFrom at this
      simp only [prepend_nil] at this
      exact this
    | _ => exact trivial

theorem takeWhile_append_stop {α} (p : α → Bool) (ds tail : List α) (hds : ∀ x ∈ ds, p x = true)
    (ht : ∀ x, tail.head? = some x → p x = false) :
    (ds ++ tail).takeWhile p = ds ∧ (ds ++ tail).dropWhile p = tail := by
  rw [List.takeWhile_append_of_pos hds, List.dropWhile_append_of_pos hds]
  cases tail with
  | nil => simp
  | cons x t => simp [ht x rfl]

theorem parseDirective_width (ds tail : Bytes) (hne : ds ≠ []) (hds : ∀ x ∈ ds, isDigitB x = true)
    (ht : ∀ x, tail.head? = some x → isDigitB x = false) :
    parseDirective (ds ++ tail) =
      if digitsToNat ds > maxWidth then .error "width too large"
      else match (generalizing := false) tail with
        | [] => .error "dangling width"
        | code :: rest' =>
          if isCode code then .ok (.dir (ds.head? == some 48) (digitsToNat ds : Int) code, rest')
          else .error "unknown code" := by
  cases ds with
  | nil => exact absurd rfl hne
  | cons c ds =>
    obtain ⟨h1, h2⟩ := takeWhile_append_stop isDigitB ds tail
      (fun x hx => hds x (List.mem_cons_of_mem _ hx)) ht
    rw [List.cons_append, parseDirective_digit c _ (hds c List.mem_cons_self), h1, h2]
    rfl

theorem parseDirective_negWidth (ds tail : Bytes) (hds : ∀ x ∈ ds, isDigitB x = true)
    (ht : ∀ x, tail.head? = some x → isDigitB x = false) :
    parseDirective (45 :: (ds ++ tail)) =
      if ds.isEmpty then .error "unparsable width"
      else if digitsToNat ds > maxWidth then .error "width too large"
      else match (generalizing := false) tail with
        | [] => .error "dangling width"
        | code :: rest' =>
          if isCode code then .ok (.dir false (-(digitsToNat ds : Int)) code, rest')
          else .error "unknown code" := by
  obtain ⟨h1, h2⟩ := takeWhile_append_stop isDigitB ds tail hds ht
  rw [parseDirective_neg, h1, h2]
  rfl

theorem toUInt8_of_isDigit (c : Char) (h : c.isDigit = true) :
    isDigitB c.toNat.toUInt8 = true ∧ c.toNat.toUInt8.toNat = c.toNat := by
  simp only [Char.isDigit, Bool.and_eq_true, decide_eq_true_eq, UInt32.le_iff_toNat_le] at h
  have h1 : 48 ≤ c.toNat := h.1
  have h2 : c.toNat ≤ 57 := h.2
  have e : c.toNat.toUInt8.toNat = c.toNat := by
    simp only [Nat.toUInt8, UInt8.toNat_ofNat']; omega
  refine ⟨?_, e⟩
  simp only [isDigitB, Bool.and_eq_true, decide_eq_true_eq, UInt8.le_iff_toNat_le, e]
  exact ⟨h1, h2⟩

theorem digitsToNat_eq_ofDigitChars (l : List Char) (hl : ∀ c ∈ l, c.isDigit = true) (init : Nat) :
    (l.map fun c => c.toNat.toUInt8).foldl (fun acc c => acc * 10 + (c.toNat - 48)) init
      = Nat.ofDigitChars 10 l init := by
  induction l generalizing init with
  | nil => rfl
  | cons c l ih =>
    rw [List.map_cons, List.foldl_cons, Nat.ofDigitChars_cons, (toUInt8_of_isDigit c (hl c List.mem_cons_self)).2,
      ih (fun c hc => hl c (List.mem_cons_of_mem _ hc)), Nat.mul_comm]
    rfl

theorem digitsToNat_natToBytes (n : Nat) : digitsToNat (natToBytes n) = n := by
  unfold digitsToNat natToBytes
  rw [digitsToNat_eq_ofDigitChars _ (fun c hc => Nat.isDigit_of_mem_toDigits (by decide) (by decide) hc)]
  exact Nat.ofDigitChars_ten_toDigits

theorem natToBytes_ne_nil (n : Nat) : natToBytes n ≠ [] := by
  simp [natToBytes, Nat.toDigits_ne_nil]

theorem natToBytes_digits (n : Nat) : ∀ x ∈ natToBytes n, isDigitB x = true := by
  intro x hx
  obtain ⟨c, hc, rfl⟩ := List.mem_map.mp hx
  exact (toUInt8_of_isDigit c (Nat.isDigit_of_mem_toDigits (by decide) (by decide) hc)).1

end Jqawk
