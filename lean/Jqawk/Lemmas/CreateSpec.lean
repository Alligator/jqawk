/-
  `createSpeculative` (src/evaluator.go:708-766) written with named pieces: the speculative
  reference of a value (`specOf`), the member it stands for (`keyVal`), the container created for
  an unset parent (`newContainer`: an array for a numeric key, an object otherwise) and `SetMember`
  on the current heap (`setMemberM`).  `createSpeculative_eq` is the function in that form, each
  case of the parent's value occurring once.
-/
import Jqawk.Model.Eval


namespace Jqawk

def specOf : Val → Option SpecRef
  | .nil s => s
  | .native _ _ s => s
  | .str _ s => s
  | _ => none

def keyVal : Key → Val
  | .str s => .str s none
  | .num x => .num x

def keyIsNum : Key → Bool
  | .num _ => true
  | .str _ => false

def newContainer (forNum : Bool) : EM Val :=
  if forNum then do let a ← allocArrM #[]; pure (Val.arr a)
  else do let o ← allocObjM []; pure (Val.obj o)

def setMemberM (target m : Val) (cell : CellId) : EM (Except String CellId) := fun s =>
  match setMember s.heap target m cell with
  | .error e => .ok (.error e) s
  | .ok (c, h') => .ok (.ok c) { s with heap := h' }

theorem setMemberM_eq (target m : Val) (cell : CellId) :
    (do let h ← getHeap
        match setMember h target m cell with
        | .error e => pure (.error e)
        | .ok (c', h') => do setHeap h'; pure (.ok c') : EM (Except String CellId)) = setMemberM target m cell := by
  funext s
  simp only [bind, EM.bind, getHeap, setMemberM]
  cases setMember s.heap target m cell with
  | error e => rfl
  | ok p => rfl

theorem createSpeculative_eq (n : Nat) (c : CellId) :
    createSpeculative (n + 1) c = (do
      let sv ← readCell c
      match specOf sv with
      | none => throwPanic "speculative object has no parent"
      | some spec => do
        let pv ← readCell spec.parent
        match pv with
        | .nil none => pure (.error "could not create this object")
        | .unknown => do
          let newObj ← newContainer (keyIsNum spec.key)
          writeCell spec.parent newObj
          setMemberM newObj (keyVal spec.key) c
        | .nil (some _) => do
          let pc ← newCell pv
          match (← createSpeculative n pc) with
          | .error m => pure (.error m)
          | .ok newParent => do
            let newObj ← newContainer (keyIsNum spec.key)
            writeCell newParent newObj
            writeCell spec.parent newObj
            setMemberM newObj (keyVal spec.key) c
        | _ => setMemberM pv (keyVal spec.key) c) := by
  rw [createSpeculative]
  refine congrArg (readCell c >>= ·) (funext fun sv => ?_)
  show (match specOf sv with | none => _ | some spec => _) = _
  cases specOf sv with
  | none => rfl
  | some spec =>
    dsimp only
    refine congrArg (readCell spec.parent >>= ·) (funext fun pv => ?_)
    obtain ⟨par, key⟩ := spec
    cases pv with
    | nil sp =>
      cases sp with
      | none => rfl
      | some sr =>
        funext s
        cases key <;>
        simp only [bind, pure, EM.bind, keyVal, keyIsNum, newContainer, newCell, Bool.false_eq_true,
          ↓reduceIte] <;>
        (generalize createSpeculative n _ _ = r
         cases r with
         | oof => rfl
         | err e s' => rfl
         | ok a s' =>
           cases a with
           | error m => rfl
           | ok np =>
             simp only [EM.pure, EM.bind, getHeap, setHeap, setMemberM, allocArrM, allocObjM, writeCell]
             generalize setMember _ _ _ _ = r
             cases r with
             | error e => rfl
             | ok p => cases p; rfl)
    | unknown =>
      funext s
      cases key <;>
      simp only [bind, pure, EM.pure, EM.bind, getHeap, setMemberM, keyVal, keyIsNum, newContainer,
        allocArrM, allocObjM, writeCell, Bool.false_eq_true, ↓reduceIte] <;>
      (generalize setMember _ _ _ _ = r
       cases r with
       | error e => rfl
       | ok p => cases p; rfl)
    | _ => rw [← setMemberM_eq]; rfl


end Jqawk
