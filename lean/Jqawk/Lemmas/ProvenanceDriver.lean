/-
  Provenance of positions at the level of the rule driver and of a whole run (C12): every
  runtime error a run reports carries the offset of a token of the parsed program (reported with
  the program text), or of a token of a parsed selector expression (reported with that selector's
  text); every syntax error a run reports is a syntax error of the program text or of a selector.
  The statements about the rule loops are readings of the walk in `Lemmas/ShapedDriver.lean`.
-/
import Jqawk.Lemmas.ProvenanceEval
import Jqawk.Lemmas.ProvenanceParser
import Jqawk.Lemmas.DriverRun
import Jqawk.Lemmas.ShapedDriver


namespace Jqawk

theorem RuleOK.body_false {G : Nat → Prop} {r : Rule} (h : RuleOK G false r) :
    TokOK G (r.body.tokens false) := by
  rcases h.2 with h | h
  · exact h
  · rw [h]; simp [Stmt.tokens, tokensEs]

theorem ProgOK.fnTok {G : Nat → Prop} {prog : Program} (h : ProgOK G false prog) : prog.FnTok G :=
  fun f hf => (h.2 f hf).2

theorem ProgOK.blame {G : Nat → Prop} {prog : Program} (h : ProgOK G false prog) :
    TokOK G prog.blameTokens := by
  intro t ht
  simp only [Program.blameTokens, List.mem_append, List.mem_flatMap] at ht
  rcases ht with ⟨r, hr, ht⟩ | ⟨f, hf, ht⟩
  · have hr' := h.1 r hr
    simp only [Rule.tokens, List.mem_append] at ht
    rcases ht with ht | ht
    · cases hp : r.pattern with
      | none => rw [hp] at ht; cases ht
      | some e => rw [hp] at ht; exact hr'.1 e hp t ht
    · exact hr'.body_false t ht
  · have hf' := h.2 f hf
    simp only [FuncDef.tokens, List.mem_cons] at ht
    rcases ht with rfl | ht
    · exact hf'.1
    · exact hf'.2 t ht

theorem ProgOK.all {G : Nat → Prop} {prog : Program} (h : ProgOK G true prog) :
    ∀ t ∈ prog.tokens, t = Token.zero ∨ G t.pos := by
  intro t ht
  simp only [Program.tokens, List.mem_append, List.mem_flatMap] at ht
  rcases ht with ⟨r, hr, ht⟩ | ⟨f, hf, ht⟩
  · have hr' := h.1 r hr
    simp only [Rule.tokens, List.mem_append] at ht
    rcases ht with ht | ht
    · cases hp : r.pattern with
      | none => rw [hp] at ht; cases ht
      | some e => rw [hp] at ht; exact .inr (hr'.1 e hp t ht)
    · rcases hr'.2 with hb | hb
      · exact .inr (hb t ht)
      · rw [hb] at ht
        simp [Stmt.tokens, tokensEs, kwTok] at ht
        exact .inl ht
  · have hf' := h.2 f hf
    simp only [FuncDef.tokens, List.mem_cons] at ht
    rcases ht with rfl | ht
    · exact .inr hf'.1
    · exact .inr (hf'.2 t ht)

theorem progOK_self (prog : Program) :
    ProgOK (fun p => ∃ t ∈ prog.blameTokens, t.pos = p) false prog := by
  refine ⟨fun r hr => ⟨fun e he t ht => ⟨t, ?_, rfl⟩, .inl fun t ht => ⟨t, ?_, rfl⟩⟩,
    fun f hf => ⟨⟨f.ident, ?_, rfl⟩, fun t ht => ⟨t, ?_, rfl⟩⟩⟩
  · simp only [Program.blameTokens, List.mem_append, List.mem_flatMap]
    exact .inl ⟨r, hr, by simp [Rule.tokens, he, ht]⟩
  · simp only [Program.blameTokens, List.mem_append, List.mem_flatMap]
    exact .inl ⟨r, hr, by simp [Rule.tokens, ht]⟩
  · simp only [Program.blameTokens, List.mem_append, List.mem_flatMap]
    exact .inr ⟨f, hf, by simp [FuncDef.tokens]⟩
  · simp only [Program.blameTokens, List.mem_append, List.mem_flatMap]
    exact .inr ⟨f, hf, by simp [FuncDef.tokens, ht]⟩

theorem ProgOK.mono {G G' : Nat → Prop} {kw : Bool} {prog : Program} (h : ProgOK G kw prog)
    (hg : ∀ p, G p → G' p) : ProgOK G' kw prog :=
  ⟨fun r hr => ⟨fun e he => (h.1 r hr).1 e he |>.mono hg,
      (h.1 r hr).2.imp (fun hb => hb.mono hg) id⟩,
   fun f hf => ⟨hg _ (h.2 f hf).1, (h.2 f hf).2.mono hg⟩⟩

theorem RuleOK.ruleIn {G : Nat → Prop} {S : Sig → Prop} (hS : ∀ g, S g) {r : Rule} (h : RuleOK G false r) :
    RuleIn G S r :=
  ⟨.all hS, h.body_false, fun p hp => ⟨.all hS, h.1 p hp⟩⟩

namespace RtPos
variable {G : Nat → Prop}

theorem ruleFlow {m : EM Unit} (h : RtPos G m) : RtPos G (Jqawk.ruleFlow m) :=
  ruleFlow_eq_handle m ▸ handle h (fun _ => pure _) (by
    intro g k h'; cases g <;> cases h' <;> exact pure _)

variable (prog : Program) (hp : ProgOK G false prog)
include hp

theorem evalRules (rules : List Rule) (hsub : ∀ r ∈ rules, r ∈ prog.rules) :
    RtPos G (Jqawk.evalRules prog rules) :=
  of_shaped (S := fun _ => True) (.evalRules (D := True) hp.fnTok (.all fun _ => .inr trivial) rules
    fun r hr => (hp.1 r (hsub r hr)).ruleIn fun _ => .inr trivial)

theorem evalElems (rules : List Rule) (hsub : ∀ r ∈ rules, r ∈ prog.rules) (items : List CellId)
    (i : Nat) : RtPos G (Jqawk.evalElems prog rules items i) :=
  of_shaped (S := fun _ => True) (.evalElems (D := True) hp.fnTok (.all fun _ => .inr trivial) trivial rules
    (fun r hr => (hp.1 r (hsub r hr)).ruleIn fun _ => .inr trivial) items i)

theorem evalPatternRules (rules : List Rule) (hsub : ∀ r ∈ rules, r ∈ prog.rules) :
    RtPos G (Jqawk.evalPatternRules prog rules) :=
  of_shaped (S := fun _ => True) (.evalPatternRules (D := True) hp.fnTok (.all fun _ => .inr trivial) trivial
    rules fun r hr => (hp.1 r (hsub r hr)).ruleIn fun _ => .inr trivial)

/-- (for any `mkRoot`, which `Shaped.evalSpecialRules` does not cover) -/
theorem evalSpecialRules (mkRoot : EM CellId) (hmk : RtPos G mkRoot) (rules : List Rule)
    (hsub : ∀ r ∈ rules, r ∈ prog.rules) :
    RtPos G (Jqawk.evalSpecialRules prog mkRoot rules) := by
  induction rules with
  | nil => exact RtPos.pure _
  | cons rule rest ih =>
    have hrest : ∀ r ∈ rest, r ∈ prog.rules := fun r hr => hsub r (List.mem_cons_of_mem _ hr)
    have hrule := hp.1 rule (hsub rule (List.mem_cons_self ..))
    have hall := allRt G prog hp.fnTok evalFuel
    unfold Jqawk.evalSpecialRules
    refine RtPos.bind hmk (fun c => RtPos.bind (RtPos.modifySt _) (fun _ =>
      RtPos.bind (RtPos.ruleFlow (hall.stmt _ hrule.body_false)) (fun fl => ?_)))
    split
    · exact RtPos.pure _
    · exact ih hrest

theorem processRoot (c : CellId) : RtPos G (Jqawk.processRoot prog c) :=
  of_shaped (S := fun _ => True) (.processRoot (D := True) hp.fnTok trivial (.all fun _ => .inr (.inr trivial))
    (fun r hr => (hp.1 r hr).ruleIn fun _ => .inr (.inr trivial)) c)

end RtPos

theorem RtPos.newValueJson {G : Nat → Prop} : ∀ j, RtPos G (Jqawk.newValueJson j) :=
  fun j => .of_quiet (.newValueJson j)
theorem RtPos.newValueItems {G : Nat → Prop} : ∀ js, RtPos G (Jqawk.newValueItems js) :=
  fun js => .of_quiet (.newValueItems js)
theorem RtPos.newValueMembers {G : Nat → Prop} : ∀ ms, RtPos G (Jqawk.newValueMembers ms) :=
  fun ms => .of_quiet (.newValueMembers ms)

theorem RtPos.selectorRun {G : Nat → Prop} (rootValue : JVal) (expr : Expr)
    (he : TokOK G (expr.tokens false)) : RtPos G (Jqawk.selectorRun rootValue expr) :=
  of_shaped (S := fun _ => True) (.selectorRun (D := True) trivial rootValue .top he)

/-- what a run may report about positions: a runtime or syntax error refers to the program text
    or to a selector text, and carries a good position (`Gs text`) / is a good error (`Es text`)
    of that text -/
def OutcomeOK (Gs : Bytes → Nat → Prop) (Es : Bytes → SynErr → Prop) (src : Bytes)
    (sels : List Bytes) : Outcome → Prop
  | .runtimeErr s pos _ => (s = src ∨ s ∈ sels) ∧ Gs s pos
  | .syntaxErr s e => (s = src ∨ s ∈ sels) ∧ Es s e
  | _ => True

section run
variable {Gs : Bytes → Nat → Prop} {Es : Bytes → SynErr → Prop} {tbl : RuleTable}
  {src : Bytes} {sels : List Bytes}

theorem outcomeOK_errOutcome {e : Err} {text : Bytes} (ht : text = src ∨ text ∈ sels)
    (h : ∀ pos msg, e = .runtime pos msg → Gs text pos) :
    OutcomeOK Gs Es src sels (errOutcome text e) := by
  cases e with
  | runtime pos msg => exact ⟨ht, h pos msg rfl⟩
  | sig g => trivial
  | panic m => trivial
  | unmodelled w => trivial

theorem RtPos.outcome {α : Type} {m : EM α} (hm : RtPos (Gs src) m) {s : St} {e : Err} {s' : St}
    (h : m s = .err e s') : OutcomeOK Gs Es src sels (errOutcome src e) :=
  outcomeOK_errOutcome (.inl rfl) (fun pos msg he => hm s pos msg s' (by rw [h, he]))

/-- what the parser must establish for the selectors -/
structure SelsOK (Gs : Bytes → Nat → Prop) (Es : Bytes → SynErr → Prop) (tbl : RuleTable)
    (sels : List Bytes) : Prop where
  ok : ∀ sel ∈ sels, ∀ e, parseExpressionSrc tbl sel = .ok e → TokOK (Gs sel) (e.tokens false)
  err : ∀ sel ∈ sels, ∀ e, parseExpressionSrc tbl sel = .syntaxErr e → Es sel e

theorem RtPos.keeps {α : Type} {m : EM α} (hm : RtPos (Gs src) m) :
    Run.Keeps (fun _ => True) (fun o _ => OutcomeOK Gs Es src sels o) src m := by
  intro s _
  split
  · trivial
  · exact hm.outcome ‹_›
  · trivial

variable (prog : Program) (hp : ProgOK (Gs src) false prog) (hs : SelsOK Gs Es tbl sels)
include hp hs

theorem runInv_ok :
    Run.Invariant prog tbl src sels (fun _ => True) (fun o _ => OutcomeOK Gs Es src sels o) :=
  .of_shaped (S := fun _ => True) (fun h => RtPos.keeps (.of_shaped h)) hp.fnTok
    (.all fun _ => .inr (.inr trivial)) (fun r hr => (hp.1 r hr).ruleIn fun _ => .inr (.inr trivial))
    (fun sel hsel v s _ => Run.selector_of_run sel v s (fun e he => ⟨.inr hsel, hs.err sel hsel e he⟩) trivial
      fun expr he => by
        split
        · trivial
        · rename_i hr
          split
          · trivial
          · exact outcomeOK_errOutcome (.inr hsel) fun pos msg e =>
              RtPos.selectorRun v expr (hs.ok sel hsel expr he) _ pos msg _ (e ▸ hr)
        · trivial)
    fun _ _ => ⟨trivial, trivial, fun _ => trivial⟩

/-- a run of a program whose blame tokens carry good offsets reports only good positions -/
theorem runProgram_ok (files : List InputFile) :
    OutcomeOK Gs Es src sels (runProgram prog src tbl sels files).outcome := by
  have h := (runInv_ok prog hp hs).runProgram files trivial
  unfold Run.OK at h
  split at h
  · exact h
  · rw [h]; trivial

end run

end Jqawk
