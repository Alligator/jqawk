/-!
  Case lemmas for conditionals: a cascade of `if`s is taken apart one condition at a time by
  `refine ite_elim (fun h => ?_) fun h => ?_`, without `split` having to search the goal.
-/
namespace Jqawk

theorem ite_elim {α : Sort _} {P : α → Prop} {c : Prop} [Decidable c] {a b : α}
    (ha : c → P a) (hb : ¬ c → P b) : P (if c then a else b) := by
  by_cases h : c
  · rw [if_pos h]; exact ha h
  · rw [if_neg h]; exact hb h

theorem ite_elim₂ {α β : Sort _} {P : α → β → Prop} {c : Prop} [Decidable c] {a b : α} {a' b' : β}
    (ha : c → P a a') (hb : ¬ c → P b b') : P (if c then a else b) (if c then a' else b') := by
  by_cases h : c
  · rw [if_pos h, if_pos h]; exact ha h
  · rw [if_neg h, if_neg h]; exact hb h

theorem ite_eq_elim {α : Sort _} {C : Prop} {c : Prop} [Decidable c] {a b v : α}
    (ha : c → a = v → C) (hb : ¬ c → b = v → C) : (if c then a else b) = v → C :=
  ite_elim (P := fun x => x = v → C) ha hb

/-- one step of a table lookup written as a cascade: every answer of `if c then some a else e` has `P` -/
theorem ite_some_elim {α : Type _} {P : α → Prop} {c : Prop} [Decidable c] {a : α} {e : Option α}
    (ha : c → P a) (he : ∀ t, e = some t → P t) : ∀ t, (if c then some a else e) = some t → P t :=
  fun _ => ite_eq_elim (fun h e => Option.some.inj e ▸ ha h) fun _ => he _

theorem ite_match {α β : Sort _} {p : Prop} [Decidable p] (k : β → α) {a b : α} {a' b' : β}
    (ha : p → a = k a') (hb : ¬ p → b = k b') : (if p then a else b) = k (if p then a' else b') :=
  ite_elim₂ (P := fun x y => x = k y) ha hb

end Jqawk
