/-
  Signal discipline at the level of the rule driver (C01): `next` and `exit` are consumed by the
  rule loops, and break / continue / return cannot come out of well-scoped rules; hence a run
  never reports an internal control-flow signal as its outcome.  Readings of the walk in
  `Lemmas/ShapedDriver.lean` at `S := ∅`: a well-scoped program's rules and functions raise nothing
  but what a rule loop catches (`Program.WellScoped.fnConf`, `.ruleIn`).
-/
import Jqawk.Lemmas.Signals
import Jqawk.Lemmas.DriverRun
import Jqawk.Lemmas.ShapedDriver


namespace Jqawk

/-- what the parser guarantees about a program: `break`/`continue` only inside loop bodies of
    the same function or rule, `return` only inside functions -/
def Program.WellScoped (prog : Program) : Prop :=
  prog.FnScoped ∧
  ∀ r ∈ prog.rules, ∀ g : Sig, g.confined = true →
    canS g r.body = false ∧ ∀ p, r.pattern = some p → canE g p = false

theorem wellScoped_of_B (prog : Program) (h : prog.wellScopedB = true) : prog.WellScoped := by
  simp only [Program.wellScopedB, Bool.and_eq_true, List.all_eq_true, Bool.not_eq_true',
    confinedSigs] at h
  obtain ⟨hf, hr⟩ := h
  refine ⟨fun f hfm => hf f hfm, fun r hrm g hg => ?_⟩
  have hmem : g ∈ [Sig.brk, Sig.cont, Sig.ret] := by cases g <;> simp_all [Sig.confined]
  have hg' := hr r hrm g hmem
  refine ⟨hg'.1, fun p hp => ?_⟩
  have := hg'.2
  rw [hp] at this
  simpa using this

/-- a rule body's `next` and `exit` never come out of `ruleFlow`; other signals only if the body raises them -/
theorem NoSig.ruleFlow {g : Sig} {m : EM Unit} (h : g = .next ∨ g = .exit ∨ NoSig g m) :
    NoSig g (Jqawk.ruleFlow m) :=
  ruleFlow_eq_handle m ▸ handle (by rcases h with rfl | rfl | h <;> intro h' <;> first | cases h' | exact h)
    (fun _ => pure g _) (by intro g' k h'; cases g' <;> cases h' <;> exact pure g _)

/-- the function bodies of a well-scoped program raise nothing but what a rule loop catches -/
theorem Program.WellScoped.fnConf {prog : Program} (hws : prog.WellScoped) :
    prog.FnConf (InRule fun _ => False) := fun f hf g hg => by
  have := hws.1 f hf
  cases g <;> simp_all [InRule]

/-- … and so do its rules -/
theorem Program.WellScoped.ruleIn {prog : Program} (hws : prog.WellScoped) {r : Rule} (hr : r ∈ prog.rules) :
    RuleIn (fun _ => True) (InRule fun _ => False) r := by
  have key : ∀ {b : Sig → Bool}, (∀ g, g.confined = true → b g = false) → Conf (InRule fun _ => False) b :=
    fun hb g hg => by cases g <;> simp_all [InRule, Sig.confined]
  exact ⟨key fun g hc => (hws.2 r hr g hc).1, fun _ _ => trivial,
    fun p hp => ⟨key fun g hc => (hws.2 r hr g hc).2 p hp, fun _ _ => trivial⟩⟩

/-- under a handler of `next`, of the signals of a rule only `exit` is left -/
theorem NoSig.of_exit {g : Sig} (hg : g = .next ∨ g.confined = true) {α : Type} {m : EM α}
    (h : Shaped True (fun _ => True) (fun g => g = .exit ∨ False) m) : NoSig g m :=
  .of_shaped h (by rcases hg with rfl | hg <;> simp; rintro rfl; cases hg)

variable (prog : Program)

/-- `evalRules` never yields `next` (it consumes it) nor a confined signal (well-scoped rules) -/
theorem NoSig.evalRules (hws : prog.WellScoped) (g : Sig) (hg : g = .next ∨ g.confined = true)
    (rules : List Rule) (hsub : ∀ r ∈ rules, r ∈ prog.rules) :
    NoSig g (Jqawk.evalRules prog rules) :=
  .of_exit hg (.evalRules prog.fnTok_top hws.fnConf rules fun r hr => hws.ruleIn (hsub r hr))

theorem NoSig.evalElems (hws : prog.WellScoped) (g : Sig) (hg : g = .next ∨ g.confined = true)
    (rules : List Rule) (hsub : ∀ r ∈ rules, r ∈ prog.rules) (items : List CellId) (i : Nat) :
    NoSig g (Jqawk.evalElems prog rules items i) :=
  .of_exit hg (.evalElems prog.fnTok_top hws.fnConf trivial rules (fun r hr => hws.ruleIn (hsub r hr)) items i)

theorem NoSig.evalPatternRules (hws : prog.WellScoped) (g : Sig) (hg : g = .next ∨ g.confined = true)
    (rules : List Rule) (hsub : ∀ r ∈ rules, r ∈ prog.rules) :
    NoSig g (Jqawk.evalPatternRules prog rules) :=
  .of_exit hg (.evalPatternRules prog.fnTok_top hws.fnConf trivial rules fun r hr => hws.ruleIn (hsub r hr))

/-- the special-rule loops let no signal at all out (for any `mkRoot`, which
    `Shaped.evalSpecialRules` does not cover) -/
theorem NoSig.evalSpecialRules (hws : prog.WellScoped) (g : Sig) (mkRoot : EM CellId)
    (hmk : NoSig g mkRoot) (rules : List Rule) (hsub : ∀ r ∈ rules, r ∈ prog.rules) :
    NoSig g (Jqawk.evalSpecialRules prog mkRoot rules) := by
  induction rules with
  | nil => exact NoSig.pure g _
  | cons rule rest ih =>
    have hrest : ∀ r ∈ rest, r ∈ prog.rules := fun r hr => hsub r (List.mem_cons_of_mem _ hr)
    have hrule := hsub rule (List.mem_cons_self ..)
    unfold Jqawk.evalSpecialRules
    refine NoSig.bind hmk (fun c => NoSig.bind (NoSig.modifySt g _) (fun _ => NoSig.bind ?_ (fun fl => ?_)))
    · apply NoSig.ruleFlow
      cases g with
      | next => exact Or.inl rfl
      | exit => exact Or.inr (Or.inl rfl)
      | brk => exact Or.inr (Or.inr ((allNoSig prog .brk rfl hws.1 evalFuel).stmt _ (hws.2 rule hrule .brk rfl).1))
      | cont => exact Or.inr (Or.inr ((allNoSig prog .cont rfl hws.1 evalFuel).stmt _ (hws.2 rule hrule .cont rfl).1))
      | ret => exact Or.inr (Or.inr ((allNoSig prog .ret rfl hws.1 evalFuel).stmt _ (hws.2 rule hrule .ret rfl).1))
    · split
      · exact NoSig.pure g _
      · exact ih hrest

theorem NoSig.processRoot (hws : prog.WellScoped) (g : Sig) (c : CellId) :
    NoSig g (Jqawk.processRoot prog c) :=
  .of_shaped (.processRoot (D := True) prog.fnTok_top trivial hws.fnConf (fun _ hr => hws.ruleIn hr) c) id

theorem NoSig.newValueJson (g : Sig) : ∀ j, NoSig g (Jqawk.newValueJson j) :=
  fun j => .of_quiet g (.newValueJson j)
theorem NoSig.newValueItems (g : Sig) : ∀ js, NoSig g (Jqawk.newValueItems js) :=
  fun js => .of_quiet g (.newValueItems js)
theorem NoSig.newValueMembers (g : Sig) : ∀ ms, NoSig g (Jqawk.newValueMembers ms) :=
  fun ms => .of_quiet g (.newValueMembers ms)

theorem NoSig.selectorRun (rootValue : JVal) {expr : Expr} {g : Sig} (he : canE g expr = false) : NoSig g (Jqawk.selectorRun rootValue expr) :=
  .of_shaped (.selectorRun (D := True) (G := fun _ => True) trivial rootValue (.of_false he) fun _ _ => trivial)
    fun h => h rfl

theorem NoSig.keeps (src : Bytes) {α : Type} {m : EM α} (hm : ∀ g, NoSig g m) :
    Run.Keeps (fun _ => True) (fun o _ => ∀ g, o ≠ .sentinel g) src m := by
  intro s _
  split
  · trivial
  · rename_i e s' hr
    intro g h
    cases e <;> cases h
    exact hm g s s' hr
  · trivial

variable (hws : prog.WellScoped) (src : Bytes) (tbl : RuleTable) (sels : List Bytes)
  (hsel : ∀ sel ∈ sels, ∀ e, parseExpressionSrc tbl sel = .ok e →
    ∀ g : Sig, g.confined = true → canE g e = false)
include hws hsel

theorem runInv_noSig :
    Run.Invariant prog tbl src sels (fun _ => True) (fun o _ => ∀ g, o ≠ .sentinel g) :=
  .of_shaped (G := fun _ => True) (S := fun _ => False) (fun h => NoSig.keeps src fun _ => .of_shaped h id)
    prog.fnTok_top hws.fnConf (fun _ hr => hws.ruleIn hr)
    (fun sel hs v s _ => Run.selector_of_run sel v s (fun _ _ _ => nofun) (fun _ => nofun) fun expr he => by
      -- `exit` and `next` are turned into results; the other three do not come out of `selectorRun`
      split
      · trivial
      · rename_i e s1 hr
        split
        · trivial
        · rename_i hne
          intro g hg
          cases e <;> cases hg
          have hc : g.confined = true := by
            cases g <;> first | rfl | exact absurd (.inl rfl) hne | exact absurd (.inr rfl) hne
          exact NoSig.selectorRun v (hsel sel hs expr he g hc) _ _ hr
      · trivial)
    fun _ _ => ⟨fun _ => nofun, fun _ => nofun, fun _ _ => nofun⟩

/-- **No internal signal ever surfaces** as the outcome of a run -/
theorem runProgram_not_sentinel (files : List InputFile) (g : Sig) :
    (runProgram prog src tbl sels files).outcome ≠ .sentinel g := by
  have h := (runInv_noSig prog hws src tbl sels hsel).runProgram files trivial
  unfold Run.OK at h
  split at h
  · exact h g
  · rw [h]; nofun

end Jqawk
