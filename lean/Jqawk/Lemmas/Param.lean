/-
  Parametricity of the parser in token positions: every parser function only copies token
  positions into the AST or into error positions and never branches on them.  Stated with
  `PSim` (Lemmas/Erase.lean): run from parser states equal up to positions, with possibly more
  fuel on the right, the two runs make the same requests and end alike up to positions.
-/
import Jqawk.Lemmas.Erase
import Jqawk.Lemmas.Ite

namespace Jqawk
open Parser

variable {α β : Type} [Erase α] [Erase β]

theorem ps_cur_tag {s₁ s₂ : PS} (h : erase s₁ = erase s₂) : s₁.cur.tag = s₂.cur.tag :=
  ((erase_ps_eq_iff _ _).mp h).1
theorem ps_cur_text {s₁ s₂ : PS} (h : erase s₁ = erase s₂) : s₁.cur.text = s₂.cur.text :=
  ((erase_ps_eq_iff _ _).mp h).2.1
theorem ps_prev_tag {s₁ s₂ : PS} (h : erase s₁ = erase s₂) : s₁.prev.tag = s₂.prev.tag :=
  ((erase_ps_eq_iff _ _).mp h).2.2.1
theorem ps_prev_text {s₁ s₂ : PS} (h : erase s₁ = erase s₂) : s₁.prev.text = s₂.prev.text :=
  ((erase_ps_eq_iff _ _).mp h).2.2.2.1
theorem ps_didEnd {s₁ s₂ : PS} (h : erase s₁ = erase s₂) : s₁.didEnd = s₂.didEnd :=
  ((erase_ps_eq_iff _ _).mp h).2.2.2.2.1
theorem ps_inFn {s₁ s₂ : PS} (h : erase s₁ = erase s₂) : s₁.inFn = s₂.inFn :=
  ((erase_ps_eq_iff _ _).mp h).2.2.2.2.2.1
theorem ps_inLoop {s₁ s₂ : PS} (h : erase s₁ = erase s₂) : s₁.inLoop = s₂.inLoop :=
  ((erase_ps_eq_iff _ _).mp h).2.2.2.2.2.2
theorem ps_cur {s₁ s₂ : PS} (h : erase s₁ = erase s₂) : erase s₁.cur = erase s₂.cur := by
  rw [erase_token_eq_iff]; exact ⟨ps_cur_tag h, ps_cur_text h⟩
theorem ps_prev {s₁ s₂ : PS} (h : erase s₁ = erase s₂) : erase s₁.prev = erase s₂.prev := by
  rw [erase_token_eq_iff]; exact ⟨ps_prev_tag h, ps_prev_text h⟩

theorem erase_prod_eq_iff {α β : Type} [Erase α] [Erase β] (x y : α × β) :
    erase x = erase y ↔ erase x.1 = erase y.1 ∧ erase x.2 = erase y.2 := by
  obtain ⟨a, b⟩ := x; obtain ⟨c, d⟩ := y; simp

theorem erase_rule_mk (k : RuleKind) (p : Option Expr) (b : Stmt) :
    erase (Rule.mk k p b) = Rule.mk k (erase p) (erase b) := rfl
theorem erase_funcDef_mk (i : Token) (a : List Bytes) (b : Stmt) :
    erase (FuncDef.mk i a b) = FuncDef.mk (erase i) a (erase b) := rfl
theorem erase_program_mk (r : List Rule) (f : List FuncDef) :
    erase (Program.mk r f) = Program.mk (erase r) (erase f) := rfl
theorem erase_optToken_def (o : Option Token) : erase o = o.map Token.erase := rfl
theorem erase_expr_def (e : Expr) : erase e = e.erase := rfl
theorem erase_stmt_def (e : Stmt) : erase e = e.erase := rfl
theorem erase_token_def (e : Token) : erase e = e.erase := rfl
theorem erase_case_def (e : MatchCase) : erase e = e.erase := rfl

theorem assignable_of_erase {e₁ e₂ : Expr} (h : erase e₁ = erase e₂) :
    assignable e₁ = assignable e₂ := by
  rw [erase_expr_def, erase_expr_def] at h
  cases e₁ <;> cases e₂ <;> simp [Expr.erase, assignable] at h ⊢
  simp [((erase_token_eq_iff _ _).mp h.2.2).1]

theorem rewriteCompound_erase {l₁ l₂ e₁ e₂ : Expr} {o₁ o₂ : Token} (hl : l₁.erase = l₂.erase)
    (he : e₁.erase = e₂.erase) (ho : o₁.erase = o₂.erase) :
    (rewriteCompound l₁ e₁ o₁).erase = (rewriteCompound l₂ e₂ o₂).erase := by
  replace ho := (erase_token_eq_iff _ _).mp ho
  simp only [rewriteCompound, Expr.erase, hl, he, Token.erase, ho.1, ho.2]

theorem ident_or_not {e₁ e₂ : Expr} (h : erase e₁ = erase e₂) :
    (∃ i₁ i₂, e₁ = .ident i₁ ∧ e₂ = .ident i₂ ∧ i₁.erase = i₂.erase) ∨
    ((∀ i, e₁ ≠ .ident i) ∧ (∀ i, e₂ ≠ .ident i)) := by
  rw [erase_expr_def, erase_expr_def] at h
  cases e₁ <;> cases e₂ <;> simp [Expr.erase] at h ⊢
  exact h

namespace PSim

theorem bind_same {γ : Type} [Erase γ] (he : ∀ a b : γ, erase a = erase b → a = b) {p₁ p₂ : P γ}
    {f g : γ → P β} (h : PSim p₁ p₂) (hf : ∀ a, PSim (f a) (g a)) : PSim (p₁ >>= f) (p₂ >>= g) :=
  bind h fun a _ hab => he a _ hab ▸ hf a

theorem consume (tag : Tag) : PSim (Parser.consume tag) (Parser.consume tag) := by
  unfold Parser.consume
  refine bind get fun s₁ s₂ hs => ?_
  simp only [ps_cur_tag hs]
  exact ite_elim₂ (P := PSim) (fun _ => advance) fun _ => fail

theorem consumeOf (tags : List Tag) : PSim (Parser.consumeOf tags) (Parser.consumeOf tags) := by
  unfold Parser.consumeOf
  refine bind get fun s₁ s₂ hs => ?_
  simp only [ps_cur_tag hs]
  exact ite_elim₂ (P := PSim) (fun _ => advance) fun _ => fail

theorem consumeIgnore (tag : Tag) : PSim (Parser.consumeIgnore tag) (Parser.consumeIgnore tag) := by
  unfold Parser.consumeIgnore
  refine bind get fun s₁ s₂ hs => ?_
  simp only [ps_cur_tag hs]
  exact ite_elim₂ (P := PSim) (fun _ => advance) fun _ => pure rfl

theorem curTag : PSim Parser.curTag Parser.curTag := by
  unfold Parser.curTag
  refine bind get fun s₁ s₂ hs => ?_
  exact pure (ps_cur_tag hs)

theorem atEnd : PSim Parser.atEnd Parser.atEnd := by
  unfold Parser.atEnd
  refine bind get fun s₁ s₂ hs => ?_
  exact pure (by simp [ps_cur_tag hs])

theorem setDidEnd (b : Bool) : PSim (Parser.setDidEnd b) (Parser.setDidEnd b) := by
  unfold Parser.setDidEnd
  refine modify fun s₁ s₂ hs => ?_
  rw [erase_ps_eq_iff] at hs ⊢
  simp [hs]

theorem atStatementEnd : PSim Parser.atStatementEnd Parser.atStatementEnd := by
  unfold Parser.atStatementEnd
  refine bind get fun s₁ s₂ hs => ?_
  simp only [ps_cur_tag hs, ps_didEnd hs]
  refine ite_elim₂ (P := PSim) (fun _ => pure rfl) fun _ => ?_
  split
  · exact pure rfl
  · exact bind advance fun _ _ _ => pure rfl
  · exact pure rfl

theorem regexPrefix : PSim Parser.regexPrefix Parser.regexPrefix := by
  intro s₁ s₂ hs
  unfold Parser.regexPrefix
  refine PM.Sim.regex fun t₁ t₂ ht => ?_
  have : PSim (do Parser.advance; return Expr.lit t₁ : P Expr) (do Parser.advance; return Expr.lit t₂) :=
    bind advance fun _ _ _ => pure (by
      show Expr.erase _ = Expr.erase _
      simp only [Expr.erase]; congr 1)
  apply this
  rw [erase_ps_eq_iff] at hs ⊢
  rw [erase_token_eq_iff] at ht
  simp [hs, ht]

end PSim

structure AllSim (tbl : RuleTable) (n₁ n₂ : Nat) : Prop where
  statement : PSim (statement tbl n₁) (statement tbl n₂)
  loopBody : PSim (loopBody tbl n₁) (loopBody tbl n₂)
  block : PSim (block tbl n₁) (block tbl n₂)
  blockLoop : ∀ a₁ a₂ : List Stmt, erase a₁ = erase a₂ →
    PSim (blockLoop tbl n₁ a₁) (blockLoop tbl n₂ a₂)
  printStatement : PSim (printStatement tbl n₁) (printStatement tbl n₂)
  printLoop : ∀ a₁ a₂ : List Expr, erase a₁ = erase a₂ →
    PSim (printLoop tbl n₁ a₁) (printLoop tbl n₂ a₂)
  expressionWithPrec : ∀ prec, PSim (expressionWithPrec tbl n₁ prec) (expressionWithPrec tbl n₂ prec)
  infixLoop : ∀ prec (l₁ l₂ : Expr), erase l₁ = erase l₂ →
    PSim (infixLoop tbl n₁ prec l₁) (infixLoop tbl n₂ prec l₂)
  prefixFn : ∀ pk, PSim (prefixFn tbl n₁ pk) (prefixFn tbl n₂ pk)
  exprList : ∀ endTag (a₁ a₂ : List Expr), erase a₁ = erase a₂ →
    PSim (exprList tbl n₁ endTag a₁) (exprList tbl n₂ endTag a₂)
  objectLoop : ∀ a₁ a₂ : List (Bytes × Expr), erase a₁ = erase a₂ →
    PSim (objectLoop tbl n₁ a₁) (objectLoop tbl n₂ a₂)
  matchCases : ∀ a₁ a₂ : List MatchCase, erase a₁ = erase a₂ →
    PSim (matchCases tbl n₁ a₁) (matchCases tbl n₂ a₂)
  matchPats : ∀ a₁ a₂ : List Expr, erase a₁ = erase a₂ →
    PSim (matchPats tbl n₁ a₁) (matchPats tbl n₂ a₂)
  infixFn : ∀ ik (l₁ l₂ : Expr), erase l₁ = erase l₂ →
    PSim (infixFn tbl n₁ ik l₁) (infixFn tbl n₂ ik l₂)

section tactics
set_option hygiene false

/-- goals that are instances of a known `PSim` fact or of the induction hypothesis `ih` -/
macro "psim_leaf" : tactic => `(tactic| with_reducible first
  | exact PSim.consume _
  | exact PSim.get
  | exact PSim.curTag
  | exact ih.expressionWithPrec _
  | exact PSim.fail
  | exact PSim.advance
  | exact PSim.setDidEnd _
  | exact PSim.atStatementEnd
  | exact ih.statement
  | exact ih.loopBody
  | exact ih.block
  | exact ih.printStatement
  | exact ih.prefixFn _
  | refine ih.blockLoop _ _ ?_
  | refine ih.printLoop _ _ ?_
  | refine ih.infixLoop _ _ _ ?_
  | refine ih.exprList _ _ _ ?_
  | refine ih.objectLoop _ _ ?_
  | refine ih.matchCases _ _ ?_
  | refine ih.matchPats _ _ ?_
  | refine ih.infixFn _ _ _ ?_
  | exact PSim.consumeOf _
  | exact PSim.consumeIgnore _
  | exact PSim.atEnd
  | exact PSim.regexPrefix)

/-- one structural step; a goal that is an equation is a side condition and is left alone.  Names
    it introduces: `x₁ x₂ hx` (the related results of the first part of a `bind`; `xa₁ xb₁ xa₂ xb₂
    hxa hxb` for a pair), `hcur hprev` (current and previous tokens of related states).  After
    a `bind` the continuation is prepared first (results without positions are identified, facts
    about related parser states are rewritten into the right-hand program), then the first part,
    usually a primitive or a call, is closed by `psim_leaf` -/
macro "psim_step" : tactic => `(tactic| (
  fail_if_success guard_target =~ @Eq _ _ _
  first
  | (with_reducible refine PSim.bind_same (fun _ _ h => h) ?_ (fun x₁ => ?_)
     try psim_leaf)
  | (with_reducible refine PSim.bind ?_ (fun x₁ x₂ hx => ?_)
     rotate_left
     try simp only [assignable_of_erase hx]
     try (rw [erase_prod_eq_iff] at hx
          obtain ⟨xa₁, xb₁⟩ := x₁
          obtain ⟨xa₂, xb₂⟩ := x₂
          dsimp only at hx
          obtain ⟨hxa, hxb⟩ := hx
          try (simp only [erase_bool, erase_tag] at hxb; subst hxb))
     try (have hcur := ps_cur hx; have hprev := ps_prev hx)
     try simp only [ps_cur_tag hx, ps_cur_text hx, ps_prev_tag hx, ps_prev_text hx, ps_didEnd hx,
       ps_inFn hx, ps_inLoop hx]
     try dsimp only
     rotate_left
     try psim_leaf)
  | with_reducible refine PSim.pure ?_
  | psim_leaf
  | with_reducible refine ite_elim₂ (P := PSim) (fun _ => ?_) (fun _ => ?_)
  | (refine PSim.modify (fun s₁ s₂ hs => ?_); rw [erase_ps_eq_iff] at hs ⊢; simp [hs])
  | split))

/-- side conditions: equalities up to positions between results built from related parts -/
macro "psim_side" : tactic => `(tactic| (
  (try simp only [erase_pair, erase_cons, erase_reverse, erase_nil, erase_bool, erase_unit, erase_tag,
    erase_bytes, erase_some, erase_none, Prod.mk.injEq, List.cons.injEq, List.reverse_inj,
    erase_rule_mk, erase_funcDef_mk, erase_program_mk, erase_ruleKind, erase_listBytes, Rule.mk.injEq,
    FuncDef.mk.injEq, Program.mk.injEq,
    erase_expr_def, erase_stmt_def, erase_token_def, erase_case_def, erase_optToken_def, Expr.erase, Stmt.erase,
    MatchCase.erase, eraseExprs_eq, eraseStmts_eq, eraseKVs_eq, eraseCases_eq,
    true_and, and_true] at *) <;>
  (try simp [*])))

end tactics

variable {tbl : RuleTable} {n₁ n₂ : Nat}

theorem infixFn_step_param (ih : AllSim tbl n₁ n₂) (ik : InfixKind) (l₁ l₂ : Expr)
    (hl : erase l₁ = erase l₂) :
    PSim (infixFn tbl (n₁ + 1) ik l₁) (infixFn tbl (n₂ + 1) ik l₂) := by
  unfold infixFn
  simp only [assignable_of_erase hl]
  repeat' psim_step
  all_goals psim_side
  exact rewriteCompound_erase hl ‹_› hprev

theorem statement_step_param (ih : AllSim tbl n₁ n₂) :
    PSim (statement tbl (n₁ + 1)) (statement tbl (n₂ + 1)) := by
  unfold statement
  iterate 2 psim_step
  split
  case h_5 =>  -- the `.for_` arm
    iterate 4 psim_step
    rename_i pre₁
    rcases ident_or_not hx with ⟨i₁, i₂, rfl, rfl, hi⟩ | ⟨hn₁, hn₂⟩
    · cases hflag : (x₁ == Tag.in_ || x₁ == Tag.comma)
      · dsimp only
        repeat' psim_step
        all_goals psim_side
      · dsimp only
        repeat' psim_step
        all_goals psim_side
    · split
      · rename_i id _; exact absurd rfl (hn₁ id)
      · split
        · rename_i id _; exact absurd rfl (hn₂ id)
        · repeat' psim_step
          all_goals psim_side
  all_goals (repeat' psim_step)
  all_goals psim_side

theorem allSim (tbl : RuleTable) : ∀ n₁ n₂, n₁ ≤ n₂ → AllSim tbl n₁ n₂
  | 0, _, _ => by constructor <;> intros <;> exact PSim.oofL
  | _ + 1, 0, h => by omega
  | n₁ + 1, n₂ + 1, h =>
    have ih := allSim tbl n₁ n₂ (by omega)
    { statement := statement_step_param ih
      loopBody := by unfold loopBody; (repeat' psim_step); all_goals psim_side
      block := by unfold block; (repeat' psim_step); all_goals psim_side
      blockLoop := fun _ _ ha => by unfold blockLoop; (repeat' psim_step); all_goals psim_side
      printStatement := by unfold printStatement; (repeat' psim_step); all_goals psim_side
      printLoop := fun _ _ ha => by unfold printLoop; (repeat' psim_step); all_goals psim_side
      expressionWithPrec := fun _ => by
        unfold expressionWithPrec; (repeat' psim_step); all_goals psim_side
      infixLoop := fun _ _ _ hl => by unfold infixLoop; (repeat' psim_step); all_goals psim_side
      prefixFn := fun _ => by unfold prefixFn; (repeat' psim_step); all_goals psim_side
      exprList := fun _ _ _ ha => by unfold exprList; (repeat' psim_step); all_goals psim_side
      objectLoop := fun _ _ ha => by unfold objectLoop; (repeat' psim_step); all_goals psim_side
      matchCases := fun _ _ ha => by unfold matchCases; (repeat' psim_step); all_goals psim_side
      matchPats := fun _ _ ha => by unfold matchPats; (repeat' psim_step); all_goals psim_side
      infixFn := infixFn_step_param ih }

theorem parseRule_sim (ih : AllSim tbl n₁ n₂) : PSim (parseRule tbl n₁) (parseRule tbl n₂) := by
  unfold parseRule
  repeat' psim_step
  all_goals psim_side

theorem funcArgs_sim : ∀ n₁ n₂, n₁ ≤ n₂ → ∀ a₁ a₂ : List Bytes, erase a₁ = erase a₂ →
    PSim (funcArgs n₁ a₁) (funcArgs n₂ a₂) := by
  intro n₁
  induction n₁ with
  | zero => intro n₂ _ a₁ a₂ _; unfold funcArgs; exact PSim.oofL
  | succ n₁ ih =>
    intro n₂ h a₁ a₂ ha
    cases n₂ with
    | zero => omega
    | succ n₂ =>
      have ih := ih n₂ (by omega)
      unfold funcArgs
      repeat' psim_step
      all_goals first
        | (refine ih _ _ ?_; psim_side)
        | psim_side

theorem parseFunction_sim (ih : AllSim tbl n₁ n₂) (h : n₁ ≤ n₂) :
    PSim (parseFunction tbl n₁) (parseFunction tbl n₂) := by
  unfold parseFunction
  repeat' psim_step
  all_goals first
    | (refine funcArgs_sim _ _ h _ _ ?_; psim_side)
    | psim_side

theorem parseTop_sim (tbl : RuleTable) : ∀ n₁ n₂, n₁ ≤ n₂ → ∀ (r₁ r₂ : List Rule) (f₁ f₂ : List FuncDef),
    erase r₁ = erase r₂ → erase f₁ = erase f₂ →
    PSim (parseTop tbl n₁ r₁ f₁) (parseTop tbl n₂ r₂ f₂) := by
  intro n₁
  induction n₁ with
  | zero => intros; unfold parseTop; exact PSim.oofL
  | succ n₁ ih =>
    intro n₂ h r₁ r₂ f₁ f₂ hr hf
    cases n₂ with
    | zero => omega
    | succ n₂ =>
      have ihT := ih n₂ (by omega)
      have ih := allSim tbl n₁ n₂ (by omega)
      unfold parseTop
      repeat' psim_step
      all_goals first
        | exact parseFunction_sim ih (by omega)
        | exact parseRule_sim ih
        | (refine ihT _ _ _ _ ?_ ?_ <;> psim_side)
        | psim_side

theorem parseProgram_sim (tbl : RuleTable) (n₁ n₂ : Nat) (h : n₁ ≤ n₂) :
    PSim (parseProgram tbl n₁) (parseProgram tbl n₂) := by
  unfold parseProgram
  exact PSim.bind PSim.advance fun _ _ _ => parseTop_sim tbl n₁ n₂ h _ _ _ _ rfl rfl

theorem parseExpression_sim (tbl : RuleTable) (n₁ n₂ : Nat) (h : n₁ ≤ n₂) :
    PSim (parseExpression tbl n₁) (parseExpression tbl n₂) := by
  have ih := allSim tbl n₁ n₂ h
  unfold parseExpression
  repeat' psim_step
  all_goals psim_side

end Jqawk
