/-
  `-r E` versus `BEGINFILE { $ = E }` (C14), builtins: the invariant `InvB` through the rule
  driver, and `NewEvaluator` establishes it: in the main evaluator of a program without a
  function of a builtin name, `printf`, `json` and `num` are bound to the cells 0, 1, 2, which
  hold the natives (`newEvaluator_invB`).

  Differences from Lemmas/NoPanicDriver.lean: a global may be set only under a name that is not
  a builtin name (`FramesB.setGlobal`, `BP.setGlobal`); `okProg_rules` / `okProg_functions` hand
  the side conditions of `allBP` to the rule loops.
-/
import Jqawk.Lemmas.SelectorBiEval
import Jqawk.Lemmas.DriverSteps
import Jqawk.Lemmas.NoPanicDriver


namespace Jqawk
namespace Sel

variable {P : Region} {h0 : Heap} {b0 : Bytes → Option CellId} {K : Option CellId → Prop}

theorem InvB.monoK {K K' : Option CellId → Prop} (hK : ∀ r, K r → K' r) {s : St} (h : InvB P h0 b0 K s) :
    InvB P h0 b0 K' s := ⟨h.heap, h.frames, h.ret, h.root, hK _ h.rr⟩

theorem BPres.monoK {K K' : Option CellId → Prop} (hK : ∀ r, K r → K' r) {α : Type} {R : α → Prop}
    {r : Res α} (h : BPres P h0 b0 K R r) : BPres P h0 b0 K' R r :=
  h.byCases trivial (fun _ _ h1 h2 => ⟨h1.monoK hK, h2⟩) (fun _ _ h1 => BPres.of_err (h1.monoK hK))

namespace BP

theorem enter (hK : KSup P K) {c : CellId} (hc : P.N ≤ c) {β : Type} {k : EM β} {R : β → Prop}
    (hk : BP P h0 b0 (KSet P) k R) :
    BP P h0 b0 K (Jqawk.modifySt (fun s => { s with ruleRoot := some c }) >>= fun _ => k) R := by
  intro s hs
  exact BPres.monoK hK (hk { s with ruleRoot := some c }
    ⟨hs.heap, hs.frames, hs.ret, hs.root, ⟨c, rfl, hc⟩⟩)

theorem setRoot {c : Option CellId} (hc : OptReg P c) :
    BP P h0 b0 K (Jqawk.modifySt fun s => { s with root := c }) Tr :=
  fun _ hs => ⟨⟨hs.heap, hs.frames, hs.ret, hc, hs.rr⟩, trivial⟩

theorem ruleFlow {m : EM Unit} (hm : BP P h0 b0 K m Tr) : BP P h0 b0 K (Jqawk.ruleFlow m) Tr := by
  rw [ruleFlow_eq_handle]
  refine handle hm (fun _ _ => pure trivial) (fun g k hg => ?_)
  cases g <;> cases hg <;> exact pure trivial

theorem catchExit {m : EM Unit} (hm : BP P h0 b0 K m Tr) : BP P h0 b0 K (Jqawk.catchExit m) Tr := by
  rw [catchExit_eq_handle]
  refine handle hm (fun _ _ => pure trivial) (fun g k hg => ?_)
  cases g <;> cases hg
  exact pure trivial

end BP

mutual
theorem BP.newValueJson : ∀ j, BP P h0 b0 K (Jqawk.newValueJson j) (GoodV P)
  | .null => by unfold Jqawk.newValueJson; exact BP.pure trivial
  | .bool b => by unfold Jqawk.newValueJson; exact BP.pure trivial
  | .num lit => by unfold Jqawk.newValueJson; exact BP.pure trivial
  | .str s => by unfold Jqawk.newValueJson; exact BP.pure trivial
  | .arr items => by
    unfold Jqawk.newValueJson
    exact BP.bind (BP.newValueItems items) (fun cells hc =>
      BP.bind (BP.allocArrM (by simpa using hc)) (fun a ha => BP.pure ha))
  | .obj members => by
    unfold Jqawk.newValueJson
    exact BP.bind (BP.newValueMembers members) (fun cells hc =>
      BP.bind (BP.allocObjM (RegM.foldInsert hc RegM.nil)) (fun o ho => BP.pure ho))
theorem BP.newValueItems : ∀ js, BP P h0 b0 K (Jqawk.newValueItems js) (RegL P)
  | [] => by unfold Jqawk.newValueItems; exact BP.pure RegL.nil
  | j :: js => by
    unfold Jqawk.newValueItems
    refine BP.bind (BP.newValueJson j) (fun v hv => BP.bind (BP.newCell hv) (fun c hc =>
      BP.bind (BP.newValueItems js) (fun cs hcs => BP.pure ?_)))
    intro d hd
    rcases List.mem_cons.mp hd with hd | hd
    · subst hd; exact hc
    · exact hcs d hd
theorem BP.newValueMembers : ∀ ms, BP P h0 b0 K (Jqawk.newValueMembers ms) (RegM P)
  | [] => by unfold Jqawk.newValueMembers; exact BP.pure RegM.nil
  | (k, j) :: ms => by
    unfold Jqawk.newValueMembers
    refine BP.bind (BP.newValueJson j) (fun v hv => BP.bind (BP.newCell hv) (fun c hc =>
      BP.bind (BP.newValueMembers ms) (fun cs hcs => BP.pure ?_)))
    intro d hd
    rcases List.mem_cons.mp hd with hd | hd
    · subst hd; exact hc
    · exact hcs d hd
end

theorem okProg_functions {prog : Program} (h : okProg prog = true) :
    ∀ f ∈ prog.functions, okFn f = true := by
  simp only [okProg, Bool.and_eq_true, List.all_eq_true] at h
  exact h.2

theorem okProg_rules {prog : Program} (h : okProg prog = true) :
    ∀ r ∈ prog.rules, okS r.body = true ∧ ∀ p, r.pattern = some p → okE p = true := by
  simp only [okProg, Bool.and_eq_true, List.all_eq_true, okRule] at h
  intro r hr
  have := h.1 r hr
  refine ⟨this.1, fun p hp => ?_⟩
  have h2 := this.2
  rw [hp] at h2
  exact h2

section rules
variable (prog : Program) (hF : P.F ≤ prog.functions.length)
  (hwf : prog.wfB = true) (hok : okProg prog = true)

include hF hwf hok

theorem BP.evalRules (rules : List Rule) (hsub : ∀ r ∈ rules, r ∈ prog.rules) :
    BP P h0 b0 (KSet P) (Jqawk.evalRules prog rules) Tr := by
  have hall := allBP P h0 b0 prog hF (Program.wfB_functions hwf) (okProg_functions hok) evalFuel
  induction rules with
  | nil => exact BP.pure trivial
  | cons rule rest ih =>
    have ih' := ih (fun r hr => hsub r (List.mem_cons_of_mem _ hr))
    have hr := Program.wfB_rules hwf rule (hsub rule (List.mem_cons_self ..))
    have hro := okProg_rules hok rule (hsub rule (List.mem_cons_self ..))
    unfold Jqawk.evalRules
    refine BP.bind (R1 := Tr) ?_ (fun r _ => ?_)
    · split
      · exact BP.pure trivial
      · rename_i p hp
        exact BP.catchSig _ trivial (BP.bind (hall.expr _ (hr.2 p hp) (hro.2 p hp)) (fun c hc =>
          BP.bind (BP.readCell hc) (fun v _ => BP.pure trivial)))
    · split
      · exact BP.pure trivial
      · split
        · exact ih'
        · refine BP.bind (R1 := Tr) (BP.catchSig _ trivial (BP.bind (hall.stmt _ hr.1 hro.1)
            (fun _ _ => BP.pure trivial))) (fun more _ => ?_)
          split
          · exact ih'
          · exact BP.pure trivial

theorem BP.evalElems (hK : KSup P K) (rules : List Rule) (hsub : ∀ r ∈ rules, r ∈ prog.rules)
    (items : List CellId) (hit : RegL P items) (i : Nat) :
    BP P h0 b0 K (Jqawk.evalElems prog rules items i) Tr := by
  induction items generalizing i K with
  | nil => exact BP.pure trivial
  | cons item rest ih =>
    unfold Jqawk.evalElems
    refine BP.enter hK (hit item (List.mem_cons_self ..)) ?_
    exact BP.bind (BP.newCell trivial) (fun ic hic => BP.bind (BP.setLocal (by decide) hic) (fun _ _ =>
      BP.bind (BP.evalRules prog hF hwf hok rules hsub) (fun _ _ =>
        ih KSup.set (fun c hc => hit c (List.mem_cons_of_mem _ hc)) (i + 1))))

theorem BP.evalSpecialRules (hK : KSup P K) (mkRoot : EM CellId)
    (hmk : ∀ K', BP P h0 b0 K' mkRoot (InR P)) (rules : List Rule) (hsub : ∀ r ∈ rules, r ∈ prog.rules) :
    BP P h0 b0 K (Jqawk.evalSpecialRules prog mkRoot rules) Tr := by
  have hall := allBP P h0 b0 prog hF (Program.wfB_functions hwf) (okProg_functions hok) evalFuel
  induction rules generalizing K with
  | nil => exact BP.pure trivial
  | cons rule rest ih =>
    have hr := Program.wfB_rules hwf rule (hsub rule (List.mem_cons_self ..))
    have hro := okProg_rules hok rule (hsub rule (List.mem_cons_self ..))
    unfold Jqawk.evalSpecialRules
    refine BP.bind (hmk K) (fun c hc => BP.enter hK hc ?_)
    refine BP.bind (BP.ruleFlow (hall.stmt _ hr.1 hro.1)) (fun fl _ => ?_)
    split
    · exact BP.pure trivial
    · exact ih KSup.set (fun r hr => hsub r (List.mem_cons_of_mem _ hr))

theorem BP.evalPatternRules (hK : KSup P K) (rules : List Rule) (hsub : ∀ r ∈ rules, r ∈ prog.rules) :
    BP P h0 b0 K (Jqawk.evalPatternRules prog rules) Tr := by
  unfold Jqawk.evalPatternRules
  refine BP.bind BP.getSt (fun s hs => ?_)
  split
  · exact BP.pure trivial
  · rename_i root hroot
    have hreg : P.N ≤ root := by
      have := hs.root; rw [hroot] at this; exact this
    split
    · rename_i a ha
      have hv := hs.heap.cells root hreg
      rw [ha] at hv
      exact BP.evalElems prog hF hwf hok hK rules hsub _ (hs.heap.arrs a hv) 0
    · exact BP.enter hK hreg (BP.evalRules prog hF hwf hok rules hsub)

theorem BP.processRoot (hK : KSup P K) (c : CellId) (hc : P.N ≤ c) :
    BP P h0 b0 K (Jqawk.processRoot prog c) Tr := by
  unfold Jqawk.processRoot
  refine BP.bind (BP.readCell hc) (fun rv hrv => ?_)
  refine BP.bind (BP.evalSpecialRules prog hF hwf hok hK _
    (fun K' => BP.pure hc) _ (rulesOf_sub prog _)) (fun fl _ => ?_)
  split
  · exact BP.pure trivial
  · refine BP.bind (BP.setRoot (c := some c) hc) (fun _ _ => BP.bind (BP.catchExit
      (BP.evalPatternRules prog hF hwf hok hK _ (rulesOf_sub prog _))) (fun fl2 _ => ?_))
    split
    · exact BP.pure trivial
    · exact BP.evalSpecialRules prog hF hwf hok hK _ (fun K' => BP.newCell hrv) _
        (rulesOf_sub prog _)

theorem BP.valueStep (hK : KSup P K) (v : JVal) :
    BP P h0 b0 K (do
      let val ← Jqawk.newValueJson v
      let c ← Jqawk.newCell val
      Jqawk.processRoot prog c) Tr :=
  BP.bind (BP.newValueJson v) (fun _ hval => BP.bind (BP.newCell hval) (fun c hc =>
    BP.processRoot prog hF hwf hok hK c hc))

end rules

theorem setLastFrame_ne (fr : List Frame) (name : Bytes) (c : CellId) (h : fr ≠ []) :
    setLastFrame fr name c ≠ [] := by
  cases fr with
  | nil => exact absurd rfl h
  | cons f fs =>
    cases fs with
    | nil => simp [setLastFrame]
    | cons g gs => simp [setLastFrame]

theorem FramesB.setGlobal {fr : List Frame} (h : FramesB P b0 fr) {name : Bytes} (hn : isB name = false)
    {c : CellId} (hc : P.N ≤ c) : FramesB P b0 (setLastFrame fr name c) := by
  induction fr with
  | nil => exact absurd rfl h.ne
  | cons f fs ih =>
    cases fs with
    | nil =>
      show FramesB P b0 [{ f with locals := objInsert f.locals name c }]
      exact h.setLocal hn hc
    | cons g gs =>
      have h' : FramesB P b0 (g :: gs) := by
        refine ⟨by simp, fun x hx => h.loc x (List.mem_cons_of_mem _ hx), ?_, h.some⟩
        intro k hk
        rw [← h.bot k hk, botLookup_cons]
      have ih' := ih h'
      refine ⟨by simp [setLastFrame], ?_, ?_, h.some⟩
      · intro x hx
        simp only [setLastFrame, List.mem_cons] at hx
        rcases hx with hx | hx
        · subst hx; exact h.loc _ (List.mem_cons_self ..)
        · exact ih'.loc x hx
      · intro k hk
        show botLookup (f :: setLastFrame (g :: gs) name c) k = b0 k
        rw [botLookup_push _ (setLastFrame_ne _ _ _ (by simp))]
        exact ih'.bot k hk

theorem BP.setGlobal {name : Bytes} (hn : isB name = false) {c : CellId} (hc : P.N ≤ c) :
    BP P h0 b0 K (Jqawk.setGlobal name c) Tr :=
  fun _ hs => ⟨⟨hs.heap, hs.frames.setGlobal hn hc, hs.ret, hs.root, hs.rr⟩, trivial⟩

theorem BP.setFile (name : Bytes) :
    BP P h0 b0 K (do let c ← Jqawk.newCell (.str name none); Jqawk.setGlobal b!"$file" c : EM Unit) Tr :=
  BP.bind (BP.newCell trivial) (fun c hc => BP.setGlobal (by decide) hc)

/-- the region of the main evaluator: every cell but the three builtin cells -/
def P3 (prog : Program) : Region := ⟨3, 0, 0, prog.functions.length, prog.functions.length⟩

def b0m (k : Bytes) : Option CellId :=
  if k == b!"printf" then some 0 else if k == b!"json" then some 1 else if k == b!"num" then some 2 else none

def nativeOf (k : Bytes) : Native :=
  if k == b!"printf" then .printf else if k == b!"json" then .json else .num

/-- the root frame and the heap while `NewEvaluator` adds the functions -/
structure InitB (prog : Program) (L : List (Bytes × CellId)) (h : Heap) : Prop where
  heap : HeapOK (P3 prog) h
  loc : FrM (P3 prog) L
  bot : ∀ k, isB k = true → objLookup L k = b0m k
  c0 : h.get 0 = .native .printf none none
  c1 : h.get 1 = .native .json none none
  c2 : h.get 2 = .native .num none none

theorem InitB.add {prog : Program} {L : List (Bytes × CellId)} {h : Heap} (ok : InitB prog L h)
    {name : Bytes} (hn : isB name = false) {v : Val} (hv : GoodV (P3 prog) v) :
    InitB prog (objInsert L name (h.alloc v).1) (h.alloc v).2 := by
  have ha := ok.heap.alloc hv
  have hsz : 3 ≤ h.cells.size := ok.heap.nle
  have hne : ∀ i : Nat, i < 3 → (h.alloc v).2.get i = h.get i := by
    intro i hi
    rw [Heap.get_alloc]
    have : i ≠ h.cells.size := Nat.ne_of_lt (Nat.lt_of_lt_of_le hi hsz)
    simp only [this, ↓reduceIte]
  refine ⟨ha.1, ok.loc.objInsert _ ha.2, ?_, ?_, ?_, ?_⟩
  · intro k hk
    rw [objLookup_objInsert]
    have : ¬ name = k := fun e => by rw [e, hk] at hn; cases hn
    simp only [this, ↓reduceIte]
    exact ok.bot k hk
  · rw [hne 0 (by decide)]; exact ok.c0
  · rw [hne 1 (by decide)]; exact ok.c1
  · rw [hne 2 (by decide)]; exact ok.c2

theorem initFoldB {prog : Program} (l : List (FuncDef × Nat))
    (hl : ∀ fi ∈ l, isB fi.1.ident.text = false ∧ fi.2 < prog.functions.length) :
    ∀ (st : List (Bytes × CellId) × Heap), InitB prog st.1 st.2 →
      InitB prog
        (l.foldl (fun st (fi : FuncDef × Nat) =>
          (objInsert st.1 fi.1.ident.text (st.2.alloc (.fn fi.2)).1, (st.2.alloc (.fn fi.2)).2)) st).1
        (l.foldl (fun st (fi : FuncDef × Nat) =>
          (objInsert st.1 fi.1.ident.text (st.2.alloc (.fn fi.2)).1, (st.2.alloc (.fn fi.2)).2)) st).2 := by
  induction l with
  | nil => intro st h; exact h
  | cons fi rest ih =>
    intro st h
    simp only [List.foldl_cons]
    have h1 := hl fi (List.mem_cons_self ..)
    exact ih (fun x hx => hl x (List.mem_cons_of_mem _ hx)) _
      (h.add h1.1 (v := .fn fi.2) ⟨h1.2, h1.2⟩)

theorem lt3 (c : Nat) (h : c < 3) : c = 0 ∨ c = 1 ∨ c = 2 := by omega

/-- **`NewEvaluator` establishes the invariant**, with the builtins in the cells 0, 1, 2 -/
theorem newEvaluator_invB (prog : Program) (hok : okProg prog = true) :
    InvB (P3 prog) (newEvaluator prog Heap.empty [] 0).heap b0m KAny (newEvaluator prog Heap.empty [] 0) ∧
    (newEvaluator prog Heap.empty [] 0).heap.get 0 = .native .printf none none ∧
    (newEvaluator prog Heap.empty [] 0).heap.get 1 = .native .json none none ∧
    (newEvaluator prog Heap.empty [] 0).heap.get 2 = .native .num none none := by
  have hnat : ∀ {f : Native}, GoodV (P3 prog) (.native f none none) := ⟨trivial, trivial⟩
  let h1 := (Heap.empty.alloc (.native .printf none none)).2
  let h2 := (h1.alloc (.native .json none none)).2
  let h3 := (h2.alloc (.native .num none none)).2
  have e0 : h3.get 0 = .native .printf none none := by decide
  have e1 : h3.get 1 = .native .json none none := by decide
  have e2 : h3.get 2 = .native .num none none := by decide
  have i3 : InitB prog (objInsert (objInsert (objInsert [] b!"printf" 0) b!"json" 1) b!"num" 2) h3 := by
    have hsz3 : h3.cells.size = 3 := by decide
    refine ⟨⟨by show 3 ≤ h3.cells.size; rw [hsz3]; exact Nat.le_refl _, Nat.zero_le _, Nat.zero_le _, ?_, ?_, ?_, ?_⟩, ?_, ?_, e0, e1, e2⟩
    · intro c
      by_cases hc : c < 3
      · have : c = 0 ∨ c = 1 ∨ c = 2 := lt3 c hc
        rcases this with rfl | rfl | rfl
        · rw [e0]; trivial
        · rw [e1]; trivial
        · rw [e2]; trivial
      · have : h3.get c = .unknown := by
          have hsz : h3.cells.size = 3 := by decide
          simp only [Heap.get, Array.getD_eq_getD_getElem?,
            Array.getElem?_eq_none (by rw [hsz]; exact Nat.le_of_not_lt hc), Option.getD_none]
        rw [this]; trivial
    · intro c hc
      have hc' : 3 ≤ c := hc
      have : h3.get c = .unknown := by
        have hsz : h3.cells.size = 3 := by decide
        simp only [Heap.get, Array.getD_eq_getD_getElem?,
          Array.getElem?_eq_none (by rw [hsz]; exact hc'), Option.getD_none]
      rw [this]; trivial
    · intro a _ c hc
      have : h3.arr a = #[] := by
        have : h3.arrs = #[] := by decide
        simp only [Heap.arr, this]; rfl
      rw [this] at hc; simp at hc
    · intro o _ kc hkc
      have : h3.obj o = [] := by
        have : h3.objs = #[] := by decide
        simp only [Heap.obj, this]; rfl
      rw [this] at hkc; cases hkc
    · intro kc hkc
      have : kc = (b!"printf", 0) ∨ kc = (b!"json", 1) ∨ kc = (b!"num", 2) := by
        have : objInsert (objInsert (objInsert [] b!"printf" 0) b!"json" 1) b!"num" 2 =
          [(b!"printf", 0), (b!"json", 1), (b!"num", 2)] := by decide
        rw [this] at hkc
        simpa using hkc
      rcases this with rfl | rfl | rfl <;> exact .inr (by decide)
    · intro k hk
      have hL : objInsert (objInsert (objInsert [] b!"printf" 0) b!"json" 1) b!"num" 2 =
          [(b!"printf", 0), (b!"json", 1), (b!"num", 2)] := by decide
      rw [hL]
      simp only [isB, Bool.or_eq_true, beq_iff_eq] at hk
      rcases hk with (rfl | rfl) | rfl <;> decide
  have hfn : ∀ fi ∈ prog.functions.zipIdx, isB fi.1.ident.text = false ∧ fi.2 < prog.functions.length := by
    intro fi hfi
    obtain ⟨f, i⟩ := fi
    have hm := List.mem_zipIdx' hfi
    have hf : f ∈ prog.functions := by
      have := hm.2
      rw [this]; exact List.getElem_mem _
    have := okProg_functions hok f hf
    simp only [okFn, Bool.and_eq_true] at this
    exact ⟨by simpa using this.1.1, hm.1⟩
  have i4 := initFoldB (prog := prog) prog.functions.zipIdx hfn (_, _) i3
  have hsome : ∀ k, isB k = true → (b0m k).isSome = true := by
    intro k hk
    simp only [isB, Bool.or_eq_true, beq_iff_eq] at hk
    rcases hk with (rfl | rfl) | rfl <;> decide
  have hex : ∃ L, (newEvaluator prog Heap.empty [] 0).frames = [⟨b!"<root>", L⟩] ∧
      InitB prog L (newEvaluator prog Heap.empty [] 0).heap := ⟨_, rfl, i4⟩
  obtain ⟨L, hfr, i5⟩ := hex
  refine ⟨⟨⟨i5.heap, fun _ _ => rfl, ?_⟩, ⟨by rw [hfr]; simp, ?_, ?_, hsome⟩, trivial, trivial, trivial⟩,
    i5.c0, i5.c1, i5.c2⟩
  · intro i hi
    have hi' : i < 3 := hi
    have : i = 0 ∨ i = 1 ∨ i = 2 := lt3 i hi'
    rcases this with rfl | rfl | rfl
    · rw [i5.c0]; exact hnat
    · rw [i5.c1]; exact hnat
    · rw [i5.c2]; exact hnat
  · intro f hf
    rw [hfr] at hf
    simp only [List.mem_singleton] at hf
    subst hf
    exact i5.loc
  · intro k hk
    rw [hfr]
    exact i5.bot k hk

end Sel
end Jqawk
