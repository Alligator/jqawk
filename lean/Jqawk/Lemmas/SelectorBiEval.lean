/-
  `-r E` versus `BEGINFILE { $ = E }` (C14), builtins: the natives, the assignment machinery
  and the induction over all evaluator functions for the invariant `InvB`.

  Differences from Lemmas/NoPanicEval.lean and Lemmas/NoPanicAll.lean: an identifier in callee
  position may be a builtin name, whose cell lies outside the region and is only read
  (`BP.getIdentifierAny`, `bp_identAny`); bindings made by patterns, parameters and loop
  variables carry `isB name = false` (`RegMB`, `OptRegMB`), which `okE` / `okS` provide at each
  binding site of `allBP_succ`.
-/
import Jqawk.Lemmas.SelectorBi
import Jqawk.Lemmas.SelectorForms
import Jqawk.Lemmas.CreateSpec
import Jqawk.Lemmas.BlameSites
import Jqawk.Lemmas.NoPanicAll


namespace Jqawk
namespace Sel

variable {P : Region} {h0 : Heap} {b0 : Bytes → Option CellId} {K : Option CellId → Prop}

theorem BP.offKind (f : Native) : BP P h0 b0 K (offKind f) (NatResOK P) := by
  cases f with
  | strSplit => exact BP.bind (BP.newArrayOf GoodVs.nil) (fun r hr => BP.pure hr)
  | _ => exact BP.pure trivial

theorem BP.callNative (f : Native) {args : List Val} (hargs : GoodVs P args) {this : Option Val}
    (hthis : ∀ v, this = some v → GoodV P v) :
    BP P h0 b0 K (Jqawk.callNative f args this) (NatResOK P) := by
  have harg0 : GoodV P (args.getD 0 .unknown) := hargs.getD 0
  induction f, this using native_cases with
  | printf =>
    unfold Jqawk.callNative
    refine BP.bind BP.getHeap (fun h hh => ?_)
    dsimp only
    split
    · exact BP.oof
    · exact BP.pure trivial
    · exact BP.bind (BP.emit _) (fun _ _ => BP.pure trivial)
  | json =>
    unfold Jqawk.callNative
    refine BP.bind BP.getHeap (fun h hh => ?_)
    dsimp only
    split
    · exact BP.pure trivial
    · split
      · exact BP.oof
      · exact BP.pure trivial
      · exact BP.pure (by split <;> trivial)
  | num =>
    unfold Jqawk.callNative
    refine BP.bind BP.getHeap (fun h hh => ?_)
    dsimp only
    split
    · exact BP.pure trivial
    · split
      · exact BP.pure trivial
      · split <;> exact BP.pure trivial
      · exact BP.pure trivial
  | arrPush a =>
    have ha : P.A ≤ a := hthis _ rfl
    unfold Jqawk.callNative
    refine BP.bind BP.getHeap (fun h hh => ?_)
    dsimp only
    split
    · exact BP.pure trivial
    · refine BP.bind (BP.newCell harg0) (fun c hc => BP.bind BP.getHeap (fun h2 hh2 => ?_))
      exact BP.bind (BP.setHeap (hh2.setArr a (fun _ => regL_push (hh2.arrs a ha) hc)))
        (fun _ _ => BP.pure ha)
  | arrPop a =>
    have ha : P.A ≤ a := hthis _ rfl
    unfold Jqawk.callNative
    refine BP.bind BP.getHeap (fun h hh => ?_)
    dsimp only
    split
    · exact BP.pure trivial
    · split
      · exact BP.pure trivial
      · rename_i hne
        have hlt : (h.arr a).size - 1 < (h.arr a).size := by
          have : (h.arr a).size ≠ 0 := by simpa using hne
          omega
        exact BP.bind (BP.setHeap (hh.setArr a (fun _ => regL_pop (hh.arrs a ha))))
          (fun _ _ => BP.pure (hh.cells _ (hh.arr_getD ha hlt)))
  | arrPopfirst a =>
    have ha : P.A ≤ a := hthis _ rfl
    unfold Jqawk.callNative
    refine BP.bind BP.getHeap (fun h hh => ?_)
    dsimp only
    split
    · exact BP.pure trivial
    · split
      · exact BP.pure trivial
      · rename_i hne
        have hlt : 0 < (h.arr a).size := by
          have : (h.arr a).size ≠ 0 := by simpa using hne
          omega
        exact BP.bind (BP.setHeap (hh.setArr a (fun _ => regL_extract (hh.arrs a ha) _ _)))
          (fun _ _ => BP.pure (hh.cells _ (hh.arr_getD ha hlt)))
  | arrContains a =>
    unfold Jqawk.callNative
    refine BP.bind BP.getHeap (fun h hh => ?_)
    dsimp only
    split
    · exact BP.pure trivial
    · exact BP.pure (containsLoop_ok _ _ _)
  | arrSort a =>
    have ha : P.A ≤ a := hthis _ rfl
    unfold Jqawk.callNative
    refine BP.bind BP.getHeap (fun h hh => ?_)
    refine BP.bind (BP.newArrayOf ?_) (fun r hr => BP.pure hr)
    split
    · exact (sortCopies_good hh.toHeapOK (hh.arrs a ha)).mergeSort _
    · exact (sortCopies_good hh.toHeapOK (hh.arrs a ha)).mergeSort _
  | objPluck o =>
    have ho : P.O ≤ o := hthis _ rfl
    unfold Jqawk.callNative
    refine BP.bind BP.getHeap (fun h hh => ?_)
    dsimp only
    split
    · exact BP.pure trivial
    · rename_i kvs hkvs
      have hg := pluckCollect_good hh.toHeapOK (hh.objs o ho) args [] kvs (by intro kv h; cases h) hkvs
      refine BP.bind (BP.allocCells (vs := kvs.map (·.2)) ?_) (fun cells hcells =>
        BP.bind BP.getHeap (fun h2 hh2 => ?_))
      · intro v hv
        obtain ⟨kv, hkv, rfl⟩ := List.mem_map.mp hv
        exact hg kv hkv
      · have hao := hh2.allocObj (m := ((kvs.map (·.1)).zip cells).foldl
          (fun m kc => objInsert m kc.1 kc.2) []) (regM_zip_fold hcells)
        exact BP.bind (BP.setHeap hao.1) (fun _ _ => BP.pure hao.2)
  | strSplit x sp =>
    unfold Jqawk.callNative
    refine BP.bind BP.getHeap (fun h hh => ?_)
    dsimp only
    split
    · exact BP.pure trivial
    · refine BP.bind (BP.newArrayOf ?_) (fun r hr => BP.pure hr)
      intro v hv
      obtain ⟨x, _, rfl⟩ := List.mem_map.mp hv
      trivial
  | strLower x sp | strUpper x sp =>
    unfold Jqawk.callNative
    refine BP.bind BP.getHeap (fun h hh => ?_)
    dsimp only
    split
    · exact BP.pure trivial
    · exact BP.throwUnmodelled _
  | arrLength a | objLength o | strLength x sp | numFloor x | numCeil x | numRound x =>
    exact BP.bind BP.getHeap (fun h hh => BP.pure trivial)
  | off k hk hoff =>
    rw [callNative_offKind hk _ hoff]
    exact BP.bind BP.getHeap (fun _ _ => BP.offKind f)

/-! ### speculative members: `createSpeculative` never finds a cell without a parent -/

/-- the value carries speculative-member information (`ParentObj != nil`) -/
def HasSpec : Val → Prop
  | .nil (some _) => True
  | .native _ _ (some _) => True
  | .str _ (some _) => True
  | _ => False

/-- allocate a cell and continue with a computation that may rely on the cell's content -/
theorem BP.newCell_then {β : Type} {v : Val} (hv : GoodV P v) {f : CellId → EM β} {R : β → Prop}
    (hf : ∀ c s, InvB P h0 b0 K s → P.N ≤ c → s.heap.get c = v → BPat P h0 b0 K (f c) R s) :
    BP P h0 b0 K (Jqawk.newCell v >>= f) R := by
  intro s hs
  have h := BP.newCell (K := K) hv s hs
  show BPres P h0 b0 K R (EM.bind (Jqawk.newCell v) f s)
  unfold EM.bind
  unfold BPat Jqawk.newCell at h
  simp only [Jqawk.newCell]
  exact hf _ _ h.1 h.2 (Heap.get_alloc_new s.heap v)

theorem BP.newContainer (forNum : Bool) : BP P h0 b0 K (Jqawk.newContainer forNum) (GoodV P) := by
  unfold Jqawk.newContainer
  split
  · exact BP.bind (BP.allocArrM RegL.empty) (fun a ha => BP.pure ha)
  · exact BP.bind (BP.allocObjM RegM.nil) (fun o ho => BP.pure ho)

theorem BP.setMemberM {target : Val} (ht : GoodV P target) (m : Val) {c : CellId} (hc : P.N ≤ c) :
    BP P h0 b0 K (Jqawk.setMemberM target m c) (ExReg P) := by
  intro s hs
  unfold BPat Jqawk.setMemberM
  split
  · exact ⟨hs, trivial⟩
  · rename_i c' h' hsm
    have := setMember_okB hs.heap ht hc hsm
    exact ⟨⟨this.1, hs.frames, hs.ret, hs.root, hs.rr⟩, this.2⟩

theorem specOf_of_hasSpec {sv : Val} (hsv : HasSpec sv) (hg : GoodV P sv) :
    ∃ spec, specOf sv = some spec ∧ P.N ≤ spec.parent := by
  cases sv with
  | nil sp => cases sp <;> first | exact hsv.elim | exact ⟨_, rfl, hg⟩
  | native f b sp => cases sp <;> first | exact hsv.elim | exact ⟨_, rfl, hg.2⟩
  | str x sp => cases sp <;> first | exact hsv.elim | exact ⟨_, rfl, hg⟩
  | _ => exact hsv.elim

theorem createSpeculative_np : ∀ (n : Nat) (c : CellId) (s : St), InvB P h0 b0 K s → P.N ≤ c →
    HasSpec (s.heap.get c) → BPat P h0 b0 K (createSpeculative n c) (ExReg P) s
  | 0, c, s, hs, hc, hsp => trivial
  | n + 1, c, s, hs, hc, hsp => by
    rw [createSpeculative_eq]
    refine BP.bindAt (R1 := fun sv => GoodV P sv ∧ HasSpec sv) ⟨hs, hs.heap.cells c hc, hsp⟩ ?_
    intro sv ⟨hg, hsv⟩
    obtain ⟨spec, hso, hpar⟩ := specOf_of_hasSpec hsv hg
    rw [hso]
    refine BP.bind (BP.readCell hpar) (fun pv hpv => ?_)
    split
    · exact BP.pure trivial
    · exact BP.bind (BP.newContainer _) (fun no hno =>
        BP.bind (BP.writeCell hpar hno) (fun _ _ => BP.setMemberM hno _ hc))
    · -- the parent is speculative itself: it is created first, on a copy of its value
      refine BP.newCell_then hpv (fun pc s1 hs1 hpc hget => ?_)
      refine BP.bindAt (createSpeculative_np n pc s1 hs1 hpc (by rw [hget]; trivial)) (fun r hr => ?_)
      split
      · exact BP.pure trivial
      · exact BP.bind (BP.newContainer _) (fun no hno => BP.bind (BP.writeCell hr hno) (fun _ _ =>
          BP.bind (BP.writeCell hpar hno) (fun _ _ => BP.setMemberM hno _ hc)))
    · exact BP.setMemberM hpv _ hc

theorem BPat.getHeap_bind {β : Type} {f : Heap → EM β} {R : β → Prop} {s : St}
    (h : BPat P h0 b0 K (f s.heap) R s) : BPat P h0 b0 K (getHeap >>= f) R s := h

theorem needsCreate_hasSpec {lv : Val}
    (h : (match lv with
      | .nil (some _) => true
      | .native _ _ (some _) => true
      | .str _ (some _) => true
      | _ => false) = true) : HasSpec lv := by
  split at h <;> first | trivial | cases h

/-- a speculative target is materialised first — it always has a parent -/
theorem BP.evalAssignment (pos : Nat) {l r : CellId} (hl : P.N ≤ l) (hr : P.N ≤ r) :
    BP P h0 b0 K (Jqawk.evalAssignment pos l r) (InR P) := by
  intro s hs
  show BPres P h0 b0 K _ (Jqawk.evalAssignment pos l r s)
  rw [BlameSites.evalAssignment_eq]
  refine BP.bindAt (R1 := InR P) ?_ (fun target ht => BP.bind (BP.copyValue hr ht) (fun x hx => ?_))
  · cases hn : BlameSites.needsCreate (s.heap.get l) with
    | false => exact BP.pure hl s hs
    | true =>
      simp only [↓reduceIte]
      apply BPat.getHeap_bind
      refine BP.bindAt (createSpeculative_np _ l s hs hl (needsCreate_hasSpec hn)) (fun x hx => ?_)
      split
      · exact BP.throwRt _ _
      · exact BP.pure hx
  · split
    · exact BP.throwRt _ _
    · exact BP.pure hx

/-- an unset base is only read: it yields a speculative null whose parent is the base cell -/
theorem BP.memberStep (pos : Nat) {l r : CellId} (hl : P.N ≤ l) (hr : P.N ≤ r) :
    BP P h0 b0 K (Jqawk.memberStep pos l r) (InR P) := by
  unfold Jqawk.memberStep
  refine BP.bind (BP.readCell hr) (fun rv hrv => BP.bind (BP.readCell hl) (fun lv hlv => ?_))
  split
  · exact BP.newCell hl
  · refine BP.bind BP.getHeap (fun h hh => ?_)
    split
    · exact BP.throwRt _ _
    · exact BP.newCell hl
    · exact BP.newCell ⟨hl, hl⟩
    · exact BP.newCell hl
    · exact BP.newCell hl
    · rename_i c hgm
      have hc := getMember_cell hh.toHeapOK hlv hgm
      split
      · exact BP.newCell ⟨hl, hl⟩
      · exact BP.pure hc

theorem RegMB.nil : RegMB P [] := by intro kc h; cases h

theorem RegMB.objInsert {m : List (Bytes × CellId)} (hm : RegMB P m) {k : Bytes} (hk : isB k = false)
    {c : CellId} (hc : P.N ≤ c) : RegMB P (objInsert m k c) :=
  fun kc h => (mem_objInsert' h).elim (hm kc) fun e => e ▸ ⟨hc, hk⟩

theorem RegMB.foldInsert {l acc : List (Bytes × CellId)} (hl : RegMB P l) (hacc : RegMB P acc) :
    RegMB P (l.foldl (fun m kv => Jqawk.objInsert m kv.1 kv.2) acc) := by
  induction l generalizing acc with
  | nil => exact hacc
  | cons x rest ih =>
    simp only [List.foldl_cons]
    exact ih (fun y hy => hl y (List.mem_cons_of_mem _ hy))
      (hacc.objInsert (hl x (List.mem_cons_self ..)).2 (hl x (List.mem_cons_self ..)).1)

structure AllBP (P : Region) (h0 : Heap) (b0 : Bytes → Option CellId) (prog : Program) (n : Nat) : Prop where
  expr : ∀ e, e.wfB = true → okE e = true → BP P h0 b0 (KSet P) (evalExpr prog n e) (InR P)
  objItems : ∀ pos items acc, wfKVs items = true → okKVs items = true → RegM P acc →
    BP P h0 b0 (KSet P) (evalObjItems prog n pos items acc) (RegM P)
  exprList : ∀ es c, wfEs es = true → okEs es = true →
    BP P h0 b0 (KSet P) (evalExprList prog n es c) (RegL P)
  matchCases : ∀ pos v cs, wfCases cs = true → okCases cs = true → P.N ≤ v →
    BP P h0 b0 (KSet P) (evalMatchCases prog n pos v cs) (InR P)
  caseMatch : ∀ v ps, wfEs ps = true → okEs ps = true → P.N ≤ v →
    BP P h0 b0 (KSet P) (evalCaseMatch prog n v ps) (OptRegMB P)
  arrayCaseMatch : ∀ v ps, wfEs ps = true → okEs ps = true → P.N ≤ v →
    BP P h0 b0 (KSet P) (evalArrayCaseMatch prog n v ps) (OptRegMB P)
  matchElems : ∀ cs ps acc, wfEs ps = true → okEs ps = true → RegL P cs → RegMB P acc →
    BP P h0 b0 (KSet P) (Jqawk.matchElems prog n cs ps acc) (OptRegMB P)
  call : ∀ pos f args, RegL P args → BP P h0 b0 (KSet P) (callFunction prog n pos f args) (InR P)
  unary : ∀ e op p, e.wfB = true → okE e = true → BP P h0 b0 (KSet P) (evalUnary prog n e op p) (InR P)
  binary : ∀ l r op, l.wfB = true → r.wfB = true → okE l = true → (op.tag == .is || okE r) = true →
    BP P h0 b0 (KSet P) (evalBinary prog n l r op) (InR P)
  stmt : ∀ st, st.wfB = true → okS st = true → BP P h0 b0 (KSet P) (evalStmt prog n st) Tr
  block : ∀ sts, wfSs sts = true → okSs sts = true → BP P h0 b0 (KSet P) (evalBlock prog n sts) Tr
  whileL : ∀ c b, c.wfB = true → b.wfB = true → okE c = true → okS b = true →
    BP P h0 b0 (KSet P) (whileLoop prog n c b) Tr
  forL : ∀ c p b, c.wfB = true → p.wfB = true → b.wfB = true → okE c = true → okE p = true → okS b = true →
    BP P h0 b0 (KSet P) (forLoop prog n c p b) Tr
  forInL : ∀ l il b items, b.wfB = true → okS b = true → P.N ≤ l → OptReg P il → (∀ it ∈ items, ItemOK P it) →
    BP P h0 b0 (KSet P) (forInLoop prog n l il b items) Tr

/-- `$` is bound while rule code runs, so `getIdentifier` hands out a region cell — for a name
    that is not a builtin name -/
theorem BP.getIdentifier (prog : Program) (t : Token) (hn : isB t.text = false) :
    BP P h0 b0 (KSet P) (Jqawk.getIdentifier prog t) (InR P) := by
  unfold Jqawk.getIdentifier
  split
  · refine BP.bind BP.getSt (fun s hs => ?_)
    split
    · rename_i c hc
      obtain ⟨c', h1, h2⟩ := hs.rr
      rw [hc] at h1; cases h1
      exact BP.pure h2
    · exact BP.throwRt _ _
  · refine BP.bind (BP.getVariable hn) (fun r hr => ?_)
    split
    · exact BP.pure hr
    · exact BP.throwRt _ _

/-- any identifier, as a callee: the cell is only read -/
theorem BP.getIdentifierAny (prog : Program) (t : Token) :
    BP P h0 b0 (KSet P) (Jqawk.getIdentifier prog t) Tr := by
  by_cases hb : isB t.text = true
  · unfold Jqawk.getIdentifier
    split
    · refine BP.bind BP.getSt (fun s hs => ?_)
      split
      · exact BP.pure trivial
      · exact BP.throwRt _ _
    · refine BP.bind (BP.getVariableB hb) (fun r hr => ?_)
      split
      · exact BP.pure trivial
      · exact BP.throwRt _ _
  · exact (BP.getIdentifier prog t (by simpa using hb)).conseq (fun _ _ => trivial)

theorem bp_identAny (prog : Program) (n : Nat) (t : Token) :
    BP P h0 b0 (KSet P) (evalExpr prog n (.ident t)) Tr := by
  cases n with
  | zero => unfold evalExpr; exact BP.oof
  | succ n => unfold evalExpr; exact BP.getIdentifierAny prog t

theorem allBP_zero (P : Region) (h0 : Heap) (b0 : Bytes → Option CellId) (prog : Program) :
    AllBP P h0 b0 prog 0 :=
  ⟨by intros; unfold evalExpr; exact BP.oof,
   by intros; unfold evalObjItems; exact BP.oof,
   by intros; unfold evalExprList; exact BP.oof,
   by intros; unfold evalMatchCases; exact BP.oof,
   by intros; unfold evalCaseMatch; exact BP.oof,
   by intros; unfold evalArrayCaseMatch; exact BP.oof,
   by intros; unfold Jqawk.matchElems; exact BP.oof,
   by intros; unfold callFunction; exact BP.oof,
   by intros; unfold evalUnary; exact BP.oof,
   by intros; unfold evalBinary; exact BP.oof,
   by intros; unfold evalStmt; exact BP.oof,
   by intros; unfold evalBlock; exact BP.oof,
   by intros; unfold whileLoop; exact BP.oof,
   by intros; unfold forLoop; exact BP.oof,
   by intros; unfold forInLoop; exact BP.oof⟩

theorem allBP_succ (prog : Program) (hF : P.F ≤ prog.functions.length)
    (hwf : ∀ f ∈ prog.functions, f.body.wfB = true) (hokf : ∀ f ∈ prog.functions, okFn f = true)
    (n : Nat) (ih : AllBP P h0 b0 prog n) :
    AllBP P h0 b0 prog (n + 1) := by
  constructor
  case expr =>
    intro e he ho
    unfold evalExpr
    cases e with
    | lit t =>
      dsimp only
      split
      all_goals first
        | exact BP.newCell trivial
        | exact BP.throwPanic _
        | (split <;> first | exact BP.throwRt _ _ | exact BP.newCell trivial)
    | ident t => exact BP.getIdentifier _ _ (by simpa [okE] using ho)
    | arr t items =>
      simp only [Expr.wfB] at he
      simp only [okE] at ho
      exact BP.bind (ih.exprList _ _ he ho) (fun cells hc =>
        BP.bind (BP.allocArrM (by simpa using hc)) (fun a ha => BP.newCell ha))
    | obj t items =>
      simp only [Expr.wfB] at he
      simp only [okE] at ho
      exact BP.bind (ih.objItems _ _ _ he ho RegM.nil) (fun m hm =>
        BP.bind (BP.allocObjM hm) (fun o ho' => BP.newCell ho'))
    | unary e op p =>
      simp only [Expr.wfB, Bool.and_eq_true] at he
      simp only [okE] at ho
      exact ih.unary _ _ _ he.2 ho
    | binary l r op =>
      simp only [Expr.wfB, Bool.and_eq_true] at he
      simp only [okE, Bool.and_eq_true] at ho
      exact ih.binary _ _ _ he.1.2 he.2 ho.1 ho.2
    | call f args =>
      simp only [Expr.wfB, Bool.and_eq_true] at he
      simp only [okE, Bool.and_eq_true, Bool.or_eq_true] at ho
      refine BP.bind (R1 := Tr) ?_ (fun fc _ =>
        BP.bind (ih.exprList _ _ he.2 ho.2) (fun args hargs => ih.call _ _ _ hargs))
      -- the callee may be a builtin name: its cell is only read
      rcases ho.1 with h1 | h1
      · cases f with
        | ident t => exact bp_identAny prog n t
        | _ => cases h1
      · exact (ih.expr f he.1 h1).conseq (fun _ _ => trivial)
    | match_ t v cases =>
      simp only [Expr.wfB, Bool.and_eq_true] at he
      simp only [okE, Bool.and_eq_true] at ho
      exact BP.bind (ih.expr _ he.1 ho.1) (fun value hv => ih.matchCases _ _ _ he.2 ho.2 hv)
  case objItems =>
    intro pos items acc h ho hacc
    cases items with
    | nil => unfold evalObjItems; exact BP.pure hacc
    | cons kv rest =>
      obtain ⟨k, e⟩ := kv
      simp only [wfKVs, Bool.and_eq_true] at h
      simp only [okKVs, Bool.and_eq_true] at ho
      unfold evalObjItems
      refine BP.bind (ih.expr _ h.1 ho.1) (fun v hv => BP.bind (BP.newCell trivial) (fun c hc =>
        BP.bind (BP.copyValue hv hc) (fun r hr => ?_)))
      split
      · exact BP.throwRt _ _
      · exact ih.objItems _ _ _ h.2 ho.2 (hacc.objInsert k hr)
  case exprList =>
    intro es c h ho
    cases es with
    | nil => unfold evalExprList; exact BP.pure RegL.nil
    | cons e rest =>
      simp only [wfEs, Bool.and_eq_true] at h
      simp only [okEs, Bool.and_eq_true] at ho
      unfold evalExprList
      refine BP.bind (ih.expr _ h.1 ho.1) (fun v hv => ?_)
      refine BP.bind (R1 := InR P) ?_ (fun c hc => BP.bind (ih.exprList _ _ h.2 ho.2) (fun cs hcs => BP.pure ?_))
      · split
        · refine BP.bind (BP.newCell trivial) (fun fresh hfresh => BP.bind (BP.copyValue hv hfresh)
            (fun r hr => ?_))
          split
          · exact BP.throwRt _ _
          · exact BP.pure hr
        · exact BP.pure hv
      · intro d hd
        rcases List.mem_cons.mp hd with hd | hd
        · subst hd; exact hc
        · exact hcs d hd
  case matchCases =>
    intro pos v cs h ho hv
    cases cs with
    | nil => unfold evalMatchCases; exact BP.newCell trivial
    | cons c rest =>
      obtain ⟨pats, body⟩ := c
      simp only [wfCases, Bool.and_eq_true] at h
      simp only [okCases, Bool.and_eq_true] at ho
      unfold evalMatchCases
      refine BP.bind (ih.caseMatch _ _ h.1.1 ho.1.1 hv) (fun r hr => ?_)
      split
      · exact ih.matchCases _ _ _ h.2 ho.2 hv
      · apply BP.framed
        refine BP.bind (BP.bindAll hr) (fun _ _ => ?_)
        split
        · exact ih.expr _ (by simpa [Stmt.wfB] using h.1.2) (by simpa [okS] using ho.1.2)
        · exact BP.bind (ih.stmt _ h.1.2 ho.1.2) (fun _ _ => BP.newCell trivial)
  case caseMatch =>
    intro v ps h ho hv
    cases ps with
    | nil => unfold evalCaseMatch; exact BP.pure trivial
    | cons p rest =>
      simp only [wfEs, Bool.and_eq_true] at h
      simp only [okEs, Bool.and_eq_true] at ho
      have hrest := ih.caseMatch v rest h.2 ho.2 hv
      unfold evalCaseMatch
      cases p with
      | lit t =>
        dsimp only
        refine BP.bind (ih.expr _ h.1 ho.1) (fun cv hcv => BP.bind (BP.readCell hv) (fun a _ =>
          BP.bind (BP.readCell hcv) (fun b _ => ?_)))
        split
        · exact hrest
        · split
          · exact BP.throwRt _ _
          · split
            · exact BP.pure RegMB.nil
            · exact hrest
      | arr t items =>
        dsimp only
        refine BP.bind (ih.arrayCaseMatch v items (by simpa [Expr.wfB] using h.1) (by simpa [okE] using ho.1) hv)
          (fun r hr => ?_)
        split
        · exact BP.pure hr
        · exact hrest
      | ident t =>
        refine BP.pure ?_
        intro kc hkc
        simp only [List.mem_singleton] at hkc
        subst hkc
        exact ⟨hv, by simpa [okE] using ho.1⟩
      | _ => exact BP.throwRt _ _
  case arrayCaseMatch =>
    intro v ps h ho hv
    unfold evalArrayCaseMatch
    refine BP.bind (BP.readCell hv) (fun x hx => ?_)
    split
    · rename_i a
      refine BP.bind BP.getHeap (fun hp hh => ?_)
      dsimp only
      split
      · exact BP.pure trivial
      · exact ih.matchElems _ _ _ h ho (hh.arrs a hx) RegMB.nil
    · exact BP.pure trivial
  case matchElems =>
    intro cs ps acc h ho hcs hacc
    cases cs with
    | nil => unfold Jqawk.matchElems; exact BP.pure hacc
    | cons c cs =>
      cases ps with
      | nil => unfold Jqawk.matchElems; exact BP.pure hacc
      | cons p ps =>
        simp only [wfEs, Bool.and_eq_true] at h
        simp only [okEs, Bool.and_eq_true] at ho
        unfold Jqawk.matchElems
        refine BP.bind (ih.caseMatch c [p] (by simp [wfEs, h.1]) (by simp [okEs, ho.1])
          (hcs c (List.mem_cons_self ..))) (fun r hr => ?_)
        split
        · exact BP.pure trivial
        · exact ih.matchElems _ _ _ h.2 ho.2 (fun x hx => hcs x (List.mem_cons_of_mem _ hx))
            (RegMB.foldInsert hr hacc)
  case call =>
    intro pos f args hargs
    unfold callFunction
    refine BP.bind (BP.readCellG f) (fun fv hfv => BP.bind BP.getHeap (fun h hh => ?_))
    have hvals : GoodVs P (args.map h.get) := by
      intro v hv
      obtain ⟨c, hc, rfl⟩ := List.mem_map.mp hv
      exact hh.cells c (hargs c hc)
    dsimp only
    split
    · rename_i nf binding sp
      have hthis : ∀ v, binding.map h.get = some v → GoodV P v := by
        intro v hv
        cases binding with
        | none => cases hv
        | some b => cases hv; exact hh.cells b hfv.1
      refine BP.bind (BP.callNative nf hvals hthis) (fun r hr => ?_)
      split
      · exact BP.throwRt _ _
      · exact BP.newCell hr
      · exact BP.newCell trivial
    · rename_i i
      have hi : i < prog.functions.length := Nat.lt_of_lt_of_le hfv.1 hF
      split
      · rename_i hnone
        exact absurd (List.getElem?_eq_none_iff.mp hnone) (Nat.not_le_of_lt hi)
      · rename_i fd hfd
        have hbody : fd.body.wfB = true := hwf fd (List.mem_of_getElem? hfd)
        have hfn := hokf fd (List.mem_of_getElem? hfd)
        simp only [okFn, Bool.and_eq_true, List.all_eq_true] at hfn
        have hps : ∀ p ∈ fd.args, isB p = false := fun p hp => by simpa using hfn.1.2 p hp
        apply BP.framed
        exact BP.bind (BP.bindParams hps hvals) (fun _ _ =>
          BP.bind (BP.catchReturn (ih.stmt _ hbody hfn.2)) (fun rv hrv => BP.newCell hrv))
    · exact BP.throwRt _ _
  case unary =>
    intro e op p h ho
    unfold evalUnary
    refine BP.bind (ih.expr _ h ho) (fun val hval => BP.bind (BP.readCell hval) (fun v hv => ?_))
    split
    iterate 3 exact BP.newCell trivial
    iterate 2
      refine BP.bind (BP.newCell trivial) (fun nc hnc =>
        BP.bind (BP.evalAssignment _ hval hnc) (fun assigned ha => ?_))
      split
      · exact BP.newCell trivial
      · exact BP.bind (BP.readCell ha) (fun x hx => BP.newCell hx)
    exact BP.throwRt _ _
  case binary =>
    intro l r op hl hr hol hor
    unfold evalBinary
    refine BP.bind (ih.expr _ hl hol) (fun left hleft => ?_)
    have truthy : ∀ c : CellId, P.N ≤ c →
        BP P h0 b0 (KSet P) (do newCell (.bool (← readCell c).truthy)) (InR P) :=
      fun c hc => BP.bind (BP.readCell hc) (fun _ _ => BP.newCell trivial)
    split
    · rename_i htag
      have hor' : okE r = true := by simpa [htag] using hor
      refine BP.bind (BP.readCell hleft) (fun v _ => ?_)
      split
      · exact BP.bind (ih.expr _ hr hor') (fun right hright => truthy right hright)
      · exact BP.newCell trivial
    · rename_i htag
      have hor' : okE r = true := by simpa [htag] using hor
      refine BP.bind (BP.readCell hleft) (fun v _ => ?_)
      split
      · exact BP.newCell trivial
      · exact BP.bind (ih.expr _ hr hor') (fun right hright => truthy right hright)
    · split
      · exact BP.bind (BP.readCell hleft) (fun _ _ => BP.newCell trivial)
      · exact BP.throwRt _ _
    · rename_i h1 h2 h3
      have hor' : okE r = true := by
        rcases Bool.or_eq_true_iff.mp hor with h | h
        · exact absurd (by simpa using h) h3
        · exact h
      refine BP.bind (ih.expr _ hr hor') (fun right hright => ?_)
      split
      · exact BP.memberStep _ hleft hright
      · exact BP.memberStep _ hleft hright
      · exact BP.evalAssignment _ hleft hright
      · split
        · refine BP.bind (BP.readCell hleft) (fun a _ => BP.bind (BP.readCell hright) (fun b _ => ?_))
          split
          · rename_i v hbo
            exact BP.newCell (binaryOp_good hbo)
          · exact BP.throwRt _ _
          · exact BP.throwUnmodelled _
        · exact BP.throwRt _ _
  case block =>
    intro sts h ho
    cases sts with
    | nil => unfold evalBlock; exact BP.pure trivial
    | cons st rest =>
      simp only [wfSs, Bool.and_eq_true] at h
      simp only [okSs, Bool.and_eq_true] at ho
      unfold evalBlock
      exact BP.bind (ih.stmt _ h.1 ho.1) (fun _ _ => ih.block _ h.2 ho.2)
  case whileL =>
    intro c b hc hb hoc hob
    unfold whileLoop
    refine BP.bind (ih.expr _ hc hoc) (fun cell hcell => BP.bind (BP.readCell hcell) (fun v _ => ?_))
    split
    · exact BP.loopIter (ih.stmt _ hb hob) (ih.whileL _ _ hc hb hoc hob) trivial
    · exact BP.pure trivial
  case forL =>
    intro c p b hc hp hb hoc hop hob
    unfold forLoop
    refine BP.bind (ih.expr _ hc hoc) (fun cell hcell => BP.bind (BP.readCell hcell) (fun v _ => ?_))
    split
    · exact BP.loopIter (ih.stmt _ hb hob)
        (BP.bind (ih.expr _ hp hop) (fun _ _ => ih.forL _ _ _ hc hp hb hoc hop hob)) trivial
    · exact BP.pure trivial
  case forInL =>
    intro l il b items hb hob hl hil hit
    cases items with
    | nil => unfold forInLoop; exact BP.pure trivial
    | cons it rest =>
      obtain ⟨iv, item⟩ := it
      obtain ⟨hiv, hitem⟩ := hit _ (List.mem_cons_self ..)
      rw [forInLoop_eq]
      refine BP.bind (R1 := Tr) ?_ (fun _ _ => BP.bind (R1 := Tr) ?_ (fun _ _ =>
        BP.loopIter (ih.stmt _ hb hob)
          (ih.forInL _ _ _ _ hb hob hl hil (fun x hx => hit x (List.mem_cons_of_mem _ hx))) trivial))
      · unfold setIndex
        cases il with
        | none => exact BP.pure trivial
        | some ic =>
          cases iv with
          | some x => exact BP.writeCell hil (hiv x rfl)
          | none =>
            cases item with
            | inl c => exact BP.pure trivial
            | inr vm =>
              obtain ⟨v, mc⟩ := vm
              cases mc with
              | none => exact BP.pure trivial
              | some mc => exact BP.bind (BP.readCell hitem.2) (fun x hx => BP.writeCell hil hx)
      · unfold setLoc
        cases item with
        | inl c => exact BP.bind (BP.readCell hitem) (fun x hx => BP.writeCell hl hx)
        | inr vm => exact BP.writeCell hl hitem.1
  case stmt =>
    intro st h ho
    unfold evalStmt
    cases st with
    | block t body =>
      simp only [Stmt.wfB] at h
      simp only [okS] at ho
      exact ih.block _ h ho
    | print t args =>
      simp only [Stmt.wfB] at h
      simp only [okS] at ho
      dsimp only
      refine BP.bind (ih.exprList _ _ h ho) (fun cells hcells => BP.bind BP.getSt (fun s hs => ?_))
      split
      · split
        · exact BP.throwPanic _
        · split
          · exact BP.oof
          · exact BP.emit _
      · split
        · exact BP.oof
        · exact BP.emit _
    | expr e =>
      simp only [Stmt.wfB] at h
      simp only [okS] at ho
      exact BP.bind (ih.expr _ h ho) (fun _ _ => BP.pure trivial)
    | ret e =>
      cases e with
      | none => exact BP.bind (BP.setReturnVal trivial) (fun _ _ => BP.throwSig _)
      | some e =>
        simp only [Stmt.wfB] at h
        simp only [okS] at ho
        exact BP.bind (ih.expr _ h ho) (fun c hc => BP.bind (BP.setReturnVal hc) (fun _ _ => BP.throwSig _))
    | brk t => exact BP.throwSig _
    | cont t => exact BP.throwSig _
    | next t => exact BP.throwSig _
    | exit t => exact BP.throwSig _
    | if_ c b els =>
      cases els with
      | none =>
        simp only [Stmt.wfB, Bool.and_eq_true] at h
        simp only [okS, Bool.and_eq_true] at ho
        refine BP.bind (ih.expr _ h.1 ho.1) (fun cell hcell => BP.bind (BP.readCell hcell) (fun v _ => ?_))
        split
        · exact ih.stmt _ h.2 ho.2
        · exact BP.pure trivial
      | some eb =>
        simp only [Stmt.wfB, Bool.and_eq_true] at h
        simp only [okS, Bool.and_eq_true] at ho
        refine BP.bind (ih.expr _ h.1.1 ho.1.1) (fun cell hcell => BP.bind (BP.readCell hcell) (fun v _ => ?_))
        split
        · exact ih.stmt _ h.1.2 ho.1.2
        · exact ih.stmt _ h.2 ho.2
    | while_ c b =>
      simp only [Stmt.wfB, Bool.and_eq_true] at h
      simp only [okS, Bool.and_eq_true] at ho
      exact ih.whileL _ _ h.1 h.2 ho.1 ho.2
    | for_ pre c post b =>
      simp only [Stmt.wfB, Bool.and_eq_true] at h
      simp only [okS, Bool.and_eq_true] at ho
      exact BP.bind (ih.expr _ h.1.1.1 ho.1.1.1) (fun _ _ => ih.forL _ _ _ h.1.1.2 h.1.2 h.2 ho.1.1.2 ho.1.2 ho.2)
    | forIn id idx iter b =>
      simp only [Stmt.wfB, Bool.and_eq_true] at h
      simp only [okS, Bool.and_eq_true, Bool.not_eq_true'] at ho
      obtain ⟨⟨⟨hnid, hoi⟩, ho1⟩, ho2⟩ := ho
      have getVar : ∀ (name : Bytes) (pos : Nat), isB name = false →
          BP P h0 b0 (KSet P) (do match (← getVariable name) with
            | .ok c => pure c
            | .error m => throwRt pos m : EM CellId) (InR P) := by
        intro name pos hn
        refine BP.bind (BP.getVariable hn) (fun r hr => ?_)
        split
        · exact BP.pure hr
        · exact BP.throwRt _ _
      refine BP.bind (getVar _ _ hnid) (fun loc hloc => BP.bind (R1 := OptReg P) ?_ (fun il hil =>
        BP.bind (ih.expr _ h.1 ho1) (fun iterable hit => BP.bind BP.getHeap (fun hp hh => ?_))))
      · split
        · exact BP.pure trivial
        · refine BP.bind (BP.getVariable (by simpa using hoi)) (fun r hr => ?_)
          split
          · exact BP.pure hr
          · exact BP.throwRt _ _
      · have hiv := hh.cells iterable hit
        split
        · rename_i a heq
          rw [heq] at hiv
          refine ih.forInL _ _ _ _ h.2 ho2 hloc hil ?_
          intro it hmem
          obtain ⟨ci, hci, rfl⟩ := List.mem_map.mp hmem
          obtain ⟨c, i⟩ := ci
          exact ⟨fun _ hx => (by cases hx; trivial), hh.arrs a hiv c (List.fst_mem_of_mem_zipIdx hci)⟩
        · rename_i o heq
          rw [heq] at hiv
          refine ih.forInL _ _ _ _ h.2 ho2 hloc hil ?_
          intro it hmem
          obtain ⟨kc, hkc, rfl⟩ := List.mem_map.mp hmem
          obtain ⟨k, c⟩ := kc
          exact ⟨fun _ hx => (by cases hx), trivial, (hh.objs o hiv).sortByKey (k, c) hkc⟩
        · refine ih.forInL _ _ _ _ h.2 ho2 hloc hil ?_
          intro it hmem
          obtain ⟨kc, hkc, rfl⟩ := List.mem_map.mp hmem
          obtain ⟨off, rn⟩ := kc
          exact ⟨fun _ hx => (by cases hx; trivial), trivial, trivial⟩
        · exact BP.throwRt _ _

/-- **The builtins are left alone**: every evaluator function, at every fuel, preserves `InvB`
    and hands out cells of the region. -/
theorem allBP (P : Region) (h0 : Heap) (b0 : Bytes → Option CellId) (prog : Program)
    (hF : P.F ≤ prog.functions.length)
    (hwf : ∀ f ∈ prog.functions, f.body.wfB = true) (hokf : ∀ f ∈ prog.functions, okFn f = true) :
    ∀ n, AllBP P h0 b0 prog n
  | 0 => allBP_zero P h0 b0 prog
  | n + 1 => allBP_succ prog hF hwf hokf n (allBP P h0 b0 prog hF hwf hokf n)

end Sel
end Jqawk
