import Jqawk.Lemmas.JsonBytesNorm
/-!
  A number literal the decoder accepted (JSON number grammar, no range error) denotes a finite
  double: `strconv.ParseFloat` yields either a syntax error (read as 0 by `newValueJson`) or a value
  below infinity — never `inf`/`nan`, which `special` only produces for texts starting with a letter
  or a sign followed by a letter.
-/
namespace Jqawk.JsonBytes
open Jqawk Jqawk.Json

theorem jsonFormat_ne_none (x : F64) (h : (x.isNaN || x.isInf) = false) : x.jsonFormat ≠ none := by
  unfold F64.jsonFormat
  simp only [h, Bool.false_eq_true, if_false]
  split
  · split <;> simp
  · simp

theorem ofMag_finite (neg : Bool) (m : Nat) (h : m < F64.infMag) :
    ((F64.ofMag neg m).isNaN || (F64.ofMag neg m).isInf) = false := by
  have hm : (F64.ofMag neg m).mag = m := by
    simp only [F64.mag, F64.raw, F64.ofMag, F64.infMag] at *
    cases neg <;> simp <;> omega
  simp only [F64.isNaN, F64.isInf, hm, Bool.or_eq_false_iff, decide_eq_false_iff_not, beq_eq_false_iff_ne]
  exact ⟨by omega, by omega⟩

theorem digit_toNat (d : UInt8) (h : isDigit d = true) : 48 ≤ d.toNat ∧ d.toNat ≤ 57 := by
  simp only [isDigit, Bool.and_eq_true, decide_eq_true_eq, UInt8.le_iff_toNat_le] at h
  simpa using h

theorem special_none (b : UInt8) (ds : Bytes) (hb : (b == 0x2D || isDigit b) = true)
    (hacc : numAccepts (firstNum b) ds = true) : F64.special ((b :: ds).map UInt8.toNat) = none := by
  by_cases hm : b = 0x2D
  · subst hm
    cases ds with
    | nil => simp [numAccepts, firstNum, canEnd] at hacc
    | cons d ds' =>
      have hd : isDigit d = true := by
        cases hdd : isDigit d with
        | true => rfl
        | false =>
          have h0 : (d == 0x30) = false := by
            cases h : (d == 0x30) with
            | false => rfl
            | true =>
              simp only [beq_iff_eq] at h; subst h
              exact absurd hdd (by decide)
          simp [numAccepts, firstNum, numNext, h0, hdd] at hacc
      obtain ⟨h1, h2⟩ := digit_toNat d hd
      simp only [List.map_cons, F64.special, F64.commonPrefixLenIgnoreCase]
      have e1 : ¬ (65 ≤ d.toNat ∧ d.toNat ≤ 90) := by omega
      have e2 : d.toNat ≠ 105 := by omega
      have cA : F64.ch 'A' = 65 := rfl
      have cZ : F64.ch 'Z' = 90 := rfl
      have ci : F64.ch 'i' = 105 := rfl
      have c1 : F64.ch '+' = 43 := rfl
      have c2 : F64.ch '-' = 45 := rfl
      simp [e1, e2, cA, cZ, ci, c1, c2]
  · have hd : isDigit b = true := by
      simp only [Bool.or_eq_true, beq_iff_eq] at hb
      rcases hb with hb | hb
      · exact absurd hb hm
      · exact hb
    obtain ⟨h1, h2⟩ := digit_toNat b hd
    simp only [List.map_cons, F64.special]
    have : b.toNat ≠ 43 ∧ b.toNat ≠ 45 ∧ b.toNat ≠ 105 ∧ b.toNat ≠ 73 ∧ b.toNat ≠ 110 ∧ b.toNat ≠ 78 := by omega
    have c1 : F64.ch '+' = 43 := rfl
    have c2 : F64.ch '-' = 45 := rfl
    have c3 : F64.ch 'i' = 105 := rfl
    have c4 : F64.ch 'I' = 73 := rfl
    have c5 : F64.ch 'n' = 110 := rfl
    have c6 : F64.ch 'N' = 78 := rfl
    simp [this, c1, c2, c3, c4, c5, c6]

/-- a grammatical number literal is never parsed to an infinity or NaN: the value `newValueJson`
    stores for it (0 for a text `strconv.ParseFloat` rejects) is finite -/
theorem finite_of_grammar (lit : Bytes) (h : numGrammar lit = true) :
    ((F64.parse lit).getD F64.zero).jsonFormat ≠ none := by
  cases lit with
  | nil => simp [numGrammar] at h
  | cons b ds =>
    simp only [numGrammar, Bool.and_eq_true] at h
    have hsp := special_none b ds h.1 h.2
    unfold F64.parse
    cases hp : F64.parseFull (b :: ds) with
    | ok x =>
      simp only [Option.getD_some]
      unfold F64.parseFull at hp
      simp only [hsp] at hp
      split at hp
      · cases hp
      · rename_i sc hsc
        split at hp
        · cases hp
        · rename_i hlt
          simp only [F64.ParseRes.ok.injEq] at hp
          rw [← hp]
          exact jsonFormat_ne_none _ (ofMag_finite _ _ (by omega))
    | _ => exact (by decide : F64.zero.jsonFormat ≠ none)

mutual
theorem finiteNums_of_numsOK (f : Bytes → Bool) : ∀ (j : JVal), NumsOK f j → FiniteNums j
  | .null, _ => trivial
  | .bool _, _ => trivial
  | .str _, _ => trivial
  | .num lit, h => finite_of_grammar lit ((numLit_iff f lit).1 h).1
  | .arr xs, h => finiteNumsList_of_numsOK f xs h
  | .obj ms, h => finiteNumsMembers_of_numsOK f ms h
theorem finiteNumsList_of_numsOK (f : Bytes → Bool) : ∀ (xs : List JVal), NumsOKList f xs → FiniteNumsList xs
  | [], _ => trivial
  | x :: xs, h => ⟨finiteNums_of_numsOK f x h.1, finiteNumsList_of_numsOK f xs h.2⟩
theorem finiteNumsMembers_of_numsOK (f : Bytes → Bool) : ∀ (ms : List (Bytes × JVal)), NumsOKMembers f ms →
    FiniteNumsMembers ms
  | [], _ => trivial
  | (_, v) :: ms, h => ⟨finiteNums_of_numsOK f v h.1, finiteNumsMembers_of_numsOK f ms h.2⟩
end

end Jqawk.JsonBytes
