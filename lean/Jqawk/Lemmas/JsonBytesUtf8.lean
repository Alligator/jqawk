import Jqawk.Lemmas.JsonBytesBuilt
/-!
  Every string (value or key) in a tree the decoder returns is valid UTF-8: the scanner validates
  the escapes of a string literal and `unquote` turns a validated literal into well-formed UTF-8
  (ill-formed input bytes and lone surrogates become U+FFFD).
-/
namespace Jqawk.JsonBytes
open Jqawk Jqawk.Json

/-- `ch` is a sequence of whole well-formed characters: it can be removed from the front -/
def Whole (ch : Bytes) : Prop := ∀ tail, validUtf8 0 (ch ++ tail) = validUtf8 0 tail

theorem Whole.nil : Whole [] := fun _ => rfl

theorem Whole.append {a b : Bytes} (ha : Whole a) (hb : Whole b) : Whole (a ++ b) := by
  intro tail; rw [List.append_assoc, ha, hb]

theorem whole_of_width (c : UInt8) (body : Bytes) (h : ∀ R, utf8Width c (body ++ R) = body.length + 1) :
    Whole (c :: body) := by
  intro tail
  simp only [List.cons_append, validUtf8, h tail, Nat.add_sub_cancel]
  rw [validUtf8_skip]
  simp

theorem whole_ascii (c : UInt8) (h : c < 0x80) : Whole [c] :=
  whole_of_width c [] (fun R => by simp [utf8Width, h])

theorem whole_fffd : Whole [0xEF, 0xBF, 0xBD] :=
  whole_of_width 0xEF [0xBF, 0xBD] (fun R => by simp [utf8Width])

theorem cont_byte (x : Nat) : (0x80 : UInt8) ≤ (0x80 + x % 64).toUInt8 ∧ (0x80 + x % 64).toUInt8 ≤ 0xBF := by
  constructor <;> rw [UInt8.le_iff_toNat_le] <;> simp <;> omega

/-- `utf8.EncodeRune` of a scalar value (not a surrogate, at most U+10FFFF) is one well-formed character -/
theorem whole_pushRune (r : Nat) (hr : r < 0x110000) (hs : ¬ (0xD800 ≤ r ∧ r < 0xE000)) :
    Whole (pushRune r []).reverse := by
  unfold pushRune
  simp only
  split
  · rename_i h
    simp only [List.reverse_cons, List.reverse_nil, List.nil_append]
    exact whole_ascii _ (by rw [UInt8.lt_iff_toNat_lt]; simp; omega)
  split
  · rename_i h1 h2
    simp only [List.reverse_cons, List.reverse_nil, List.nil_append, List.cons_append]
    refine whole_of_width _ [_] (fun R => ?_)
    exact width2 _ _ R (by rw [UInt8.lt_iff_toNat_lt]; simp; omega) (by rw [UInt8.lt_iff_toNat_lt]; simp; omega)
      (cont_byte r).1 (cont_byte r).2
  split
  · rename_i h1 h2 h3
    simp only [List.reverse_cons, List.reverse_nil, List.nil_append, List.cons_append]
    refine whole_of_width _ [_, _] (fun R => ?_)
    refine width3 _ _ _ R (by rw [UInt8.lt_iff_toNat_lt]; simp; omega) (by rw [UInt8.lt_iff_toNat_lt]; simp; omega)
      ?_ ?_ (cont_byte r).1 (cont_byte r).2
    · split
      · rename_i he
        simp only [beq_iff_eq] at he
        rw [← UInt8.toNat_inj] at he
        simp at he
        rw [UInt8.le_iff_toNat_le]; simp; omega
      · exact (cont_byte (r / 64)).1
    · split
      · rename_i he
        simp only [beq_iff_eq] at he
        rw [← UInt8.toNat_inj] at he
        simp at he
        rw [UInt8.le_iff_toNat_le]; simp; omega
      · exact (cont_byte (r / 64)).2
  · rename_i h1 h2 h3
    simp only [List.reverse_cons, List.reverse_nil, List.nil_append, List.cons_append]
    refine whole_of_width _ [_, _, _] (fun R => ?_)
    refine width4 _ _ _ _ R (by rw [UInt8.lt_iff_toNat_lt]; simp; omega) (by rw [UInt8.lt_iff_toNat_lt]; simp; omega)
      ?_ ?_ (cont_byte (r / 64)).1 (cont_byte (r / 64)).2 (cont_byte r).1 (cont_byte r).2
    · split
      · rename_i he
        simp only [beq_iff_eq] at he
        rw [← UInt8.toNat_inj] at he
        simp at he
        rw [UInt8.le_iff_toNat_le]; simp; omega
      · exact (cont_byte (r / 4096)).1
    · split
      · rename_i he
        simp only [beq_iff_eq] at he
        rw [← UInt8.toNat_inj] at he
        simp at he
        rw [UInt8.le_iff_toNat_le]; simp; omega
      · exact (cont_byte (r / 4096)).2

theorem strPath_high : ∀ (l : Bytes), (∀ x ∈ l, ¬ x < 0x80) → path strNext .inString l = some .inString := by
  intro l
  induction l with
  | nil => intro _; rfl
  | cons x xs ih =>
    intro h
    have hx : ¬ x < 0x80 := h x (by simp)
    have hx' : 128 ≤ x.toNat := by rw [UInt8.lt_iff_toNat_lt] at hx; simpa using hx
    have e1 : (x == 0x22) = false := by simp; rintro rfl; simp at hx'
    have e2 : (x == 0x5C) = false := by simp; rintro rfl; simp at hx'
    have e3 : ¬ x < 0x20 := by rw [UInt8.lt_iff_toNat_lt]; simp; omega
    simp only [path, strNext, e1, e2, e3, if_false, Bool.false_eq_true]
    exact ih fun y hy => h y (by simp [hy])

theorem hexVal_lt (c : UInt8) (v : Nat) (h : hexVal c = some v) : v < 16 := by
  unfold hexVal at h
  split at h
  · rename_i hd
    simp only [isDigit, Bool.and_eq_true, decide_eq_true_eq, UInt8.le_iff_toNat_le] at hd
    simp at h hd; omega
  split at h
  · rename_i _ hd
    simp only [Bool.and_eq_true, decide_eq_true_eq, UInt8.le_iff_toNat_le] at hd
    simp at h hd; omega
  split at h
  · rename_i _ _ hd
    simp only [Bool.and_eq_true, decide_eq_true_eq, UInt8.le_iff_toNat_le] at hd
    simp at h hd; omega
  · cases h

theorem getu4_path (l : Bytes) (rr : Nat) (h : getu4 l = some rr) :
    rr < 0x10000 ∧ ∃ tl, l.drop 6 = tl ∧ path strNext .inString l = path strNext .inString tl := by
  unfold getu4 at h
  split at h
  · rename_i a b c d tl
    split at h
    · rename_i va vb vc vd ha hb hc hd
      have := hexVal_lt a va ha
      have := hexVal_lt b vb hb
      have := hexVal_lt c vc hc
      have := hexVal_lt d vd hd
      simp only [Option.some.injEq] at h
      refine ⟨by omega, tl, rfl, ?_⟩
      simp [path, strNext, escOK, ha, hb, hc, hd]
    · cases h
  · cases h

theorem escU_path (l : Bytes) (h : path strNext (.inStringEscU 3) l = some .inString) :
    ∃ a b c d tl va vb vc vd, l = a :: b :: c :: d :: tl ∧ hexVal a = some va ∧ hexVal b = some vb ∧
      hexVal c = some vc ∧ hexVal d = some vd ∧ path strNext .inString tl = some .inString := by
  rcases l with _ | ⟨a, _ | ⟨b, _ | ⟨c, _ | ⟨d, tl⟩⟩⟩⟩
  · simp [path] at h
  · cases ha : hexVal a <;> simp [path, strNext, ha] at h
  · cases ha : hexVal a <;> cases hb : hexVal b <;> simp [path, strNext, ha, hb] at h
  · cases ha : hexVal a <;> cases hb : hexVal b <;> cases hc : hexVal c <;>
      simp [path, strNext, ha, hb, hc] at h
  · cases ha : hexVal a with
    | none => simp [path, strNext, ha] at h
    | some va =>
      cases hb : hexVal b with
      | none => simp [path, strNext, ha, hb] at h
      | some vb =>
        cases hc : hexVal c with
        | none => simp [path, strNext, ha, hb, hc] at h
        | some vc =>
          cases hd : hexVal d with
          | none => simp [path, strNext, ha, hb, hc, hd] at h
          | some vd =>
            simp [path, strNext, ha, hb, hc, hd] at h
            exact ⟨a, b, c, d, tl, va, vb, vc, vd, rfl, ha, hb, hc, hd, h⟩

theorem unquote_cons (c : UInt8) (rest : Bytes) :
    unquote (c :: rest) = (unquoteAt c rest).1.reverse ++ unquote (rest.drop (unquoteAt c rest).2) := by
  rw [unquote_eq_fwd, fwd_cons, ← unquote_eq_fwd]

/-- a literal the scanner validated (it is back in `inString`) is unquoted to valid UTF-8.
    Along the loop of `unquote`: whatever one iteration emits — an ASCII byte, the byte an escape
    stands for, a rune from `\uXXXX` (pair), a well-formed sequence copied, or U+FFFD — is `Whole`,
    and the bytes it leaves are again a literal the string automaton accepts from `inString`. -/
theorem unquote_valid (raw : Bytes) :
    path strNext .inString raw = some .inString → validUtf8 0 (unquote raw) = true := by
  induction raw using drop_induction with
  | nil => intro _; rfl
  | cons c rest ih =>
      intro hp
      rw [unquote_cons]
      simp only [path, strNext] at hp
      by_cases h22 : (c == 0x22) = true
      · simp [h22] at hp
      simp only [h22, if_false, Bool.false_eq_true] at hp
      by_cases h5C : (c == 0x5C) = true
      · simp only [h5C, if_true] at hp
        have hc : c = 0x5C := by simpa using h5C
        subst hc
        cases rest with
        | nil => simp [path] at hp
        | cons e rest' =>
          simp only [path, strNext] at hp
          by_cases hesc : escOK e = true
          · simp only [hesc, if_true] at hp
            have he75 : (e == 0x75) = false := by
              cases h : (e == 0x75) with
              | false => rfl
              | true => simp only [beq_iff_eq] at h; subst h; simp [escOK] at hesc
            have hu : unquoteAt 0x5C (e :: rest') =
                ([if e == 0x62 then 0x08 else if e == 0x66 then 0x0C else if e == 0x6E then 0x0A
                  else if e == 0x72 then 0x0D else if e == 0x74 then 0x09 else e], 1) := by
              simp [unquoteAt, he75]
            rw [hu]
            simp only [List.reverse_cons, List.reverse_nil, List.nil_append, List.drop_succ_cons, List.drop_zero]
            rw [whole_ascii _ ?_]
            · exact ih 1 hp
            · simp only [escOK, Bool.or_eq_true, beq_iff_eq] at hesc
              rcases hesc with ((((((rfl | rfl) | rfl) | rfl) | rfl) | rfl) | rfl) | rfl <;> decide
          · simp only [hesc, if_false, Bool.false_eq_true] at hp
            by_cases h75 : (e == 0x75) = true
            · simp only [h75, if_true] at hp
              have he : e = 0x75 := by simpa using h75
              subst he
              obtain ⟨a, b, c', d, tl, va, vb, vc, vd, rfl, ha, hb, hc', hd, htl⟩ := escU_path rest' hp
              have hva := hexVal_lt a va ha
              have hvb := hexVal_lt b vb hb
              have hvc := hexVal_lt c' vc hc'
              have hvd := hexVal_lt d vd hd
              by_cases hsur : 0xD800 ≤ ((va * 16 + vb) * 16 + vc) * 16 + vd ∧ ((va * 16 + vb) * 16 + vc) * 16 + vd < 0xE000
              · have hu : unquoteAt 0x5C (0x75 :: a :: b :: c' :: d :: tl) =
                    match getu4 tl with
                    | some rr1 =>
                      if ((va * 16 + vb) * 16 + vc) * 16 + vd < 0xDC00 && 0xDC00 ≤ rr1 && rr1 < 0xE000
                      then (pushRune (0x10000 + (((va * 16 + vb) * 16 + vc) * 16 + vd - 0xD800) * 1024 + (rr1 - 0xDC00)) [], 11)
                      else (fffdRev, 5)
                    | none => (fffdRev, 5) := by
                  have hg0 : getu4 (0x5C :: 0x75 :: a :: b :: c' :: d :: tl)
                      = some (((va * 16 + vb) * 16 + vc) * 16 + vd) := by simp [getu4, ha, hb, hc', hd]
                  have hs' : (decide (0xD800 ≤ ((va * 16 + vb) * 16 + vc) * 16 + vd) &&
                      decide (((va * 16 + vb) * 16 + vc) * 16 + vd < 0xE000)) = true := by simp [hsur]
                  simp only [unquoteAt, hg0, beq_self_eq_true, if_true, List.drop_succ_cons, List.drop_zero, hs']
                  cases getu4 tl <;> rfl
                rw [hu]
                have hfffd : fffdRev.reverse = [0xEF, 0xBF, 0xBD] := rfl
                cases hg : getu4 tl with
                | none =>
                  simp only [hfffd]
                  rw [whole_fffd]
                  exact ih 5 htl
                | some rr1 =>
                  simp only
                  split
                  · rename_i hcond
                    simp only [Bool.and_eq_true, decide_eq_true_eq] at hcond
                    obtain ⟨hrr1, tl', htl', hpath⟩ := getu4_path tl rr1 hg
                    rw [whole_pushRune _ (by omega) (by omega)]
                    refine ih 11 ?_
                    rw [show List.drop 11 (0x75 :: a :: b :: c' :: d :: tl) = tl' from htl', ← hpath]; exact htl
                  · simp only [hfffd]
                    rw [whole_fffd]
                    exact ih 5 htl
              · rw [unq_u4 a b c' d tl va vb vc vd ha hb hc' hd hsur]
                rw [whole_pushRune _ (by omega) hsur]
                exact ih 5 htl
            · simp [h75] at hp
      · simp only [h5C, if_false, Bool.false_eq_true] at hp
        by_cases h20 : c < 0x20
        · simp [h20] at hp
        simp only [h20, if_false] at hp
        by_cases h80 : c < 0x80
        · have hu : unquoteAt c rest = ([c], 0) := by simp [unquoteAt, h5C, h80]
          rw [hu]
          simp only [List.reverse_cons, List.reverse_nil, List.nil_append, List.drop_zero]
          rw [whole_ascii c h80]
          exact ih 0 hp
        · cases hw : utf8Width c rest with
          | zero =>
            have hu : unquoteAt c rest = (fffdRev, 0) := by simp [unquoteAt, h5C, h80, hw]
            rw [hu]
            have : fffdRev.reverse = [0xEF, 0xBF, 0xBD] := rfl
            rw [this, List.drop_zero, whole_fffd]
            exact ih 0 hp
          | succ w =>
            have hu : unquoteAt c rest = ((c :: rest.take w).reverse, w) := by simp [unquoteAt, h5C, h80, hw]
            obtain ⟨hlen, hhigh, hR⟩ := utf8Width_take c rest w hw
            rw [hu]
            simp only [List.reverse_reverse]
            rw [whole_of_width c (rest.take w) (fun R => by rw [hR R, hlen])]
            refine ih w ?_
            have := path_append (rest.drop w) (strPath_high _ hhigh)
            rw [List.take_append_drop] at this
            rw [← this]; exact hp

theorem Unquoted.valid {k : Bytes} (h : Unquoted k) : validUtf8 0 k = true := by
  obtain ⟨raw, hp, rfl⟩ := h
  exact unquote_valid raw hp

theorem Built.utf8OK {g : Bytes → Bool} {n : Nat} {v : JVal} (h : Built g n v) : Utf8OK v := by
  induction h with
  | str _ hk => exact hk.valid
  | arr _ _ ih => exact (utf8OKList_iff _).2 ih
  | obj _ _ hk _ ih => exact (utf8OKMembers_iff _).2 fun kv hkv => ⟨(hk kv hkv).valid, ih kv hkv⟩
  | _ => trivial

theorem decodeOne_utf8 (f : Bytes → Bool) (inp : Bytes) (t : Tail) (v : JVal) (rest : Bytes)
    (h : decodeOne f inp t = .value v rest) : Utf8OK v :=
  (decodeOne_built f inp t v rest h).utf8OK

end Jqawk.JsonBytes
