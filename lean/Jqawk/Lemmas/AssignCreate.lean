/-
  An assignment that creates its target (C09): `o.new = e`, `a[len+k] = e`, `u.k = e` / `u[i] = e`
  for an unset `u` — one level of `createSpeculativeObjects`.  `createTarget` (the base made a
  container) and `createSpeculative_base`; the whole assignment as an equation (`assign_create_eq`,
  `assign_create_ok`); storing past the end of an array (`fillNulls_eq`, `padHeap`, `padHeap_spec`);
  `HeapFrame C A O` (every old cell / array / object outside the three sets is kept) with the frames
  of `createTarget` and `setMember`; `unsetObjHeap`.
-/
import Jqawk.Lemmas.AssignFrame


namespace Jqawk

/-- the member value `createSpeculativeObjects` sets for a remembered key -/
def Key.val : Key → Val
  | .str s => .str s none
  | .num x => .num x

theorem keyVal_eq (k : Key) : keyVal k = k.val := by cases k <;> rfl

/-- materialising the base of a missing member: an unset base becomes a fresh empty array
    (numeric key) or object and its cell is updated; any other base is used as it is.
    Returns the heap and the container value to store the member in. -/
def createTarget (h : Heap) (b : CellId) (key : Key) : Heap × Val :=
  match h.get b with
  | .unknown =>
    match key with
    | .num _ => ((h.allocArr #[]).2.set b (.arr h.arrs.size), .arr h.arrs.size)
    | .str _ => ((h.allocObj []).2.set b (.obj h.objs.size), .obj h.objs.size)
  | pv => (h, pv)

theorem createTarget_set {h : Heap} {b : CellId} {v : Val} (hv : h.get b = v) (hne : v ≠ .unknown)
    (key : Key) : createTarget h b key = (h, v) := by
  unfold createTarget
  subst hv
  split
  · rename_i hu; exact absurd hu hne
  · rfl

theorem createTarget_unset_num {h : Heap} {b : CellId} (hu : h.get b = .unknown) (x : F64) :
    createTarget h b (.num x) = ((h.allocArr #[]).2.set b (.arr h.arrs.size), .arr h.arrs.size) := by
  unfold createTarget; rw [hu]

theorem createTarget_unset_str {h : Heap} {b : CellId} (hu : h.get b = .unknown) (k : Bytes) :
    createTarget h b (.str k) = ((h.allocObj []).2.set b (.obj h.objs.size), .obj h.objs.size) := by
  unfold createTarget; rw [hu]

/-- `createSpeculative` when the parent is not itself a stand-in for a missing member -/
theorem createSpeculative_base (n : Nat) (sc p : CellId) (key : Key) (s : St)
    (hsv : (s.heap.get sc).spec? = some ⟨p, key⟩) (hp : ∀ sp, s.heap.get p ≠ .nil (some sp)) :
    createSpeculative (n + 1) sc s =
      if s.heap.get p = .nil none then .ok (.error "could not create this object") s else
      match setMember (createTarget s.heap p key).1 (createTarget s.heap p key).2 key.val sc with
      | .error m => .ok (.error m) { s with heap := (createTarget s.heap p key).1 }
      | .ok (c, h') => .ok (.ok c) { s with heap := h' } := by
  rw [createSpeculative_eq]
  simp only [bind, EM.bind, readCell, specOf_eq, hsv, keyVal_eq]
  unfold createTarget
  cases hv : s.heap.get p with
  | nil sp =>
    cases sp with
    | none => simp [pure, EM.pure]
    | some x => exact absurd hv (hp x)
  | unknown =>
    cases key <;>
      simp only [reduceCtorEq, ↓reduceIte, newContainer, keyIsNum, Key.val, allocArrM, allocObjM, Heap.allocArr,
        Heap.allocObj, writeCell, pure, EM.pure, bind, EM.bind, setMemberM, Bool.false_eq_true] <;>
      cases setMember _ _ _ _ <;> rfl
  | _ => simp only [reduceCtorEq, ↓reduceIte, setMemberM] <;> cases setMember _ _ _ _ <;> rfl

theorem evalAssignment_create (pos : Nat) (left right b : CellId) (key : Key) (s : St)
    (hsv : s.heap.get left = .nil (some ⟨b, key⟩)) (hpv : ∀ sp, s.heap.get b ≠ .nil sp) :
    evalAssignment pos left right s =
      match setMember (createTarget s.heap b key).1 (createTarget s.heap b key).2 key.val left with
      | .error m => Jqawk.throwRt pos m { s with heap := (createTarget s.heap b key).1 }
      | .ok (c, h') =>
        match copyVal (h'.get right) with
        | .ok w => .ok c { s with heap := h'.set c w }
        | .error m => Jqawk.throwRt pos m { s with heap := h' } := by
  have hsp : (s.heap.get left).spec? = some ⟨b, key⟩ := by rw [hsv]; rfl
  rw [evalAssignment_spec_eq pos left right s _ hsp,
    createSpeculative_base (s.heap.cells.size + 1) left b key s hsp (fun sp => hpv _), if_neg (hpv none)]
  cases setMember (createTarget s.heap b key).1 (createTarget s.heap b key).2 key.val left with
  | error m => rfl
  | ok r => rfl

theorem assign_create_eq (prog : Program) (n : Nat) (l r : Expr) (op : Token) (s s1 s2 : St)
    (sc rc b : CellId) (key : Key) (hop : op.tag = .equal)
    (h1 : evalExpr prog n l s = .ok sc s1) (h2 : evalExpr prog n r s1 = .ok rc s2)
    (hsv : s2.heap.get sc = .nil (some ⟨b, key⟩)) (hpv : ∀ sp, s2.heap.get b ≠ .nil sp) :
    evalExpr prog (n + 2) (.binary l r op) s =
      match setMember (createTarget s2.heap b key).1 (createTarget s2.heap b key).2 key.val sc with
      | .error m => Jqawk.throwRt l.token.pos m { s2 with heap := (createTarget s2.heap b key).1 }
      | .ok (c, h') =>
        match copyVal (h'.get rc) with
        | .ok w => .ok c { s2 with heap := h'.set c w }
        | .error m => Jqawk.throwRt l.token.pos m { s2 with heap := h' } := by
  rw [assign_unfold prog n l r op s s1 s2 sc rc hop h1 h2]
  exact evalAssignment_create _ _ _ _ _ _ hsv hpv

theorem assign_create_ok (prog : Program) (n : Nat) (l r : Expr) (op : Token) (s s1 s2 : St)
    (sc rc b c : CellId) (key : Key) (h0 h' : Heap) (t : Val) (hop : op.tag = .equal)
    (h1 : evalExpr prog n l s = .ok sc s1) (h2 : evalExpr prog n r s1 = .ok rc s2)
    (hsv : s2.heap.get sc = .nil (some ⟨b, key⟩)) (hpv : ∀ sp, s2.heap.get b ≠ .nil sp)
    (hct : createTarget s2.heap b key = (h0, t)) (hs : setMember h0 t key.val sc = .ok (c, h')) :
    evalExpr prog (n + 2) (.binary l r op) s =
      match copyVal (h'.get rc) with
      | .ok w => .ok c { s2 with heap := h'.set c w }
      | .error m => Jqawk.throwRt l.token.pos m { s2 with heap := h' } := by
  rw [assign_create_eq prog n l r op s s1 s2 sc rc b key hop h1 h2 hsv hpv, hct]
  dsimp only
  rw [hs]

theorem fillNulls_size (n : Nat) (h : Heap) (items : Array CellId) :
    (fillNulls n h items).2.size = items.size + n ∧ (fillNulls n h items).1.arrs = h.arrs := by
  induction n generalizing h items with
  | zero => simp [fillNulls]
  | succ n ih =>
    simp only [fillNulls]
    have := ih (h.alloc (.nil none)).2 (items.push (h.alloc (.nil none)).1)
    simp only [Array.size_push] at this
    refine ⟨by omega, ?_⟩
    rw [this.2]; rfl

theorem fillNulls_eq : ∀ (n : Nat) (h : Heap) (items : Array CellId),
    fillNulls n h items =
      (h.allocMany (List.replicate n (.nil none)), items ++ (List.range' h.cells.size n).toArray)
  | 0, h, items => by
    simp [fillNulls, Heap.allocMany]
  | n + 1, h, items => by
    rw [fillNulls]
    simp only [Heap.alloc]
    rw [fillNulls_eq n]
    simp only [Heap.allocMany, Array.size_push, List.replicate_succ, List.range'_succ]
    refine Prod.ext ?_ ?_
    · simp only
      congr 1
      apply Array.toList_inj.mp
      simp
    · simp only
      apply Array.toList_inj.mp
      simp

/-- the heap after storing at an index at or past the end of an array: null padding, then the
    new element -/
def padHeap (h : Heap) (a : ArrId) (i : Nat) (v : Val) : Heap :=
  let n := i + 1 - (h.arr a).size
  ((h.allocMany (List.replicate n (.nil none))).setArr a
    (h.arr a ++ (List.range' h.cells.size n).toArray)).set (h.cells.size + (i - (h.arr a).size)) v

theorem getD_append_range' (items : Array CellId) (n k i : Nat) (hge : items.size ≤ i)
    (hlt : i - items.size < k) :
    (items ++ (List.range' n k).toArray).getD i 0 = n + (i - items.size) := by
  rw [Array.getD_eq_getD_getElem?, Array.getElem?_append_right hge, List.getElem?_toArray,
    List.getElem?_range' hlt, Nat.one_mul, Option.getD_some]

theorem setMember_arr_fill (h : Heap) (a : ArrId) (x : F64) (cell : CellId) (i : Nat)
    (hi : resolveIndex (h.arr a).size x.toGoInt = some i) (hge : (h.arr a).size ≤ i)
    (hlim : i ≤ fillLimit) (hc : cell < h.cells.size) :
    setMember h (.arr a) (.num x) cell =
      .ok (h.cells.size + (i - (h.arr a).size), padHeap h a i (h.get cell)) := by
  have h1 : ¬ i < (h.arr a).size := Nat.not_lt.mpr hge
  have h2 : ¬ i > fillLimit := Nat.not_lt.mpr hlim
  simp only [setMember, hi, h1, h2, ↓reduceIte, fillNulls_eq, padHeap]
  rw [getD_append_range' _ _ _ _ hge (Nat.sub_lt_sub_right hge (Nat.lt_succ_self i)), Heap.get_setArr, Heap.get_allocMany_old h _ cell hc]

theorem padHeap_spec (h : Heap) (a : ArrId) (i : Nat) (v : Val) (hge : (h.arr a).size ≤ i) :
    (padHeap h a i v).cells.size = h.cells.size + (i + 1 - (h.arr a).size) ∧
    (padHeap h a i v).arrs.size = h.arrs.size ∧ (padHeap h a i v).objs = h.objs ∧
    (∀ d, d < h.cells.size → (padHeap h a i v).get d = h.get d) ∧
    (∀ a', a' ≠ a → (padHeap h a i v).arr a' = h.arr a') ∧
    (a < h.arrs.size → (padHeap h a i v).arr a =
      h.arr a ++ (List.range' h.cells.size (i + 1 - (h.arr a).size)).toArray) ∧
    (∀ j, j < i - (h.arr a).size → (padHeap h a i v).get (h.cells.size + j) = .nil none) ∧
    (padHeap h a i v).get (h.cells.size + (i - (h.arr a).size)) = v := by
  simp only [padHeap]
  refine ⟨?_, ?_, ?_, ?_, ?_, ?_, ?_, ?_⟩
  · rw [Heap.size_set, Heap.cells_setArr, Heap.size_allocMany, List.length_replicate]
  · rw [Heap.arrs_set, Heap.size_arrs_setArr, Heap.arrs_allocMany]
  · rw [Heap.objs_set, Heap.objs_setArr, Heap.objs_allocMany]
  · intro d hd
    rw [Heap.get_set_ne' _ _ _ _ (Nat.ne_of_lt (Nat.lt_of_lt_of_le hd (Nat.le_add_right _ _))),
      Heap.get_setArr, Heap.get_allocMany_old h _ d hd]
  · intro a' ha'
    rw [Heap.arr_set, Heap.arr_setArr_other _ _ _ _ ha', Heap.arr_allocMany]
  · intro ha
    rw [Heap.arr_set, Heap.arr_setArr_same (h.allocMany _) a _ ha]
  · intro j hj
    rw [Heap.get_set_ne' _ _ _ _ (fun e => Nat.ne_of_lt hj (Nat.add_left_cancel e)), Heap.get_setArr,
      Heap.get_allocMany_new h _ j (by rw [List.length_replicate]; omega), List.getElem_replicate]
  · apply Heap.get_set_same'
    rw [Heap.cells_setArr, Heap.size_allocMany, List.length_replicate]
    exact Nat.add_lt_add_left (by omega) _

/-- `h'` agrees with `h` on every old cell, array and object outside the given sets -/
structure HeapFrame (C : CellId → Prop) (A : ArrId → Prop) (O : ObjId → Prop) (h h' : Heap) : Prop where
  cells : h.cells.size ≤ h'.cells.size
  arrs : h.arrs.size ≤ h'.arrs.size
  objs : h.objs.size ≤ h'.objs.size
  get : ∀ d, d < h.cells.size → ¬ C d → h'.get d = h.get d
  arr : ∀ a, a < h.arrs.size → ¬ A a → h'.arr a = h.arr a
  obj : ∀ o, o < h.objs.size → ¬ O o → h'.obj o = h.obj o

namespace HeapFrame

theorem refl (C : CellId → Prop) (A : ArrId → Prop) (O : ObjId → Prop) (h : Heap) : HeapFrame C A O h h :=
  ⟨Nat.le_refl _, Nat.le_refl _, Nat.le_refl _, fun _ _ _ => rfl, fun _ _ _ => rfl, fun _ _ _ => rfl⟩

theorem trans {C : CellId → Prop} {A : ArrId → Prop} {O : ObjId → Prop} {a b c : Heap}
    (h1 : HeapFrame C A O a b) (h2 : HeapFrame C A O b c) : HeapFrame C A O a c :=
  ⟨Nat.le_trans h1.cells h2.cells, Nat.le_trans h1.arrs h2.arrs, Nat.le_trans h1.objs h2.objs,
   fun d hd hc => by rw [h2.get d (Nat.lt_of_lt_of_le hd h1.cells) hc, h1.get d hd hc],
   fun x hx hc => by rw [h2.arr x (Nat.lt_of_lt_of_le hx h1.arrs) hc, h1.arr x hx hc],
   fun x hx hc => by rw [h2.obj x (Nat.lt_of_lt_of_le hx h1.objs) hc, h1.obj x hx hc]⟩

/-- the exception sets may be replaced by any that contain them on the ids of `a` -/
theorem restrict {C C' : CellId → Prop} {A A' : ArrId → Prop} {O O' : ObjId → Prop}
    {a b : Heap} (h : HeapFrame C' A' O' a b)
    (hC : ∀ d, d < a.cells.size → C' d → C d) (hA : ∀ d, d < a.arrs.size → A' d → A d)
    (hO : ∀ d, d < a.objs.size → O' d → O d) : HeapFrame C A O a b :=
  ⟨h.cells, h.arrs, h.objs, fun d hd hc => h.get d hd (fun x => hc (hC d hd x)),
   fun d hd hc => h.arr d hd (fun x => hc (hA d hd x)), fun d hd hc => h.obj d hd (fun x => hc (hO d hd x))⟩

theorem mono {C C' : CellId → Prop} {A A' : ArrId → Prop} {O O' : ObjId → Prop} {a b : Heap}
    (h : HeapFrame C A O a b) (hC : ∀ d, C d → C' d) (hA : ∀ d, A d → A' d) (hO : ∀ d, O d → O' d) :
    HeapFrame C' A' O' a b :=
  h.restrict (fun d _ => hC d) (fun d _ => hA d) (fun d _ => hO d)

theorem of_preserved {C : CellId → Prop} {A : ArrId → Prop} {O : ObjId → Prop} {a b : Heap}
    (p : HeapPreserved a b) : HeapFrame C A O a b :=
  ⟨p.cells, p.arrs, p.objs, fun d hd _ => p.get d hd, fun x hx _ => p.arr x hx, fun x hx _ => p.obj x hx⟩

theorem set (h : Heap) (c : CellId) (w : Val) :
    HeapFrame (fun d => d = c) (fun _ => False) (fun _ => False) h (h.set c w) :=
  ⟨by rw [Heap.size_set]; exact Nat.le_refl _, Nat.le_refl _, Nat.le_refl _,
   fun d _ hc => Heap.get_set_ne' _ _ _ _ hc, fun _ _ _ => rfl, fun _ _ _ => rfl⟩

end HeapFrame

theorem createTarget_frame (h : Heap) (b : CellId) (key : Key) :
    HeapFrame (fun d => d = b ∧ h.get b = .unknown) (fun _ => False) (fun _ => False) h
      (createTarget h b key).1 := by
  unfold createTarget
  cases hv : h.get b with
  | unknown =>
    cases key with
    | num x =>
      refine ⟨by simp [Heap.set, Heap.allocArr], by simp [Heap.set, Heap.allocArr], Nat.le_refl _,
        ?_, ?_, fun _ _ _ => rfl⟩
      · intro d hd hc
        have : d ≠ b := fun e => hc ⟨e, rfl⟩
        rw [Heap.get_set_ne' _ _ _ _ this]; rfl
      · intro a ha _
        exact Heap.arr_allocArr_old h #[] a (Nat.ne_of_lt ha)
    | str k =>
      refine ⟨by simp [Heap.set, Heap.allocObj], Nat.le_refl _, by simp [Heap.set, Heap.allocObj],
        ?_, fun _ _ _ => rfl, ?_⟩
      · intro d hd hc
        have : d ≠ b := fun e => hc ⟨e, rfl⟩
        rw [Heap.get_set_ne' _ _ _ _ this]; rfl
      · intro o ho _
        exact Heap.obj_allocObj_old h [] o (Nat.ne_of_lt ho)
  | _ => exact HeapFrame.refl _ _ _ h

/-- `SetMember` storing a new member (object: any key; array: an index at or past the end):
    no old cell changes, only the addressed container does; the member cell is the given cell
    (object) or a fresh one (array) -/
theorem setMember_frame (h : Heap) (target kv : Val) (cell c : CellId) (h' : Heap)
    (hc : cell < h.cells.size) (hs : setMember h target kv cell = .ok (c, h'))
    (hidx : ∀ a x i, target = .arr a → kv = .num x →
      resolveIndex (h.arr a).size x.toGoInt = some i → (h.arr a).size ≤ i) :
    HeapFrame (fun _ => False) (fun a => target = .arr a) (fun o => target = .obj o) h h' ∧
    (c = cell ∨ h.cells.size ≤ c) ∧ c < h'.cells.size := by
  cases target with
  | obj o =>
    simp only [setMember, Except.ok.injEq, Prod.mk.injEq] at hs
    obtain ⟨rfl, rfl⟩ := hs
    refine ⟨⟨Nat.le_refl _, Nat.le_refl _, by simp [Heap.setObj], fun _ _ _ => rfl, fun _ _ _ => rfl, ?_⟩,
      .inl rfl, hc⟩
    intro o' ho' hne
    have : o' ≠ o := fun e => hne (by rw [e])
    simp only [Heap.obj, Heap.setObj, Array.getD_eq_getD_getElem?]
    rw [Array.getElem?_setIfInBounds_ne (Ne.symm this)]
  | arr a =>
    cases kv with
    | num x =>
      cases hri : resolveIndex (h.arr a).size x.toGoInt with
      | none => simp [setMember, hri] at hs
      | some i =>
        have hge := hidx a x i rfl rfl hri
        by_cases hlim : i ≤ fillLimit
        · rw [setMember_arr_fill h a x cell i hri hge hlim hc] at hs
          simp only [Except.ok.injEq, Prod.mk.injEq] at hs
          obtain ⟨rfl, rfl⟩ := hs
          obtain ⟨p1, p2, p3, p4, p5, _, _, _⟩ := padHeap_spec h a i (h.get cell) hge
          have hlt : i - (h.arr a).size < i + 1 - (h.arr a).size := by omega
          refine ⟨⟨by rw [p1]; exact Nat.le_add_right _ _, by rw [p2]; exact Nat.le_refl _,
            by rw [p3]; exact Nat.le_refl _,
            fun d hd _ => p4 d hd, ?_, fun o _ _ => by simp [Heap.obj, p3]⟩,
            .inr (Nat.le_add_right _ _), by rw [p1]; exact Nat.add_lt_add_left hlt _⟩
          intro a' _ hne
          exact p5 a' (fun e => hne (by rw [e]))
        · have h1 : ¬ i < (h.arr a).size := Nat.not_lt.mpr hge
          have h2 : i > fillLimit := Nat.lt_of_not_le hlim
          simp [setMember, hri, h1, h2] at hs
    | _ => simp [setMember] at hs
  | _ => simp [setMember] at hs


theorem createTarget_snd (h : Heap) (b : CellId) (key : Key) :
    (h.get b = .unknown ∧
      (((createTarget h b key).2 = .arr h.arrs.size ∧ (createTarget h b key).1.arr h.arrs.size = #[]) ∨
       (createTarget h b key).2 = .obj h.objs.size)) ∨
    (h.get b ≠ .unknown ∧ createTarget h b key = (h, h.get b)) := by
  unfold createTarget
  cases hv : h.get b with
  | unknown =>
    left
    refine ⟨rfl, ?_⟩
    cases key with
    | num x => left; exact ⟨rfl, by simp [Heap.set, Heap.allocArr, Heap.arr, Array.getD_eq_getD_getElem?]⟩
    | str k => right; rfl
  | _ => right; exact ⟨by simp, rfl⟩

/-- the heap after `u.k = …` for an unset `u` (cell `b`): `b` holds a fresh object whose only
    member `k` is the cell `sc` -/
def unsetObjHeap (h : Heap) (b : CellId) (k : Bytes) (sc : CellId) : Heap :=
  ((h.allocObj []).2.set b (.obj h.objs.size)).setObj h.objs.size [(k, sc)]

theorem unsetObjHeap_spec (h : Heap) (b : CellId) (k : Bytes) (sc : CellId) (hb : b < h.cells.size) :
    (unsetObjHeap h b k sc).get b = .obj h.objs.size ∧
    (unsetObjHeap h b k sc).obj h.objs.size = [(k, sc)] ∧
    (∀ d, d ≠ b → (unsetObjHeap h b k sc).get d = h.get d) ∧
    (unsetObjHeap h b k sc).arrs = h.arrs ∧
    (∀ o, o < h.objs.size → (unsetObjHeap h b k sc).obj o = h.obj o) := by
  refine ⟨?_, ?_, ?_, rfl, ?_⟩
  · show ((h.allocObj []).2.set b _).get b = _
    exact Heap.get_set_same' _ _ _ hb
  · simp [unsetObjHeap, Heap.setObj, Heap.set, Heap.allocObj, Heap.obj, Array.getD_eq_getD_getElem?]
  · intro d hd
    show ((h.allocObj []).2.set b _).get d = _
    rw [Heap.get_set_ne' _ _ _ _ hd]; rfl
  · intro o ho
    have : o ≠ h.objs.size := Nat.ne_of_lt ho
    simp [unsetObjHeap, Heap.setObj, Heap.set, Heap.allocObj, Heap.obj, Array.getD_eq_getD_getElem?,
      Array.getElem?_push, this, Ne.symm this]

end Jqawk
