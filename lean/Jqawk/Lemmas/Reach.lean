/-
  Reachability between containers of a heap, and what an error of `toJVal` means in terms of it.
-/
import Jqawk.Lemmas.Render
import Jqawk.Lemmas.Order

namespace Jqawk

inductive Child (h : Heap) : Cont → Val → Prop
  | arr (a : ArrId) (c : CellId) (hc : c ∈ (h.arr a).toList) : Child h (.a a) (h.get c)
  | obj (o : ObjId) (kv : Bytes × CellId) (hkv : kv ∈ h.obj o) : Child h (.o o) (h.get kv.2)

inductive Reach (h : Heap) : Cont → Cont → Prop
  | step {c d : Cont} {v : Val} (hv : Child h c v) (hd : v.cont? = some d) : Reach h c d
  | trans {c d e : Cont} (h1 : Reach h c d) (h2 : Reach h d e) : Reach h c e

def ReachV (h : Heap) (c : Cont) (v : Val) : Prop := Child h c v ∨ ∃ d, Reach h c d ∧ Child h d v

theorem ReachV.cont {h : Heap} {c d : Cont} {v : Val} (r : ReachV h c v) (hd : v.cont? = some d) :
    Reach h c d := by
  rcases r with r | ⟨e, r1, r2⟩
  · exact .step r hd
  · exact .trans r1 (.step r2 hd)

theorem ReachV.child {h : Heap} {c d : Cont} {v w : Val} (r : ReachV h c v) (hd : v.cont? = some d)
    (hw : Child h d w) : ReachV h c w := Or.inr ⟨d, r.cont hd, hw⟩

/-- values reachable from the value `v0` (including `v0` itself) -/
def RootReach (h : Heap) (v0 v : Val) : Prop := v = v0 ∨ ∃ d, v0.cont? = some d ∧ ReachV h d v

theorem RootReach.child {h : Heap} {v0 v w : Val} {d : Cont} (r : RootReach h v0 v)
    (hd : v.cont? = some d) (hw : Child h d w) : RootReach h v0 w := by
  rcases r with rfl | ⟨e, he, r⟩
  · exact Or.inr ⟨d, hd, Or.inl hw⟩
  · exact Or.inr ⟨e, he, r.child hd hw⟩

/-- JSON can express the value itself (containers: their own node) -/
def Expressible : Val → Prop
  | .fn _ | .native .. | .regex _ => False
  | .num x => x.jsonFormat ≠ none
  | _ => True

theorem GoValRes.map_eq_error {α β : Type} (f : α → β) (r : GoValRes α) (m : String)
    (e : r.map f = .error m) : r = .error m := by
  cases r <;> simp_all [GoValRes.map]

/-- Every error of the conversion has a cause among the values reachable from the start:
    "circular reference" — a container that reaches itself; any other message — a value JSON
    cannot express. -/
theorem toJVal_error_cause (h : Heap) (v0 : Val) : ∀ (n : Nat) (path : List Cont) (check : Bool) (v : Val)
    (m : String), RootReach h v0 v → (∀ c ∈ path, ReachV h c v) →
    toJVal h n path check v = .error m →
    (m = "circular reference" ∧ ∃ w c, RootReach h v0 w ∧ w.cont? = some c ∧ Reach h c c) ∨
    (m ≠ "circular reference" ∧ ∃ w, RootReach h v0 w ∧ ¬ Expressible w) := by
  intro n
  induction n with
  | zero => intro path check v m _ _ e; simp [toJVal] at e
  | succ n ih =>
    intro path check v m hroot hpath e
    by_cases hon : (check && onPath path v) = true
    · rw [toJVal.eq_def] at e
      simp only [hon, ↓reduceIte, GoValRes.error.injEq] at e
      simp only [Bool.and_eq_true] at hon
      left
      refine ⟨e.symm, ?_⟩
      cases hc : v.cont? with
      | none => simp [onPath, hc] at hon
      | some c =>
        have hmem : c ∈ path := by simpa [onPath, hc] using hon.2
        exact ⟨v, c, hroot, hc, (hpath c hmem).cont hc⟩
    · have hon' : (check && onPath path v) = false := by simpa using hon
      cases v with
      | arr a =>
        rw [toJVal_arr_unfold h n path check a (by simpa [onPath_arr] using hon')] at e
        have e' := sequence_error_mem _ _ (GoValRes.map_eq_error _ _ _ e)
        obtain ⟨c, hc, hm⟩ := List.mem_map.1 e'
        have hch : Child h (.a a) (h.get c) := .arr a c hc
        refine ih (path ++ [.a a]) true (h.get c) m (hroot.child rfl hch) ?_ hm
        intro d hd
        rcases List.mem_append.1 hd with hd | hd
        · exact (hpath d hd).child rfl hch
        · simp at hd; subst hd; exact Or.inl hch
      | obj o =>
        rw [toJVal_obj_unfold h n path check o (by simpa [onPath_obj] using hon')] at e
        have e' := sequence_error_mem _ _ (GoValRes.map_eq_error _ _ _ e)
        obtain ⟨kv, hkv, hm⟩ := List.mem_map.1 e'
        have hm' := GoValRes.map_eq_error _ _ _ hm
        have hch : Child h (.o o) (h.get kv.2) := .obj o kv ((sortByKey_perm _).mem_iff.1 hkv)
        refine ih (path ++ [.o o]) true (h.get kv.2) m (hroot.child rfl hch) ?_ hm'
        intro d hd
        rcases List.mem_append.1 hd with hd | hd
        · exact (hpath d hd).child rfl hch
        · simp at hd; subst hd; exact Or.inl hch
      | num x =>
        rw [toJVal.eq_def] at e
        simp only [hon', Bool.false_eq_true, ↓reduceIte] at e
        cases hx : x.jsonFormat with
        | some lit => simp [hx] at e
        | none =>
          simp only [hx, GoValRes.error.injEq] at e
          right
          exact ⟨by rw [← e]; decide, .num x, hroot, by simp [Expressible, hx]⟩
      | fn i =>
        rw [toJVal.eq_def] at e
        simp only [hon', Bool.false_eq_true, ↓reduceIte, GoValRes.error.injEq] at e
        right; exact ⟨by rw [← e]; decide, _, hroot, by simp [Expressible]⟩
      | native f b sp =>
        rw [toJVal.eq_def] at e
        simp only [hon', Bool.false_eq_true, ↓reduceIte, GoValRes.error.injEq] at e
        right; exact ⟨by rw [← e]; decide, _, hroot, by simp [Expressible]⟩
      | regex r =>
        rw [toJVal.eq_def] at e
        simp only [hon', Bool.false_eq_true, ↓reduceIte, GoValRes.error.injEq] at e
        right; exact ⟨by rw [← e]; decide, _, hroot, by simp [Expressible]⟩
      | str s sp => rw [toJVal.eq_def] at e; simp [hon'] at e
      | bool b => rw [toJVal.eq_def] at e; simp [hon'] at e
      | nil sp => rw [toJVal.eq_def] at e; simp [hon'] at e
      | unknown => rw [toJVal.eq_def] at e; simp [hon'] at e

theorem GoValRes.map_eq_ok {α β : Type} (f : α → β) (r : GoValRes α) (y : β)
    (e : r.map f = .ok y) : ∃ x, r = .ok x ∧ y = f x := by
  cases r <;> simp_all [GoValRes.map]

theorem toJVal_ok_not_on_path (h : Heap) (n : Nat) (path : List Cont) (check : Bool) (v : Val)
    (j : JVal) (e : toJVal h n path check v = .ok j) : (check && onPath path v) = false := by
  cases n with
  | zero => simp [toJVal] at e
  | succ n =>
    rw [toJVal.eq_def] at e
    by_cases hon : (check && onPath path v) = true
    · simp [hon] at e
    · simpa using hon

theorem toJVal_ok_child (h : Heap) (n : Nat) (path : List Cont) (check : Bool) (v : Val) (j : JVal)
    (e : toJVal h n path check v = .ok j) (d : Cont) (hd : v.cont? = some d) (w : Val)
    (hw : Child h d w) : ∃ n' j', toJVal h n' (path ++ [d]) true w = .ok j' := by
  have hon := toJVal_ok_not_on_path h n path check v j e
  cases n with
  | zero => simp [toJVal] at e
  | succ n =>
    cases v with
    | arr a =>
      simp only [Val.cont?, Option.some.injEq] at hd
      subst hd
      cases hw with
      | arr _ c hc =>
      rw [toJVal_arr_unfold h n path check a (by simpa [onPath_arr] using hon)] at e
      obtain ⟨items, hs, _⟩ := GoValRes.map_eq_ok _ _ _ e
      rw [sequence_eq_ok] at hs
      have : toJVal h n (path ++ [.a a]) true (h.get c) ∈ items.map GoValRes.ok := by
        rw [← hs]; exact List.mem_map.2 ⟨c, hc, rfl⟩
      obtain ⟨j', _, hj'⟩ := List.mem_map.1 this
      exact ⟨n, j', hj'.symm⟩
    | obj o =>
      simp only [Val.cont?, Option.some.injEq] at hd
      subst hd
      cases hw with
      | obj _ kv hkv =>
      rw [toJVal_obj_unfold h n path check o (by simpa [onPath_obj] using hon)] at e
      obtain ⟨items, hs, _⟩ := GoValRes.map_eq_ok _ _ _ e
      rw [sequence_eq_ok] at hs
      have : (toJVal h n (path ++ [.o o]) true (h.get kv.2)).map (fun j => (kv.1, j))
          ∈ items.map GoValRes.ok := by
        rw [← hs]; exact List.mem_map.2 ⟨kv, (sortByKey_perm _).mem_iff.2 hkv, rfl⟩
      obtain ⟨j', _, hj'⟩ := List.mem_map.1 this
      obtain ⟨x, hx, _⟩ := GoValRes.map_eq_ok _ _ _ hj'.symm
      exact ⟨n, x, hx⟩
    | _ => simp [Val.cont?] at hd

/-- success at a container `c` implies success (under a path containing `c`) at some value
    whose container is any `e` reachable from `c` -/
theorem toJVal_ok_reach (h : Heap) {c e : Cont} (r : Reach h c e) :
    ∀ (n : Nat) (path : List Cont) (check : Bool) (v : Val) (j : JVal),
      toJVal h n path check v = .ok j → v.cont? = some c →
      ∃ n' path' w j', (∀ x ∈ path, x ∈ path') ∧ c ∈ path' ∧ w.cont? = some e ∧
        toJVal h n' path' true w = .ok j' := by
  induction r with
  | step hv hd =>
    intro n path check v j e hc
    obtain ⟨n', j', h'⟩ := toJVal_ok_child h n path check v j e _ hc _ hv
    exact ⟨n', _, _, j', fun x hx => List.mem_append_left _ hx, by simp, hd, h'⟩
  | trans _ _ ih1 ih2 =>
    intro n path check v j e hc
    obtain ⟨n1, p1, w1, j1, hsub1, hmem1, hc1, e1⟩ := ih1 n path check v j e hc
    obtain ⟨n2, p2, w2, j2, hsub2, _, hc2, e2⟩ := ih2 n1 p1 true w1 j1 e1 hc1
    exact ⟨n2, p2, w2, j2, fun x hx => hsub2 x (hsub1 x hx), hsub2 _ hmem1, hc2, e2⟩

theorem toJVal_ok_rootReach (h : Heap) (n : Nat) (path : List Cont) (check : Bool) (v0 : Val) (j : JVal)
    (e : toJVal h n path check v0 = .ok j) (w : Val) (r : RootReach h v0 w) :
    ∃ n' path' check' j', toJVal h n' path' check' w = .ok j' := by
  rcases r with rfl | ⟨d, hd, hr⟩
  · exact ⟨n, path, check, j, e⟩
  · rcases hr with hch | ⟨d', hr, hch⟩
    · obtain ⟨n', j', h'⟩ := toJVal_ok_child h n path check v0 j e d hd w hch
      exact ⟨n', _, true, j', h'⟩
    · obtain ⟨n1, p1, w1, j1, _, _, hc1, e1⟩ := toJVal_ok_reach h hr n path check v0 j e hd
      obtain ⟨n', j', h'⟩ := toJVal_ok_child h n1 p1 true w1 j1 e1 d' hc1 w hch
      exact ⟨n', _, true, j', h'⟩

theorem toJVal_ok_expressible (h : Heap) (n : Nat) (path : List Cont) (check : Bool) (v : Val) (j : JVal)
    (e : toJVal h n path check v = .ok j) : Expressible v := by
  have hon := toJVal_ok_not_on_path h n path check v j e
  cases n with
  | zero => simp [toJVal] at e
  | succ n =>
    cases v <;> (try (simp [Expressible]; done)) <;>
      (rw [toJVal.eq_def] at e; simp only [hon, Bool.false_eq_true, ↓reduceIte] at e) <;>
      (try (simp at e; done))
    rename_i x
    simp only [Expressible]
    intro hx; simp [hx] at e

theorem toJVal_ok_acyclic (h : Heap) (n : Nat) (path : List Cont) (check : Bool) (v : Val) (j : JVal)
    (e : toJVal h n path check v = .ok j) (c : Cont) (hc : v.cont? = some c) : ¬ Reach h c c := by
  intro r
  obtain ⟨n', path', w, j', _, hmem, hcw, e'⟩ := toJVal_ok_reach h r n path check v j e hc
  have := toJVal_ok_not_on_path h n' path' true w j' e'
  simp [onPath, hcw, hmem] at this

end Jqawk
