/-
  C13, newline insertion: from program trees to runs.  `Nl.IsNlSim`: a relation between the
  states of two token sources, indexed by the ghost state, such that related states answer with
  the same tokens and newline flags related by `Nl.FlagOK`.  `Nl.run_nlsim`: then a successful
  left run is matched by a successful right run.  The flagged token list source `flagSrc` and the
  static relation `Nl.NlMoreAt` between two flagged token lists.
-/
import Jqawk.Lemmas.NewlineParser
import Jqawk.Lemmas.PrattSrc

namespace Jqawk
namespace Nl

structure IsNlSim {σ₁ σ₂ : Type} (src₁ : TokSrc σ₁) (src₂ : TokSrc σ₂)
    (Rσ : G → σ₁ → σ₂ → Prop) : Prop where
  next : ∀ g s₁ s₂, Rσ g s₁ s₂ → ∀ t nl s₁', src₁.next s₁ = .ok (t, nl, s₁') →
    ∃ nl' s₂', src₂.next s₂ = .ok (t, nl', s₂') ∧ FlagOK g t nl nl' ∧ Rσ (g.step t) s₁' s₂'
  regex : ∀ g s₁ s₂, Rσ g s₁ s₂ → ∀ t s₁', src₁.regex s₁ = .ok (t, s₁') →
    t.tag = .regex ∧ ∃ s₂', src₂.regex s₂ = .ok (t, s₂') ∧ Rσ (g.step t) s₁' s₂'

theorem run_nlsim {σ₁ σ₂ α β : Type} {src₁ : TokSrc σ₁} {src₂ : TokSrc σ₂}
    {Rσ : G → σ₁ → σ₂ → Prop} (hS : IsNlSim src₁ src₂ Rσ) {Q : G → α → β → Prop} {g : G}
    {m : PM α} {m' : PM β} (h : NSim Q g m m') {s₁ : σ₁} {s₂ : σ₂} (hs : Rσ g s₁ s₂) {a : α}
    (hr : m.runWith src₁ s₁ = .ok a) :
    ∃ g' b, m'.runWith src₂ s₂ = .ok b ∧ Q g' a b := by
  induction h generalizing s₁ s₂ with
  | pure hq =>
    simp only [PM.runWith, ParseRes.ok.injEq] at hr; subst hr
    exact ⟨_, _, rfl, hq⟩
  | failL => cases hr
  | oofL => cases hr
  | next _ ih =>
    rename_i g k k' _
    simp only [PM.runWith] at hr
    cases h₁ : src₁.next s₁ with
    | error e => rw [h₁] at hr; cases hr
    | ok r =>
      obtain ⟨t, nl, s₁'⟩ := r
      rw [h₁] at hr
      obtain ⟨nl', s₂', h₂, hfl, hs'⟩ := hS.next g s₁ s₂ hs t nl s₁' h₁
      obtain ⟨g', b, hb, hq⟩ := ih t nl nl' hfl hs' hr
      exact ⟨g', b, by simp only [PM.runWith, h₂]; exact hb, hq⟩
  | regex _ ih =>
    rename_i g k k' _
    simp only [PM.runWith] at hr
    cases h₁ : src₁.regex s₁ with
    | error e => rw [h₁] at hr; cases hr
    | ok r =>
      obtain ⟨t, s₁'⟩ := r
      rw [h₁] at hr
      obtain ⟨ht, s₂', h₂, hs'⟩ := hS.regex g s₁ s₂ hs t s₁' h₁
      obtain ⟨g', b, hb, hq⟩ := ih t ht hs' hr
      exact ⟨g', b, by simp only [PM.runWith, h₂]; exact hb, hq⟩

/-- `PS.init` has the zero token (tag `eof`) as current token -/
def G.init : G := ⟨.eof, []⟩

theorem run_nlp {α σ₁ σ₂ : Type} {m : P α} (hm : NlP (fun _ s _ => isBracket s.cur.tag = false) 0 0 m)
    {src₁ : TokSrc σ₁} {src₂ : TokSrc σ₂} {Rσ : G → σ₁ → σ₂ → Prop} (hS : IsNlSim src₁ src₂ Rσ)
    {s₁ : σ₁} {s₂ : σ₂} (hs : Rσ G.init s₁ s₂) {a : α} {st : PS}
    (hr : (m PS.init).runWith src₁ s₁ = .ok (a, st)) :
    ∃ st', (m PS.init).runWith src₂ s₂ = .ok (a, st') := by
  obtain ⟨g', ⟨a', st'⟩, hb, hq⟩ := run_nlsim hS (hm G.init PS.init PS.init (R.same rfl) rfl) hs hr
  have : a = a' := hq.2.1
  subst this
  exact ⟨st', hb⟩

/-- `next` answers with the head (the EOF token, unflagged, when the list is exhausted); `regex`
    answers with the head if it is a regex token (the list then represents a text in which the
    parser asked for a regex at this point) and fails otherwise. -/
def flagSrc : TokSrc (List (Token × Bool)) where
  next := fun ts => match ts with
    | [] => .ok (eofTok, false, [])
    | (t, nl) :: ts => .ok (t, nl, ts)
  regex := fun ts => match ts with
    | [] => .error ⟨0, "regex request at the end of a token list"⟩
    | (t, _) :: ts =>
      if t.tag = .regex then .ok (t, ts) else .error ⟨t.pos, "regex request at a non-regex token"⟩

def flagOKB (g : G) (t : Token) (nl nl' : Bool) : Bool := nl == nl' || (!nl && nl' && Allowed g t)

theorem flagOKB_iff (g : G) (t : Token) (nl nl' : Bool) : flagOKB g t nl nl' = true ↔ FlagOK g t nl nl' := by
  unfold flagOKB FlagOK
  cases nl <;> cases nl' <;> simp

def nlMoreB : G → List (Token × Bool) → List (Token × Bool) → Bool
  | _, [], [] => true
  | g, (t, nl) :: r, (t', nl') :: r' => t == t' && flagOKB g t nl nl' && nlMoreB (g.step t) r r'
  | _, _, _ => false

def NlMoreAt (g : G) (ts ts' : List (Token × Bool)) : Prop := nlMoreB g ts ts' = true

theorem nlMoreAt_nil (g : G) : NlMoreAt g [] [] := by
  unfold NlMoreAt nlMoreB; rfl

theorem nlMoreAt_cons {g : G} {t t' : Token} {nl nl' : Bool} {r r' : List (Token × Bool)}
    (h : NlMoreAt g ((t, nl) :: r) ((t', nl') :: r')) :
    t' = t ∧ FlagOK g t nl nl' ∧ NlMoreAt (g.step t) r r' := by
  unfold NlMoreAt at h; rw [nlMoreB] at h
  simp only [Bool.and_eq_true, beq_iff_eq, flagOKB_iff] at h
  exact ⟨h.1.1.symm, h.1.2, h.2⟩

theorem flagSrc_next_nlSim (g : G) (ts ts' : List (Token × Bool)) (h : NlMoreAt g ts ts') (t : Token)
    (nl : Bool) (s₁' : List (Token × Bool)) (h₁ : flagSrc.next ts = .ok (t, nl, s₁')) :
    ∃ nl' s₂', flagSrc.next ts' = .ok (t, nl', s₂') ∧ FlagOK g t nl nl' ∧ NlMoreAt (g.step t) s₁' s₂' := by
  cases ts with
  | nil =>
    cases ts' with
    | nil =>
      cases h₁
      exact ⟨false, [], rfl, .inl rfl, nlMoreAt_nil _⟩
    | cons x r' => cases (h : false = true)
  | cons x r =>
    cases ts' with
    | nil => cases (h : false = true)
    | cons x' r' =>
      obtain ⟨t₀, nl₀⟩ := x
      obtain ⟨t', nl'⟩ := x'
      cases h₁
      obtain ⟨rfl, hfl, hr⟩ := nlMoreAt_cons h
      exact ⟨nl', r', rfl, hfl, hr⟩

theorem flagSrc_isNlSim : IsNlSim flagSrc flagSrc NlMoreAt where
  next := flagSrc_next_nlSim
  regex := by
    intro g ts ts' h t s₁' h₁
    cases ts with
    | nil => cases h₁
    | cons x r =>
      cases ts' with
      | nil => cases (h : false = true)
      | cons x' r' =>
        obtain ⟨t₀, nl₀⟩ := x
        obtain ⟨t', nl'⟩ := x'
        obtain ⟨rfl, hfl, hr⟩ := nlMoreAt_cons h
        simp only [flagSrc] at h₁ ⊢
        split at h₁
        · rename_i htag
          cases h₁
          exact ⟨htag, r', by rw [if_pos htag], hr⟩
        · cases h₁

def parseFlags (tbl : RuleTable) (n : Nat) (ts : List (Token × Bool)) : ParseRes Program :=
  match (Parser.parseProgram tbl n PS.init).runWith flagSrc ts with
  | .ok (p, _) => .ok p
  | .syntaxErr e => .syntaxErr e
  | .oof => .oof

theorem parseFlags_ok_iff {tbl : RuleTable} {n : Nat} {ts : List (Token × Bool)} {p : Program} :
    parseFlags tbl n ts = .ok p ↔
      ∃ st, (Parser.parseProgram tbl n PS.init).runWith flagSrc ts = .ok (p, st) := by
  unfold parseFlags
  constructor
  · intro h
    split at h
    · rename_i p' st heq; cases h; exact ⟨st, heq⟩
    · cases h
    · cases h
  · rintro ⟨st, h⟩; rw [h]

theorem parseFlags_nlMore {tbl : RuleTable} (hT : TableOK tbl = true) (n : Nat)
    {ts ts' : List (Token × Bool)} (h : NlMoreAt G.init ts ts') {p : Program}
    (hr : parseFlags tbl n ts = .ok p) : parseFlags tbl n ts' = .ok p := by
  obtain ⟨st, hr⟩ := parseFlags_ok_iff.mp hr
  obtain ⟨st', h'⟩ := run_nlp (parseProgram_nl hT n) flagSrc_isNlSim h hr
  exact parseFlags_ok_iff.mpr ⟨st', h'⟩

end Nl
end Jqawk
