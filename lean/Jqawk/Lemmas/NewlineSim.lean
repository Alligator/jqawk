/-
  C13, newline insertion: the simulation relation between two runs of a parser program that
  receive the same tokens but possibly MORE newline flags on the right.

  A ghost state `G` (a function of the tokens delivered so far) says where a flag may be raised:
  not directly after `print`/`return`, not after a comma at print level (a comma whose innermost
  enclosing bracket frame contains a `print` directly — the frame stack is kept by the ghost),
  and not on a `;` token.  `NSim` relates program trees, `R` relates parser states (equal except
  that `didEnd` may be raised on the right, never when the current token is `;`), `Tr`/`NlP` are
  the Hoare-style triples for the state-passing layer.
-/
import Jqawk.Lemmas.PM

namespace Jqawk
namespace Nl

def applyTag (t : Tag) (stk : List Bool) : List Bool :=
  match t with
  | .lparen | .lsquare | .lcurly => false :: stk
  | .rparen | .rsquare | .rcurly => stk.tail
  | .print => match stk with
    | [] => []
    | _ :: r => true :: r
  | _ => stk

/-- the empty stack counts as marked (conservative) -/
def top : List Bool → Bool
  | [] => true
  | b :: _ => b

def isOpen (t : Tag) : Bool := t == .lparen || t == .lsquare || t == .lcurly
def isClose (t : Tag) : Bool := t == .rparen || t == .rsquare || t == .rcurly
def isBracket (t : Tag) : Bool := isOpen t || isClose t

/-- Ghost state: the tag of the parser's current token and the frame stack BEFORE that token. -/
structure G where
  cur : Tag
  stk : List Bool
  deriving DecidableEq, Repr

def G.step (g : G) (t : Token) : G := ⟨t.tag, applyTag g.cur g.stk⟩

/-- May the token `t`, delivered in ghost state `g`, carry a newline flag on the right that it
    does not carry on the left?  Not directly after `print`/`return`, not after a print-level
    comma, and not if `t` is `;`. -/
def Allowed (g : G) (t : Token) : Bool :=
  g.cur != .print && g.cur != .return_ && !(g.cur == .comma && top g.stk) && t.tag != .semiColon

def FlagOK (g : G) (t : Token) (nl nl' : Bool) : Prop :=
  nl = nl' ∨ (nl = false ∧ nl' = true ∧ Allowed g t = true)

def Le : List Bool → List Bool → Prop
  | [], [] => True
  | a :: S, b :: S' => (a = true → b = true) ∧ Le S S'
  | _, _ => False

theorem Le.refl : ∀ S, Le S S
  | [] => trivial
  | _ :: S => ⟨id, Le.refl S⟩

theorem Le.trans : ∀ {S₁ S₂ S₃}, Le S₁ S₂ → Le S₂ S₃ → Le S₁ S₃
  | [], [], [], _, _ => trivial
  | _ :: _, _ :: _, _ :: _, h₁, h₂ => ⟨fun h => h₂.1 (h₁.1 h), Le.trans h₁.2 h₂.2⟩
  | [], _ :: _, _, h, _ => h.elim
  | _ :: _, [], _, h, _ => h.elim
  | _, [], _ :: _, _, h => h.elim
  | _, _ :: _, [], _, h => h.elim

theorem Le.top : ∀ {S S'}, Le S S' → top S = true → top S' = true
  | [], [], _, _ => rfl
  | _ :: _, _ :: _, h, ht => h.1 ht
  | [], _ :: _, h, _ => h.elim
  | _ :: _, [], h, _ => h.elim

theorem Le.tail : ∀ {S S'}, Le S S' → Le S.tail S'.tail
  | [], [], _ => trivial
  | _ :: _, _ :: _, h => h.2
  | [], _ :: _, h => h.elim
  | _ :: _, [], h => h.elim

theorem Le.drop : ∀ (k : Nat) {S S' : List Bool}, Le S S' → Le (S.drop k) (S'.drop k)
  | 0, _, _, h => h
  | _ + 1, [], [], _ => trivial
  | k + 1, _ :: _, _ :: _, h => Le.drop k h.2
  | _ + 1, [], _ :: _, h => h.elim
  | _ + 1, _ :: _, [], h => h.elim

def Rel (i j : Nat) (g g' : G) : Prop := Le (g.stk.drop i) (g'.stk.drop j)

theorem Rel.refl (k : Nat) (g : G) : Rel k k g g := Le.refl _

theorem Rel.trans {i j k : Nat} {g₁ g₂ g₃ : G} (h₁ : Rel i j g₁ g₂) (h₂ : Rel j k g₂ g₃) :
    Rel i k g₁ g₃ := Le.trans h₁ h₂

theorem Rel.lift {i j : Nat} {g g' : G} (h : Rel i j g g') (k : Nat) : Rel (i + k) (j + k) g g' := by
  unfold Rel at h ⊢
  rw [← List.drop_drop, ← List.drop_drop]
  exact Le.drop k h

theorem Rel.top {g g' : G} (h : Rel 0 0 g g') (ht : top g.stk = true) : top g'.stk = true :=
  Le.top h ht

theorem applyTag_other {t : Tag} (h : isBracket t = false) (S : List Bool) : Le S (applyTag t S) := by
  cases t <;> first | exact Le.refl S | cases h | skip
  cases S with
  | nil => trivial
  | cons b r => exact ⟨fun _ => rfl, Le.refl r⟩

theorem applyTag_open {t : Tag} (h : isOpen t = true) (S : List Bool) : applyTag t S = false :: S := by
  simp only [isOpen, Bool.or_eq_true, beq_iff_eq] at h
  rcases h with (rfl | rfl) | rfl <;> rfl

theorem applyTag_close {t : Tag} (h : isClose t = true) (S : List Bool) : applyTag t S = S.tail := by
  simp only [isClose, Bool.or_eq_true, beq_iff_eq] at h
  rcases h with (rfl | rfl) | rfl <;> rfl

/-- `NSim Q g m m'`: started in ghost state `g`, the programs `m` (left) and `m'` (right) make
    the same requests as long as they receive the same tokens with flags related by `FlagOK`,
    and end in leaves related by `Q` (indexed by the final ghost state).  The left program may
    fail or run out of fuel at any point: the relation only speaks about successful left runs. -/
inductive NSim {α β : Type} (Q : G → α → β → Prop) : G → PM α → PM β → Prop
  | pure {g : G} {a : α} {b : β} : Q g a b → NSim Q g (.pure a) (.pure b)
  | failL {g : G} {e : SynErr} {m : PM β} : NSim Q g (.fail e) m
  | oofL {g : G} {m : PM β} : NSim Q g .oof m
  | next {g : G} {k : Token → Bool → PM α} {k' : Token → Bool → PM β} :
      (∀ t nl nl', FlagOK g t nl nl' → NSim Q (g.step t) (k t nl) (k' t nl')) →
      NSim Q g (.next k) (.next k')
  | regex {g : G} {k : Token → PM α} {k' : Token → PM β} :
      (∀ t, t.tag = .regex → NSim Q (g.step t) (k t) (k' t)) → NSim Q g (.regex k) (.regex k')

namespace NSim
variable {α β α₂ β₂ : Type}

theorem mono {Q Q' : G → α → β → Prop} {g : G} {m : PM α} {m' : PM β} (h : NSim Q g m m')
    (hq : ∀ g a b, Q g a b → Q' g a b) : NSim Q' g m m' := by
  induction h with
  | pure h => exact .pure (hq _ _ _ h)
  | failL => exact .failL
  | oofL => exact .oofL
  | next _ ih => exact .next ih
  | regex _ ih => exact .regex ih

theorem bind {Q : G → α → β → Prop} {Q₂ : G → α₂ → β₂ → Prop} {g : G} {m : PM α} {m' : PM β}
    {f : α → PM α₂} {f' : β → PM β₂} (h : NSim Q g m m')
    (hf : ∀ g a b, Q g a b → NSim Q₂ g (f a) (f' b)) : NSim Q₂ g (m.bind f) (m'.bind f') := by
  induction h with
  | pure h => exact hf _ _ _ h
  | failL => exact .failL
  | oofL => exact .oofL
  | next _ ih => exact .next ih
  | regex _ ih => exact .regex ih

end NSim

/-- Two parser states of the left and the right run: equal except that `didEnd` may be raised on
    the right — but then the current token is not `;`.  The ghost knows the current tag. -/
structure R (g : G) (s s' : PS) : Prop where
  cur : g.cur = s.cur.tag
  eq : s' = { s with didEnd := s'.didEnd }
  flag : s.didEnd = s'.didEnd ∨ (s.didEnd = false ∧ s'.didEnd = true ∧ s.cur.tag ≠ .semiColon)

theorem R.cur_eq {g s s'} (h : R g s s') : s'.cur = s.cur := by rw [h.eq]
theorem R.prev_eq {g s s'} (h : R g s s') : s'.prev = s.prev := by rw [h.eq]
theorem R.inFn_eq {g s s'} (h : R g s s') : s'.inFn = s.inFn := by rw [h.eq]
theorem R.inLoop_eq {g s s'} (h : R g s s') : s'.inLoop = s.inLoop := by rw [h.eq]

theorem R.same {g : G} {s : PS} (h : g.cur = s.cur.tag) : R g s s := ⟨h, rfl, .inl rfl⟩

theorem R.of_eq {g s s'} (h : R g s s') (hd : s.didEnd = s'.didEnd) : s' = s := by
  have := h.eq; rw [← hd] at this; exact this

def Tr {α : Type} (pre : G → PS → PS → Prop) (m : P α)
    (post : G → G → α × PS → α × PS → Prop) : Prop :=
  ∀ g s s', R g s s' → pre g s s' →
    NSim (fun g' x x' => R g' x.2 x'.2 ∧ post g g' x x') g (m s) (m s')

/-- the standard triple: equal results, and the frame stacks below `i` resp. `j` frames related.
    The two indices count the bracket frames the action may change: the top `i` frames of the
    ghost stack at entry are frames it closes, the top `j` frames at exit are frames it has opened
    and left open; all frames below are still there, with at most more marks (`Le`).  So consuming
    an opening bracket is `k → k + 1`, a closing bracket `k + 1 → k`, a balanced action `k → k`
    (`advance_open`, `advance_close`, `advance_other`), and triples compose like paths
    (`NlP.bind`: `i → j`, then `j → k`). -/
def NlP {α : Type} (pre : G → PS → PS → Prop) (i j : Nat) (m : P α) : Prop :=
  Tr pre m (fun g g' x x' => x.1 = x'.1 ∧ Rel i j g g')

def T : G → PS → PS → Prop := fun _ _ _ => True

namespace NlP
variable {α β : Type} {pre : G → PS → PS → Prop} {i j k : Nat}

theorem weaken {pre' : G → PS → PS → Prop} {m : P α} (h : NlP pre' i j m)
    (hp : ∀ g s s', pre g s s' → pre' g s s') : NlP pre i j m :=
  fun g s s' hR hpre => h g s s' hR (hp g s s' hpre)

theorem ofT {m : P α} (h : NlP T i j m) : NlP pre i j m := h.weaken fun _ _ _ _ => trivial

theorem lift {m : P α} (h : NlP pre i j m) (k : Nat) : NlP pre (i + k) (j + k) m :=
  fun g s s' hR hpre => (h g s s' hR hpre).mono fun _ _ _ hq => ⟨hq.1, hq.2.1, hq.2.2.lift k⟩

theorem lift00 {m : P α} (h : NlP T 0 0 m) : NlP pre k k m := by
  have := (h.lift k).ofT (pre := pre); simpa using this

theorem lift10 {m : P α} (h : NlP T 1 0 m) : NlP pre (k + 1) k m := by
  have := (h.lift k).ofT (pre := pre); simpa [Nat.add_comm] using this

theorem bind {m : P α} {f : α → P β} (hm : NlP pre i j m) (hf : ∀ a, NlP T j k (f a)) :
    NlP pre i k (m >>= f) := by
  intro g s s' hR hpre
  show NSim _ g ((m s).bind _) ((m s').bind _)
  refine (hm g s s' hR hpre).bind ?_
  rintro g₁ ⟨a, t⟩ ⟨a', t'⟩ ⟨hR₁, rfl, hrel⟩
  exact (hf a g₁ t t' hR₁ trivial).mono fun _ _ _ hq => ⟨hq.1, hq.2.1, hrel.trans hq.2.2⟩

theorem pure (a : α) : NlP pre k k (Pure.pure a : P α) :=
  fun g _ _ hR _ => .pure ⟨hR, rfl, Rel.refl k g⟩

theorem fail {pos : Nat} {msg : String} : NlP pre i j (Parser.fail pos msg : P α) :=
  fun _ _ _ _ _ => .failL

theorem oof : NlP pre i j (Parser.oof : P α) := fun _ _ _ _ _ => .oofL

theorem bind_get {f : PS → P α} (h : ∀ x, NlP (fun g s s' => pre g s s' ∧ s = x) i j (f x))
    (hf : ∀ x d, f { x with didEnd := d } = f x := by intros; rfl) :
    NlP pre i j (get >>= f) := by
  intro g s s' hR hpre
  show NSim _ g (f s s) (f s' s')
  have e : f s' = f s := by rw [hR.eq]; exact hf _ _
  rw [e]
  exact h s g s s' hR ⟨hpre, rfl⟩

theorem bind_curTag {f : Tag → P α}
    (h : ∀ t, NlP (fun g s s' => pre g s s' ∧ s.cur.tag = t) i j (f t)) :
    NlP pre i j (Parser.curTag >>= f) := by
  intro g s s' hR hpre
  show NSim _ g (f s.cur.tag s) (f s'.cur.tag s')
  rw [hR.cur_eq]
  exact h _ g s s' hR ⟨hpre, rfl⟩

theorem bind_atEnd {f : Bool → P α}
    (h : ∀ b, NlP (fun g s s' => pre g s s' ∧ (s.cur.tag == .eof) = b) i j (f b)) :
    NlP pre i j (Parser.atEnd >>= f) := by
  intro g s s' hR hpre
  show NSim _ g (f (s.cur.tag == .eof) s) (f (s'.cur.tag == .eof) s')
  rw [hR.cur_eq]
  exact h _ g s s' hR ⟨hpre, rfl⟩

theorem modify {f : PS → PS} (hcur : ∀ x, (f x).cur = x.cur := by intros; rfl)
    (hd : ∀ x, (f x).didEnd = x.didEnd := by intros; rfl)
    (hf : ∀ x d, f { x with didEnd := d } = { f x with didEnd := d } := by intros; rfl) :
    NlP pre k k (modify f : P Unit) := by
  intro g s s' hR _
  refine .pure ⟨⟨?_, ?_, ?_⟩, rfl, Rel.refl k g⟩
  · show g.cur = (f s).cur.tag
    rw [hcur]; exact hR.cur
  · show f s' = { f s with didEnd := (f s').didEnd }
    rw [hd, hR.eq, hf]
  · show (f s).didEnd = (f s').didEnd ∨ _
    rw [hd, hd, hcur]; exact hR.flag

theorem setDidEnd (b : Bool) : NlP pre k k (Parser.setDidEnd b) := by
  intro g s s' hR _
  refine .pure ⟨⟨hR.cur, ?_, .inl rfl⟩, rfl, Rel.refl k g⟩
  show { s' with didEnd := b } = { s with didEnd := b }
  rw [hR.eq]

theorem advance_gen {g : G} {s s' : PS} (hR : R g s s') :
    NSim (fun g' (x x' : Unit × PS) => R g' x.2 x'.2 ∧ x.2.prev = s.cur ∧
        g'.stk = applyTag s.cur.tag g.stk ∧
        (Allowed g x.2.cur = false → x.2.didEnd = x'.2.didEnd)) g
      (Parser.advance s) (Parser.advance s') := by
  refine .next fun t nl nl' hfl => .pure ⟨⟨rfl, ?_, ?_⟩, rfl, ?_, ?_⟩
  · show ({ s' with prev := s'.cur, cur := t, didEnd := nl' } : PS) =
      { s with prev := s.cur, cur := t, didEnd := nl' }
    rw [hR.eq]
  · show nl = nl' ∨ (nl = false ∧ nl' = true ∧ t.tag ≠ .semiColon)
    rcases hfl with h | ⟨h1, h2, h3⟩
    · exact .inl h
    · refine .inr ⟨h1, h2, ?_⟩
      simp only [Allowed, Bool.and_eq_true, bne_iff_ne] at h3
      exact h3.2
  · show applyTag g.cur g.stk = _
    rw [hR.cur]
  · intro ha
    show nl = nl'
    rcases hfl with h | ⟨_, _, h3⟩
    · exact h
    · change Allowed g t = true at h3; rw [ha] at h3; cases h3

theorem advance_rel {p : Tag → Prop}
    (h : ∀ t S, p t → Le (S.drop i) ((applyTag t S).drop j)) :
    NlP (fun _ s _ => p s.cur.tag) i j Parser.advance := by
  intro g s s' hR hpre
  refine (advance_gen hR).mono fun g' x x' hq => ⟨hq.1, rfl, ?_⟩
  unfold Rel; rw [hq.2.2.1]; exact h _ _ hpre

theorem advance_other : NlP (fun _ s _ => isBracket s.cur.tag = false) k k Parser.advance :=
  advance_rel (p := (isBracket · = false)) fun _ S h => Le.drop k (applyTag_other h S)

theorem advance_open : NlP (fun _ s _ => isOpen s.cur.tag = true) k (k + 1) Parser.advance :=
  advance_rel (p := (isOpen · = true)) fun _ S h => by rw [applyTag_open h]; exact Le.refl _

theorem advance_close : NlP (fun _ s _ => isClose s.cur.tag = true) (k + 1) k Parser.advance :=
  advance_rel (p := (isClose · = true)) fun _ S h => by
    rw [applyTag_close h, List.drop_tail]; exact Le.refl _

theorem consume_of {p : Tag → Prop} (hadv : NlP (fun _ s _ => p s.cur.tag) i j Parser.advance)
    (tag : Tag) (h : p tag) : NlP pre i j (Parser.consume tag) := by
  unfold Parser.consume
  refine bind_get fun x => ?_
  split
  · rename_i hx
    refine hadv.weaken ?_
    rintro g s s' ⟨_, rfl⟩
    rw [beq_iff_eq.mp hx]; exact h
  · exact fail

theorem consume_other (tag : Tag) (h : isBracket tag = false) : NlP pre k k (Parser.consume tag) :=
  consume_of (p := (isBracket · = false)) advance_other tag h

theorem consume_open (tag : Tag) (h : isOpen tag = true) : NlP pre k (k + 1) (Parser.consume tag) :=
  consume_of (p := (isOpen · = true)) advance_open tag h

theorem consume_close (tag : Tag) (h : isClose tag = true) : NlP pre (k + 1) k (Parser.consume tag) :=
  consume_of (p := (isClose · = true)) advance_close tag h

theorem consumeOf (tags : List Tag) (h : ∀ t ∈ tags, isBracket t = false) :
    NlP pre k k (Parser.consumeOf tags) := by
  unfold Parser.consumeOf
  refine bind_get fun x => ?_
  split
  · rename_i hx
    refine advance_other.weaken ?_
    rintro g s s' ⟨_, rfl⟩
    exact h _ (List.contains_iff_mem.mp hx)
  · exact fail

theorem consumeIgnore (tag : Tag) (h : isBracket tag = false) :
    NlP pre k k (Parser.consumeIgnore tag) := by
  unfold Parser.consumeIgnore
  refine bind_get fun x => ?_
  split
  · rename_i hx
    refine advance_other.weaken ?_
    rintro g s s' ⟨_, rfl⟩
    rw [beq_iff_eq] at hx; rw [hx]; exact h
  · exact pure ()

end NlP

end Nl
end Jqawk
