/-
  C13, newline insertion: every function of the parser respects the relation of
  Lemmas/NewlineSim.lean — run on the same tokens with newline flags raised on the right only
  where `Nl.Allowed` permits, the right run succeeds with the same result whenever the left run
  does (`Nl.AllNl`, `Nl.parseProgram_nl`).

  The flag `didEnd` is read only by `atStatementEnd`; its four call sites (after `return`, in the
  `print` argument loop, after the `print` arguments, after a statement of a block) need the
  lemmas of the first section; everywhere else the proof follows the program text, one lemma of
  Lemmas/NewlineSim.lean per action.
-/
import Jqawk.Lemmas.NewlineSim

namespace Jqawk
namespace Nl
open Parser

variable {α β : Type}

theorem ase_eval (s : PS) : atStatementEnd s =
    if s.didEnd = true then .pure (true, s)
    else if s.cur.tag = .rcurly then .pure (true, s)
    else if s.cur.tag = .semiColon then (advance s).bind fun x => .pure (true, x.2)
    else .pure (false, s) := by
  unfold atStatementEnd
  show (if s.didEnd = true then _ else _ : P Bool) s = _
  split
  · rfl
  · generalize s.cur.tag = t
    cases t <;> rfl

/-- the only possible disagreement: `false` on the left, `true` on the right, and then nothing was
    consumed -/
theorem ase {g : G} {s s' : PS} (hR : R g s s') :
    NSim (fun g' (x x' : Bool × PS) => R g' x.2 x'.2 ∧ Rel 0 0 g g' ∧
        (s.didEnd = s'.didEnd → x.1 = x'.1) ∧
        (x.1 = x'.1 ∨ (x.1 = false ∧ x'.1 = true ∧ x.2.didEnd = false ∧ x'.2.didEnd = true))) g
      (atStatementEnd s) (atStatementEnd s') := by
  rw [ase_eval, ase_eval]
  rcases hR.flag with hd | ⟨h1, h2, h3⟩
  · have := hR.of_eq hd; subst this
    split
    · exact .pure ⟨hR, Rel.refl 0 g, fun _ => rfl, .inl rfl⟩
    · split
      · exact .pure ⟨hR, Rel.refl 0 g, fun _ => rfl, .inl rfl⟩
      · split
        · rename_i hsemi
          refine (NlP.advance_gen hR).bind ?_
          rintro g₁ ⟨_, t⟩ ⟨_, t'⟩ ⟨hR₁, _, hstk, _⟩
          refine .pure ⟨hR₁, ?_, fun _ => rfl, .inl rfl⟩
          show Le g.stk g₁.stk
          rw [hstk, hsemi]; exact Le.refl _
        · exact .pure ⟨hR, Rel.refl 0 g, fun _ => rfl, .inl rfl⟩
  · rw [if_neg (by rw [h1]; decide), if_pos h2, if_neg h3]
    split
    · exact .pure ⟨hR, Rel.refl 0 g, fun _ => rfl, .inl rfl⟩
    · exact .pure ⟨hR, Rel.refl 0 g, (fun h => by rw [h1, h2] at h; cases h), .inr ⟨rfl, rfl, h1, h2⟩⟩

def PrePL : G → PS → PS → Prop := fun g s s' => s.didEnd = s'.didEnd ∧ top g.stk = true

def PreTop : G → PS → PS → Prop := fun g _ _ => top g.stk = true

theorem NlP.bindS {pre pre₂ : G → PS → PS → Prop} {i j k : Nat} {m : P α} {f : α → P β}
    (hm : Tr pre m (fun g g' x x' => x.1 = x'.1 ∧ Rel i j g g' ∧ pre₂ g' x.2 x'.2))
    (hf : ∀ a, NlP pre₂ j k (f a)) : NlP pre i k (m >>= f) := by
  intro g s s' hR hpre
  show NSim _ g ((m s).bind _) ((m s').bind _)
  refine (hm g s s' hR hpre).bind ?_
  rintro g₁ ⟨a, t⟩ ⟨a', t'⟩ ⟨hR₁, rfl, hrel, hp₂⟩
  exact (hf a g₁ t t' hR₁ hp₂).mono fun _ _ _ hq => ⟨hq.1, hq.2.1, hrel.trans hq.2.2⟩

theorem NlP.keepTop {m : P α} (h : NlP T 0 0 m) :
    Tr PreTop m (fun g g' x x' => x.1 = x'.1 ∧ Rel 0 0 g g' ∧ PreTop g' x.2 x'.2) :=
  fun g s s' hR hpre => (h g s s' hR trivial).mono fun _ _ _ hq =>
    ⟨hq.1, hq.2.1, hq.2.2, hq.2.2.top hpre⟩

theorem ase_eq : Tr PrePL atStatementEnd
    (fun g g' x x' => x.1 = x'.1 ∧ Rel 0 0 g g' ∧ PreTop g' x.2 x'.2) :=
  fun _ _ _ hR hpre => (ase hR).mono fun _ _ _ hq =>
    ⟨hq.1, hq.2.2.1 hpre.1, hq.2.1, hq.2.1.top hpre.2⟩

theorem consume_strict (tag : Tag) (h : tag = .print ∨ tag = .return_) :
    Tr T (consume tag) (fun g g' x x' => x.1 = x'.1 ∧ Rel 0 0 g g' ∧
      (x.2.didEnd = x'.2.didEnd ∧ (tag = .print → top g'.stk = true))) := by
  intro g s s' hR _
  unfold consume
  show NSim _ g ((if (s.cur.tag == tag) = true then advance else _ : P Unit) s)
    ((if (s'.cur.tag == tag) = true then advance else _ : P Unit) s')
  rw [hR.cur_eq]
  split
  · rename_i hx
    rw [beq_iff_eq] at hx
    refine (NlP.advance_gen hR).mono fun g' x x' hq => ⟨hq.1, rfl, ?_, hq.2.2.2 ?_, ?_⟩
    · show Le g.stk g'.stk
      rw [hq.2.2.1, hx]
      exact applyTag_other (by rcases h with rfl | rfl <;> rfl) _
    · simp only [Allowed, hR.cur, hx]
      rcases h with rfl | rfl <;> rfl
    · rintro rfl
      rw [hq.2.2.1, hx]
      cases g.stk <;> rfl
  · exact .failL

theorem Tr.mono {pre pre' : G → PS → PS → Prop} {m : P α}
    {post post' : G → G → α × PS → α × PS → Prop} (h : Tr pre m post)
    (hpre : ∀ g s s', pre' g s s' → pre g s s')
    (hpost : ∀ g g' x x', post g g' x x' → post' g g' x x') : Tr pre' m post' :=
  fun g s s' hR hp => (h g s s' hR (hpre g s s' hp)).mono fun _ _ _ hq => ⟨hq.1, hpost _ _ _ _ hq.2⟩

def PreEq : G → PS → PS → Prop := fun _ s s' => s.didEnd = s'.didEnd

theorem consume_print {pre : G → PS → PS → Prop} : Tr pre (consume .print)
    (fun g g' x x' => x.1 = x'.1 ∧ Rel 0 0 g g' ∧ PrePL g' x.2 x'.2) :=
  (consume_strict .print (.inl rfl)).mono (fun _ _ _ _ => trivial)
    fun _ _ _ _ h => ⟨h.1, h.2.1, h.2.2.1, h.2.2.2 rfl⟩

theorem consume_return {pre : G → PS → PS → Prop} : Tr pre (consume .return_)
    (fun g g' x x' => x.1 = x'.1 ∧ Rel 0 0 g g' ∧ PreEq g' x.2 x'.2) :=
  (consume_strict .return_ (.inr rfl)).mono (fun _ _ _ _ => trivial)
    fun _ _ _ _ h => ⟨h.1, h.2.1, h.2.2.1⟩

theorem consume_comma_strict :
    Tr (fun g s s' => PreTop g s s' ∧ s.cur.tag = .comma) (consume .comma)
      (fun g g' x x' => x.1 = x'.1 ∧ Rel 0 0 g g' ∧ PrePL g' x.2 x'.2) := by
  intro g s s' hR hpre
  unfold consume
  show NSim _ g ((if (s.cur.tag == Tag.comma) = true then advance else _ : P Unit) s)
    ((if (s'.cur.tag == Tag.comma) = true then advance else _ : P Unit) s')
  rw [hR.cur_eq]
  split
  · have hstk : ∀ g' : G, g'.stk = applyTag s.cur.tag g.stk → g'.stk = g.stk := by
      intro g' h; rw [h, hpre.2]; rfl
    refine (NlP.advance_gen hR).mono fun g' x x' hq => ⟨hq.1, rfl, ?_, hq.2.2.2 ?_, ?_⟩
    · show Le g.stk g'.stk
      rw [hstk g' hq.2.2.1]; exact Le.refl _
    · have ht : top g.stk = true := hpre.1
      simp [Allowed, hR.cur, hpre.2, ht]
    · show top g'.stk = true
      rw [hstk g' hq.2.2.1]; exact hpre.1
  · exact .failL

theorem ase_bind {pre : G → PS → PS → Prop} {k : Nat} {f : Bool → P α}
    (hf : ∀ b, NlP T 0 k (f b))
    (hmis : ∀ g s s', R g s s' → s.didEnd = false → s'.didEnd = true →
      NSim (fun g' x x' => R g' x.2 x'.2 ∧ x.1 = x'.1 ∧ Rel 0 k g g') g (f false s) (f true s')) :
    NlP pre 0 k (atStatementEnd >>= f) := by
  intro g s s' hR _
  show NSim _ g ((atStatementEnd s).bind _) ((atStatementEnd s').bind _)
  refine (ase hR).bind ?_
  rintro g₁ ⟨b, t⟩ ⟨b', t'⟩ ⟨hR₁, hrel, _, hb⟩
  rcases hb with hb | ⟨hb1, hb2, hd1, hd2⟩
  · dsimp only at hb; subst hb
    exact (hf b g₁ t t' hR₁ trivial).mono fun _ _ _ hq => ⟨hq.1, hq.2.1, hrel.trans hq.2.2⟩
  · dsimp only at hb1 hb2 hd1 hd2; subst hb1 hb2
    exact (hmis g₁ t t' hR₁ hd1 hd2).mono fun _ _ _ hq => ⟨hq.1, hq.2.1, hrel.trans hq.2.2⟩

theorem ase_bind_eq {k : Nat} {f : Bool → P α} (hf : ∀ b, NlP T 0 k (f b)) :
    NlP PreEq 0 k (atStatementEnd >>= f) := by
  intro g s s' hR hpre
  show NSim _ g ((atStatementEnd s).bind _) ((atStatementEnd s').bind _)
  refine (ase hR).bind ?_
  rintro g₁ ⟨b, t⟩ ⟨b', t'⟩ ⟨hR₁, hrel, hb, _⟩
  have hb := hb hpre
  dsimp only at hb; subst hb
  exact (hf b g₁ t t' hR₁ trivial).mono fun _ _ _ hq => ⟨hq.1, hq.2.1, hrel.trans hq.2.2⟩

theorem regexPrefix_nl {k : Nat} :
    NlP (fun _ s _ => isBracket s.cur.tag = false) k k regexPrefix := by
  intro g s s' hR hpre
  unfold regexPrefix
  refine .regex fun t ht => .next fun t₂ nl nl' hfl => .pure ⟨⟨rfl, ?_, ?_⟩, rfl, ?_⟩
  · show ({ s' with cur := t₂, prev := t, didEnd := nl' } : PS) =
      { s with cur := t₂, prev := t, didEnd := nl' }
    rw [hR.eq]
  · show nl = nl' ∨ (nl = false ∧ nl' = true ∧ t₂.tag ≠ .semiColon)
    rcases hfl with h | ⟨h1, h2, h3⟩
    · exact .inl h
    · refine .inr ⟨h1, h2, ?_⟩
      simp only [Allowed, Bool.and_eq_true, bne_iff_ne] at h3
      exact h3.2
  · have : Rel 0 0 g ((g.step t).step t₂) := by
      show Le g.stk (applyTag t.tag (applyTag g.cur g.stk))
      rw [ht, hR.cur]
      exact applyTag_other hpre _
    simpa using this.lift k

/-- The rule table never lets a bracket token be consumed as a literal, a unary/binary/assignment/
    postfix operator or the opening of a regex (brackets are consumed by `consume` of the
    specific tag only), so that the ghost's frame stack follows the parser's nesting. -/
def TableOK (tbl : RuleTable) : Bool :=
  [Tag.lparen, .rparen, .lsquare, .rsquare, .lcurly, .rcurly].all fun tag =>
    let r := lookupRule tbl tag
    r.pre != some .literal && r.pre != some .unary && r.pre != some .regex &&
    r.inf != some .binary && r.inf != some .assign && r.inf != some .postfixOp

theorem isBracket_mem {tag : Tag} (hb : isBracket tag = true) :
    tag ∈ [Tag.lparen, .rparen, .lsquare, .rsquare, .lcurly, .rcurly] := by
  simp only [isBracket, isOpen, isClose, Bool.or_eq_true, beq_iff_eq] at hb
  rcases hb with (((rfl | rfl) | rfl) | ((rfl | rfl) | rfl)) <;> decide

theorem TableOK.pre {tbl : RuleTable} (h : TableOK tbl = true) {tag : Tag} {pk : PrefixKind}
    (hl : (lookupRule tbl tag).pre = some pk) (hpk : pk = .literal ∨ pk = .unary ∨ pk = .regex) :
    isBracket tag = false := by
  cases hb : isBracket tag with
  | false => rfl
  | true =>
    have := List.all_eq_true.mp h tag (isBracket_mem hb)
    simp only [hl, Bool.and_eq_true, bne_iff_ne, ne_eq, Option.some.injEq] at this
    rcases hpk with rfl | rfl | rfl
    · exact absurd rfl this.1.1.1.1.1
    · exact absurd rfl this.1.1.1.1.2
    · exact absurd rfl this.1.1.1.2

theorem TableOK.inf {tbl : RuleTable} (h : TableOK tbl = true) {tag : Tag} {ik : InfixKind}
    (hl : (lookupRule tbl tag).inf = some ik) (hik : ik = .binary ∨ ik = .assign ∨ ik = .postfixOp) :
    isBracket tag = false := by
  cases hb : isBracket tag with
  | false => rfl
  | true =>
    have := List.all_eq_true.mp h tag (isBracket_mem hb)
    simp only [hl, Bool.and_eq_true, bne_iff_ne, ne_eq, Option.some.injEq] at this
    rcases hik with rfl | rfl | rfl
    · exact absurd rfl this.1.1.2
    · exact absurd rfl this.1.2
    · exact absurd rfl this.2

example : TableOK expectedRuleTable = true := by decide

/-- the induction hypothesis of this file: every parser function is balanced (`0 → 0`), most under
    the trivial precondition; `exprList` is `1 → 0` because the list ends by consuming the closing
    bracket of a frame its caller opened -/
structure AllNl (tbl : RuleTable) (n : Nat) : Prop where
  statement : NlP T 0 0 (statement tbl n)
  loopBody : NlP T 0 0 (loopBody tbl n)
  block : NlP T 0 0 (block tbl n)
  blockLoop : ∀ acc, NlP T 0 0 (blockLoop tbl n acc)
  printStatement : NlP T 0 0 (printStatement tbl n)
  printLoop : ∀ acc, NlP PrePL 0 0 (printLoop tbl n acc)
  expressionWithPrec : ∀ prec, NlP T 0 0 (expressionWithPrec tbl n prec)
  infixLoop : ∀ prec lhs, NlP T 0 0 (infixLoop tbl n prec lhs)
  prefixFn : ∀ pk, NlP (fun _ s _ => (lookupRule tbl s.cur.tag).pre = some pk) 0 0 (prefixFn tbl n pk)
  exprList : ∀ endTag acc, isClose endTag = true → NlP T 1 0 (exprList tbl n endTag acc)
  objectLoop : ∀ acc, NlP T 0 0 (objectLoop tbl n acc)
  matchCases : ∀ acc, NlP T 0 0 (matchCases tbl n acc)
  matchPats : ∀ acc, NlP T 0 0 (matchPats tbl n acc)
  infixFn : ∀ ik left,
    NlP (fun _ s _ => (lookupRule tbl s.cur.tag).inf = some ik) 0 0 (infixFn tbl n ik left)

variable {tbl : RuleTable} {n : Nat} {pre : G → PS → PS → Prop} {k : Nat}

theorem allNl (hT : TableOK tbl = true) : ∀ n, AllNl tbl n
  | 0 => by constructor <;> intros <;> exact NlP.oof
  | n + 1 => by
    have ih := allNl hT n
    have expr : ∀ {pre k} prec, NlP pre k k (expressionWithPrec tbl n prec) :=
      fun prec => .lift00 (ih.expressionWithPrec prec)
    exact {
      statement := by
        have cond : ∀ {α} {K : Expr → P α}, (∀ c, NlP T 0 0 (K c)) → NlP T 0 0 (do
            consume .lparen
            let c ← expressionWithPrec tbl n Prec.assign
            consume .rparen
            K c) := fun hK =>
          .bind (.consume_open .lparen rfl) fun _ => .bind (expr _) fun c =>
            .bind (.consume_close .rparen rfl) fun _ => hK c
        unfold statement
        refine .bind (.setDidEnd _) fun _ => .bind_get fun s => ?_
        split
        · exact .lift00 ih.printStatement
        · split
          · exact .fail
          · refine NlP.bindS consume_return fun _ => ase_bind_eq fun b => ?_
            split
            · exact .bind (expr _) fun _ => .pure _
            · exact .bind (.setDidEnd _) fun _ => .pure _
        · refine .bind (.consume_other .if_ rfl) fun _ => cond fun c => ?_
          refine .bind (.lift00 ih.statement) fun body => .bind_curTag fun t => ?_
          split
          · exact .bind (.consume_other .else_ rfl) fun _ => .bind (.lift00 ih.statement) fun _ =>
            .pure _
          · exact .pure _
        · refine .bind (.consume_other .while_ rfl) fun _ => cond fun c => ?_
          exact .bind (.lift00 ih.loopBody) fun _ => .pure _
        · refine .bind (.consume_other .for_ rfl) fun _ =>
          .bind (.consume_open .lparen rfl) fun _ => ?_
          refine .bind (expr _) fun pre => .bind_curTag fun t => ?_
          split
          · refine .bind (j := 1) ?_ fun idx => .bind (.consumeIgnore .in_ rfl) fun _ => ?_
            · split
              · refine .bind (.consume_other .comma rfl) fun _ =>
                .bind (.consume_other .ident rfl) fun _ => ?_
                exact .bind_get fun _ => .pure _
              · exact .pure _
            · refine .bind (expr _) fun _ => .bind (.consume_close .rparen rfl) fun _ => ?_
              exact .bind (.lift00 ih.loopBody) fun _ => .pure _
          · refine .bind (.consume_other .semiColon rfl) fun _ => .bind (expr _) fun _ => ?_
            refine .bind (.consume_other .semiColon rfl) fun _ => .bind (expr _) fun _ => ?_
            refine .bind (.consume_close .rparen rfl) fun _ => ?_
            exact .bind (.lift00 ih.loopBody) fun _ => .pure _
        · exact .lift00 ih.block
        · split
          · exact .fail
          · exact .bind (.consume_other .break_ rfl) fun _ => .bind_get fun _ => .pure _
        · split
          · exact .fail
          · exact .bind (.consume_other .continue_ rfl) fun _ => .bind_get fun _ => .pure _
        · exact .bind (.consume_other .next rfl) fun _ => .bind_get fun _ => .pure _
        · exact .bind (.consume_other .exit rfl) fun _ => .bind_get fun _ => .pure _
        · exact .bind (expr _) fun _ => .pure _
      loopBody := by
        unfold loopBody
        refine .bind_get fun s => ?_
        refine .bind .modify fun _ => ?_
        refine .bind (.lift00 ih.statement) fun body => ?_
        exact .bind .modify fun _ => .pure _
      block := by
        unfold block
        refine .bind (.consume_open .lcurly rfl) fun _ => ?_
        refine .bind_get fun s => ?_
        refine .bind (.lift00 (ih.blockLoop _)) fun body => ?_
        refine .bind (.consume_close .rcurly rfl) fun _ => ?_
        exact .bind (.setDidEnd _) fun _ => .pure _
      blockLoop := fun acc => by
        unfold blockLoop
        refine .bind_curTag fun t => ?_
        split
        · exact .pure _
        · refine .bind (.lift00 ih.statement) fun st =>
            ase_bind (fun b => ?_) fun _ _ _ _ _ _ => .failL
          split
          · exact .bind_get fun _ => .fail
          · exact .lift00 (ih.blockLoop _)
      printStatement := by
        unfold printStatement
        refine NlP.bindS consume_print fun _ => .bind_get fun x => ?_
        refine .bind (j := 0) ((ih.printLoop _).weaken fun _ _ _ h => h.1) fun r => ?_
        obtain ⟨args, ended⟩ := r
        have htrue : NlP T 0 0 (do setDidEnd true; pure (Stmt.print x.prev args) : P Stmt) :=
          .bind (.setDidEnd _) fun _ => .pure _
        refine ase_bind (fun b => ?_) fun g s s' hR h1 h2 => ?_
        · dsimp only
          split
          · exact htrue
          · exact .pure _
        · cases ended with
          | true => exact htrue g s s' hR trivial
          | false =>
            -- left: the statement has not ended; right: it has, and `didEnd` is set
            refine .pure ⟨⟨hR.cur, ?_, .inr ⟨h1, rfl, ?_⟩⟩, rfl, Rel.refl 0 g⟩
            · show ({ s' with didEnd := true } : PS) = { s with didEnd := true }
              rw [hR.eq]
            · rcases hR.flag with h | h
              · rw [h1, h2] at h; cases h
              · exact h.2.2
      printLoop := fun acc => by
        unfold printLoop
        refine NlP.bindS ase_eq fun b => ?_
        split
        · exact .pure _
        · refine NlP.bindS (NlP.keepTop (ih.expressionWithPrec _)) fun e => .bind_curTag fun t => ?_
          split
          · rename_i ht
            rw [beq_iff_eq] at ht; subst ht
            exact NlP.bindS consume_comma_strict fun _ => ih.printLoop _
          · exact .pure _
      expressionWithPrec := fun prec => by
        unfold expressionWithPrec
        refine .bind_get fun s => ?_
        split
        · exact .fail
        · rename_i pk h
          refine .bind ((ih.prefixFn pk).weaken ?_) fun lhs => .lift00 (ih.infixLoop _ _)
          rintro g s s' ⟨_, rfl⟩; exact h
      infixLoop := fun prec lhs => by
        unfold infixLoop
        refine .bind_get fun s => ?_
        dsimp only
        split
        · split
          · exact .fail
          · rename_i ik h
            refine .bind ((ih.infixFn ik lhs).weaken ?_) fun lhs' => .lift00 (ih.infixLoop _ _)
            rintro g s s' ⟨_, rfl⟩; exact h
        · exact .pure _
      prefixFn := fun pk => by
        have adv : ∀ {k}, pk = .literal ∨ pk = .unary ∨ pk = .regex →
            NlP (fun _ s _ => (lookupRule tbl s.cur.tag).pre = some pk) k k advance := fun hpk =>
          NlP.advance_other.weaken fun _ _ _ h => TableOK.pre hT h hpk
        unfold prefixFn
        split
        · exact .bind (adv (.inl rfl)) fun _ => .bind_get fun _ => .pure _
        · exact regexPrefix_nl.weaken fun _ _ _ h => TableOK.pre hT h (.inr (.inr rfl))
        · refine .bind_get fun s => ?_
          split
          · rename_i h
            refine .bind (NlP.advance_other.weaken ?_) fun _ => .bind_get fun _ => .pure _
            rintro g s s' ⟨_, rfl⟩
            simp only [Bool.or_eq_true, beq_iff_eq] at h
            rcases h with h | h <;> rw [h] <;> rfl
          · exact .fail
        · refine .bind (.consume_open .lsquare rfl) fun _ => .bind_get fun _ => ?_
          exact .bind (.lift10 (ih.exprList _ _ rfl)) fun _ => .pure _
        · refine .bind (.consume_open .lcurly rfl) fun _ => .bind_get fun _ => ?_
          refine .bind (.lift00 (ih.objectLoop _)) fun _ => ?_
          exact .bind (.consume_close .rcurly rfl) fun _ => .pure _
        · refine .bind (.consume_open .lparen rfl) fun _ => .bind (expr _) fun _ => ?_
          exact .bind (.consume_close .rparen rfl) fun _ => .pure _
        · refine .bind (adv (.inr (.inl rfl))) fun _ => .bind_get fun _ => ?_
          refine .bind (expr _) fun e => ?_
          split
          · exact .fail
          · exact .pure _
        · refine .bind (.consume_other .match_ rfl) fun _ => .bind_get fun _ => ?_
          refine .bind (.consume_open .lparen rfl) fun _ => .bind (expr _) fun _ => ?_
          refine .bind (.consume_close .rparen rfl) fun _ =>
            .bind (.consume_open .lcurly rfl) fun _ => ?_
          refine .bind (.lift00 (ih.matchCases _)) fun _ =>
            .bind (.consume_close .rcurly rfl) fun _ => ?_
          exact .bind (.setDidEnd _) fun _ => .pure _
      exprList := fun endTag acc hend => by
        unfold exprList
        refine .bind_curTag fun t => ?_
        split
        · exact .bind (.consume_close endTag hend) fun _ => .pure _
        · refine .bind (expr _) fun e => .bind_curTag fun t => ?_
          split
          · exact .bind (.consume_other .comma rfl) fun _ => .lift10 (ih.exprList _ _ hend)
          · exact .bind (.consume_close endTag hend) fun _ => .pure _
      objectLoop := fun acc => by
        unfold objectLoop
        refine .bind_curTag fun t => ?_
        split
        · exact .pure _
        · refine .bind (.consumeOf _ (by decide)) fun _ => .bind_get fun s => ?_
          refine .bind (.consume_other .colon rfl) fun _ => .bind (expr _) fun v => ?_
          refine .bind_curTag fun t => ?_
          split
          · exact .bind (.consume_other .comma rfl) fun _ => .lift00 (ih.objectLoop _)
          · exact .lift00 (ih.objectLoop _)
      matchCases := fun acc => by
        unfold matchCases
        refine .bind_curTag fun t => ?_
        split
        · exact .pure _
        · refine .bind (.lift00 (ih.matchPats _)) fun pats =>
          .bind (.consume_other .arrow rfl) fun _ => ?_
          refine .bind_curTag fun t => .bind (j := 0) ?_ fun body => .bind_curTag fun t => ?_
          · split
            · exact .lift00 ih.statement
            · exact .bind (expr _) fun _ => .pure _
          · split
            · rename_i ht
              refine .bind (NlP.advance_other.weaken ?_) fun _ => .lift00 (ih.matchCases _)
              rintro g s s' ⟨_, h⟩
              rw [h, beq_iff_eq.mp ht]; rfl
            · exact .lift00 (ih.matchCases _)
      matchPats := fun acc => by
        unfold matchPats
        refine .bind_atEnd fun b => ?_
        split
        · exact .pure _
        · refine .bind (expr _) fun e => .bind_curTag fun t => ?_
          split
          · exact .pure _
          · exact .bind (.consume_other .comma rfl) fun _ => .lift00 (ih.matchPats _)
      infixFn := fun ik left => by
        have adv : ∀ {k}, ik = .binary ∨ ik = .assign ∨ ik = .postfixOp →
            NlP (fun _ s _ => (lookupRule tbl s.cur.tag).inf = some ik) k k advance := fun hik =>
          NlP.advance_other.weaken fun _ _ _ h => TableOK.inf hT h hik
        unfold infixFn
        split
        · refine .bind_get fun _ => .bind (.consume_open .lsquare rfl) fun _ => ?_
          refine .bind (expr _) fun _ => .bind (.consume_close .rsquare rfl) fun _ => .pure _
        · refine .bind (.consume_other .dot rfl) fun _ => .bind_get fun _ => ?_
          exact .bind (.consume_other .ident rfl) fun _ => .bind_get fun _ => .pure _
        · exact .bind (.consume_open .lparen rfl) fun _ =>
          .bind (.lift10 (ih.exprList _ _ rfl)) fun _ => .pure _
        · split
          · exact .fail
          · exact .bind (adv (.inr (.inr rfl))) fun _ => .bind_get fun _ => .pure _
        · refine .bind (adv (.inl rfl)) fun _ => .bind_get fun _ => ?_
          exact .bind (expr _) fun _ => .pure _
        · refine .bind (.consume_other .is rfl) fun _ => .bind_get fun _ => ?_
          exact .bind (.consumeOf _ (by decide)) fun _ => .bind_get fun _ => .pure _
        · split
          · exact .fail
          · refine .bind (adv (.inr (.inl rfl))) fun _ => .bind_get fun _ => ?_
            refine .bind (expr _) fun _ => ?_
            split
            · exact .pure _
            · exact .pure _ }

theorem parseRule_nl (ih : AllNl tbl n) : NlP T 0 0 (parseRule tbl n) := by
  unfold parseRule
  refine .bind_curTag fun t => .bind (j := 0) ?_ fun r => .bind_curTag fun t => ?_
  · split
    · exact .bind (.consume_other .begin_ rfl) fun _ => .pure _
    · exact .bind (.consume_other .end_ rfl) fun _ => .pure _
    · exact .bind (.consume_other .beginFile rfl) fun _ => .pure _
    · exact .bind (.consume_other .endFile rfl) fun _ => .pure _
    · exact .pure _
    · exact .bind (.lift00 (ih.expressionWithPrec _)) fun _ => .pure _
  · split
    · exact .bind (.lift00 ih.block) fun _ => .pure _
    · exact .pure _

theorem funcArgs_nl : ∀ (n : Nat) (acc : List Bytes), NlP T 0 0 (funcArgs n acc)
  | 0, _ => NlP.oof
  | n + 1, acc => by
    unfold funcArgs
    refine .bind_curTag fun t => ?_
    split
    · exact .pure _
    · refine .bind (.consume_other .ident rfl) fun _ => .bind_get fun _ => ?_
      refine .bind_curTag fun t => ?_
      split
      · exact .bind (.consume_other .comma rfl) fun _ => funcArgs_nl n _
      · exact .lift00 (funcArgs_nl n _)

theorem parseFunction_nl (ih : AllNl tbl n) : NlP T 0 0 (parseFunction tbl n) := by
  unfold parseFunction
  refine .bind_get fun _ => ?_
  refine .bind .modify fun _ => ?_
  refine .bind (.consume_other .function rfl) fun _ => .bind (.consume_other .ident rfl) fun _ => ?_
  refine .bind_get fun _ => .bind (.consume_open .lparen rfl) fun _ => ?_
  refine .bind (.lift00 (funcArgs_nl n _)) fun _ => .bind (.consume_close .rparen rfl) fun _ => ?_
  refine .bind (.lift00 ih.block) fun _ => ?_
  exact .bind .modify fun _ => .pure _

theorem parseTop_nl (hT : TableOK tbl = true) : ∀ (n : Nat) (rules : List Rule) (fns : List FuncDef),
    NlP T 0 0 (parseTop tbl n rules fns)
  | 0, _, _ => NlP.oof
  | n + 1, rules, fns => by
    unfold parseTop
    refine .bind_atEnd fun b => ?_
    split
    · exact .pure _
    · refine .bind_curTag fun t => ?_
      split
      · exact .bind (.lift00 (parseFunction_nl (allNl hT n))) fun _ => parseTop_nl hT n _ _
      · exact .bind (.lift00 (parseRule_nl (allNl hT n))) fun _ => parseTop_nl hT n _ _

theorem parseProgram_nl (hT : TableOK tbl = true) (n : Nat) :
    NlP (fun _ s _ => isBracket s.cur.tag = false) 0 0 (parseProgram tbl n) := by
  unfold parseProgram
  exact NlP.bind NlP.advance_other fun _ => parseTop_nl hT n _ _

theorem parseExpression_nl (hT : TableOK tbl = true) (n : Nat) :
    NlP (fun _ s _ => isBracket s.cur.tag = false) 0 0 (parseExpression tbl n) := by
  unfold parseExpression
  refine .bind NlP.advance_other fun _ =>
    .bind (.lift00 ((allNl hT n).expressionWithPrec _)) fun _ => ?_
  exact .bind (.consume_other .eof rfl) fun _ => .pure _

end Nl
end Jqawk
