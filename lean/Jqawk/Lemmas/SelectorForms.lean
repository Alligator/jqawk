/-
  The evaluator functions that the lemmas about `-r` (C14) take apart, each written once in the
  form those lemmas use: the member step with the found member as a function (`memberStep_eq`),
  the natives that change an array as one `setArrM`, the natives by the kind of their receiver
  (`native_cases`, `callNative_offKind`), and one round of `for … in` (`forInLoop_eq`).  Nothing
  here mentions the relation between two runs or an invariant of one run; both families import
  this file.  (`createSpeculative` in this form is in Lemmas/CreateSpec.lean, assignment is
  `BlameSites.evalAssignment_eq`.)
-/
import Jqawk.Model.Eval
import Jqawk.Lemmas.Heap

namespace Jqawk
namespace Sel

def keyOf (rv : Val) : Key :=
  match rv with
  | .num x => .num x
  | _ => .str rv.str!

def memberFound (left : CellId) (rv : Val) (h : Heap) : Member → EM CellId
  | .missing => newCell (.nil (some ⟨left, keyOf rv⟩))
  | .method f => newCell (.native f (some left) (some ⟨left, .str rv.str!⟩))
  | .char none x => newCell (.nil (some ⟨left, .num x⟩))
  | .char (some ch) x => newCell (.str ch (some ⟨left, .num x⟩))
  | .cell c =>
    match h.get c with
    | .native f _ _ => newCell (.native f (some left) (some ⟨left, .str rv.str!⟩))
    | _ => pure c

theorem memberStep_eq (pos : Nat) (left right : CellId) :
    memberStep pos left right = (do
      let rv ← readCell right
      let lv ← readCell left
      if lv.kind == .unknown then newCell (.nil (some ⟨left, keyOf rv⟩))
      else
        let h ← getHeap
        match getMember h lv rv with
        | .error m => throwRt pos m
        | .ok mem => memberFound left rv h mem) := by
  unfold memberStep
  funext s
  simp only [bind, EM.bind, readCell]
  split
  · rfl
  · show EM.bind getHeap _ s = EM.bind getHeap _ s
    simp only [EM.bind, getHeap]
    cases hg : getMember s.heap (s.heap.get left) (s.heap.get right) with
    | error m => rfl
    | ok mem =>
      cases mem with
      | cell c => simp only [memberFound]; cases s.heap.get c <;> rfl
      | char c x => cases c <;> rfl
      | method f => rfl
      | missing => rfl

theorem newArrayOf_eq2 (vs : List Val) :
    newArrayOf vs = (do
      let cells ← allocCells vs
      let a ← allocArrM cells.toArray
      pure (Val.arr a)) := by
  funext s
  simp only [newArrayOf, bind, EM.bind, getHeap, setHeap, allocArrM, pure, EM.pure]

def setArrM (a : ArrId) (f : Array CellId → Array CellId) : EM Unit := fun s =>
  .ok () { s with heap := s.heap.setArr a (f (s.heap.arr a)) }

theorem callNative_push_eq (args : List Val) (a : ArrId) :
    callNative .arrPush args (some (.arr a)) =
      (match checkArgCount args 1 with
       | .error m => pure (.error m)
       | .ok () => do
         let c ← newCell (args.getD 0 .unknown)
         Sel.setArrM a (·.push c)
         pure (.ok (some (.arr a)))) := by
  funext s
  simp only [callNative, bind, EM.bind, getHeap]
  cases checkArgCount args 1 <;> rfl

theorem callNative_pop_eq (args : List Val) (a : ArrId) :
    callNative .arrPop args (some (.arr a)) =
      (match checkArgCount args 0 with
       | .error m => pure (.error m)
       | .ok () => do
         let h ← getHeap
         if (h.arr a).size == 0 then pure (.ok (some (.nil none))) else do
           Sel.setArrM a (·.pop)
           pure (.ok (some (h.get ((h.arr a).getD ((h.arr a).size - 1) 0))))) := by
  funext s
  simp only [callNative, bind, EM.bind, getHeap]
  cases checkArgCount args 0 with
  | error m => rfl
  | ok u =>
    simp only [EM.bind, getHeap]
    split <;> simp_all [EM.bind, setHeap, Sel.setArrM, pure, EM.pure]

theorem callNative_popfirst_eq (args : List Val) (a : ArrId) :
    callNative .arrPopfirst args (some (.arr a)) =
      (match checkArgCount args 0 with
       | .error m => pure (.error m)
       | .ok () => do
         let h ← getHeap
         if (h.arr a).size == 0 then pure (.ok (some (.nil none))) else do
           Sel.setArrM a (fun items => items.extract 1 items.size)
           pure (.ok (some (h.get ((h.arr a).getD 0 0))))) := by
  funext s
  simp only [callNative, bind, EM.bind, getHeap]
  cases checkArgCount args 0 with
  | error m => rfl
  | ok u =>
    simp only [EM.bind, getHeap]
    split <;> simp_all [EM.bind, setHeap, Sel.setArrM, pure, EM.pure]

theorem callNative_pluck_eq (args : List Val) (o : ObjId) :
    callNative .objPluck args (some (.obj o)) = (do
      let h ← getHeap
      match pluckCollect h (h.obj o) args [] with
      | .error m => pure (.error m)
      | .ok kvs => do
        let cells ← allocCells (kvs.map (·.2))
        let no ← allocObjM (pluckMembers ((kvs.map (·.1)).zip cells) [])
        pure (.ok (some (.obj no)))) := by
  funext s
  simp only [callNative, bind, EM.bind, getHeap]
  cases pluckCollect s.heap (s.heap.obj o) args [] with
  | error m => rfl
  | ok kvs =>
    dsimp only
    cases allocCells (kvs.map (·.2)) s <;> rfl

theorem containsLoop_res (h : Heap) (v : Val) : ∀ cs : List CellId,
    (∃ m, containsLoop h v cs = .error m) ∨ ∃ b, containsLoop h v cs = .ok (some (.bool b))
  | [] => .inr ⟨false, rfl⟩
  | c :: cs => by
    unfold containsLoop
    dsimp only
    split
    · exact containsLoop_res h v cs
    · split
      · exact .inl ⟨_, rfl⟩
      · split
        · exact .inr ⟨true, rfl⟩
        · exact containsLoop_res h v cs

def sortCopies (items : List Val) : List Val :=
  items.map fun v => match copyVal v with | .ok w => w | .error _ => Val.str [] none

theorem callNative_sort_eq (args : List Val) (a : ArrId) :
    callNative .arrSort args (some (.arr a)) = (do
      let h ← getHeap
      let items := (h.arr a).toList.map h.get
      let sorted :=
        if items.all (fun v => v.kind == .num) then (sortCopies items).mergeSort (fun x y => f64Le x.asNum y.asNum)
        else (sortCopies items).mergeSort (fun x y => Bytes.le x.str! y.str!)
      let r ← newArrayOf sorted
      pure (.ok (some r))) := by
  unfold callNative sortCopies
  rfl

def recvKind : Native → Option Kind
  | .arrLength | .arrPush | .arrPop | .arrPopfirst | .arrContains | .arrSort => some .arr
  | .objLength | .objPluck => some .obj
  | .strLength | .strSplit | .strLower | .strUpper => some .str
  | .numFloor | .numCeil | .numRound => some .num
  | .printf | .json | .num => none

/-- what a method does on a receiver of another kind (or without one) -/
def offKind : Native → EM NativeRes
  | .strSplit => do let r ← newArrayOf []; pure (.ok (some r))
  | .arrLength | .objLength | .strLength | .strLower | .strUpper => pure (.ok (some (.num F64.zero)))
  | .numFloor | .numCeil | .numRound => pure (.ok (some (.nil none)))
  | _ => pure (.ok none)

theorem callNative_offKind {f : Native} {k : Kind} (hf : recvKind f = some k) (args : List Val)
    {this : Option Val} (h : ∀ v, this = some v → v.kind ≠ k) :
    callNative f args this = (getHeap >>= fun _ => offKind f) := by
  cases f <;> cases hf <;>
  (cases this with
   | none => rfl
   | some v => cases v <;> first | rfl | exact absurd rfl (h _ rfl))

theorem recv_cases (k : Kind) (this : Option Val) :
    (∃ v, this = some v ∧ v.kind = k) ∨ ∀ v, this = some v → v.kind ≠ k := by
  cases this with
  | none => exact .inr (fun _ h => nomatch h)
  | some v =>
    by_cases hk : v.kind = k
    · exact .inl ⟨v, rfl, hk⟩
    · exact .inr (fun _ h => Option.some.inj h ▸ hk)

theorem kind_arr {v : Val} (h : v.kind = .arr) : ∃ a, v = .arr a := by cases v <;> first | exact ⟨_, rfl⟩ | cases h
theorem kind_obj {v : Val} (h : v.kind = .obj) : ∃ o, v = .obj o := by cases v <;> first | exact ⟨_, rfl⟩ | cases h
theorem kind_str {v : Val} (h : v.kind = .str) : ∃ s sp, v = .str s sp := by
  cases v <;> first | exact ⟨_, _, rfl⟩ | cases h
theorem kind_num {v : Val} (h : v.kind = .num) : ∃ x, v = .num x := by cases v <;> first | exact ⟨_, rfl⟩ | cases h

/-- a call of a native is a builtin, a method on a receiver of its kind, or a method on anything
    else, which does `offKind` -/
@[elab_as_elim]
theorem native_cases {M : Native → Option Val → Prop} (f : Native) (this : Option Val)
    (printf : M .printf this) (json : M .json this) (num : M .num this)
    (arrLength : ∀ a, M .arrLength (some (.arr a))) (arrPush : ∀ a, M .arrPush (some (.arr a)))
    (arrPop : ∀ a, M .arrPop (some (.arr a))) (arrPopfirst : ∀ a, M .arrPopfirst (some (.arr a)))
    (arrContains : ∀ a, M .arrContains (some (.arr a))) (arrSort : ∀ a, M .arrSort (some (.arr a)))
    (objLength : ∀ o, M .objLength (some (.obj o))) (objPluck : ∀ o, M .objPluck (some (.obj o)))
    (strLength : ∀ s sp, M .strLength (some (.str s sp))) (strSplit : ∀ s sp, M .strSplit (some (.str s sp)))
    (strLower : ∀ s sp, M .strLower (some (.str s sp))) (strUpper : ∀ s sp, M .strUpper (some (.str s sp)))
    (numFloor : ∀ x, M .numFloor (some (.num x))) (numCeil : ∀ x, M .numCeil (some (.num x)))
    (numRound : ∀ x, M .numRound (some (.num x)))
    (off : ∀ k, recvKind f = some k → (∀ v, this = some v → v.kind ≠ k) → M f this) : M f this := by
  cases hk : recvKind f with
  | none =>
    cases f with
    | printf => exact printf
    | json => exact json
    | num => exact num
    | _ => cases hk
  | some k =>
    rcases recv_cases k this with ⟨v, rfl, hv⟩ | hoff
    · cases f with
      | printf | json | num => cases hk
      | arrLength => cases hk; obtain ⟨a, rfl⟩ := kind_arr hv; exact arrLength a
      | arrPush => cases hk; obtain ⟨a, rfl⟩ := kind_arr hv; exact arrPush a
      | arrPop => cases hk; obtain ⟨a, rfl⟩ := kind_arr hv; exact arrPop a
      | arrPopfirst => cases hk; obtain ⟨a, rfl⟩ := kind_arr hv; exact arrPopfirst a
      | arrContains => cases hk; obtain ⟨a, rfl⟩ := kind_arr hv; exact arrContains a
      | arrSort => cases hk; obtain ⟨a, rfl⟩ := kind_arr hv; exact arrSort a
      | objLength => cases hk; obtain ⟨o, rfl⟩ := kind_obj hv; exact objLength o
      | objPluck => cases hk; obtain ⟨o, rfl⟩ := kind_obj hv; exact objPluck o
      | strLength => cases hk; obtain ⟨x, sp, rfl⟩ := kind_str hv; exact strLength x sp
      | strSplit => cases hk; obtain ⟨x, sp, rfl⟩ := kind_str hv; exact strSplit x sp
      | strLower => cases hk; obtain ⟨x, sp, rfl⟩ := kind_str hv; exact strLower x sp
      | strUpper => cases hk; obtain ⟨x, sp, rfl⟩ := kind_str hv; exact strUpper x sp
      | numFloor => cases hk; obtain ⟨x, rfl⟩ := kind_num hv; exact numFloor x
      | numCeil => cases hk; obtain ⟨x, rfl⟩ := kind_num hv; exact numCeil x
      | numRound => cases hk; obtain ⟨x, rfl⟩ := kind_num hv; exact numRound x
    · exact off k hk hoff

abbrev Item := Option Val × (CellId ⊕ (Val × Option CellId))

def setIndex (il : Option CellId) (idx : Option Val) (item : CellId ⊕ (Val × Option CellId)) : EM Unit :=
  match il with
  | none => pure ()
  | some ic =>
    match idx, item with
    | some iv, _ => writeCell ic iv
    | none, .inr (_, some mc) => do writeCell ic (← readCell mc)
    | none, _ => pure ()

def setLoc (loc : CellId) (item : CellId ⊕ (Val × Option CellId)) : EM Unit :=
  match item with
  | .inl c => do writeCell loc (← readCell c)
  | .inr (v, _) => writeCell loc v

theorem forInLoop_eq (prog : Program) (n : Nat) (loc : CellId) (il : Option CellId) (body : Stmt)
    (idx : Option Val) (item : CellId ⊕ (Val × Option CellId)) (rest : List Item) :
    forInLoop prog (n + 1) loc il body ((idx, item) :: rest) = (do
      setIndex il idx item
      setLoc loc item
      loopIter (evalStmt prog n body) (forInLoop prog n loc il body rest)) := by
  conv => lhs; unfold forInLoop
  unfold setIndex setLoc
  funext s
  cases il with
  | none => cases item with
    | inl c => rfl
    | inr p => rfl
  | some ic =>
    cases idx with
    | some iv => cases item with
      | inl c => rfl
      | inr p => rfl
    | none =>
      cases item with
      | inl c => rfl
      | inr p =>
        obtain ⟨v, o⟩ := p
        cases o <;> rfl
end Sel
end Jqawk
