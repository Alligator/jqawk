/-
  Panic freedom (C01), part 5: the rule driver.

  * `newValueJson` builds region values;
  * `newEvaluator` establishes the invariant (every `.fn i` it creates has `i` in range);
  * the rule loops (`evalRules` … `processRoots`) bind `$` (`ruleRoot`) before any rule code runs,
    so `print` without arguments always finds it: `NP.enter` switches from `K` to `KSet P`.
  Selectors and the whole run are in `NoPanicRun.lean`.
-/
import Jqawk.Lemmas.NoPanicAll
import Jqawk.Lemmas.DriverSteps


namespace Jqawk

variable {P : Region} {K : Option CellId → Prop}

theorem InvK.monoK {K K' : Option CellId → Prop} (hK : ∀ r, K r → K' r) {s : St} (h : InvK P K s) :
    InvK P K' s := ⟨h.toInv0, hK _ h.rr⟩

theorem NPres.monoK {K K' : Option CellId → Prop} (hK : ∀ r, K r → K' r) {α : Type} {R : α → Prop}
    {r : Res α} (h : NPres P K R r) : NPres P K' R r := by
  cases r with
  | ok a s' => exact ⟨h.1.monoK hK, h.2⟩
  | err e s' =>
    cases e with
    | runtime p m => exact InvK.monoK hK h
    | sig g => exact InvK.monoK hK h
    | panic m => exact h
    | unmodelled w => exact InvK.monoK hK h
  | oof => trivial

/-- `K` holds of every state in which `$` is bound inside the region -/
def KSup (P : Region) (K : Option CellId → Prop) : Prop := ∀ r, KSet P r → K r

theorem KSup.any : KSup P KAny := fun _ _ => trivial
theorem KSup.set : KSup P (KSet P) := fun _ h => h

namespace NP

/-- bind `$` (by any state change `f` that touches nothing else the invariant speaks of), then run
    code that needs it -/
theorem enterWith (hK : KSup P K) {c : CellId} (hc : P.N ≤ c) (f : St → St)
    (hf : ∀ s, (f s).heap = s.heap ∧ (f s).frames = s.frames ∧ (f s).returnVal = s.returnVal ∧
      (f s).ruleRoot = some c) {β : Type} {k : EM β} {R : β → Prop} (hk : NP P (KSet P) k R) :
    NP P K (Jqawk.modifySt f >>= fun _ => k) R := by
  intro s hs
  obtain ⟨e1, e2, e3, e4⟩ := hf s
  exact NPres.monoK hK (hk (f s)
    ⟨⟨e1 ▸ hs.heap, e2 ▸ hs.frames, e3 ▸ hs.ret⟩, ⟨c, e4, hc⟩⟩)

theorem enter (hK : KSup P K) {c : CellId} (hc : P.N ≤ c) {β : Type} {k : EM β} {R : β → Prop}
    (hk : NP P (KSet P) k R) :
    NP P K (Jqawk.modifySt (fun s => { s with ruleRoot := some c }) >>= fun _ => k) R :=
  enterWith hK hc (fun s => { s with ruleRoot := some c }) (fun _ => ⟨rfl, rfl, rfl, rfl⟩) hk

theorem enter2 (hK : KSup P K) {c : CellId} (hc : P.N ≤ c) {β : Type} {k : EM β} {R : β → Prop}
    (hk : NP P (KSet P) k R) :
    NP P K (Jqawk.modifySt (fun st => { st with root := some c, ruleRoot := some c }) >>= fun _ => k) R :=
  enterWith hK hc (fun st => { st with root := some c, ruleRoot := some c })
    (fun _ => ⟨rfl, rfl, rfl, rfl⟩) hk

theorem setRoot (c : Option CellId) : NP P K (Jqawk.modifySt fun s => { s with root := c }) Tr :=
  fun _ hs => ⟨⟨⟨hs.heap, hs.frames, hs.ret⟩, hs.rr⟩, trivial⟩

theorem ruleFlow {m : EM Unit} (hm : NP P K m Tr) : NP P K (Jqawk.ruleFlow m) Tr := by
  rw [ruleFlow_eq_handle]
  refine handle hm (fun _ _ => pure trivial) (fun g k hg => ?_)
  cases g <;> cases hg <;> exact pure trivial

theorem catchExit {m : EM Unit} (hm : NP P K m Tr) : NP P K (Jqawk.catchExit m) Tr := by
  rw [catchExit_eq_handle]
  refine handle hm (fun _ _ => pure trivial) (fun g k hg => ?_)
  cases g <;> cases hg
  exact pure trivial

end NP

mutual
theorem NP.newValueJson : ∀ j, NP P K (Jqawk.newValueJson j) (GoodV P)
  | .null => by unfold Jqawk.newValueJson; exact NP.pure trivial
  | .bool b => by unfold Jqawk.newValueJson; exact NP.pure trivial
  | .num lit => by unfold Jqawk.newValueJson; exact NP.pure trivial
  | .str s => by unfold Jqawk.newValueJson; exact NP.pure trivial
  | .arr items => by
    unfold Jqawk.newValueJson
    exact NP.bind (NP.newValueItems items) (fun cells hc =>
      NP.bind (NP.allocArrM (by simpa using hc)) (fun a ha => NP.pure ha))
  | .obj members => by
    unfold Jqawk.newValueJson
    exact NP.bind (NP.newValueMembers members) (fun cells hc =>
      NP.bind (NP.allocObjM (RegM.foldInsert hc RegM.nil)) (fun o ho => NP.pure ho))
theorem NP.newValueItems : ∀ js, NP P K (Jqawk.newValueItems js) (RegL P)
  | [] => by unfold Jqawk.newValueItems; exact NP.pure RegL.nil
  | j :: js => by
    unfold Jqawk.newValueItems
    refine NP.bind (NP.newValueJson j) (fun v hv => NP.bind (NP.newCell hv) (fun c hc =>
      NP.bind (NP.newValueItems js) (fun cs hcs => NP.pure ?_)))
    intro d hd
    rcases List.mem_cons.mp hd with hd | hd
    · subst hd; exact hc
    · exact hcs d hd
theorem NP.newValueMembers : ∀ ms, NP P K (Jqawk.newValueMembers ms) (RegM P)
  | [] => by unfold Jqawk.newValueMembers; exact NP.pure RegM.nil
  | (k, j) :: ms => by
    unfold Jqawk.newValueMembers
    refine NP.bind (NP.newValueJson j) (fun v hv => NP.bind (NP.newCell hv) (fun c hc =>
      NP.bind (NP.newValueMembers ms) (fun cs hcs => NP.pure ?_)))
    intro d hd
    rcases List.mem_cons.mp hd with hd | hd
    · subst hd; exact hc
    · exact hcs d hd
end

theorem HeapOK.empty (P : Region) (hN : P.N = 0) (hA : P.A = 0) (hO : P.O = 0) : HeapOK P Heap.empty := by
  refine ⟨by simp [hN], by simp [hA], by simp [hO], ?_, ?_, ?_, ?_⟩
  · intro c; simp [Heap.get, Heap.empty]; trivial
  · intro c _; simp [Heap.get, Heap.empty]
  · intro a _ c hc; simp [Heap.arr, Heap.empty] at hc
  · intro o _ kc hkc; simp [Heap.obj, Heap.empty] at hkc

/-- one step of the construction of the root frame -/
def initAdd (st : List (Bytes × CellId) × Heap) (name : Bytes) (v : Val) : List (Bytes × CellId) × Heap :=
  let (c, h') := st.2.alloc v
  (objInsert st.1 name c, h')

theorem initAdd_ok {st : List (Bytes × CellId) × Heap} (h : RegM P st.1 ∧ HeapOK P st.2) (name : Bytes)
    {v : Val} (hv : GoodV P v) : RegM P (initAdd st name v).1 ∧ HeapOK P (initAdd st name v).2 := by
  have ha := h.2.alloc hv
  exact ⟨h.1.objInsert _ ha.2, ha.1⟩

theorem initFrames_eq (prog : Program) (h : Heap) :
    initFrames prog h =
      let s4 := prog.functions.zipIdx.foldl (fun st (fi : FuncDef × Nat) => initAdd st fi.1.ident.text (.fn fi.2))
        (initAdd (initAdd (initAdd ([], h) b!"printf" (.native .printf none none))
          b!"json" (.native .json none none)) b!"num" (.native .num none none))
      ([⟨b!"<root>", s4.1⟩], s4.2) := rfl

theorem initFold_ok (l : List (FuncDef × Nat)) (hl : ∀ fi ∈ l, GoodV P (.fn fi.2)) :
    ∀ st : List (Bytes × CellId) × Heap, RegM P st.1 ∧ HeapOK P st.2 →
      RegM P (l.foldl (fun st (fi : FuncDef × Nat) => initAdd st fi.1.ident.text (.fn fi.2)) st).1 ∧
      HeapOK P (l.foldl (fun st (fi : FuncDef × Nat) => initAdd st fi.1.ident.text (.fn fi.2)) st).2 := by
  induction l with
  | nil => intro st h; exact h
  | cons x rest ih =>
    intro st h
    simp only [List.foldl_cons]
    exact ih (fun fi hfi => hl fi (List.mem_cons_of_mem _ hfi)) _
      (initAdd_ok h _ (hl x (List.mem_cons_self ..)))

/-- **`NewEvaluator` establishes the invariant**: the root frame exists, and every function
    value it stores has an index below the number of functions -/
theorem newEvaluator_inv (prog : Program) (hF : prog.functions.length ≤ P.F)
    (hL : prog.functions.length ≤ P.L) {h : Heap} (hh : HeapOK P h) (out : List Bytes) (faults : Nat) :
    InvK P KAny (newEvaluator prog h out faults) := by
  have hnat : ∀ {f : Native}, GoodV P (.native f none none) := ⟨trivial, trivial⟩
  have h3 : RegM P (initAdd (initAdd (initAdd ([], h) b!"printf" (.native .printf none none))
      b!"json" (.native .json none none)) b!"num" (.native .num none none)).1 ∧
      HeapOK P (initAdd (initAdd (initAdd ([], h) b!"printf" (.native .printf none none))
      b!"json" (.native .json none none)) b!"num" (.native .num none none)).2 :=
    initAdd_ok (initAdd_ok (initAdd_ok ⟨RegM.nil, hh⟩ _ hnat) _ hnat) _ hnat
  have h4 := initFold_ok (P := P) prog.functions.zipIdx (by
    intro fi hfi
    obtain ⟨f, i⟩ := fi
    have := (List.mem_zipIdx' hfi).1
    exact ⟨Nat.lt_of_lt_of_le this hF, Nat.lt_of_lt_of_le this hL⟩) _ h3
  unfold newEvaluator
  rw [initFrames_eq]
  refine ⟨⟨h4.2, ⟨by simp, ?_⟩, trivial⟩, trivial⟩
  intro f hf
  simp only [List.mem_singleton] at hf
  subst hf
  exact h4.1

section rules
variable (prog : Program) (hF : P.F ≤ prog.functions.length)
  (hwf : prog.wfB = true)

theorem Program.wfB_functions {prog : Program} (h : prog.wfB = true) :
    ∀ f ∈ prog.functions, f.body.wfB = true := by
  simp only [Program.wfB, Bool.and_eq_true, List.all_eq_true] at h
  exact h.2

theorem Program.wfB_rules {prog : Program} (h : prog.wfB = true) :
    ∀ r ∈ prog.rules, r.body.wfB = true ∧ ∀ p, r.pattern = some p → p.wfB = true := by
  simp only [Program.wfB, Bool.and_eq_true, List.all_eq_true, Rule.wfB] at h
  intro r hr
  have := h.1 r hr
  refine ⟨this.1, fun p hp => ?_⟩
  have h2 := this.2
  rw [hp] at h2
  exact h2

include hF hwf

theorem NP.evalRules (rules : List Rule) (hsub : ∀ r ∈ rules, r ∈ prog.rules) :
    NP P (KSet P) (Jqawk.evalRules prog rules) Tr := by
  have hall := allNP P prog hF (Program.wfB_functions hwf) evalFuel
  induction rules with
  | nil => exact NP.pure trivial
  | cons rule rest ih =>
    have ih' := ih (fun r hr => hsub r (List.mem_cons_of_mem _ hr))
    have hr := Program.wfB_rules hwf rule (hsub rule (List.mem_cons_self ..))
    unfold Jqawk.evalRules
    refine NP.bind (R1 := Tr) ?_ (fun r _ => ?_)
    · split
      · exact NP.pure trivial
      · rename_i p hp
        exact NP.catchSig _ trivial (NP.bind (hall.expr _ (hr.2 p hp)) (fun c hc =>
          NP.bind (NP.readCell hc) (fun v _ => NP.pure trivial)))
    · split
      · exact NP.pure trivial
      · split
        · exact ih'
        · refine NP.bind (R1 := Tr) (NP.catchSig _ trivial (NP.bind (hall.stmt _ hr.1)
            (fun _ _ => NP.pure trivial))) (fun more _ => ?_)
          split
          · exact ih'
          · exact NP.pure trivial

theorem NP.evalElems (hK : KSup P K) (rules : List Rule) (hsub : ∀ r ∈ rules, r ∈ prog.rules)
    (items : List CellId) (hit : RegL P items) (i : Nat) :
    NP P K (Jqawk.evalElems prog rules items i) Tr := by
  induction items generalizing i K with
  | nil => exact NP.pure trivial
  | cons item rest ih =>
    unfold Jqawk.evalElems
    refine NP.enter hK (hit item (List.mem_cons_self ..)) ?_
    exact NP.bind (NP.newCell trivial) (fun ic hic => NP.bind (NP.setLocal _ hic) (fun _ _ =>
      NP.bind (NP.evalRules prog hF hwf rules hsub) (fun _ _ =>
        ih KSup.set (fun c hc => hit c (List.mem_cons_of_mem _ hc)) (i + 1))))

theorem NP.evalSpecialRules (hK : KSup P K) (mkRoot : EM CellId)
    (hmk : ∀ K', NP P K' mkRoot (InR P)) (rules : List Rule) (hsub : ∀ r ∈ rules, r ∈ prog.rules) :
    NP P K (Jqawk.evalSpecialRules prog mkRoot rules) Tr := by
  have hall := allNP P prog hF (Program.wfB_functions hwf) evalFuel
  induction rules generalizing K with
  | nil => exact NP.pure trivial
  | cons rule rest ih =>
    have hr := Program.wfB_rules hwf rule (hsub rule (List.mem_cons_self ..))
    unfold Jqawk.evalSpecialRules
    refine NP.bind (hmk K) (fun c hc => NP.enter hK hc ?_)
    refine NP.bind (NP.ruleFlow (hall.stmt _ hr.1)) (fun fl _ => ?_)
    split
    · exact NP.pure trivial
    · exact ih KSup.set (fun r hr => hsub r (List.mem_cons_of_mem _ hr))

end rules

/-- the region of the main evaluator: the whole heap -/
def Pm (prog : Program) : Region := ⟨0, 0, 0, prog.functions.length, prog.functions.length⟩

section main
variable (prog : Program) (hwf : prog.wfB = true)
include hwf

theorem NP.evalPatternRules (hK : KSup (Pm prog) K) (rules : List Rule) (hsub : ∀ r ∈ rules, r ∈ prog.rules) :
    NP (Pm prog) K (Jqawk.evalPatternRules prog rules) Tr := by
  unfold Jqawk.evalPatternRules
  refine NP.bind NP.getSt (fun s hs => ?_)
  split
  · exact NP.pure trivial
  · rename_i root _
    split
    · rename_i a _
      exact NP.evalElems prog (Nat.le_refl _) hwf hK rules hsub _ (fun c _ => Nat.zero_le c) 0
    · exact NP.enter hK (Nat.zero_le root) (NP.evalRules prog (Nat.le_refl _) hwf rules hsub)

theorem NP.processRoot (hK : KSup (Pm prog) K) (c : CellId) : NP (Pm prog) K (Jqawk.processRoot prog c) Tr := by
  unfold Jqawk.processRoot
  refine NP.bind (NP.readCell (Nat.zero_le c)) (fun rv hrv => ?_)
  refine NP.bind (NP.evalSpecialRules prog (Nat.le_refl _) hwf hK _
    (fun K' => NP.pure (Nat.zero_le c)) _ (rulesOf_sub prog _)) (fun fl _ => ?_)
  split
  · exact NP.pure trivial
  · refine NP.bind (NP.setRoot _) (fun _ _ => NP.bind (NP.catchExit
      (NP.evalPatternRules prog hwf hK _ (rulesOf_sub prog _))) (fun fl2 _ => ?_))
    split
    · exact NP.pure trivial
    · exact NP.evalSpecialRules prog (Nat.le_refl _) hwf hK _ (fun K' => NP.newCell hrv) _
        (rulesOf_sub prog _)

theorem NP.processRoots (hK : KSup (Pm prog) K) (cs : List CellId) :
    NP (Pm prog) K (Jqawk.processRoots prog cs) Tr := by
  induction cs with
  | nil => exact NP.pure trivial
  | cons c rest ih =>
    unfold Jqawk.processRoots
    refine NP.bind (NP.processRoot prog hwf hK c) (fun fl _ => ?_)
    split
    · exact NP.pure trivial
    · exact ih

end main

end Jqawk
