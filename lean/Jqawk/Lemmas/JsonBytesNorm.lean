import Jqawk.Lemmas.JsonBytesCanon
import Jqawk.Lemmas.NewValue
/-!
  `JVal.norm` (the tree that comes back from the heap, Lemmas/NewValue.lean) of a `Plain` document
  has strictly ascending keys at every level (`sortedJ_norm`), keeps valid UTF-8 and the depth
  (`utf8OK_norm`, `depth_norm`), so the byte-level round trip returns it unchanged
  (`norm_bytes_round_trip`).  `FiniteNums`: the number part of `Plain`; `plain_of_sorted`: with
  strictly ascending keys it makes a `Plain` document.
-/
namespace Jqawk.JsonBytes
open Jqawk Jqawk.Json

/-- a key not yet present is inserted by the heap's insertion sort where Go's `m[k] = v` puts it -/
theorem insertK_eq_insertMember {α : Type} (kv : Bytes × α) (l : List (Bytes × α))
    (hne : ∀ y ∈ l, kv.1 ≠ y.1) : insertK kv l = insertMember kv.1 kv.2 l := by
  induction l with
  | nil => rfl
  | cons x xs ih =>
    obtain ⟨k', v'⟩ := x
    have ih := ih fun y hy => hne y (List.mem_cons_of_mem _ hy)
    simp only [insertK, insertMember, Bytes.le, cmpBytes_eq_cmp, ih]
    obtain ⟨o, ho⟩ : ∃ o, Bytes.cmp kv.1 k' = o := ⟨_, rfl⟩
    rw [ho]
    cases o with
    | lt => rfl
    | eq => exact absurd ((Bytes.cmp_eq_iff _ _).1 ho) (hne _ (List.mem_cons_self ..))
    | gt => rfl

theorem insertK_sortedKeys {α : Type} (kv : Bytes × α) (l : List (Bytes × α)) (h : SortedKeys l)
    (hne : ∀ y ∈ l, kv.1 ≠ y.1) : SortedKeys (insertK kv l) := by
  rw [insertK_eq_insertMember kv l hne]; exact insertMember_sorted _ _ l h

theorem sortK_sortedKeys {α : Type} (l : List (Bytes × α)) (hd : l.Pairwise fun x y => x.1 ≠ y.1) :
    SortedKeys (sortK l) := by
  induction l with
  | nil => simp [sortK, SortedKeys]
  | cons x xs ih =>
    simp only [List.pairwise_cons] at hd
    simp only [sortK]
    exact insertK_sortedKeys x _ (ih hd.2) fun y hy => hd.1 y ((sortK_perm xs).mem_iff.1 hy)

theorem normMembers_pairwise (ms : List (Bytes × JVal)) (h : ms.Pairwise fun x y => x.1 ≠ y.1) :
    (JVal.normMembers ms).Pairwise fun x y => x.1 ≠ y.1 := by
  rw [JVal.normMembers_eq, List.pairwise_map]
  exact h

mutual
theorem sortedJ_norm : ∀ (j : JVal), j.Plain → SortedJ j.norm
  | .null, _ => trivial
  | .bool _, _ => trivial
  | .num _, _ => trivial
  | .str _, _ => trivial
  | .arr xs, h => by
    simp only [JVal.norm, SortedJ]; exact sortedJ_normList xs (by simpa [JVal.Plain] using h)
  | .obj ms, h => by
    simp only [JVal.Plain] at h
    simp only [JVal.norm, SortedJ]
    refine ⟨sortK_sortedKeys _ (normMembers_pairwise ms h.1), (sortedJMembers_iff _).2 ?_⟩
    intro kv hkv
    exact sortedJ_normMembers ms h.2 kv ((sortK_perm _).mem_iff.1 hkv)
theorem sortedJ_normList : ∀ (xs : List JVal), JVal.PlainList xs → SortedJList (JVal.normList xs)
  | [], _ => trivial
  | x :: xs, h => by
    simp only [JVal.PlainList] at h
    simp only [JVal.normList, SortedJList]
    exact ⟨sortedJ_norm x h.1, sortedJ_normList xs h.2⟩
theorem sortedJ_normMembers : ∀ (ms : List (Bytes × JVal)), JVal.PlainMembers ms →
    ∀ kv ∈ JVal.normMembers ms, SortedJ kv.2
  | [], _ => fun _ h => by cases h
  | (k, v) :: ms, h => fun kv hkv => by
    simp only [JVal.PlainMembers] at h
    simp only [JVal.normMembers] at hkv
    rcases List.mem_cons.1 hkv with e | hkv
    · rw [e]; exact sortedJ_norm v h.1
    · exact sortedJ_normMembers ms h.2 kv hkv
end

mutual
theorem utf8OK_norm : ∀ (j : JVal), Utf8OK j → Utf8OK j.norm
  | .null, _ => trivial
  | .bool _, _ => trivial
  | .num _, _ => trivial
  | .str _, h => h
  | .arr xs, h => by simp only [JVal.norm, Utf8OK]; exact utf8OK_normList xs h
  | .obj ms, h => by
    simp only [JVal.norm, Utf8OK]
    rw [utf8OKMembers_iff]
    intro kv hkv
    exact utf8OK_normMembers ms h kv ((sortK_perm _).mem_iff.1 hkv)
theorem utf8OK_normList : ∀ (xs : List JVal), Utf8OKList xs → Utf8OKList (JVal.normList xs)
  | [], _ => trivial
  | x :: xs, h => ⟨utf8OK_norm x h.1, utf8OK_normList xs h.2⟩
theorem utf8OK_normMembers : ∀ (ms : List (Bytes × JVal)), Utf8OKMembers ms →
    ∀ kv ∈ JVal.normMembers ms, validUtf8 0 kv.1 = true ∧ Utf8OK kv.2
  | [], _ => fun _ h => by cases h
  | (k, v) :: ms, h => fun kv hkv => by
    simp only [JVal.normMembers] at hkv
    rcases List.mem_cons.1 hkv with e | hkv
    · rw [e]; exact ⟨h.1, utf8OK_norm v h.2.1⟩
    · exact utf8OK_normMembers ms h.2.2 kv hkv
end

theorem depthMembers_perm {l1 l2 : List (Bytes × JVal)} (p : l1.Perm l2) : depthMembers l1 = depthMembers l2 := by
  induction p with
  | nil => rfl
  | cons x _ ih => obtain ⟨k, v⟩ := x; simp only [depthMembers, ih]
  | swap x y l => obtain ⟨k, v⟩ := x; obtain ⟨k', v'⟩ := y; simp only [depthMembers]; omega
  | trans _ _ ih1 ih2 => exact ih1.trans ih2

mutual
theorem depth_norm : ∀ (j : JVal), depth j.norm = depth j
  | .null => rfl
  | .bool _ => rfl
  | .num _ => rfl
  | .str _ => rfl
  | .arr xs => by simp only [JVal.norm, depth]; rw [depth_normList xs]
  | .obj ms => by
    simp only [JVal.norm, depth]; rw [depthMembers_perm (sortK_perm _), depth_normMembers ms]
theorem depth_normList : ∀ (xs : List JVal), depthList (JVal.normList xs) = depthList xs
  | [] => rfl
  | x :: xs => by simp only [JVal.normList, depthList]; rw [depth_norm x, depth_normList xs]
theorem depth_normMembers : ∀ (ms : List (Bytes × JVal)), depthMembers (JVal.normMembers ms) = depthMembers ms
  | [] => rfl
  | (k, v) :: ms => by simp only [JVal.normMembers, depthMembers]; rw [depth_norm v, depth_normMembers ms]
end

theorem norm_bytes_round_trip (f : Bytes → Bool) (j : JVal) (hp : j.Plain) (hu : Utf8OK j)
    (hd : depth j ≤ maxNestingDepth) (hn : NumsOK f j.norm) :
    decodeOne f (marshalIndent j.norm) .eof = .value j.norm [] := by
  have h1 := top_eof f j.norm hn (by rw [depth_norm]; exact hd)
  rw [reread_eq_canonJ _ (utf8OK_norm j hu), canonJ_of_sorted _ (sortedJ_norm j hp)] at h1
  exact h1

mutual
/-- the number part of `JVal.Plain` -/
def FiniteNums : JVal → Prop
  | .num lit => ((F64.parse lit).getD F64.zero).jsonFormat ≠ none
  | .arr xs => FiniteNumsList xs
  | .obj ms => FiniteNumsMembers ms
  | _ => True
def FiniteNumsList : List JVal → Prop
  | [] => True
  | x :: xs => FiniteNums x ∧ FiniteNumsList xs
def FiniteNumsMembers : List (Bytes × JVal) → Prop
  | [] => True
  | (_, v) :: ms => FiniteNums v ∧ FiniteNumsMembers ms
end

theorem sortedKeys_distinct {α : Type} (l : List (Bytes × α)) (h : SortedKeys l) :
    l.Pairwise fun x y => x.1 ≠ y.1 := by
  refine List.Pairwise.imp ?_ h
  intro x y hlt he
  rw [he, cmpBytes_eq_cmp, Bytes.cmp_refl] at hlt
  cases hlt

mutual
theorem plain_of_sorted : ∀ (j : JVal), SortedJ j → FiniteNums j → j.Plain
  | .null, _, _ => trivial
  | .bool _, _, _ => trivial
  | .str _, _, _ => trivial
  | .num _, _, h => h
  | .arr xs, h1, h2 => by simp only [JVal.Plain]; exact plainList_of_sorted xs h1 h2
  | .obj ms, h1, h2 => by
    simp only [JVal.Plain]
    exact ⟨sortedKeys_distinct ms h1.1, plainMembers_of_sorted ms h1.2 h2⟩
theorem plainList_of_sorted : ∀ (xs : List JVal), SortedJList xs → FiniteNumsList xs → JVal.PlainList xs
  | [], _, _ => trivial
  | x :: xs, h1, h2 => ⟨plain_of_sorted x h1.1 h2.1, plainList_of_sorted xs h1.2 h2.2⟩
theorem plainMembers_of_sorted : ∀ (ms : List (Bytes × JVal)), SortedJMembers ms → FiniteNumsMembers ms →
    JVal.PlainMembers ms
  | [], _, _ => trivial
  | (_, v) :: ms, h1, h2 => ⟨plain_of_sorted v h1.1 h2.1, plainMembers_of_sorted ms h1.2 h2.2⟩
end

end Jqawk.JsonBytes
