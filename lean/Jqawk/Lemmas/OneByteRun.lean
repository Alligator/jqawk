/-
  C03 — "a value and at most one following byte suffice", run level.

  `processK k` is the driver's decode loop (`processFile`, factored into `processValue` per
  decoded value: Lemmas/StreamPrefix.lean) cut after
  exactly `k` values, each decoded with the reader still open (`.more`): it names the state the
  run has reached — in particular the output written — when the k-th value has been processed.
  The theorems say that this state is fixed by the bytes up to the end of the k-th value plus at
  most one byte, and that every input starting with these bytes passes through it.
-/
import Jqawk.Lemmas.StreamPrefix
import Jqawk.Lemmas.OneByteSuffices

namespace Jqawk.OneByte
open Jqawk Jqawk.Json

variable (prog : Program)

/-- The decode loop cut after exactly `k` values, every one decoded while the reader may still
    deliver bytes (`.more`): the values, the state reached when the k-th value has been processed
    (its `out` is the output written so far) and the bytes not yet looked at.  `none`: fewer than
    `k` values are complete in `data`, or the run ended (exit, error, out of fuel) before that. -/
def processK (src : Bytes) (tbl : RuleTable) (sels : List Bytes) (name : Bytes) :
    Nat → Bytes → St → Option (List JVal × St × Bytes)
  | 0, data, s => some ([], s, data)
  | k + 1, data, s =>
    match decodeOne numOk data .more with
    | .value v rest =>
      match processValue prog src tbl sels name v s with
      | .done s' =>
        match processK src tbl sels name k rest s' with
        | some (vs, sk, r) => some (v :: vs, sk, r)
        | none => none
      | .finished _ _ => none
    | _ => none

theorem processK_succ_inv {src : Bytes} {tbl : RuleTable} {sels : List Bytes} {name : Bytes} {k : Nat}
    {data : Bytes} {s sk : St} {vals : List JVal} {rest : Bytes}
    (h : processK prog src tbl sels name (k + 1) data s = some (vals, sk, rest)) :
    ∃ v rest1 s' vs, decodeOne numOk data .more = .value v rest1 ∧
      processValue prog src tbl sels name v s = .done s' ∧
      processK prog src tbl sels name k rest1 s' = some (vs, sk, rest) ∧ vals = v :: vs := by
  unfold processK at h
  split at h
  · rename_i v rest1 hd
    split at h
    · rename_i s' hv
      split at h
      · rename_i vs sk' r hk
        simp only [Option.some.injEq, Prod.mk.injEq] at h
        obtain ⟨rfl, rfl, rfl⟩ := h
        exact ⟨v, rest1, s', vs, hd, hv, hk, rfl⟩
      · cases h
    · cases h
  · cases h

theorem processK_succ_nil {src : Bytes} {tbl : RuleTable} {sels : List Bytes} {name : Bytes} {k : Nat} {s : St} :
    processK prog src tbl sels name (k + 1) [] s = none := by
  unfold processK
  have : decodeOne numOk [] .more = .needMore := rfl
  rw [this]

theorem processK_run {src : Bytes} {tbl : RuleTable} {sels : List Bytes} (file : InputFile) (more : Bytes) :
    ∀ (k : Nat) (p : Bytes) (s sk : St) (vals : List JVal) (r : Bytes) (fuel : Nat),
      processK prog src tbl sels file.name k p s = some (vals, sk, r) → k ≤ fuel →
      processFile prog src tbl sels file fuel (p ++ more) s =
        processFile prog src tbl sels file (fuel - k) (r ++ more) sk := by
  intro k
  induction k with
  | zero =>
    intro p s sk vals r fuel h _
    simp only [processK, Option.some.injEq, Prod.mk.injEq] at h
    obtain ⟨_, rfl, rfl⟩ := h
    rfl
  | succ k ih =>
    intro p s sk vals r fuel h hf
    obtain ⟨v, rest1, s', vs, hd, hv, hk, _⟩ := processK_succ_inv prog h
    obtain ⟨fuel', rfl⟩ : ∃ n, fuel = n + 1 := ⟨fuel - 1, by omega⟩
    rw [processFile_succ, decodeOne_prefix_value more file.tail hd]
    simp only [hv]
    rw [ih rest1 s' sk vs r fuel' hk (by omega)]
    congr 1
    omega

theorem processK_length {src : Bytes} {tbl : RuleTable} {sels : List Bytes} {name : Bytes} :
    ∀ (k : Nat) (data : Bytes) (s sk : St) (vals : List JVal) (rest : Bytes),
      processK prog src tbl sels name k data s = some (vals, sk, rest) →
      k + rest.length ≤ data.length ∧ vals.length = k := by
  intro k
  induction k with
  | zero =>
    intro data s sk vals rest h
    simp only [processK, Option.some.injEq, Prod.mk.injEq] at h
    obtain ⟨rfl, _, rfl⟩ := h
    simp
  | succ k ih =>
    intro data s sk vals rest h
    obtain ⟨v, rest1, s', vs, hd, _, hk, rfl⟩ := processK_succ_inv prog h
    obtain ⟨pv, rfl, hne, _⟩ := decode_split hd
    have := ih rest1 s' sk vs rest hk
    have : 0 < pv.length := List.length_pos_iff.mpr hne
    simp only [List.length_append, List.length_cons]
    omega

def lastComposite (vals : List JVal) : Prop := ∃ j, vals.getLast? = some j ∧ composite j = true

/-- **The first `k` values and at most one following byte suffice.**  If the first `k` values of
    `data` are complete and processed, reaching state `sk` with `rest` unread, then
    `data = p ++ rest` (`p` = the bytes up to the end of the k-th value) and `p` followed by ANY
    non-empty initial part `r'` of `rest` — a single byte is enough — already gets the same `k`
    values processed to the same state `sk`; `r'` may even be empty when nothing follows at all
    (`rest = []`), when `k = 0`, or when the k-th value is an array or object. -/
theorem processK_extent {src : Bytes} {tbl : RuleTable} {sels : List Bytes} {name : Bytes} :
    ∀ (k : Nat) (data : Bytes) (s sk : St) (vals : List JVal) (rest : Bytes),
      processK prog src tbl sels name k data s = some (vals, sk, rest) →
      ∃ p, data = p ++ rest ∧ ∀ r', r' <+: rest →
        (r' ≠ [] ∨ rest = [] ∨ vals = [] ∨ lastComposite vals) →
        processK prog src tbl sels name k (p ++ r') s = some (vals, sk, r') := by
  intro k
  induction k with
  | zero =>
    intro data s sk vals rest h
    simp only [processK, Option.some.injEq, Prod.mk.injEq] at h
    obtain ⟨rfl, rfl, rfl⟩ := h
    exact ⟨[], rfl, fun r' _ _ => by simp [processK]⟩
  | succ k ih =>
    intro data s sk vals rest h
    obtain ⟨v, rest1, s', vs, hd, hv, hk, rfl⟩ := processK_succ_inv prog h
    obtain ⟨pv, rfl, _, _⟩ := decode_split hd
    obtain ⟨p', rfl, hp'⟩ := ih rest1 s' sk vs rest hk
    refine ⟨pv ++ p', by simp, fun r' hpre hc => ?_⟩
    have hpre' : p' ++ r' <+: p' ++ rest := (List.prefix_append_right_inj p').mpr hpre
    cases k with
    | zero =>
      -- the k-th value is `v` itself
      simp only [processK, Option.some.injEq, Prod.mk.injEq] at hk
      obtain ⟨rfl, rfl, hrest⟩ := hk
      have hp0 : p' = [] := by
        have := congrArg List.length hrest
        simp only [List.length_append] at this
        exact List.eq_nil_of_length_eq_zero (by omega)
      subst hp0
      simp only [List.nil_append, List.append_nil] at hd hpre' ⊢
      have hr : r' ≠ [] ∨ composite v = true := by
        rcases hc with hc | hc | hc | ⟨j, hj, hcj⟩
        · exact .inl hc
        · subst hc; exact .inr (composite_of_rest_nil (by simpa using hd))
        · cases hc
        · simp only [List.getLast?_singleton, Option.some.injEq] at hj; subst hj; exact .inr hcj
      have hd' := decode_shorter_rest hd hpre hr
      unfold processK
      rw [hd']
      simp only [hv, processK]
    | succ k =>
      have hvs : vs ≠ [] := by
        obtain ⟨_, _, _, _, _, _, _, rfl⟩ := processK_succ_inv prog hk
        simp
      have hc' : r' ≠ [] ∨ rest = [] ∨ vs = [] ∨ lastComposite vs := by
        rcases hc with hc | hc | hc | ⟨j, hj, hcj⟩
        · exact .inl hc
        · exact .inr (.inl hc)
        · cases hc
        · refine .inr (.inr (.inr ⟨j, ?_, hcj⟩))
          rwa [List.getLast?_cons_of_ne_nil hvs] at hj
      have hk' := hp' r' hpre hc'
      have hne : p' ++ r' ≠ [] := by
        intro h0
        rw [h0, processK_succ_nil] at hk'
        cases hk'
      have hd' := decode_shorter_rest hd hpre' (.inl hne)
      unfold processK
      rw [List.append_assoc, hd']
      simp only [hv, hk']

theorem outExt_output_prefix {s s' : St} (h : OutExt s s') : s.output <+: s'.output := by
  obtain ⟨c, hc⟩ := h
  refine ⟨c.reverse.flatten, ?_⟩
  unfold St.output
  rw [hc, List.reverse_append, List.flatten_append]

theorem processK_mono {src : Bytes} {tbl : RuleTable} {sels : List Bytes} {name : Bytes} (m : Bytes) :
    ∀ (k : Nat) (p : Bytes) (s sk : St) (vals : List JVal) (r : Bytes),
      processK prog src tbl sels name k p s = some (vals, sk, r) →
      processK prog src tbl sels name k (p ++ m) s = some (vals, sk, r ++ m) := by
  intro k
  induction k with
  | zero =>
    intro p s sk vals r h
    simp only [processK, Option.some.injEq, Prod.mk.injEq] at h ⊢
    obtain ⟨rfl, rfl, rfl⟩ := h
    exact ⟨rfl, rfl, rfl⟩
  | succ k ih =>
    intro p s sk vals r h
    obtain ⟨v, rest1, s', vs, hd, hv, hk, rfl⟩ := processK_succ_inv prog h
    unfold processK
    rw [decodeOne_prefix_value m .more hd]
    simp only [hv, ih rest1 s' sk vs r hk]

theorem processK_rest_nil {src : Bytes} {tbl : RuleTable} {sels : List Bytes} {name : Bytes} :
    ∀ (k : Nat) (p : Bytes) (s sk : St) (vals : List JVal),
      processK prog src tbl sels name (k + 1) p s = some (vals, sk, []) → lastComposite vals := by
  intro k
  induction k with
  | zero =>
    intro p s sk vals h
    obtain ⟨v, rest1, s', vs, hd, _, hk, rfl⟩ := processK_succ_inv prog h
    simp only [processK, Option.some.injEq, Prod.mk.injEq] at hk
    obtain ⟨rfl, _, rfl⟩ := hk
    exact ⟨v, rfl, composite_of_rest_nil hd⟩
  | succ k ih =>
    intro p s sk vals h
    obtain ⟨v, rest1, s', vs, _, _, hk, rfl⟩ := processK_succ_inv prog h
    obtain ⟨j, hj, hc⟩ := ih rest1 s' sk vs hk
    have hvs : vs ≠ [] := by rintro rfl; simp at hj
    exact ⟨j, by rw [List.getLast?_cons_of_ne_nil hvs]; exact hj, hc⟩


theorem runEnd_out (src : Bytes) (s2 : St) (h : (runEnd prog src s2).outcome ≠ .oof) :
    s2.output <+: (runEnd prog src s2).out := by
  unfold runEnd at h ⊢
  have he := SafeD.evalSpecialRules prog (newCell (.nil none)) (SafeD.of_safe (Safe.newCell _))
    (rulesOf prog .end_) s2
  cases her : evalSpecialRules prog (newCell (.nil none)) (rulesOf prog .end_) s2 with
  | err e s3 =>
    rw [her] at he
    exact outExt_output_prefix (faultsOK_errOutcome (α := Flow) src he).1
  | oof => rw [her] at h; exact absurd rfl h
  | ok fl s3 => rw [her] at he; exact outExt_output_prefix he.1

theorem runFiles_out_of_first {src : Bytes} {tbl : RuleTable} {sels : List Bytes} (file : InputFile)
    (others : List InputFile) (s1 sk : St)
    (hext : OutExt sk (processFile prog src tbl sels file (file.data.length + 2) file.data s1).state)
    (h : (runFiles prog src tbl sels (file :: others) s1).outcome ≠ .oof) :
    sk.output <+: (runFiles prog src tbl sels (file :: others) s1).out := by
  unfold runFiles at h ⊢
  unfold processFiles at h ⊢
  cases hpf : processFile prog src tbl sels file (file.data.length + 2) file.data s1 with
  | finished o s' =>
    rw [hpf] at hext
    exact outExt_output_prefix hext
  | done s' =>
    rw [hpf] at hext h
    dsimp only at h ⊢
    have hf := processFiles_good prog src tbl sels others s'
    cases hpfs : processFiles prog src tbl sels others s' with
    | finished o s2 =>
      rw [hpfs] at hf
      exact outExt_output_prefix (hext.trans hf.1)
    | done s2 =>
      rw [hpfs] at hf h
      exact (outExt_output_prefix (hext.trans hf.1)).trans (runEnd_out prog src s2 h)

end Jqawk.OneByte
