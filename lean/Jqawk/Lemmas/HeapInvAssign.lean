/-
  `createSpeculative` / `evalAssignment` keep the heap invariant (C15).

  The one idea: an assignment to a missing member first links the stand-in cell `c` into its
  parent (`setMember`, possibly after creating the parents) and only then overwrites `c` with the
  copied value (`copyValue`).  In between `c` is an array element or object member but may hold a
  non-plain value (it still remembers parent and key), so `Inv` is FALSE in the middle of
  `evalAssignment`.  `Hole h0 h c` says that `h` satisfies `Inv` up to the content of `c`: any plain
  value written there restores it.  `createSpeculative` ends in a hole state, so it cannot be an
  `HT` (which promises `Inv` afterwards); its claims are stated with `PostQ`, a result predicate
  without the signal case (it raises none) and with an arbitrary claim on normal completion.
-/
import Jqawk.Lemmas.HeapInvCore
import Jqawk.Lemmas.CreateSpec


namespace Jqawk.HeapInv
open Jqawk Jqawk.IndexWrite

/-- the invariant holds again (and the heap is `Trans`-related to `h0`) as soon as a plain value
    is written into `c` -/
def Hole (h0 h' : Heap) (c : CellId) : Prop :=
  ∀ w, Plain w → Inv (h'.set c w) ∧ Trans h0 (h'.set c w)

theorem Hole.trans {a b h' : Heap} {c : CellId} (t : Trans a b) (hl : Hole b h' c) : Hole a h' c :=
  fun w hw => ⟨(hl w hw).1, t.trans (hl w hw).2⟩

theorem Hole.weak {h0 h' : Heap} {c : CellId} (hl : Hole h0 h' c) : Weak h' :=
  weak_of_set (hl .unknown plain_unknown).1.weak

theorem Hole.of_inv {h0 h' : Heap} (c : CellId) (i : Inv h') (t : Trans h0 h') : Hole h0 h' c :=
  fun _ hw => ⟨inv_set i c hw, t.trans (trans_set h' c hw)⟩

theorem Hole.of_set {h0 h' : Heap} (c : CellId) (v : Val) (i : Inv h') (t : Trans h0 h') :
    Hole h0 (h'.set c v) c := by
  intro w hw
  rw [set_set]
  exact ⟨inv_set i c hw, t.trans (trans_set h' c hw)⟩

/-- a heap that only gained cells: old cells, all arrays and all objects are as before (the clauses
    of `IndexWrite.Ext`, with arrays and objects compared pointwise) -/
theorem inv_grow {h h' : Heap} (i : Inv h) (hsz : h.cells.size ≤ h'.cells.size)
    (hold : ∀ d : Nat, d < h.cells.size → h'.get d = h.get d)
    (harr : ∀ b, h'.arr b = h.arr b) (hobj : ∀ o, h'.obj o = h.obj o) : Inv h' ∧ Trans h h' := by
  refine ⟨⟨⟨?_, ?_⟩, ?_, ?_, ?_⟩, ⟨hsz, ?_, ?_⟩⟩
  · intro a c hc; rw [harr] at hc
    exact Nat.lt_of_lt_of_le (i.wf.arrs a c hc) hsz
  · intro o k c hc; rw [hobj] at hc
    exact Nat.lt_of_lt_of_le (i.wf.objs o k c hc) hsz
  · intro a b x y hx hy e
    rw [harr] at hx e; rw [harr] at hy e
    exact i.un a b x y hx hy e
  · intro a c hc; rw [harr] at hc
    rw [hold c (i.wf.arrs a c hc)]; exact i.ep a c hc
  · intro o k c hc; rw [hobj] at hc
    rw [hold c (i.wf.objs o k c hc)]; exact i.mp o k c hc
  · intro c hc p; rw [hold c hc]; exact p
  · intro b c hc _; rw [harr] at hc; exact ⟨b, hc⟩

theorem mem_setObj_insert {h : Heap} {o p : ObjId} {key k : Bytes} {cell c : CellId}
    (hm : (k, c) ∈ (h.setObj o (objInsert (h.obj o) key cell)).obj p) :
    (k, c) ∈ h.obj p ∨ c = cell := by
  rcases Heap.obj_setObj_cases h o p (objInsert (h.obj o) key cell) with e | ⟨rfl, e⟩ <;> rw [e] at hm
  · exact .inl hm
  · exact mem_objInsert hm

theorem padded_inv {h h' : Heap} {a : ArrId} {N k : Nat} {w : Val} (p : Padded h h' a N k w)
    (i : Inv h) (hw : Plain w) : Inv h' ∧ Trans h h' := by
  have hs := p.hstep i.wf i.un i.ep hw
  have hobj : ∀ o, h'.obj o = h.obj o := fun o => by simp only [Heap.obj, p.objs]
  have hN := p.hN
  have hsize := p.size
  refine ⟨⟨hs.wf, hs.unshared, hs.plain, ?_⟩, ⟨by omega, ?_, ?_⟩⟩
  · intro o kk c hc
    rw [hobj] at hc
    rw [p.old c (i.wf.objs o kk c hc)]; exact i.mp o kk c hc
  · intro c hc pl; rw [p.old c hc]; exact pl
  · intro b c hc hlt
    by_cases hb : b = a
    · subst hb
      rw [p.arrA] at hc
      simp only [Array.toList_append, List.mem_append, List.mem_range'_1] at hc
      rcases hc with hc | hc
      · exact ⟨b, hc⟩
      · have hc' : @LE.le Nat _ N c ∧ @LT.lt Nat _ c (N + (k + 1)) := hc
        omega
    · rw [p.arrB b hb] at hc; exact ⟨b, hc⟩

theorem setMember_hole {h : Heap} (i : Inv h) (target member : Val) (cell c : CellId) (h' : Heap)
    (hcell : cell < h.cells.size)
    (hs : setMember h target member cell = .ok (c, h')) : Hole h h' c := by
  cases target with
  | arr a =>
    cases member with
    | num x =>
      cases hri : resolveIndex (h.arr a).size x.toGoInt with
      | none => simp [setMember, hri] at hs
      | some idx =>
        by_cases hlt : idx < (h.arr a).size
        · simp only [setMember, hri, hlt, ↓reduceIte, Except.ok.injEq, Prod.mk.injEq] at hs
          obtain ⟨rfl, rfl⟩ := hs
          exact Hole.of_set _ _ i (Trans.refl _)
        · by_cases hlim : idx ≤ fillLimit
          · have hge : (h.arr a).size ≤ idx := Nat.le_of_not_lt hlt
            rw [setMember_arr_fill h a x cell idx hri hge hlim hcell] at hs
            simp only [Except.ok.injEq, Prod.mk.injEq] at hs
            obtain ⟨rfl, rfl⟩ := hs
            obtain ⟨p1, p2, p3, p4, p5, p6, p7, p8⟩ := padHeap_spec h a idx (h.get cell) hge
            intro w hw
            have hsz' : (padHeap h a idx (h.get cell)).cells.size = h.cells.size + (idx - (h.arr a).size + 1) := by
              rw [p1]; omega
            have hne : ∀ d : Nat, d < h.cells.size + (idx - (h.arr a).size) →
                ((padHeap h a idx (h.get cell)).set (h.cells.size + (idx - (h.arr a).size)) w).get d
                  = (padHeap h a idx (h.get cell)).get d :=
              fun d hd => Heap.get_set_ne' _ _ _ _ (Nat.ne_of_lt hd)
            by_cases ha : a < h.arrs.size
            · apply padded_inv (a := a) (N := h.cells.size) (k := idx - (h.arr a).size) (w := w) _ i hw
              exact {
                hN := Nat.le_refl _
                size := by rw [Heap.size_set, hsz']
                old := fun d hd => by rw [hne d (by omega), p4 d hd]
                nulls := fun t ht => by rw [hne _ (by omega), p7 t ht]
                last := Heap.get_set_same' _ _ _ (by rw [hsz']; nomega)
                arrA := by
                  rw [Heap.arr_set, p6 ha]
                  have : idx + 1 - (h.arr a).size = idx - (h.arr a).size + 1 := by omega
                  rw [this]
                arrB := fun b hb => by rw [Heap.arr_set, p5 b hb]
                arrs := by rw [Heap.arrs_set, p2]
                objs := by rw [Heap.objs_set, p3] }
            · apply inv_grow i
              · rw [Heap.size_set, hsz']; omega
              · intro d hd; rw [hne d (by omega), p4 d hd]
              · intro b
                rw [Heap.arr_set]
                by_cases hb : b = a
                · subst hb
                  rw [Heap.arr_of_not_valid h b ha, Heap.arr_of_not_valid _ b (by rw [p2]; exact ha)]
                · exact p5 b hb
              · intro o
                show Heap.obj _ o = _
                simp only [Heap.obj, Heap.objs_set, p3]
          · have : idx > fillLimit := Nat.lt_of_not_le hlim
            simp [setMember, hri, hlt, this] at hs
    | _ => simp [setMember] at hs
  | obj o =>
    simp only [setMember, Except.ok.injEq, Prod.mk.injEq] at hs
    obtain ⟨rfl, rfl⟩ := hs
    intro w hw
    have hget : ∀ d, ((h.setObj o (objInsert (h.obj o) member.str! cell)).set cell w).get d
        = (h.set cell w).get d := fun _ => rfl
    refine ⟨⟨⟨?_, ?_⟩, ?_, ?_, ?_⟩, ⟨?_, ?_, ?_⟩⟩
    · intro a d hd; rw [Heap.size_set]; exact i.wf.arrs a d hd
    · intro p k d hd
      rw [Heap.size_set]
      rcases mem_setObj_insert (h := h) hd with hd | hd
      · exact i.wf.objs p k d hd
      · rw [hd]; exact hcell
    · exact i.un
    · intro a d hd; rw [hget]; exact plain_get_set hw (i.ep a d hd)
    · intro p k d hd
      rw [hget]
      rcases mem_setObj_insert (h := h) hd with hd | hd
      · exact plain_get_set hw (i.mp p k d hd)
      · rw [hd, Heap.get_set]; simp only [hcell, and_self, ↓reduceIte]; exact hw
    · rw [Heap.size_set]; exact Nat.le_refl _
    · intro d hd p; rw [hget]; exact plain_get_set hw p
    · intro b d hd _; exact ⟨b, hd⟩
  | _ => simp [setMember] at hs

/-- a result predicate: the claim on normal completion, no control signal, the weak invariant
    after an error -/
def PostQ {α : Type} (Q : α → St → Prop) : Res α → Prop
  | .ok a s1 => Q a s1
  | .err (.sig _) _ => False
  | .err _ s1 => Weak s1.heap
  | .oof => True

theorem PostQ.bind {α β : Type} {Q1 : α → St → Prop} {Q : β → St → Prop} {m : EM α} {f : α → EM β}
    {s : St} (hm : PostQ Q1 (m s)) (hf : ∀ a s1, Q1 a s1 → PostQ Q (f a s1)) :
    PostQ Q (m.bind f s) := by
  unfold EM.bind
  cases hr : m s with
  | ok a s1 => rw [hr] at hm; exact hf a s1 hm
  | err e s1 => rw [hr] at hm; cases e <;> first | exact hm | trivial
  | oof => trivial

/-- what `createSpeculative` guarantees: the cell it returns is the only thing to repair -/
def CSQ (h0 : Heap) : Except String CellId → St → Prop
  | .ok c, s' => Hole h0 s'.heap c
  | .error _, s' => Weak s'.heap

theorem PostQ.conseq {α : Type} {Q Q' : α → St → Prop} {r : Res α} (h : PostQ Q r)
    (hq : ∀ a s, Q a s → Q' a s) : PostQ Q' r := by
  cases r with
  | ok a s => exact hq a s h
  | err e s => cases e <;> exact h
  | oof => trivial

theorem newContainer_post (b : Bool) (s : St) (i : Inv s.heap) :
    PostQ (fun v s1 => Plain v ∧ Inv s1.heap ∧ Trans s.heap s1.heap) (newContainer b s) := by
  cases b with
  | true => exact ⟨plain_arr _, inv_allocArr i [] List.nodup_nil (fun _ h => by cases h),
      trans_allocArr (Trans.refl _) [] (fun _ h => by cases h)⟩
  | false => exact ⟨plain_obj _, inv_allocObj i [] (fun _ h => by cases h), trans_allocObj _ _⟩

/-- the hole survives the allocation of an empty container -/
theorem newContainer_hole {h0 : Heap} {p : CellId} (b : Bool) (s : St) (hl : Hole h0 s.heap p) :
    PostQ (fun v s1 => Plain v ∧ Hole h0 s1.heap p) (newContainer b s) := by
  cases b with
  | true =>
    refine ⟨plain_arr _, fun w hw => ?_⟩
    obtain ⟨i2, t2⟩ := hl w hw
    exact ⟨inv_allocArr i2 [] List.nodup_nil (fun _ h => by cases h),
      t2.trans (trans_allocArr (Trans.refl _) [] (fun _ h => by cases h))⟩
  | false =>
    refine ⟨plain_obj _, fun w hw => ?_⟩
    obtain ⟨i2, t2⟩ := hl w hw
    exact ⟨inv_allocObj i2 [] (fun _ h => by cases h), t2.trans (trans_allocObj _ _)⟩

theorem setMemberM_hole (target m : Val) (cell : CellId) (s : St) (i : Inv s.heap)
    (hc : cell < s.heap.cells.size) : PostQ (CSQ s.heap) (setMemberM target m cell s) := by
  unfold setMemberM
  split
  · exact i.weak
  · rename_i c h' hsm
    exact setMember_hole i _ _ _ _ _ hc hsm

theorem CSQ.trans {a b : Heap} (t : Trans a b) {r : Except String CellId} {s : St} (h : CSQ b r s) :
    CSQ a r s := by
  cases r with
  | ok c => exact Hole.trans t h
  | error m => exact h

theorem createSpeculative_hole : ∀ (n : Nat) (c : CellId) (s : St), Inv s.heap →
    PostQ (CSQ s.heap) (createSpeculative n c s)
  | 0, _, _, _ => trivial
  | n + 1, c, s, i => by
    rw [createSpeculative_eq]
    refine PostQ.bind (Q1 := fun sv s1 => s1 = s ∧ sv = s.heap.get c) ⟨rfl, rfl⟩ ?_
    rintro sv s1 ⟨rfl, rfl⟩
    cases hspec : specOf (s1.heap.get c) with
    | none => exact i.weak
    | some spec =>
      have hc : c < s1.heap.cells.size :=
        Heap.lt_of_get_ne_unknown _ _ (fun e => by rw [e] at hspec; cases hspec)
      refine PostQ.bind (Q1 := fun pv s2 => s2 = s1 ∧ pv = s1.heap.get spec.parent) ⟨rfl, rfl⟩ ?_
      rintro pv s2 ⟨rfl, rfl⟩
      have fill : ∀ (o : Val) (s3 : St), Plain o → Inv s3.heap → Trans s2.heap s3.heap →
          PostQ (CSQ s2.heap) ((do
            writeCell spec.parent o
            setMemberM o (keyVal spec.key) c : EM _) s3) := by
        intro o s3 ho i3 t3
        refine (setMemberM_hole o _ c _ (inv_set i3 _ ho) ?_).conseq (fun r s4 h => h.trans ?_)
        · rw [Heap.size_set]; exact Nat.lt_of_lt_of_le hc t3.size
        · exact t3.trans (trans_set _ _ ho)
      cases hpv : s2.heap.get spec.parent with
      | unknown =>
        exact PostQ.bind (newContainer_post _ s2 i) (fun o s3 h => fill o s3 h.1 h.2.1 h.2.2)
      | nil sp =>
        cases sp with
        | none => exact i.weak
        | some sp =>
          refine PostQ.bind (Q1 := fun pc s3 => pc = s2.heap.cells.size ∧
              s3 = { s2 with heap := (s2.heap.alloc (.nil (some sp))).2 }) ⟨rfl, rfl⟩ ?_
          rintro pc s3 ⟨rfl, rfl⟩
          refine PostQ.bind (createSpeculative_hole n _ _ (inv_alloc i _)) (fun r s4 hq => ?_)
          cases r with
          | error m => exact hq
          | ok newParent =>
            refine PostQ.bind (newContainer_hole _ s4 hq) (fun o s5 h5 => ?_)
            obtain ⟨i6, t6⟩ := h5.2 o h5.1
            exact fill o _ h5.1 i6 ((trans_alloc _ _).trans t6)
      | _ => exact setMemberM_hole _ _ c s2 i hc
theorem Good.evalAssignment (pos : Nat) (l r : CellId) : Good (Jqawk.evalAssignment pos l r) := by
  intro s i _
  by_cases hsp : (s.heap.get l).speculative = false
  · rw [evalAssignment_plain pos l r s hsp]
    cases hcv : copyVal (s.heap.get r) with
    | error m => exact i.weak
    | ok w => exact ⟨inv_set i l (plain_of_copyVal hcv), trans_set _ l (plain_of_copyVal hcv), trivial⟩
  · have key := createSpeculative_hole (s.heap.cells.size + 2) l s i
    unfold Jqawk.evalAssignment
    simp only [Bind.bind, EM.bind, Jqawk.readCell]
    revert hsp
    generalize hlv : s.heap.get l = lv
    intro hsp
    rcases lv with ⟨_, _ | _⟩ | _ | _ | _ | _ | (_ | _) | ⟨_, _, _ | _⟩ | _ | _ | _ <;>
      first
      | (exfalso; exact hsp rfl)
      | skip
    all_goals
      simp only [↓reduceIte, Jqawk.getHeap, EM.bind]
      generalize createSpeculative _ _ _ = res at key ⊢
      cases res with
      | oof => trivial
      | err e s1 =>
        cases e with
        | sig g => exact key.elim
        | runtime p m => exact key
        | panic m => exact key
        | unmodelled w => exact key
      | ok a s1 =>
        cases a with
        | error m => exact key
        | ok c =>
          simp only [Pure.pure, EM.pure, Jqawk.copyValue, Bind.bind, EM.bind, Jqawk.readCell]
          cases hcv : copyVal (s1.heap.get r) with
          | error m => exact Hole.weak key
          | ok w =>
            have hw := key w (plain_of_copyVal hcv)
            exact ⟨hw.1, hw.2, trivial⟩

end Jqawk.HeapInv
