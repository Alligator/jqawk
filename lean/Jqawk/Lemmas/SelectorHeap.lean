/-
  Renaming of cell ids (C14): the relation `HR` between the heaps of the two runs and how the
  heap operations, `getMember`, `fillNulls` and `setMember` preserve it.
-/
import Jqawk.Lemmas.SelectorRen
import Jqawk.Lemmas.HeapOps
import Jqawk.Lemmas.ReadOnly


namespace Jqawk
namespace Sel

structure Ctx.WF (C : Ctx) : Prop where
  shift : ∀ i, C.m ≤ i → C.σ i = i + C.d
  inj : ∀ i j, C.σ i = C.σ j → i = j
  up : ∀ i, C.m ≤ i → C.D i
  low : ∀ i, i < C.m → C.σ i < C.m + C.d

theorem Ctx.WF.σ_lt {C : Ctx} (wf : C.WF) {i w : Nat} (hi : i < w) (hm : C.m ≤ w) : C.σ i < w + C.d := by
  by_cases h : C.m ≤ i
  · rw [wf.shift i h]; omega
  · have := wf.low i (Nat.lt_of_not_le h); omega

def ArrR (C : Ctx) (w : Nat) (xa xb : Array CellId) : Prop :=
  xa = xb.map C.σ ∧ LiveL C w xb.toList

theorem ArrR.mono {C : Ctx} {w w' : Nat} {xa xb : Array CellId} (h : ArrR C w xa xb) (hw : w ≤ w') :
    ArrR C w' xa xb := ⟨h.1, h.2.mono hw⟩

theorem ArrR.empty (C : Ctx) (w : Nat) : ArrR C w #[] #[] := ⟨by simp, fun _ h => by simp at h⟩

theorem ArrR.toList {C : Ctx} {w : Nat} {xa xb : Array CellId} (h : ArrR C w xa xb) :
    ListCellR C w xa.toList xb.toList := by
  obtain ⟨rfl, hl⟩ := h
  exact ⟨by simp, hl⟩

theorem ArrR.ofList {C : Ctx} {w : Nat} {as bs : List CellId} (h : ListCellR C w as bs) :
    ArrR C w as.toArray bs.toArray := by
  obtain ⟨rfl, hl⟩ := h
  exact ⟨by simp, by simpa using hl⟩

theorem ArrR.size {C : Ctx} {w : Nat} {xa xb : Array CellId} (h : ArrR C w xa xb) : xa.size = xb.size := by
  rw [h.1, Array.size_map]

theorem ArrR.getD {C : Ctx} {w : Nat} {xa xb : Array CellId} (h : ArrR C w xa xb) {i : Nat}
    (hi : i < xb.size) : CellR C w (xa.getD i 0) (xb.getD i 0) := by
  obtain ⟨rfl, hl⟩ := h
  have hi' : i < (xb.map C.σ).size := by rw [Array.size_map]; exact hi
  simp only [Array.getD_eq_getD_getElem?, Array.getElem?_eq_getElem hi, Array.getElem?_eq_getElem hi',
    Option.getD_some, Array.getElem_map]
  exact ⟨rfl, hl _ (by simp)⟩

theorem ArrR.push {C : Ctx} {w : Nat} {xa xb : Array CellId} (h : ArrR C w xa xb) {a b : CellId}
    (hc : CellR C w a b) : ArrR C w (xa.push a) (xb.push b) := by
  obtain ⟨rfl, hl⟩ := h
  obtain ⟨rfl, hb⟩ := hc
  refine ⟨by simp, ?_⟩
  intro c hc
  simp only [Array.toList_push, List.mem_append, List.mem_singleton] at hc
  rcases hc with hc | hc
  · exact hl c hc
  · subst hc; exact hb

theorem ArrR.pop {C : Ctx} {w : Nat} {xa xb : Array CellId} (h : ArrR C w xa xb) : ArrR C w xa.pop xb.pop := by
  obtain ⟨rfl, hl⟩ := h
  refine ⟨by simp, ?_⟩
  intro c hc
  simp only [Array.toList_pop] at hc
  exact hl c (List.dropLast_subset _ hc)

theorem ArrR.extract {C : Ctx} {w : Nat} {xa xb : Array CellId} (h : ArrR C w xa xb) (i j : Nat) :
    ArrR C w (xa.extract i j) (xb.extract i j) := by
  obtain ⟨rfl, hl⟩ := h
  refine ⟨by simp, ?_⟩
  intro c hc
  simp only [Array.toList_extract, List.extract_eq_take_drop] at hc
  exact hl c (List.mem_of_mem_drop (List.mem_of_mem_take hc))

/-! ### what the evaluation never touches -/

structure Froz (C : Ctx) (hA hB : Heap) : Prop where
  fzB : C.fz ≤ hB.cells.size
  fzA : C.fzA ≤ hA.cells.size
  aA : C.a0 ≤ hA.arrs.size
  aB : C.a0 ≤ hB.arrs.size
  oA : C.o0 ≤ hA.objs.size
  oB : C.o0 ≤ hB.objs.size
  cellB : ∀ i, i < C.fz → ¬ C.D i → hB.get i = C.snapB.get i
  cellA : ∀ j, j < C.fzA → (∀ i, C.D i → C.σ i ≠ j) → hA.get j = C.snapA.get j
  arrB : ∀ k, k < C.a0 → hB.arr k = C.snapB.arr k
  arrA : ∀ k, k < C.a0 → hA.arr k = C.snapA.arr k
  objB : ∀ k, k < C.o0 → hB.obj k = C.snapB.obj k
  objA : ∀ k, k < C.o0 → hA.obj k = C.snapA.obj k

namespace Froz

variable {C : Ctx} {hA hB : Heap}

theorem trivial (h1 : C.fz = 0) (h2 : C.fzA = 0) (h3 : C.a0 = 0) (h4 : C.o0 = 0) : Froz C hA hB := by
  refine ⟨by rw [h1]; exact Nat.zero_le _, by rw [h2]; exact Nat.zero_le _, by rw [h3]; exact Nat.zero_le _,
    by rw [h3]; exact Nat.zero_le _, by rw [h4]; exact Nat.zero_le _, by rw [h4]; exact Nat.zero_le _,
    ?_, ?_, ?_, ?_, ?_, ?_⟩
  · intro i hi; rw [h1] at hi; exact absurd hi (Nat.not_lt_zero _)
  · intro i hi; rw [h2] at hi; exact absurd hi (Nat.not_lt_zero _)
  · intro i hi; rw [h3] at hi; exact absurd hi (Nat.not_lt_zero _)
  · intro i hi; rw [h3] at hi; exact absurd hi (Nat.not_lt_zero _)
  · intro i hi; rw [h4] at hi; exact absurd hi (Nat.not_lt_zero _)
  · intro i hi; rw [h4] at hi; exact absurd hi (Nat.not_lt_zero _)

theorem alloc (f : Froz C hA hB) (va vb : Val) : Froz C (hA.alloc va).2 (hB.alloc vb).2 :=
  { f with
    fzB := by rw [Heap.size_alloc]; exact Nat.le_succ_of_le f.fzB
    fzA := by rw [Heap.size_alloc]; exact Nat.le_succ_of_le f.fzA
    cellB := fun i hi hd => by
      rw [Heap.get_alloc, if_neg (Nat.ne_of_lt (Nat.lt_of_lt_of_le hi f.fzB))]; exact f.cellB i hi hd
    cellA := fun j hj hd => by
      rw [Heap.get_alloc, if_neg (Nat.ne_of_lt (Nat.lt_of_lt_of_le hj f.fzA))]; exact f.cellA j hj hd }

theorem set (f : Froz C hA hB) {b : CellId} (hb : C.D b) (va vb : Val) :
    Froz C (hA.set (C.σ b) va) (hB.set b vb) :=
  { f with
    fzB := by rw [Heap.size_set]; exact f.fzB
    fzA := by rw [Heap.size_set]; exact f.fzA
    cellB := fun i hi hd => by
      rw [Heap.get_set, if_neg (fun (e : i = b ∧ _) => hd (e.1 ▸ hb))]; exact f.cellB i hi hd
    cellA := fun j hj hd => by
      rw [Heap.get_set, if_neg (fun (e : j = C.σ b ∧ _) => hd b hb e.1.symm)]; exact f.cellA j hj hd }

theorem allocArr (f : Froz C hA hB) (xa xb : Array CellId) : Froz C (hA.allocArr xa).2 (hB.allocArr xb).2 :=
  { f with
    aA := by show C.a0 ≤ (hA.arrs.push xa).size; rw [Array.size_push]; exact Nat.le_succ_of_le f.aA
    aB := by show C.a0 ≤ (hB.arrs.push xb).size; rw [Array.size_push]; exact Nat.le_succ_of_le f.aB
    arrB := fun k hk => by
      rw [Heap.arr_allocArr, if_neg (Nat.ne_of_lt (Nat.lt_of_lt_of_le hk f.aB))]; exact f.arrB k hk
    arrA := fun k hk => by
      rw [Heap.arr_allocArr, if_neg (Nat.ne_of_lt (Nat.lt_of_lt_of_le hk f.aA))]; exact f.arrA k hk }

theorem allocObj (f : Froz C hA hB) (xa xb : List (Bytes × CellId)) :
    Froz C (hA.allocObj xa).2 (hB.allocObj xb).2 :=
  { f with
    oA := by show C.o0 ≤ (hA.objs.push xa).size; rw [Array.size_push]; exact Nat.le_succ_of_le f.oA
    oB := by show C.o0 ≤ (hB.objs.push xb).size; rw [Array.size_push]; exact Nat.le_succ_of_le f.oB
    objB := fun k hk => by
      rw [Heap.obj_allocObj, if_neg (Nat.ne_of_lt (Nat.lt_of_lt_of_le hk f.oB))]; exact f.objB k hk
    objA := fun k hk => by
      rw [Heap.obj_allocObj, if_neg (Nat.ne_of_lt (Nat.lt_of_lt_of_le hk f.oA))]; exact f.objA k hk }

theorem setArr (f : Froz C hA hB) {a : ArrId} (ha : C.a0 ≤ a) (xa xb : Array CellId) :
    Froz C (hA.setArr a xa) (hB.setArr a xb) :=
  { f with
    aA := (Array.size_setIfInBounds ..).symm ▸ f.aA
    aB := (Array.size_setIfInBounds ..).symm ▸ f.aB
    arrB := fun k hk => by
      rw [Heap.arr_setArr, if_neg (fun (e : _ ∧ _) => Nat.ne_of_lt (Nat.lt_of_lt_of_le hk ha) e.1)]; exact f.arrB k hk
    arrA := fun k hk => by
      rw [Heap.arr_setArr, if_neg (fun (e : _ ∧ _) => Nat.ne_of_lt (Nat.lt_of_lt_of_le hk ha) e.1)]; exact f.arrA k hk }

theorem setObj (f : Froz C hA hB) {o : ObjId} (ho : C.o0 ≤ o) (xa xb : List (Bytes × CellId)) :
    Froz C (hA.setObj o xa) (hB.setObj o xb) :=
  { f with
    oA := (Array.size_setIfInBounds ..).symm ▸ f.oA
    oB := (Array.size_setIfInBounds ..).symm ▸ f.oB
    objB := fun k hk => by
      rw [Heap.obj_setObj, if_neg (fun (e : _ ∧ _) => Nat.ne_of_lt (Nat.lt_of_lt_of_le hk ho) e.1)]; exact f.objB k hk
    objA := fun k hk => by
      rw [Heap.obj_setObj, if_neg (fun (e : _ ∧ _) => Nat.ne_of_lt (Nat.lt_of_lt_of_le hk ho) e.1)]; exact f.objA k hk }

end Froz

structure HR (C : Ctx) (hA hB : Heap) : Prop where
  szc : hA.cells.size = hB.cells.size + C.d
  mle : C.m ≤ hB.cells.size
  sza : hA.arrs.size = hB.arrs.size
  ale : C.a0 ≤ hB.arrs.size
  szo : hA.objs.size = hB.objs.size
  ole : C.o0 ≤ hB.objs.size
  cells : ∀ i, LiveC C hB.cells.size i → ValR C hB.cells.size (hA.get (C.σ i)) (hB.get i)
  arrs : ∀ k, C.a0 ≤ k → ArrR C hB.cells.size (hA.arr k) (hB.arr k)
  objs : ∀ k, C.o0 ≤ k → MemR C hB.cells.size (hA.obj k) (hB.obj k)
  froz : Froz C hA hB

variable {C : Ctx}

namespace HR

theorem get {hA hB : Heap} (r : HR C hA hB) {w : Nat} {a b : CellId} (h : CellR C w a b)
    (hw : w ≤ hB.cells.size) : ValR C hB.cells.size (hA.get a) (hB.get b) := by
  rw [h.1]; exact r.cells b (h.2.mono hw)

set_option linter.unusedVariables false in
theorem arrOf {hA hB : Heap} (r : HR C hA hB) {w : Nat} {v : Val} {a : ArrId}
    (hv : LiveV C w (.arr a)) : ArrR C hB.cells.size (hA.arr a) (hB.arr a) := r.arrs a hv

theorem objOf {hA hB : Heap} (r : HR C hA hB) {w : Nat} {o : ObjId}
    (hv : LiveV C w (.obj o)) : MemR C hB.cells.size (hA.obj o) (hB.obj o) := r.objs o hv

theorem alloc (wf : C.WF) {hA hB : Heap} (r : HR C hA hB) {w : Nat} {va vb : Val} (hv : ValR C w va vb)
    (hw : w ≤ hB.cells.size) :
    HR C (hA.alloc va).2 (hB.alloc vb).2 ∧
      CellR C (hB.cells.size + 1) (hA.alloc va).1 (hB.alloc vb).1 := by
  have hsA : (hA.alloc va).1 = C.σ (hB.alloc vb).1 := by
    show hA.cells.size = C.σ hB.cells.size
    rw [wf.shift _ r.mle, r.szc]
  refine ⟨⟨?_, ?_, r.sza, r.ale, r.szo, r.ole, ?_, ?_, ?_, r.froz.alloc va vb⟩, hsA, wf.up _ r.mle, Nat.lt_succ_self _⟩
  · rw [Heap.size_alloc, Heap.size_alloc, r.szc]; omega
  · rw [Heap.size_alloc]; exact Nat.le_succ_of_le r.mle
  · intro i hi
    rw [Heap.size_alloc] at hi ⊢
    rw [Heap.get_alloc, Heap.get_alloc]
    by_cases e : i = hB.cells.size
    · subst e
      have : C.σ hB.cells.size = hA.cells.size := by rw [wf.shift _ r.mle, r.szc]
      simp only [this, ↓reduceIte]
      exact hv.mono (Nat.le_succ_of_le hw)
    · have hlt : i < hB.cells.size := by
        have h2 : i < hB.cells.size + 1 := hi.2
        exact Nat.lt_of_le_of_ne (Nat.le_of_lt_succ h2) e
      have : C.σ i ≠ hA.cells.size := by
        have := wf.σ_lt hlt r.mle; rw [r.szc]; omega
      simp only [this, e, ↓reduceIte]
      exact (r.cells i ⟨hi.1, hlt⟩).mono (Nat.le_succ _)
  · intro k hk
    rw [Heap.size_alloc]
    exact (r.arrs k hk).mono (Nat.le_succ _)
  · intro k hk
    rw [Heap.size_alloc]
    exact (r.objs k hk).mono (Nat.le_succ _)

theorem set (wf : C.WF) {hA hB : Heap} (r : HR C hA hB) {w w' : Nat} {a b : CellId} (hc : CellR C w a b)
    (hw : w ≤ hB.cells.size) {va vb : Val} (hv : ValR C w' va vb) (hw' : w' ≤ hB.cells.size) :
    HR C (hA.set a va) (hB.set b vb) := by
  obtain ⟨rfl, hb⟩ := hc
  have hb' : b < hB.cells.size := Nat.lt_of_lt_of_le hb.2 hw
  have ha' : C.σ b < hA.cells.size := by rw [r.szc]; exact wf.σ_lt hb' r.mle
  refine ⟨?_, ?_, r.sza, r.ale, r.szo, r.ole, ?_, ?_, ?_, r.froz.set hb.1 va vb⟩
  · rw [Heap.size_set, Heap.size_set]; exact r.szc
  · rw [Heap.size_set]; exact r.mle
  · intro i hi
    rw [Heap.size_set] at hi ⊢
    rw [Heap.get_set, Heap.get_set]
    by_cases e : i = b
    · subst e
      simp only [ha', hb', and_self, ↓reduceIte]
      exact hv.mono hw'
    · have : C.σ i ≠ C.σ b := fun x => e (wf.inj _ _ x)
      simp only [this, e, false_and, ↓reduceIte]
      exact r.cells i hi
  · intro k hk; rw [Heap.size_set]; exact r.arrs k hk
  · intro k hk; rw [Heap.size_set]; exact r.objs k hk

theorem allocArr {hA hB : Heap} (r : HR C hA hB) {w : Nat} {xa xb : Array CellId} (hx : ArrR C w xa xb)
    (hw : w ≤ hB.cells.size) :
    HR C (hA.allocArr xa).2 (hB.allocArr xb).2 ∧ (hA.allocArr xa).1 = (hB.allocArr xb).1 ∧
      C.a0 ≤ (hB.allocArr xb).1 :=
  ⟨{ r with
     sza := by show (hA.arrs.push xa).size = (hB.arrs.push xb).size; rw [Array.size_push, Array.size_push, r.sza]
     ale := (r.froz.allocArr xa xb).aB
     arrs := fun k hk => by
       rw [Heap.arr_allocArr, Heap.arr_allocArr, r.sza]
       split
       · exact hx.mono hw
       · exact r.arrs k hk
     froz := r.froz.allocArr xa xb }, r.sza, r.ale⟩

theorem allocObj {hA hB : Heap} (r : HR C hA hB) {w : Nat} {xa xb : List (Bytes × CellId)}
    (hx : MemR C w xa xb) (hw : w ≤ hB.cells.size) :
    HR C (hA.allocObj xa).2 (hB.allocObj xb).2 ∧ (hA.allocObj xa).1 = (hB.allocObj xb).1 ∧
      C.o0 ≤ (hB.allocObj xb).1 :=
  ⟨{ r with
     szo := by show (hA.objs.push xa).size = (hB.objs.push xb).size; rw [Array.size_push, Array.size_push, r.szo]
     ole := (r.froz.allocObj xa xb).oB
     objs := fun k hk => by
       rw [Heap.obj_allocObj, Heap.obj_allocObj, r.szo]
       split
       · exact hx.mono hw
       · exact r.objs k hk
     froz := r.froz.allocObj xa xb }, r.szo, r.ole⟩

theorem setArr {hA hB : Heap} (r : HR C hA hB) {a : ArrId} (ha : C.a0 ≤ a) {w : Nat} {xa xb : Array CellId}
    (hx : ArrR C w xa xb) (hw : w ≤ hB.cells.size) : HR C (hA.setArr a xa) (hB.setArr a xb) :=
  { r with
    sza := by
      show (hA.arrs.setIfInBounds a xa).size = (hB.arrs.setIfInBounds a xb).size
      rw [Array.size_setIfInBounds, Array.size_setIfInBounds, r.sza]
    ale := (r.froz.setArr ha xa xb).aB
    arrs := fun k hk => by
      rw [Heap.arr_setArr, Heap.arr_setArr, r.sza]
      split
      · exact hx.mono hw
      · exact r.arrs k hk
    froz := r.froz.setArr ha xa xb }

theorem setObj {hA hB : Heap} (r : HR C hA hB) {o : ObjId} (ho : C.o0 ≤ o) {w : Nat} {xa xb : List (Bytes × CellId)}
    (hx : MemR C w xa xb) (hw : w ≤ hB.cells.size) : HR C (hA.setObj o xa) (hB.setObj o xb) :=
  { r with
    szo := by
      show (hA.objs.setIfInBounds o xa).size = (hB.objs.setIfInBounds o xb).size
      rw [Array.size_setIfInBounds, Array.size_setIfInBounds, r.szo]
    ole := (r.froz.setObj ho xa xb).oB
    objs := fun k hk => by
      rw [Heap.obj_setObj, Heap.obj_setObj, r.szo]
      split
      · exact hx.mono hw
      · exact r.objs k hk
    froz := r.froz.setObj ho xa xb }

end HR

def renMember (σ : Nat → Nat) : Member → Member
  | .cell c => .cell (σ c)
  | m => m

theorem protoGet_renV (tbl : Bytes → Option Native) (m : Val) :
    protoGet tbl (renV C.σ m) = protoGet tbl m := by
  cases m <;> rfl

theorem protoGet_ren (tbl : Bytes → Option Native) (m : Val) :
    protoGet tbl m = Except.map (renMember C.σ) (protoGet tbl m) := by
  rcases protoGet_cases tbl m with ⟨f, e⟩ | e | ⟨e', e⟩ <;> rw [e] <;> rfl

theorem getMember_rel {hA hB : Heap} (r : HR C hA hB) {w : Nat} {v : Val} (hv : LiveV C w v) (m : Val) :
    getMember hA (renV C.σ v) (renV C.σ m) = Except.map (renMember C.σ) (getMember hB v m) ∧
      ∀ c, getMember hB v m = .ok (.cell c) → LiveC C hB.cells.size c := by
  cases v with
  | arr a =>
    have ha := r.arrs a hv
    cases m with
    | num x =>
      simp only [renV, getMember, ha.size]
      cases hri : resolveIndex (hB.arr a).size x.toGoInt with
      | none => exact ⟨rfl, fun c h => by cases h⟩
      | some i =>
        dsimp only
        by_cases hi : i < (hB.arr a).size
        · simp only [hi, ↓reduceIte]
          have hc := ha.getD hi
          refine ⟨?_, ?_⟩
          · rw [hc.1]; rfl
          · intro c h; cases h; exact hc.2
        · simp only [hi, ↓reduceIte]
          exact ⟨rfl, fun c h => by cases h⟩
    | _ =>
      simp only [renV, getMember]
      exact ⟨protoGet_ren _ _, fun c h => absurd h (protoGet_not_cell _ _ c)⟩
  | obj o =>
    have ho := r.objs o hv
    have key : ∀ mm : Val, mm.kind = .num ∨ mm.kind = .str →
        (match objLookup (hA.obj o) mm.str! with
          | some c => (Except.ok (Member.cell c) : Except String Member)
          | none => protoGet objProto mm) =
        Except.map (renMember C.σ) (match objLookup (hB.obj o) mm.str! with
          | some c => .ok (.cell c)
          | none => protoGet objProto mm) ∧
        ∀ c, (match objLookup (hB.obj o) mm.str! with
          | some c => (Except.ok (Member.cell c) : Except String Member)
          | none => protoGet objProto mm) = .ok (.cell c) → LiveC C hB.cells.size c := by
      intro mm _
      have hl := ho.lookup mm.str!
      cases hb : objLookup (hB.obj o) mm.str! with
      | none =>
        rw [hb] at hl
        cases ha : objLookup (hA.obj o) mm.str! with
        | some _ => rw [ha] at hl; cases hl
        | none => exact ⟨protoGet_ren _ _, fun c h => absurd h (protoGet_not_cell _ _ c)⟩
      | some cb =>
        rw [hb] at hl
        cases ha : objLookup (hA.obj o) mm.str! with
        | none => rw [ha] at hl; cases hl
        | some ca =>
          rw [ha] at hl
          refine ⟨by rw [hl.1]; rfl, fun c h => by cases h; exact hl.2⟩
    cases m with
    | num x => exact key (.num x) (.inl rfl)
    | str s sp =>
      have := key (.str s sp) (.inr rfl)
      have e : protoGet objProto (.str s (renSpec C.σ sp)) = protoGet objProto (.str s sp) :=
        protoGet_renV (C := C) objProto (.str s sp)
      simp only [Val.str!] at this
      simp only [renV, getMember, Val.str!, e]
      exact this
    | _ => exact ⟨rfl, fun c h => by cases h⟩
  | str s sp =>
    cases m with
    | num x =>
      simp only [renV, getMember]
      split
      · exact ⟨rfl, fun c h => by cases h⟩
      · exact ⟨rfl, fun c h => by cases h⟩
    | _ =>
      simp only [renV, getMember]
      exact ⟨protoGet_ren _ _, fun c h => absurd h (protoGet_not_cell _ _ c)⟩
  | num x =>
    show getMember hA (.num x) (renV C.σ m) = _ ∧ _
    simp only [getMember, protoGet_renV]
    exact ⟨protoGet_ren _ _, fun c h => absurd h (protoGet_not_cell _ _ c)⟩
  | _ => exact ⟨rfl, fun c h => by cases h⟩

theorem fillNulls_succ (n : Nat) (h : Heap) (x : Array CellId) :
    fillNulls (n + 1) h x = fillNulls n (h.alloc (.nil none)).2 (x.push (h.alloc (.nil none)).1) := rfl

theorem fillNulls_rel (wf : C.WF) : ∀ (n : Nat) (hA hB : Heap) (xa xb : Array CellId), HR C hA hB →
    ArrR C hB.cells.size xa xb →
    HR C (fillNulls n hA xa).1 (fillNulls n hB xb).1 ∧
    ArrR C (fillNulls n hB xb).1.cells.size (fillNulls n hA xa).2 (fillNulls n hB xb).2 ∧
    hB.cells.size ≤ (fillNulls n hB xb).1.cells.size ∧ (fillNulls n hB xb).2.size = xb.size + n
  | 0, hA, hB, xa, xb, r, hx => ⟨r, hx, Nat.le_refl _, rfl⟩
  | n + 1, hA, hB, xa, xb, r, hx => by
    rw [fillNulls_succ, fillNulls_succ]
    obtain ⟨r1, c1⟩ := r.alloc wf (ValR.scalar (C := C) (v := .nil none) hB.cells.size) (Nat.le_refl _)
    have hx1 : ArrR C (hB.alloc (.nil none)).2.cells.size (xa.push (hA.alloc (.nil none)).1)
        (xb.push (hB.alloc (.nil none)).1) := by
      rw [Heap.size_alloc]
      exact (hx.mono (Nat.le_succ _)).push c1
    have ih := fillNulls_rel wf n _ _ _ _ r1 hx1
    refine ⟨ih.1, ih.2.1, ?_, ?_⟩
    · have := ih.2.2.1; rw [Heap.size_alloc] at this; omega
    · rw [ih.2.2.2, Array.size_push]; omega

def SetMemR (C : Ctx) (w0 : Nat) : Except String (CellId × Heap) → Except String (CellId × Heap) → Prop
  | .error e, .error e' => e = e'
  | .ok (ca, hA'), .ok (cb, hB') => w0 ≤ hB'.cells.size ∧ CellR C hB'.cells.size ca cb ∧ HR C hA' hB'
  | _, _ => False

theorem renV_num_iff (m : Val) : (∃ x, renV C.σ m = .num x) ↔ ∃ x, m = .num x := by
  cases m <;> simp [renV]

theorem setMember_rel (wf : C.WF) {hA hB : Heap} (r : HR C hA hB) {w : Nat} {v : Val} (hv : LiveV C w v)
    (m : Val) {ca cb : CellId} (hc : CellR C w ca cb) (hw : w ≤ hB.cells.size) :
    SetMemR C hB.cells.size (setMember hA (renV C.σ v) (renV C.σ m) ca) (setMember hB v m cb) := by
  cases v with
  | arr a =>
    have ha := r.arrs a hv
    cases m with
    | num x =>
      simp only [renV, setMember, ha.size]
      cases hri : resolveIndex (hB.arr a).size x.toGoInt with
      | none => exact rfl
      | some i =>
        dsimp only
        by_cases hi : i < (hB.arr a).size
        · simp only [hi, ↓reduceIte]
          have hitem := ha.getD hi
          refine ⟨?_, ?_, ?_⟩
          · rw [Heap.size_set]; exact Nat.le_refl _
          · rw [Heap.size_set]; exact hitem
          · exact r.set wf hitem (Nat.le_refl _) (r.get hc hw) (Nat.le_refl _)
        · simp only [hi, ↓reduceIte]
          split
          · exact rfl
          · obtain ⟨r1, hx1, hle, hsz⟩ := fillNulls_rel wf (i + 1 - (hB.arr a).size) hA hB _ _ r ha
            have hlt : i < (fillNulls (i + 1 - (hB.arr a).size) hB (hB.arr a)).2.size := by
              rw [hsz]; omega
            have hitem := hx1.getD hlt
            have r2 := r1.setArr (a := a) hv hx1 (Nat.le_refl _)
            have hsz2 : ∀ (h : Heap) (x : Array CellId), (h.setArr a x).cells.size = h.cells.size :=
              fun _ _ => rfl
            refine ⟨?_, ?_, ?_⟩
            · rw [Heap.size_set, hsz2]; exact hle
            · rw [Heap.size_set, hsz2]; exact hitem
            · refine r2.set wf hitem (by rw [hsz2]; exact Nat.le_refl _)
                (r2.get hc (by rw [hsz2]; exact Nat.le_trans hw hle)) (Nat.le_refl _)
    | _ => exact rfl
  | obj o =>
    have ho := r.objs o hv
    show SetMemR C hB.cells.size
      (.ok (ca, hA.setObj o (objInsert (hA.obj o) (renV C.σ m).str! ca)))
      (.ok (cb, hB.setObj o (objInsert (hB.obj o) m.str! cb)))
    rw [str_renV]
    have hsz2 : ∀ (h : Heap) (x : List (Bytes × CellId)), (h.setObj o x).cells.size = h.cells.size :=
      fun _ _ => rfl
    refine ⟨by rw [hsz2]; exact Nat.le_refl _, by rw [hsz2]; exact hc.mono hw, ?_⟩
    exact r.setObj (o := o) hv (ho.objInsert _ (hc.mono hw)) (Nat.le_refl _)
  | _ => exact rfl

end Sel
end Jqawk
