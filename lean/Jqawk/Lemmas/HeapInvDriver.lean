/-
  The heap invariant `Inv` (C15) through the rule driver and the whole run: the conversion of a
  decoded JSON value, the rule loops, the selectors, the input loop, `runProgram`/`evalProgram`.
  The rule loops mirror `DriverInvariant.lean` with `Good` in place of `SafeD`; the input loop and the
  run are an instance of `Lemmas/DriverRun.lean`.
-/
import Jqawk.Lemmas.HeapInvEval
import Jqawk.Lemmas.DriverSteps
import Jqawk.Lemmas.DriverRun


namespace Jqawk.HeapInv
open Jqawk Jqawk.IndexWrite

theorem notElem_alloc_new {h : Heap} (wf : h.WF) (v : Val) : NotElem (h.alloc v).2 h.cells.size := by
  intro b hb
  have : h.cells.size < h.cells.size := wf.arrs b _ hb
  exact Nat.lt_irrefl _ this

theorem post_newCell {β : Type} {s1 : St} {h0 : Heap} {R : β → Heap → Prop} (v : Val)
    (f : CellId → EM β)
    (hf : Post R h0 (f s1.heap.cells.size { s1 with heap := (s1.heap.alloc v).2 })) :
    Post R h0 ((Jqawk.newCell v >>= f) s1) := hf

mutual
theorem ht_newValueJson : ∀ j, HT (fun _ => True) (Jqawk.newValueJson j) (fun _ v _ => Plain v)
  | .null => by
    unfold Jqawk.newValueJson
    exact fun s i _ => ⟨i, Trans.refl _, plain_nilNone⟩
  | .bool b => by
    unfold Jqawk.newValueJson
    exact fun s i _ => ⟨i, Trans.refl _, plain_bool b⟩
  | .num lit => by
    unfold Jqawk.newValueJson
    exact fun s i _ => ⟨i, Trans.refl _, plain_num _⟩
  | .str x => by
    unfold Jqawk.newValueJson
    exact fun s i _ => ⟨i, Trans.refl _, plain_strNone x⟩
  | .arr items => by
    unfold Jqawk.newValueJson
    refine HT.bind (ht_newValueItems items) (fun s cells s1 i _ i1 t r => ?_)
    exact ⟨inv_allocArr i1 cells r.1 (fun c hc => ⟨(r.2 c hc).2.1, (r.2 c hc).2.2.1, (r.2 c hc).2.2.2⟩),
      trans_allocArr t cells (fun c hc => (r.2 c hc).1), plain_arr _⟩
  | .obj members => by
    unfold Jqawk.newValueJson
    refine HT.bind (ht_newValueMembers members) (fun s cells s1 i _ i1 t r => ?_)
    refine ⟨inv_allocObj i1 _ (fun kc hkc => ?_), t.trans (trans_allocObj _ _), plain_obj _⟩
    rcases mem_pluckMembers (kcs := cells) (m0 := []) hkc with h | ⟨x, hx, e⟩
    · cases h
    · rw [e]; exact r x hx
theorem ht_newValueItems : ∀ js, HT (fun _ => True) (Jqawk.newValueItems js) FreshCells
  | [] => by
    unfold Jqawk.newValueItems
    exact fun s i _ => ⟨i, Trans.refl _, List.nodup_nil, fun _ h => by cases h⟩
  | j :: js => by
    unfold Jqawk.newValueItems
    refine HT.bind (ht_newValueJson j) (fun s v s1 i _ i1 t pv => ?_)
    apply post_newCell
    have i2 : Inv (s1.heap.alloc v).2 := inv_alloc i1 v
    have t2 : Trans s.heap (s1.heap.alloc v).2 := t.trans (trans_alloc _ v)
    refine Post.bind' (s1 := { s1 with heap := (s1.heap.alloc v).2 }) t2
      (ht_newValueItems js { s1 with heap := (s1.heap.alloc v).2 } i2 trivial)
      (fun cs s3 i3 t3 r => ?_)
    have hsz2 : (s1.heap.alloc v).2.cells.size = s1.heap.cells.size + 1 := Heap.size_alloc _ _
    have hlt : s1.heap.cells.size < (s1.heap.alloc v).2.cells.size := by rw [hsz2]; exact Nat.lt_succ_self _
    refine ⟨i3, t2.trans t3, ?_, ?_⟩
    · refine List.nodup_cons.mpr ⟨fun hmem => ?_, r.1⟩
      have := (r.2 _ hmem).1
      exact Nat.lt_irrefl _ (Nat.lt_of_lt_of_le hlt this)
    · intro c hc
      rcases List.mem_cons.mp hc with e | hc
      · subst e
        refine ⟨t.size, Nat.lt_of_lt_of_le hlt t3.size, ?_, ?_⟩
        · apply t3.plain _ hlt
          show Plain ((s1.heap.alloc v).2.get s1.heap.cells.size)
          rw [Heap.get_alloc_new]; exact pv
        · exact t3.notElem hlt (notElem_alloc_new i1.wf v)
      · have h := r.2 c hc
        exact ⟨Nat.le_trans t2.size h.1, h.2⟩
theorem ht_newValueMembers : ∀ ms, HT (fun _ => True) (Jqawk.newValueMembers ms)
    (fun _ r h' => MembersOK r h')
  | [] => by
    unfold Jqawk.newValueMembers
    exact fun s i _ => ⟨i, Trans.refl _, fun _ h => by cases h⟩
  | (k, j) :: ms => by
    unfold Jqawk.newValueMembers
    refine HT.bind (ht_newValueJson j) (fun s v s1 i _ i1 t pv => ?_)
    apply post_newCell
    have i2 : Inv (s1.heap.alloc v).2 := inv_alloc i1 v
    have t2 : Trans s.heap (s1.heap.alloc v).2 := t.trans (trans_alloc _ v)
    refine Post.bind' (s1 := { s1 with heap := (s1.heap.alloc v).2 }) t2
      (ht_newValueMembers ms { s1 with heap := (s1.heap.alloc v).2 } i2 trivial)
      (fun cs s3 i3 t3 r => ?_)
    have hsz2 : (s1.heap.alloc v).2.cells.size = s1.heap.cells.size + 1 := Heap.size_alloc _ _
    have hlt : s1.heap.cells.size < (s1.heap.alloc v).2.cells.size := by rw [hsz2]; exact Nat.lt_succ_self _
    refine ⟨i3, t2.trans t3, ?_⟩
    intro kc hkc
    rcases List.mem_cons.mp hkc with e | hkc
    · subst e
      refine ⟨Nat.lt_of_lt_of_le hlt t3.size, ?_⟩
      apply t3.plain _ hlt
      show Plain ((s1.heap.alloc v).2.get s1.heap.cells.size)
      rw [Heap.get_alloc_new]; exact pv
    · exact r kc hkc
end

theorem Good.newValueJson (j : JVal) : Good (Jqawk.newValueJson j) := Good.of_HT (ht_newValueJson j)
theorem Good.newValueItems (js : List JVal) : Good (Jqawk.newValueItems js) :=
  Good.of_HT (ht_newValueItems js)
theorem Good.newValueMembers (ms : List (Bytes × JVal)) : Good (Jqawk.newValueMembers ms) :=
  Good.of_HT (ht_newValueMembers ms)

theorem Good.modifyNoHeap (f : St → St) (hf : ∀ s, (f s).heap = s.heap) : Good (Jqawk.modifySt f) :=
  Good.of_heap_eq _ (fun s => hf s)

theorem Good.setGlobal (name : Bytes) (c : CellId) : Good (Jqawk.setGlobal name c) :=
  Good.of_heap_eq _ (fun _ => rfl)

theorem Good.ruleFlow {m : EM Unit} (hm : Good m) : Good (Jqawk.ruleFlow m) := by
  rw [ruleFlow_eq_handle]
  refine Good.handle hm (fun _ => Good.pure _) (fun g k hg => ?_)
  cases g <;> cases hg <;> exact Good.pure _

theorem Good.catchExit {m : EM Unit} (hm : Good m) : Good (Jqawk.catchExit m) := by
  rw [catchExit_eq_handle]
  refine Good.handle hm (fun _ => Good.pure _) (fun g k hg => ?_)
  cases g <;> cases hg
  exact Good.pure _

section
variable (prog : Program)

theorem Good.evalRules (rules : List Rule) : Good (Jqawk.evalRules prog rules) := by
  induction rules with
  | nil => exact Good.pure ()
  | cons rule rest ih =>
    unfold Jqawk.evalRules
    have hstmt : Good (evalStmt prog evalFuel rule.body) := (allGood prog evalFuel).stmt _
    refine Good.bind ?_ (fun r => ?_)
    · split
      · exact Good.pure _
      · refine Good.catchSig _ _ (Good.bind ((allGood prog evalFuel).expr _)
          (fun c => Good.bind (Good.readCell _) (fun v => Good.pure _)))
    · split
      · exact Good.pure _
      · split
        · exact ih
        · refine Good.bind (Good.catchSig _ _ (Good.bind hstmt (fun _ => Good.pure _))) (fun more => ?_)
          split
          · exact ih
          · exact Good.pure _

theorem Good.evalElems (rules : List Rule) (items : List CellId) (i : Nat) :
    Good (Jqawk.evalElems prog rules items i) := by
  induction items generalizing i with
  | nil => exact Good.pure ()
  | cons item rest ih =>
    unfold Jqawk.evalElems
    exact Good.bind (Good.modifyNoHeap _ (fun _ => rfl)) (fun _ =>
      Good.bind (Good.newCell _) (fun ic =>
        Good.bind (Good.setLocal _ _) (fun _ =>
          Good.bind (Good.evalRules prog rules) (fun _ => ih (i + 1)))))

theorem Good.evalPatternRules (rules : List Rule) : Good (Jqawk.evalPatternRules prog rules) := by
  unfold Jqawk.evalPatternRules
  refine Good.bind Good.getSt (fun s => ?_)
  split
  · exact Good.pure _
  · split
    · exact Good.evalElems prog rules _ _
    · exact Good.bind (Good.modifyNoHeap _ (fun _ => rfl)) (fun _ => Good.evalRules prog rules)

theorem Good.evalSpecialRules (mkRoot : EM CellId) (hmk : Good mkRoot) (rules : List Rule) :
    Good (Jqawk.evalSpecialRules prog mkRoot rules) := by
  induction rules with
  | nil => exact Good.pure _
  | cons rule rest ih =>
    unfold Jqawk.evalSpecialRules
    refine Good.bind hmk (fun c => Good.bind (Good.modifyNoHeap _ (fun _ => rfl)) (fun _ =>
      Good.bind (Good.ruleFlow ((allGood prog evalFuel).stmt _)) (fun fl => ?_)))
    split
    · exact Good.pure _
    · exact ih

theorem Good.processRoot (c : CellId) : Good (Jqawk.processRoot prog c) := by
  unfold Jqawk.processRoot
  refine Good.bind (Good.readCell _) (fun rv =>
    Good.bind (Good.evalSpecialRules prog _ (Good.pure _) _) (fun fl => ?_))
  split
  · exact Good.pure _
  · refine Good.bind (Good.modifyNoHeap _ (fun _ => rfl)) (fun _ =>
      Good.bind (Good.catchExit (Good.evalPatternRules prog _)) (fun fl2 => ?_))
    split
    · exact Good.pure _
    · exact Good.evalSpecialRules prog _ (Good.newCell _) _

theorem Good.processRoots (cs : List CellId) : Good (Jqawk.processRoots prog cs) := by
  induction cs with
  | nil => exact Good.pure _
  | cons c rest ih =>
    unfold Jqawk.processRoots
    refine Good.bind (Good.processRoot prog c) (fun fl => ?_)
    split
    · exact Good.pure _
    · exact ih

end

theorem Good.selectorRun (rootValue : JVal) (expr : Expr) : Good (Jqawk.selectorRun rootValue expr) := by
  unfold Jqawk.selectorRun
  refine Good.bind (Good.newValueJson _) (fun v => Good.bind (Good.newCell _) (fun rc =>
    Good.bind (Good.modifyNoHeap _ (fun _ => rfl)) (fun _ => Good.bind
      ((allGood Program.empty evalFuel).expr _)
      (fun cell => Good.bind (Good.newCell _) (fun root =>
        Good.bind (Good.copyValue _ _) (fun r => ?_))))))
  split
  · exact Good.throwRt _ _
  · exact Good.pure _

def Step (h0 h : Heap) : Prop := Inv h ∧ Trans h0 h

theorem Step.alloc {h0 h : Heap} (st : Step h0 h) (v : Val) : Step h0 (h.alloc v).2 :=
  ⟨inv_alloc st.1 v, st.2.trans (trans_alloc h v)⟩

theorem foldl_step {σ β : Type} (proj : σ → Heap) (F : σ → β → σ) (h0 : Heap)
    (hF : ∀ st x, Step h0 (proj st) → Step h0 (proj (F st x))) :
    ∀ (l : List β) (st : σ), Step h0 (proj st) → Step h0 (proj (l.foldl F st)) := by
  intro l
  induction l with
  | nil => intro st h; exact h
  | cons x rest ih => intro st h; exact ih _ (hF st x h)

theorem initFrames_step (prog : Program) (h : Heap) (i : Inv h) : Step h (initFrames prog h).2 := by
  unfold initFrames
  dsimp only
  refine foldl_step (fun st : List (Bytes × CellId) × Heap => st.2) _ h ?_ _ _ ?_
  · intro st x hst
    obtain ⟨f, idx⟩ := x
    exact Step.alloc hst _
  · have h0 : Step h h := ⟨i, Trans.refl h⟩
    exact Step.alloc (Step.alloc (Step.alloc h0 _) _) _

theorem newEvaluator_step (prog : Program) (h : Heap) (out : List Bytes) (faults : Nat) (i : Inv h) :
    Inv (newEvaluator prog h out faults).heap ∧ Trans h (newEvaluator prog h out faults).heap :=
  initFrames_step prog h i

theorem newEvaluator_inv (prog : Program) (h : Heap) (out : List Bytes) (faults : Nat) (i : Inv h) :
    Inv (newEvaluator prog h out faults).heap := (newEvaluator_step prog h out faults i).1

theorem newEvaluator_empty_inv (prog : Program) : Inv (newEvaluator prog Heap.empty [] 0).heap :=
  newEvaluator_inv prog _ _ _ inv_empty

def PostI {α : Type} : Res α → Prop
  | .ok _ s' => Inv s'.heap
  | .err (.sig _) s' => Inv s'.heap
  | .err _ s' => Weak s'.heap
  | .oof => True

theorem Good.postI {α : Type} {m : EM α} (hm : Good m) (s : St) (i : Inv s.heap) : PostI (m s) := by
  have h := hm s i trivial
  cases hr : m s with
  | ok a s' => rw [hr] at h; exact h.1
  | err e s' =>
    rw [hr] at h
    cases e with
    | sig g => exact h.1
    | runtime p m => exact h
    | panic m => exact h
    | unmodelled w => exact h
  | oof => trivial

/-- the invariant holds in the state reported with a successful outcome, a surfaced signal, a JSON
    error, a syntax error or out of fuel (the last three are reported with an earlier good state);
    the weak invariant holds in the state reported with a runtime error, a panic or an unmodelled
    construct -/
def InvOut (o : Outcome) (s : St) : Prop :=
  match o with
  | .ok | .sentinel _ | .jsonErr _ | .syntaxErr _ _ | .oof => Inv s.heap
  | .runtimeErr _ _ _ | .panic _ | .unmodelled _ => Weak s.heap

theorem InvOut.weak {o : Outcome} {s : St} (h : InvOut o s) : Weak s.heap := by
  cases o <;> first | exact Inv.weak h | exact h

theorem invOut_errOutcome (src : Bytes) {s' : St} {e : Err} {α : Type}
    (h : PostI (.err e s' : Res α)) : InvOut (errOutcome src e) s' := by
  cases e with
  | runtime p m => exact h
  | sig g => exact h
  | panic m => exact h
  | unmodelled w => exact h

theorem evalSelector_inv (tbl : RuleTable) (sel : Bytes) (rootValue : JVal) (s : St) (i : Inv s.heap) :
    (∀ o s', evalSelector tbl sel rootValue s = .inl (o, s') → InvOut o s') ∧
    (∀ x s', evalSelector tbl sel rootValue s = .inr (x, s') → Inv s'.heap) := by
  unfold evalSelector
  split
  · constructor
    · intro o s' h; simp only [Sum.inl.injEq, Prod.mk.injEq] at h; obtain ⟨rfl, rfl⟩ := h
      exact i
    · intro x s' h; cases h
  · constructor
    · intro o s' h; simp only [Sum.inl.injEq, Prod.mk.injEq] at h; obtain ⟨rfl, rfl⟩ := h
      exact i
    · intro x s' h; cases h
  · rename_i expr hp
    dsimp only
    have h0 := (Good.selectorRun rootValue expr).postI (newEvaluator Program.empty s.heap s.out s.faults)
      (newEvaluator_inv Program.empty s.heap s.out s.faults i)
    split
    all_goals (rename_i hr; rw [hr] at h0)
    all_goals constructor
    all_goals intro a s' h
    all_goals (first
      | (cases h; done)
      | (simp only [Sum.inl.injEq, Sum.inr.injEq, Prod.mk.injEq] at h
         obtain ⟨rfl, rfl⟩ := h
         first
           | exact h0
           | exact i))

theorem Good.keeps {α : Type} {m : EM α} (hm : Good m) (src : Bytes) :
    Run.Keeps (fun s => Inv s.heap) InvOut src m := by
  intro s i
  have h := hm.postI s i
  split
  · rename_i hr; rw [hr] at h; exact h
  · rename_i hr; rw [hr] at h; exact invOut_errOutcome src h
  · trivial

section
variable (prog : Program)

theorem runInv (tbl : RuleTable) (src : Bytes) (sels : List Bytes) :
    Run.Invariant prog tbl src sels (fun s => Inv s.heap) InvOut :=
  ⟨fun _ => (Good.bind (Good.newCell _) (fun c => Good.setGlobal _ c)).keeps src,
   fun v => (Good.bind (Good.newValueJson v) (fun val => Good.newCell val)).keeps src,
   fun cs => (Good.processRoots prog cs).keeps src,
   fun _ => (Good.evalSpecialRules prog _ (Good.newCell _) _).keeps src,
   fun sel _ => evalSelector_inv tbl sel,
   fun _ i => ⟨i, i, fun _ => i⟩⟩

def InvRun (r : RunResult) : Prop := ∀ st, r.st = some st → InvOut r.outcome st

theorem runProgram_invRun (src : Bytes) (tbl : RuleTable) (sels : List Bytes) (files : List InputFile) :
    InvRun (runProgram prog src tbl sels files) := by
  intro st hst
  have h := (runInv prog tbl src sels).runProgram files (newEvaluator_empty_inv prog)
  unfold Run.OK at h
  rw [hst] at h
  exact h

/-- a run that ends successfully ends in a state whose heap satisfies the invariant -/
theorem runProgram_inv (src : Bytes) (tbl : RuleTable) (sels : List Bytes) (files : List InputFile)
    (st : St) :
    (runProgram prog src tbl sels files).st = some st →
    (runProgram prog src tbl sels files).outcome = .ok → Inv st.heap := by
  intro hst ho
  have h := runProgram_invRun prog src tbl sels files st hst
  rw [ho] at h
  exact h

end

theorem evalProgram_invRun (tbl : RuleTable) (src : Bytes) (sels : List Bytes) (files : List InputFile) :
    InvRun (evalProgram tbl src sels files) := by
  unfold evalProgram
  split
  · intro st hst; cases hst
  · intro st hst; cases hst
  · exact runProgram_invRun _ src tbl sels files

/-- `EvalProgram`: a successful run ends in a state whose heap satisfies the invariant -/
theorem evalProgram_inv (tbl : RuleTable) (src : Bytes) (sels : List Bytes) (files : List InputFile)
    (st : St) :
    (evalProgram tbl src sels files).st = some st →
    (evalProgram tbl src sels files).outcome = .ok → Inv st.heap := by
  intro hst ho
  have h := evalProgram_invRun tbl src sels files st hst
  rw [ho] at h
  exact h

/-- `EvalProgram`: whatever the outcome (also a runtime error, a panic, an unmodelled construct), the
    state a run reports satisfies the weak invariant: the heap is well-formed and no cell is an
    element of two arrays or twice of one -/
theorem evalProgram_weak (tbl : RuleTable) (src : Bytes) (sels : List Bytes) (files : List InputFile)
    (st : St) :
    (evalProgram tbl src sels files).st = some st → Weak st.heap :=
  fun hst => (evalProgram_invRun tbl src sels files st hst).weak

end Jqawk.HeapInv
