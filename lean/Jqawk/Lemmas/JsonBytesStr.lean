import Jqawk.Lemmas.JsonStep
/-!
  Byte-level round trip of JSON STRINGS: what `Json.encString` (Go `appendString`, escapeHTML = true)
  writes, `Json.unquote` (Go `unquoteBytes`) reads back — per iteration of the two loops
  (`quoteAt` / `unquoteAt`), then for whole strings.
-/
namespace Jqawk.JsonBytes
open Jqawk Jqawk.Json

theorem transduce_acc (f : UInt8 → Bytes → Bytes × Nat) :
    ∀ (l : Bytes) (n : Nat) (acc : Bytes), transduce f n l acc = transduce f n l [] ++ acc := by
  intro l
  induction l with
  | nil => intro n acc; cases n <;> simp [transduce]
  | cons c rest ih =>
    intro n acc
    cases n with
    | succ k => simp only [transduce]; exact ih k acc
    | zero =>
      simp only [transduce]
      rw [ih _ ((f c rest).1 ++ acc), ih _ ((f c rest).1 ++ [])]
      simp

theorem transduce_skip (f : UInt8 → Bytes → Bytes × Nat) :
    ∀ (l : Bytes) (n : Nat) (acc : Bytes), transduce f n l acc = transduce f 0 (l.drop n) acc := by
  intro l
  induction l with
  | nil => intro n acc; cases n <;> simp [transduce]
  | cons c rest ih =>
    intro n acc
    cases n with
    | succ k => simp only [transduce, List.drop_succ_cons]; exact ih k acc
    | zero => simp

/-- the forward (not reversed) output of a `transduce` loop -/
def fwd (f : UInt8 → Bytes → Bytes × Nat) (l : Bytes) : Bytes := (transduce f 0 l []).reverse

theorem fwd_nil (f : UInt8 → Bytes → Bytes × Nat) : fwd f [] = [] := by simp [fwd, transduce]

theorem fwd_cons (f : UInt8 → Bytes → Bytes × Nat) (c : UInt8) (rest : Bytes) :
    fwd f (c :: rest) = (f c rest).1.reverse ++ fwd f (rest.drop (f c rest).2) := by
  simp only [fwd, transduce]
  rw [transduce_skip, transduce_acc]
  simp

/-- induction along a `transduce` loop: an iteration at `c :: rest` goes on with `rest` less some
    bytes, so it is enough to have the claim for every `rest.drop k` -/
theorem drop_induction {P : Bytes → Prop} (nil : P []) (cons : ∀ c rest, (∀ k, P (rest.drop k)) → P (c :: rest)) :
    ∀ s, P s := by
  have : ∀ n (s : Bytes), s.length ≤ n → P s := by
    intro n
    induction n with
    | zero => intro s hs; cases s with | nil => exact nil | cons _ _ => cases hs
    | succ n ih =>
      intro s hs
      cases s with
      | nil => exact nil
      | cons c rest =>
        refine cons c rest fun k => ih _ ?_
        simp only [List.length_drop, List.length_cons] at hs ⊢; omega
  exact fun s => this s.length s (Nat.le_refl _)

theorem hex_rt : ∀ c : UInt8, hexVal (hexDigit (c >>> 4)) = some (c.toNat / 16) ∧
    hexVal (hexDigit (c &&& 0xF)) = some (c.toNat % 16) := by
  apply forall_u8
  decide +kernel

theorem not_lt_of_le {c a b : UInt8} (hab : a ≤ b) (h : ¬ c < b) : ¬ c < a :=
  fun h' => h (UInt8.lt_of_lt_of_le h' hab)

theorem width2 (c c1 : UInt8) (R : Bytes) (h0 : ¬ c < 0xC2) (h1 : c < 0xE0) (h2 : 0x80 ≤ c1) (h3 : c1 ≤ 0xBF) :
    utf8Width c (c1 :: R) = 2 := by
  unfold utf8Width
  rw [if_neg (not_lt_of_le (by decide) h0), if_neg h0, if_pos h1]
  exact if_pos (by simp only [Bool.and_eq_true, decide_eq_true_eq]; exact ⟨h2, h3⟩)

theorem width3 (c c1 c2 : UInt8) (R : Bytes) (h0 : ¬ c < 0xE0) (h1 : c < 0xF0)
    (hlo : (if c == 0xE0 then (0xA0 : UInt8) else 0x80) ≤ c1) (hhi : c1 ≤ (if c == 0xED then (0x9F : UInt8) else 0xBF))
    (h2 : 0x80 ≤ c2) (h3 : c2 ≤ 0xBF) : utf8Width c (c1 :: c2 :: R) = 3 := by
  unfold utf8Width
  rw [if_neg (not_lt_of_le (by decide) h0), if_neg (not_lt_of_le (by decide) h0), if_neg h0, if_pos h1]
  exact if_pos (by simp only [Bool.and_eq_true, decide_eq_true_eq]; exact ⟨⟨hlo, hhi⟩, h2, h3⟩)

theorem width4 (c c1 c2 c3 : UInt8) (R : Bytes) (h0 : ¬ c < 0xF0) (h1 : c < 0xF5)
    (hlo : (if c == 0xF0 then (0x90 : UInt8) else 0x80) ≤ c1) (hhi : c1 ≤ (if c == 0xF4 then (0x8F : UInt8) else 0xBF))
    (h2 : 0x80 ≤ c2) (h3 : c2 ≤ 0xBF) (h4 : 0x80 ≤ c3) (h5 : c3 ≤ 0xBF) :
    utf8Width c (c1 :: c2 :: c3 :: R) = 4 := by
  unfold utf8Width
  rw [if_neg (not_lt_of_le (by decide) h0), if_neg (not_lt_of_le (by decide) h0),
    if_neg (not_lt_of_le (by decide) h0), if_neg h0, if_pos h1]
  exact if_pos (by simp only [Bool.and_eq_true, decide_eq_true_eq]; exact ⟨⟨⟨hlo, hhi⟩, h2, h3⟩, h4, h5⟩)

theorem high_of_le {x lo : UInt8} (hlo : 0x80 ≤ lo) (h : lo ≤ x) : ¬ x < 0x80 :=
  UInt8.not_lt.2 (UInt8.le_trans hlo h)

theorem utf8Width_take (c : UInt8) (rest : Bytes) (w : Nat) (h : utf8Width c rest = w + 1) :
    (rest.take w).length = w ∧ (∀ x ∈ rest.take w, ¬ x < 0x80) ∧
      ∀ R, utf8Width c (rest.take w ++ R) = w + 1 := by
  revert h
  unfold utf8Width
  refine ite_eq_elim (fun h0 h => ?_) fun _ => ite_eq_elim (fun _ => nofun) fun h1 =>
    ite_eq_elim (fun h2 => ?_) fun h2 => ite_eq_elim (fun h3 => ?_) fun h3 => ite_eq_elim (fun h4 => ?_) fun _ => nofun
  · obtain rfl : w = 0 := by omega
    exact ⟨rfl, nofun, fun R => if_pos h0⟩
  · rcases rest with _ | ⟨c1, tl⟩
    · nofun
    refine ite_eq_elim (fun h5 h => ?_) fun _ => nofun
    obtain rfl : w = 1 := by omega
    simp only [Bool.and_eq_true, decide_eq_true_eq] at h5
    refine ⟨rfl, fun x hx => ?_, fun R => width2 c c1 R h1 h2 h5.1 h5.2⟩
    rw [List.mem_singleton.1 hx]; exact high_of_le (by decide) h5.1
  · rcases rest with _ | ⟨c1, _ | ⟨c2, tl⟩⟩
    · nofun
    · nofun
    refine ite_eq_elim (fun h5 h => ?_) fun _ => nofun
    obtain rfl : w = 2 := by omega
    simp only [Bool.and_eq_true, decide_eq_true_eq] at h5
    obtain ⟨⟨hlo, hhi⟩, h6, h7⟩ := h5
    refine ⟨rfl, fun x hx => ?_, fun R => width3 c c1 c2 R h2 h3 hlo hhi h6 h7⟩
    rcases List.mem_cons.1 hx with rfl | hx
    · exact high_of_le (by split <;> decide) hlo
    · rw [List.mem_singleton.1 hx]; exact high_of_le (by decide) h6
  · rcases rest with _ | ⟨c1, _ | ⟨c2, _ | ⟨c3, tl⟩⟩⟩
    · nofun
    · nofun
    · nofun
    refine ite_eq_elim (fun h5 h => ?_) fun _ => nofun
    obtain rfl : w = 3 := by omega
    simp only [Bool.and_eq_true, decide_eq_true_eq] at h5
    obtain ⟨⟨⟨hlo, hhi⟩, h6, h7⟩, h8, h9⟩ := h5
    refine ⟨rfl, fun x hx => ?_, fun R => width4 c c1 c2 c3 R h3 h4 hlo hhi h6 h7 h8 h9⟩
    rcases List.mem_cons.1 hx with rfl | hx
    · exact high_of_le (by split <;> decide) hlo
    rcases List.mem_cons.1 hx with rfl | hx
    · exact high_of_le (by decide) h6
    · rw [List.mem_singleton.1 hx]; exact high_of_le (by decide) h8

/-- the scanner, inside a string literal, accepts the bytes `ch` and appends them to the literal -/
def ScanOK (ch : Bytes) : Prop := ∀ (f : Bytes → Bool) stk dp lit bad,
  steps f ⟨.inString, stk, dp, lit, bad⟩ ch = some ⟨.inString, stk, dp, ch.reverse ++ lit, bad⟩

theorem ScanOK.nil : ScanOK [] := by intro f stk dp lit bad; rfl

theorem ScanOK.append {a b : Bytes} (ha : ScanOK a) (hb : ScanOK b) : ScanOK (a ++ b) := by
  intro f stk dp lit bad
  rw [steps_append f a b _ _ (ha f stk dp lit bad), hb f stk dp _ bad]
  simp

theorem scan_plain (x : UInt8) (h1 : x ≠ 0x22) (h2 : x ≠ 0x5C) (h3 : ¬ x < 0x20) : ScanOK [x] := by
  intro f stk dp lit bad
  simp [steps, step, h1, h2, h3, more]

theorem scan_high : ∀ (l : Bytes), (∀ x ∈ l, ¬ x < 0x80) → ScanOK l := by
  intro l
  induction l with
  | nil => intro _; exact ScanOK.nil
  | cons x xs ih =>
    intro h
    have hx : ¬ x < 0x80 := h x (by simp)
    have hx' : 128 ≤ x.toNat := by rw [UInt8.lt_iff_toNat_lt] at hx; simpa using hx
    refine ScanOK.append (a := [x]) (scan_plain x ?_ ?_ ?_) (ih fun y hy => h y (by simp [hy]))
    · rintro rfl; simp at hx'
    · rintro rfl; simp at hx'
    · rw [UInt8.lt_iff_toNat_lt]; simp; omega

theorem scan_esc (e : UInt8) (he : escOK e = true) : ScanOK [0x5C, e] := by
  intro f stk dp lit bad
  simp only [steps, step, more]
  simp [show (e == 0x62 || e == 0x66 || e == 0x6E || e == 0x72 || e == 0x74 || e == 0x5C || e == 0x2F || e == 0x22) = true from he]

theorem scan_u4 (a b c d : UInt8) (ha : (hexVal a).isSome) (hb : (hexVal b).isSome)
    (hc : (hexVal c).isSome) (hd : (hexVal d).isSome) : ScanOK [0x5C, 0x75, a, b, c, d] := by
  intro f stk dp lit bad
  simp [steps, step, more, ha, hb, hc, hd]

/-- One iteration of Go's "coerce to valid UTF-8" (what writing and re-reading does to a string):
    a well-formed sequence is kept, any other byte becomes U+FFFD. -/
def sanAt (c : UInt8) (rest : Bytes) : Bytes × Nat :=
  match utf8Width c rest with
  | 0 => (fffdRev, 0)
  | w + 1 => ((c :: rest.take w).reverse, w)

theorem unq_u4 (a b c d : UInt8) (R : Bytes) (va vb vc vd : Nat) (ha : hexVal a = some va)
    (hb : hexVal b = some vb) (hc : hexVal c = some vc) (hd : hexVal d = some vd)
    (hs : ¬ (0xD800 ≤ ((va * 16 + vb) * 16 + vc) * 16 + vd ∧ ((va * 16 + vb) * 16 + vc) * 16 + vd < 0xE000)) :
    unquoteAt 0x5C (0x75 :: a :: b :: c :: d :: R) = (pushRune (((va * 16 + vb) * 16 + vc) * 16 + vd) [], 5) := by
  simp only [unquoteAt, getu4, ha, hb, hc, hd]
  simp [hs]

/-- what one iteration of the writer's loop owes to one iteration `san` of the coercion: a chunk,
    not empty, that the scanner accepts inside a string and `unquoteAt` turns into `san`'s output -/
def Chunk (san q : Bytes × Nat) : Prop :=
  ∃ x xs, q.1.reverse = x :: xs ∧ q.2 = san.2 ∧ ScanOK (x :: xs) ∧ ∀ R, unquoteAt x (xs ++ R) = (san.1, xs.length)

theorem chunk_esc {c e : UInt8} {k : Nat} (he : escOK e = true) (hu : ∀ R, unquoteAt 0x5C (e :: R) = ([c], 1)) :
    Chunk ([c], k) ([e, 0x5C], k) :=
  ⟨0x5C, [e], rfl, rfl, scan_esc e he, hu⟩

theorem chunk_u4 {san : Bytes} {k : Nat} {a b c d : UInt8} {va vb vc vd : Nat} (ha : hexVal a = some va)
    (hb : hexVal b = some vb) (hc : hexVal c = some vc) (hd : hexVal d = some vd)
    (hs : ¬ (0xD800 ≤ ((va * 16 + vb) * 16 + vc) * 16 + vd ∧ ((va * 16 + vb) * 16 + vc) * 16 + vd < 0xE000))
    (hr : pushRune (((va * 16 + vb) * 16 + vc) * 16 + vd) [] = san) :
    Chunk (san, k) ([d, c, b, a, 0x75, 0x5C], k) :=
  ⟨0x5C, [0x75, a, b, c, d], rfl, rfl,
    scan_u4 a b c d (by rw [ha]; rfl) (by rw [hb]; rfl) (by rw [hc]; rfl) (by rw [hd]; rfl),
    fun R => by rw [← hr]; exact unq_u4 a b c d R va vb vc vd ha hb hc hd hs⟩

/-- One iteration of the writer against one iteration of the reader.  Branch by branch of
    `quoteAt`: a two-byte escape (`chunk_esc`), a `\u00XX` / `\ufffd` / `\u2028` / `\u2029` escape
    (`chunk_u4`: the rune read back is the byte, U+FFFD, or the character itself), or the bytes
    copied as they are (plain ASCII, a well-formed multi-byte sequence). -/
theorem chunk_spec (c : UInt8) (rest : Bytes) : Chunk (sanAt c rest) (quoteAt c rest) := by
  by_cases hc : c < 0x80
  · have hs : sanAt c rest = ([c], 0) := by simp [sanAt, utf8Width, hc]
    rw [hs]
    unfold quoteAt
    rw [if_pos hc]
    refine ite_elim (fun h => ?_) fun n22 => ite_elim (fun h => ?_) fun _ => ite_elim (fun h => ?_) fun _ =>
      ite_elim (fun h => ?_) fun _ => ite_elim (fun h => ?_) fun _ => ite_elim (fun h => ?_) fun _ =>
      ite_elim (fun h => ?_) fun h => ?_
    · refine chunk_esc ?_ fun R => ?_ <;> rcases Bool.or_eq_true_iff.1 h with h | h <;>
        rw [beq_iff_eq.1 h] <;> rfl
    · rw [beq_iff_eq.1 h]; exact chunk_esc rfl fun R => rfl
    · rw [beq_iff_eq.1 h]; exact chunk_esc rfl fun R => rfl
    · rw [beq_iff_eq.1 h]; exact chunk_esc rfl fun R => rfl
    · rw [beq_iff_eq.1 h]; exact chunk_esc rfl fun R => rfl
    · rw [beq_iff_eq.1 h]; exact chunk_esc rfl fun R => rfl
    · obtain ⟨h1, h2⟩ := hex_rt c
      have hlt : c.toNat < 128 := by rw [UInt8.lt_iff_toNat_lt] at hc; simpa using hc
      have hr : ((0 * 16 + 0) * 16 + c.toNat / 16) * 16 + c.toNat % 16 = c.toNat := by omega
      refine chunk_u4 (va := 0) (vb := 0) rfl rfl h1 h2 (by omega) ?_
      rw [hr]; simp [pushRune, hlt]
    · simp only [Bool.or_eq_true, beq_iff_eq, decide_eq_true_eq, not_or] at h n22
      exact ⟨c, [], rfl, rfl, scan_plain c n22.1 n22.2 h.1.1.1, fun R => by simp [unquoteAt, n22.2, hc]⟩
  · unfold quoteAt sanAt
    rw [if_neg hc]
    cases hw : utf8Width c rest with
    | zero => exact chunk_u4 (va := 15) (vb := 15) (vc := 15) (vd := 13) rfl rfl rfl rfl (by omega) rfl
    | succ w =>
      obtain ⟨hlen, hhigh, hR⟩ := utf8Width_take c rest w hw
      dsimp only
      split
      · obtain rfl : w = 2 := by
          have : utf8Width 226 (128 :: 168 :: (by assumption)) = 3 := by simp [utf8Width]
          rw [this] at hw; omega
        exact chunk_u4 (va := 2) (vb := 0) (vc := 2) (vd := 8) rfl rfl rfl rfl (by omega) rfl
      · obtain rfl : w = 2 := by
          have : utf8Width 226 (128 :: 169 :: (by assumption)) = 3 := by simp [utf8Width]
          rw [this] at hw; omega
        exact chunk_u4 (va := 2) (vb := 0) (vc := 2) (vd := 9) rfl rfl rfl rfl (by omega) rfl
      · refine ⟨c, rest.take w, by simp, rfl, scan_high _ ?_, ?_⟩
        · intro x hx
          simp at hx
          rcases hx with rfl | hx
          · exact hc
          · exact hhigh x (by simpa using hx)
        · intro R
          have hc5 : c ≠ 0x5C := by rintro rfl; exact hc (by decide)
          simp only [unquoteAt, hR R, hlen]
          simp [hc5, hc, hlen]

/-- the bytes `appendString` writes between the quotes -/
def quoteBody (s : Bytes) : Bytes := fwd quoteAt s

/-- Go's coercion of a byte string to valid UTF-8: every byte that does not start a well-formed
    sequence is replaced by U+FFFD (EF BF BD) -/
def sanitize (s : Bytes) : Bytes := fwd sanAt s

theorem unquote_eq_fwd (raw : Bytes) : unquote raw = fwd unquoteAt raw := rfl

theorem encString_eq (s acc : Bytes) : encString s acc = (0x22 :: quoteBody s ++ [0x22]).reverse ++ acc := by
  simp only [encString, quoteBody, fwd]
  rw [transduce_acc]
  simp

theorem quote_unquote (s : Bytes) : unquote (quoteBody s) = sanitize s ∧ ScanOK (quoteBody s) := by
  induction s using drop_induction with
  | nil => exact ⟨by simp [unquote_eq_fwd, quoteBody, sanitize, fwd_nil], by simpa [quoteBody, fwd_nil] using ScanOK.nil⟩
  | cons c rest ih =>
    obtain ⟨x, xs, hch, hk, hscan, hun⟩ := chunk_spec c rest
    obtain ⟨ih1, ih2⟩ := ih (quoteAt c rest).2
    have hq : quoteBody (c :: rest) = x :: (xs ++ quoteBody (rest.drop (quoteAt c rest).2)) := by
      simp only [quoteBody] at *
      rw [fwd_cons, hch]; rfl
    constructor
    · rw [hq, unquote_eq_fwd, fwd_cons, hun]
      simp only [List.drop_left']
      rw [← unquote_eq_fwd, ih1, sanitize, sanitize, fwd_cons, hk]
    · rw [hq]
      exact ScanOK.append (a := x :: xs) hscan ih2

/-- reading back (Go `unquoteBytes`) what `appendString` wrote gives the UTF-8 coercion, for ANY byte string -/
theorem unquote_quoteBody (s : Bytes) : unquote (quoteBody s) = sanitize s := (quote_unquote s).1

theorem scanOK_quoteBody (s : Bytes) : ScanOK (quoteBody s) := (quote_unquote s).2

/-- Go `utf8.Valid` in the model's terms: every position where a character starts holds a
    well-formed sequence (`utf8Width ≠ 0`); `skip` = bytes of the current sequence still to pass -/
def validUtf8 : Nat → Bytes → Bool
  | _, [] => true
  | skip + 1, _ :: rest => validUtf8 skip rest
  | 0, c :: rest => utf8Width c rest != 0 && validUtf8 (utf8Width c rest - 1) rest

theorem validUtf8_skip : ∀ (l : Bytes) (n : Nat), validUtf8 n l = validUtf8 0 (l.drop n) := by
  intro l
  induction l with
  | nil => intro n; cases n <;> simp [validUtf8]
  | cons c rest ih =>
    intro n
    cases n with
    | succ k => simp only [validUtf8, List.drop_succ_cons]; exact ih k
    | zero => simp

theorem sanitize_valid (s : Bytes) : validUtf8 0 s = true → sanitize s = s := by
  induction s using drop_induction with
  | nil => intro _; simp [sanitize, fwd_nil]
  | cons c rest ih =>
    intro hv
    simp only [validUtf8, Bool.and_eq_true, bne_iff_ne, ne_eq] at hv
    obtain ⟨h0, hv⟩ := hv
    cases hw : utf8Width c rest with
    | zero => exact absurd hw h0
    | succ w =>
      rw [hw, validUtf8_skip] at hv
      simp only [Nat.add_sub_cancel] at hv
      have := ih w hv
      simp only [sanitize] at this ⊢
      rw [fwd_cons]
      simp only [sanAt, hw, List.reverse_reverse, this]
      simp

theorem valid_of_sanitize (s : Bytes) : sanitize s = s → validUtf8 0 s = true := by
  induction s using drop_induction with
  | nil => intro _; rfl
  | cons c rest ih =>
    intro h
    simp only [sanitize] at h
    rw [fwd_cons] at h
    cases hw : utf8Width c rest with
    | zero =>
      exfalso
      simp only [sanAt, hw, fffdRev, List.reverse_cons, List.reverse_nil, List.nil_append,
        List.cons_append, List.drop_zero, List.cons.injEq] at h
      obtain ⟨hc, hrest⟩ := h
      subst hc
      rw [← hrest] at hw
      simp [utf8Width] at hw
    | succ w =>
      simp only [sanAt, hw, List.reverse_reverse, List.cons_append, List.cons.injEq, true_and] at h
      have h2 : fwd sanAt (rest.drop w) = rest.drop w := by
        have : rest.take w ++ fwd sanAt (rest.drop w) = rest.take w ++ rest.drop w := by
          rw [h, List.take_append_drop]
        exact List.append_cancel_left this
      have := ih w h2
      simp only [validUtf8, hw, Nat.add_sub_cancel]
      rw [validUtf8_skip]
      simp [this]

theorem sanitize_eq_iff (s : Bytes) : sanitize s = s ↔ validUtf8 0 s = true :=
  ⟨valid_of_sanitize s, sanitize_valid s⟩

end Jqawk.JsonBytes
