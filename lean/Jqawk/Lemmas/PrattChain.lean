/-
  C06: the Pratt parser on expressions written with ARBITRARY tokens (any positions, any texts).

  `Reaches ts x lev fol k` is what every step of the argument is about: parsing `ts` in a context
  of level at most `lev`, up to a token the expression does not absorb, arrives at the operator
  loop with left operand `x`.  The combinators `reaches_*` build such facts for an operator between
  operands of which this is already known; the theorems about the renderings of
  `Spec/Grammar.lean` (Lemmas/PrattMain.lean) use them with subexpressions as operands.

  `TE` is an expression of identifiers, binary operators, `is`, assignments and parentheses as a
  tree; `TE.toks` is its token sequence and `TE.OK` says that parentheses stand wherever the
  levels of the rule table require them.  Then the parser maps `toks e` to `expr e`
  (`parseToks_toks`): precedence climbing builds the one tree that respects the levels.
-/
import Jqawk.Lemmas.PrattUnfold

namespace Jqawk.Pratt
open Jqawk Jqawk.Parser

theorem exists_cons (xs : List Token) (c : Token) (more : List Token) :
    ∃ t ts', xs ++ c :: more = t :: ts' :=
  List.exists_cons_of_ne_nil (List.append_ne_nil_of_right_ne_nil xs (List.cons_ne_nil c more))

/-- Parsing `ts`, in a context of level `p ≤ lev`, up to a token `c` whose precedence satisfies
    `fol` (so that `ts` does not absorb it), reaches the operator loop of level `p` with left
    operand `x` and current token `c`; `k` units of fuel are used at most, more than `k` suffice. -/
def Reaches (ts : List Token) (x : Expr) (lev : Nat) (fol : Nat → Prop) (k : Nat) : Prop :=
  ∀ (p : Nat) (c : Token) (more : List Token) (s : PS) (rest : List Token) (F : Nat),
    s.cur :: rest = ts ++ c :: more → p ≤ lev → fol (precT c.tag) → k < F →
    ∃ F' s', s'.cur = c ∧ F ≤ F' + k ∧
      run (expressionWithPrec T F p) s rest = run (infixLoop T F' p x) s' more

section combinators
variable {ts tl tr : List Token} {x xl xr : Expr} {lev ll lr : Nat} {fol fl fr : Nat → Prop}
  {k kl kr : Nat}

namespace Reaches

theorem mono {lev' : Nat} {fol' : Nat → Prop} {k' : Nat} (h : Reaches ts x lev fol k)
    (hl : lev' ≤ lev) (hf : ∀ m, fol' m → fol m) (hk : k ≤ k') : Reaches ts x lev' fol' k' := by
  intro p c more s rest F hs hp hc hF
  obtain ⟨F', s', h1, h2, h3⟩ := h p c more s rest F hs (Nat.le_trans hp hl) (hf _ hc) (by omega)
  exact ⟨F', s', h1, by omega, h3⟩

theorem stop (h : Reaches ts x lev fol k) {p : Nat} {c : Token} {more : List Token}
    {s : PS} {rest : List Token} {F : Nat} (hs : s.cur :: rest = ts ++ c :: more) (hp : p ≤ lev)
    (hc : fol (precT c.tag)) (hcp : precT c.tag < p) (hF : k < F) :
    ∃ s', s'.cur = c ∧ run (expressionWithPrec T F p) s rest = .ok ((x, s'), more) := by
  obtain ⟨F', s', h1, h2, h3⟩ := h p c more s rest F hs hp hc hF
  obtain ⟨n, rfl⟩ := Nat.exists_eq_add_of_le' (show 1 ≤ F' by omega)
  exact ⟨s', h1, by rw [h3, loop_stop n p x s' more (by rw [h1]; omega)]⟩

end Reaches

/-- `h` is what the prefix parser of the token does -/
theorem reaches_atom {t : Token} (lev : Nat) (fol : Nat → Prop)
    (h : ∀ (n p : Nat) (s : PS) (c : Token) (more : List Token), s.cur = t →
      run (expressionWithPrec T (n + 2) p) s (c :: more) = run (infixLoop T (n + 1) p x) (adv s c) more) :
    Reaches [t] x lev fol 1 := by
  intro p c more s rest F hs _ _ hF
  obtain ⟨hcur, rfl⟩ := List.cons.inj hs
  obtain ⟨n, rfl⟩ := Nat.exists_eq_add_of_le' (show 2 ≤ F by omega)
  exact ⟨n + 1, adv s c, rfl, by omega, h n p s c more hcur⟩

/-- a binary operator: the left operand does not absorb it, the right operand is taken whole one
    level up and absorbs nothing the whole may be followed by -/
theorem reaches_bin {o : Token} (hl : Reaches tl xl ll fl kl) (hr : Reaches tr xr lr fr kr)
    (ho : (lookupRule T o.tag).inf = some .binary) (hlo : fl (precT o.tag))
    (hro : precT o.tag < lr) (hrf : ∀ m, m ≤ precT o.tag → fr m) :
    Reaches (tl ++ [o] ++ tr) (.binary xl xr o) (min (precT o.tag) ll) (· ≤ precT o.tag)
      (kl + kr + 2) := by
  intro p c more s rest F hs hp hc hF
  simp only [List.append_assoc, List.cons_append, List.nil_append] at hs
  obtain ⟨hpo, hpl⟩ := Nat.le_min.1 hp
  obtain ⟨F1, s1, hs1, hF1, e1⟩ := hl p o _ s rest F hs hpl hlo (by omega)
  obtain ⟨t, ts', hcons⟩ := exists_cons tr c more
  obtain ⟨n, rfl⟩ := Nat.exists_eq_add_of_le' (show 2 ≤ F1 by omega)
  rw [e1, hcons, loop_binary n p _ s1 t ts' (by rw [hs1]; exact hpo) (by rw [hs1]; exact ho), hs1]
  obtain ⟨s2, hs2, e2⟩ := hr.stop (s := adv s1 t) hcons.symm hro (hrf _ hc)
    (Nat.lt_succ_of_le hc) (show kr < n by omega)
  rw [e2]
  exact ⟨n + 1, s2, hs2, by omega, rfl⟩

/-- as `reaches_bin`, but the right side is taken whole at the operator's own level -/
theorem reaches_asg {o : Token} (hl : Reaches tl xl ll fl kl) (hr : Reaches tr xr lr fr kr)
    (ho : (lookupRule T o.tag).inf = some .assign) (ha : assignable xl = true)
    (hlo : fl (precT o.tag)) (hro : precT o.tag ≤ lr) (hrf : ∀ m, m < precT o.tag → fr m) :
    Reaches (tl ++ [o] ++ tr)
      (if isCompound o.tag then rewriteCompound xl xr o else .binary xl xr o)
      (min (precT o.tag) ll) (· < precT o.tag) (kl + kr + 2) := by
  intro p c more s rest F hs hp hc hF
  simp only [List.append_assoc, List.cons_append, List.nil_append] at hs
  obtain ⟨hpo, hpl⟩ := Nat.le_min.1 hp
  obtain ⟨F1, s1, hs1, hF1, e1⟩ := hl p o _ s rest F hs hpl hlo (by omega)
  obtain ⟨t, ts', hcons⟩ := exists_cons tr c more
  obtain ⟨n, rfl⟩ := Nat.exists_eq_add_of_le' (show 2 ≤ F1 by omega)
  rw [e1, hcons, loop_assign n p _ s1 t ts' (by rw [hs1]; exact hpo) (by rw [hs1]; exact ho) ha,
    hs1]
  obtain ⟨s2, hs2, e2⟩ := hr.stop (s := adv s1 t) hcons.symm hro (hrf _ hc) hc
    (show kr < n by omega)
  rw [e2]
  exact ⟨n + 1, s2, hs2, by omega, rfl⟩

/-- an operator whose infix parser reads a fixed number of further tokens `extra` (`is T`,
    `. name`, postfix `++ --`); `step` is what that parser does -/
theorem reaches_suffix {o : Token} {extra : List Token} {y : Expr} (h : Reaches ts x lev fol k)
    (ho : fol (precT o.tag))
    (step : ∀ (n p : Nat) (s : PS) (c : Token) (more : List Token), s.cur = o →
      p ≤ precT o.tag → ∃ s', s'.cur = c ∧
        run (infixLoop T (n + 2) p x) s (extra ++ c :: more) = run (infixLoop T (n + 1) p y) s' more) :
    Reaches (ts ++ o :: extra) y (min (precT o.tag) lev) (fun _ => True) (k + 1) := by
  intro p c more s rest F hs hp _ hF
  simp only [List.append_assoc, List.cons_append] at hs
  obtain ⟨hpo, hpl⟩ := Nat.le_min.1 hp
  obtain ⟨F1, s1, hs1, hF1, e1⟩ := h p o _ s rest F hs hpl ho (by omega)
  obtain ⟨n, rfl⟩ := Nat.exists_eq_add_of_le' (show 2 ≤ F1 by omega)
  obtain ⟨s2, hs2, e2⟩ := step n p s1 c more hs1 hpo
  exact ⟨n + 1, s2, hs2, by omega, by rw [e1, e2]⟩

theorem reaches_paren {lp rp : Token} (h : Reaches ts x lev fol k) (hlp : lp.tag = .lparen)
    (hrp : rp.tag = .rparen) (h1 : 1 ≤ lev) (h0 : fol 0) (lev' : Nat) :
    Reaches ([lp] ++ ts ++ [rp]) x lev' (fun _ => True) (k + 2) := by
  intro p c more s rest F hs _ _ hF
  simp only [List.append_assoc, List.cons_append, List.nil_append] at hs
  obtain ⟨hcur, rfl⟩ := List.cons.inj hs
  obtain ⟨t, ts', hcons⟩ := exists_cons ts rp (c :: more)
  obtain ⟨n, rfl⟩ := Nat.exists_eq_add_of_le' (show 2 ≤ F by omega)
  have hp0 : precT rp.tag = 0 := by rw [hrp]; rfl
  obtain ⟨s1, hs1, e1⟩ := h.stop (s := adv s t) hcons.symm h1 (by rw [hp0]; exact h0)
    (by rw [hp0]; decide) (show k < n by omega)
  rw [hcons, expr_group n p s t ts' (by rw [hcur]; exact hlp), show Prec.assign = 1 from rfl, e1]
  simp only [ParseRes.bind_ok]
  rw [run_consume_cons _ _ _ _ (by rw [hs1]; exact hrp)]
  exact ⟨n + 1, adv s1 c, rfl, by omega, rfl⟩

end combinators

/-- the list source answers with EOF tokens once the list is read -/
theorem parseToks_run (ts : List Token) :
    parseToks ts = match run (parseExpression T (toksFuel ts)) PS.init (ts ++ [eofTok]) with
      | .ok r => .ok r.1.1
      | .syntaxErr e => .syntaxErr e
      | .oof => .oof := by
  unfold parseToks run
  rw [PM.runWith_tokSrc, ← PM.runL_append_eof]
  cases PM.runL (parseExpression T (toksFuel ts) PS.init) (ts ++ [eofTok]) <;> rfl

theorem Reaches.parse {ts : List Token} {x : Expr} {lev : Nat} {fol : Nat → Prop} {k : Nat}
    (h : Reaches ts x lev fol k) (h1 : 1 ≤ lev) (h0 : fol 0) (hk : k < toksFuel ts) :
    parseToks ts = .ok x := by
  obtain ⟨t, ts', hcons⟩ := exists_cons ts eofTok []
  obtain ⟨s1, hs1, e1⟩ := h.stop (s := adv PS.init t) hcons.symm h1 h0 (by decide) hk
  rw [parseToks_run, hcons]
  unfold parseExpression
  simp only [run_bind, run_advance_cons, ParseRes.bind_ok]
  rw [show Prec.assign = 1 from rfl, e1]
  simp only [ParseRes.bind_ok]
  rw [run_consume_nil _ _ (by rw [hs1]; rfl)]
  rfl

inductive TE
  | atom (t : Token)
  | bin (o : Token) (l r : TE)
  | isT (o ty : Token) (e : TE)
  | asg (o : Token) (t v : TE)
  | paren (lp rp : Token) (e : TE)

namespace TE

def toks : TE → List Token
  | atom t => [t]
  | bin o l r => l.toks ++ [o] ++ r.toks
  | isT o ty e => e.toks ++ [o, ty]
  | asg o t v => t.toks ++ [o] ++ v.toks
  | paren lp rp e => [lp] ++ e.toks ++ [rp]

def expr : TE → Expr
  | atom t => .ident t
  | bin o l r => .binary l.expr r.expr o
  | isT o ty e => .binary e.expr (.ident ty) o
  | asg o t v =>
    if isCompound o.tag then rewriteCompound t.expr v.expr o else .binary t.expr v.expr o
  | paren _ _ e => e.expr

/-- the largest `p` for which parsing at level `p` takes all of `e`: the lowest level among the
    operators that the loop started for `e` itself has to take (those on the left spine) -/
def level : TE → Nat
  | atom _ | paren _ _ _ => 10
  | bin o l _ | isT o _ l | asg o l _ => min (precT o.tag) l.level

/-- right-openness: the largest precedence a token following `e` may have without being absorbed
    by `e`'s last operand -/
def R : TE → Nat
  | bin o _ _ => precT o.tag
  | asg o _ _ => precT o.tag - 1
  | _ => 10

/-- every token has the kind its place requires, and every operand may stand where it stands
    without parentheses: the operator after a left operand is not absorbed by it, a right operand
    is taken whole one level up (at the same level after an assignment operator) -/
def OK : TE → Prop
  | atom t => t.tag = .ident ∨ t.tag = .dollar
  | bin o l r => (lookupRule T o.tag).inf = some .binary ∧ l.OK ∧ r.OK ∧
      precT o.tag ≤ l.R ∧ precT o.tag < r.level
  | isT o ty e => o.tag = .is ∧ (ty.tag = .ident ∨ ty.tag = .function ∨ ty.tag = .null) ∧ e.OK ∧
      precT o.tag ≤ e.R
  | asg o t v => (lookupRule T o.tag).inf = some .assign ∧ 1 ≤ precT o.tag ∧
      assignable t.expr = true ∧ t.OK ∧ v.OK ∧ precT o.tag ≤ t.R ∧ precT o.tag ≤ v.level
  | paren lp rp e => lp.tag = .lparen ∧ rp.tag = .rparen ∧ e.OK ∧ 1 ≤ e.level

theorem level_le (e : TE) : e.level ≤ 10 := by
  induction e with
  | atom | paren => exact Nat.le_refl _
  | bin _ _ _ ih | isT _ _ _ ih | asg _ _ _ ih => exact Nat.le_trans (Nat.min_le_right _ _) ih

/-- what is taken whole at level `p` absorbs nothing below `p` -/
theorem level_le_R (e : TE) : e.level ≤ e.R + 1 := by
  cases e with
  | atom | paren => exact Nat.le_succ _
  | bin | asg => simp only [level, R]; omega
  | isT o ty e => exact Nat.le_trans (level_le _) (Nat.le_succ _)

theorem run_toks (e : TE) (h : e.OK) :
    Reaches e.toks e.expr e.level (· ≤ e.R) (2 * e.toks.length) := by
  induction e with
  | atom t =>
    refine (reaches_atom _ _ fun n p s c more hs => ?_).mono (Nat.le_refl _) (fun _ h => h)
      (Nat.le_succ 1)
    subst hs; exact expr_ident n p s c more h
  | bin o l r ihl ihr =>
    obtain ⟨ho, hl, hr, hlo, hro⟩ := h
    have := level_le_R r
    refine (reaches_bin (ihl hl) (ihr hr) ho hlo hro fun m hm => ?_).mono (Nat.le_refl _)
      (fun _ h => h) ?_
    · show m ≤ r.R; omega
    · simp only [toks, List.length_append, List.length_cons, List.length_nil]; omega
  | isT o ty e ih =>
    obtain ⟨ho, hty, he, heo⟩ := h
    refine (reaches_suffix (ih he) heo fun n p s c more hs hp => ?_).mono (Nat.le_refl _)
      (fun _ _ => trivial) ?_
    · subst hs; exact ⟨_, rfl, loop_is n p _ s ty c more hp ho hty⟩
    simp only [toks, List.length_append, List.length_cons, List.length_nil]; omega
  | asg o t v iht ihv =>
    obtain ⟨ho, ho1, ha, ht, hv, hto, hvo⟩ := h
    have := level_le_R v
    refine (reaches_asg (iht ht) (ihv hv) ho ha hto hvo fun m hm => ?_).mono (Nat.le_refl _)
      (fun m hm => ?_) ?_
    · show m ≤ v.R; omega
    · exact Nat.lt_of_le_pred ho1 hm
    · simp only [toks, List.length_append, List.length_cons, List.length_nil]; omega
  | paren lp rp e ih =>
    obtain ⟨hlp, hrp, he, he1⟩ := h
    refine (reaches_paren (ih he) hlp hrp he1 (Nat.zero_le _) _).mono (Nat.le_refl _)
      (fun _ _ => trivial) ?_
    simp only [toks, List.length_append, List.length_cons, List.length_nil]; omega

theorem parseToks_toks (e : TE) (h : e.OK) (h1 : 1 ≤ e.level) : parseToks e.toks = .ok e.expr :=
  (run_toks e h).parse h1 (Nat.zero_le _) (by unfold toksFuel; omega)

/-- `a + b = c`: an assignment operator after an expression that is not a target is the error
    "invalid assignment", not `a + (b = c)`. -/
theorem parseToks_assign_bad (e : TE) (h : e.OK) (h1 : 1 ≤ e.level) (o : Token)
    (rest : List Token) (ho : (lookupRule T o.tag).inf = some .assign) (ho1 : 1 ≤ precT o.tag)
    (hR : precT o.tag ≤ e.R) (ha : assignable e.expr = false) :
    parseToks (e.toks ++ o :: rest) = .syntaxErr ⟨e.expr.token.pos, "invalid assignment"⟩ := by
  obtain ⟨t, ts', hcons⟩ := exists_cons e.toks o (rest ++ [eofTok])
  have hlen : (e.toks ++ o :: rest).length = e.toks.length + (rest.length + 1) := by
    rw [List.length_append, List.length_cons]
  obtain ⟨F1, s1, hs1, hF1, e1⟩ := run_toks e h 1 o (rest ++ [eofTok]) (adv PS.init t) ts'
    (toksFuel (e.toks ++ o :: rest)) hcons.symm h1 hR (by unfold toksFuel; omega)
  obtain ⟨n, rfl⟩ := Nat.exists_eq_add_of_le' (show 2 ≤ F1 by unfold toksFuel at hF1; omega)
  rw [parseToks_run, List.append_assoc, List.cons_append, hcons]
  unfold parseExpression
  simp only [run_bind, run_advance_cons, ParseRes.bind_ok]
  rw [show Prec.assign = 1 from rfl, e1,
    loop_assign_bad n 1 _ s1 _ (by rw [hs1]; exact ho1) (by rw [hs1]; exact ho) ha]
  rfl

end TE
end Jqawk.Pratt
