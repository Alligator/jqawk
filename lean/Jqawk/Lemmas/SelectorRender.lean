/-
  Renaming of cell ids (C14): rendering (`pretty`, `toJVal`) does not see cell ids.
-/
import Jqawk.Lemmas.SelectorHeap


namespace Jqawk
namespace Sel

variable {C : Ctx}

theorem mapM_opt_congr {α β : Type} (l : List α) (f g : α → Option β) (h : ∀ x ∈ l, f x = g x) :
    l.mapM f = l.mapM g := by
  induction l with
  | nil => rfl
  | cons x rest ih =>
    simp only [List.mapM_cons]
    rw [h x (List.mem_cons_self ..), ih (fun y hy => h y (List.mem_cons_of_mem _ hy))]

theorem mapM_opt_map {α β γ : Type} (l : List α) (f : α → β) (g : β → Option γ) :
    (l.map f).mapM g = l.mapM (fun x => g (f x)) := by
  induction l with
  | nil => rfl
  | cons x rest ih => simp only [List.map_cons, List.mapM_cons, ih]

theorem onPath_renV (path : List Cont) (v : Val) : onPath path (renV C.σ v) = onPath path v := by
  unfold onPath; rw [cont_renV]

theorem pretty_rel {hA hB : Heap} (r : HR C hA hB) : ∀ (n : Nat) (path : List Cont) (q chk : Bool) (v : Val),
    LiveV C hB.cells.size v → pretty hA n path q chk (renV C.σ v) = pretty hB n path q chk v
  | 0, _, _, _, _, _ => rfl
  | n + 1, path, q, chk, v, hv => by
    unfold pretty
    rw [onPath_renV]
    split
    · rfl
    · cases v with
      | arr a =>
        have ha := r.arrs a hv
        simp only [renV]
        rw [ha.1, Array.toList_map, mapM_opt_map]
        rw [mapM_opt_congr _ _ (fun c => pretty hB n (path ++ [Cont.a a]) true true (hB.get c))]
        intro c hc
        have hcr := r.cells c (ha.2 c hc)
        rw [hcr.1]
        exact pretty_rel r n _ _ _ _ hcr.2
      | obj o =>
        have ho := r.objs o hv
        simp only [renV]
        rw [ho.1, sortByKey_renM, renM, mapM_opt_map]
        rw [mapM_opt_congr _ _ (fun kv =>
          match pretty hB n (path ++ [Cont.o o]) true true (hB.get kv.2) with
          | none => none
          | some r => some ([34] ++ kv.1 ++ [34] ++ b!": " ++ r))]
        · rfl
        intro kv hkv
        have hcr := r.cells kv.2 (ho.2.sortByKey kv hkv)
        dsimp only
        rw [hcr.1, pretty_rel r n _ _ _ _ hcr.2]
        generalize pretty hB n (path ++ [Cont.o o]) true true (hB.get kv.2) = x
        cases x <;> rfl
      | _ => rfl

theorem prettyTop_rel {hA hB : Heap} (r : HR C hA hB) {w : Nat} {va vb : Val} (hv : ValR C w va vb)
    (hw : w ≤ hB.cells.size) : prettyTop hA va = prettyTop hB vb := by
  unfold prettyTop renderFuel
  rw [hv.1, r.sza, r.szo]
  exact pretty_rel r _ _ _ _ _ (hv.2.mono hw)

theorem toJVal_rel {hA hB : Heap} (r : HR C hA hB) : ∀ (n : Nat) (path : List Cont) (chk : Bool) (v : Val),
    LiveV C hB.cells.size v → toJVal hA n path chk (renV C.σ v) = toJVal hB n path chk v
  | 0, _, _, _, _ => rfl
  | n + 1, path, chk, v, hv => by
    unfold toJVal
    rw [onPath_renV]
    split
    · rfl
    · cases v with
      | arr a =>
        have ha := r.arrs a hv
        simp only [renV]
        rw [ha.1, Array.toList_map, List.map_map]
        rw [List.map_congr_left (g := fun c => toJVal hB n (path ++ [Cont.a a]) true (hB.get c))]
        intro c hc
        have hcr := r.cells c (ha.2 c hc)
        simp only [Function.comp]
        rw [hcr.1]
        exact toJVal_rel r n _ _ _ hcr.2
      | obj o =>
        have ho := r.objs o hv
        simp only [renV]
        rw [ho.1, sortByKey_renM, renM, List.map_map]
        rw [List.map_congr_left (g := fun kv =>
          match toJVal hB n (path ++ [Cont.o o]) true (hB.get kv.2) with
          | .ok j => .ok (kv.1, j)
          | .error m => .error m
          | .oof => .oof)]
        · rfl
        intro kv hkv
        have hcr := r.cells kv.2 (ho.2.sortByKey kv hkv)
        simp only [Function.comp]
        rw [hcr.1, toJVal_rel r n _ _ _ hcr.2]
        generalize toJVal hB n (path ++ [Cont.o o]) true (hB.get kv.2) = x
        cases x <;> rfl
      | _ => rfl

theorem toJValTop_rel {hA hB : Heap} (r : HR C hA hB) {w : Nat} {va vb : Val} (hv : ValR C w va vb)
    (hw : w ≤ hB.cells.size) : toJValTop hA va = toJValTop hB vb := by
  unfold toJValTop renderFuel
  rw [hv.1, r.sza, r.szo]
  exact toJVal_rel r _ _ _ _ (hv.2.mono hw)

end Sel
end Jqawk
