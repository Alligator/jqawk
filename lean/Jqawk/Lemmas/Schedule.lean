/-
  The rule driver of the model equals the schedule specification `Spec/Schedule.lean`, layer by
  layer (C02), each layer an exact equation for every state.  `lift` / `liftFlow` / `ofRoots` /
  `ofStep` read the results of the model's layers as ends of a piece of the schedule (`Ended`).
  In order: the monad `Run` and the loop `each` (unfolding, list order, `started`); `lift` and
  `liftFlow`; `evalRules`; `evalElems` / `evalPatternRules`; the special rules and
  `processRoot(s)`; `evalSelectors`; `next` / `exit` do not leave the processing of a root;
  every decoded value consumes input; `processFile` against `decodeStream`; the files, the END
  rules and the whole run (`runProgram_agrees`: equal, or both out of fuel — `Agree`).
-/
import Jqawk.Spec.Schedule
import Jqawk.Lemmas.JsonPrefix
import Jqawk.Lemmas.DriverSignals


namespace Jqawk.Sched
open Jqawk


theorem bind_def {α β : Type} (m : Run α) (k : α → Run β) (s : St) :
    (m >>= k) s = (match m s with
      | .fine a s' => k a s'
      | .next s' => .next s'
      | .over o s' => .over o s'
      | .oof => .oof) := rfl

theorem pure_def {α : Type} (a : α) (s : St) : (pure a : Run α) s = .fine a s := rfl

theorem bind_fine {α β : Type} {m : Run α} {k : α → Run β} {s s' : St} {a : α}
    (h : m s = .fine a s') : (m >>= k) s = k a s' := by rw [bind_def, h]

theorem bind_next {α β : Type} {m : Run α} (k : α → Run β) {s s' : St}
    (h : m s = .next s') : (m >>= k) s = .next s' := by rw [bind_def, h]

theorem bind_over {α β : Type} {m : Run α} (k : α → Run β) {s s' : St} {o : Outcome}
    (h : m s = .over o s') : (m >>= k) s = .over o s' := by rw [bind_def, h]

theorem bind_oof {α β : Type} {m : Run α} (k : α → Run β) {s : St}
    (h : m s = .oof) : (m >>= k) s = .oof := by rw [bind_def, h]

theorem bind_assoc {α β γ : Type} (m : Run α) (k : α → Run β) (l : β → Run γ) :
    (m >>= k) >>= l = m >>= fun a => k a >>= l := by
  funext s
  simp only [bind_def]
  cases m s <;> rfl

theorem pure_bind {α β : Type} (a : α) (k : α → Run β) : (pure a : Run α) >>= k = k a := rfl

theorem bind_pure_unit (m : Run Unit) : (m >>= fun _ => (pure () : Run Unit)) = m := by
  funext s
  simp only [bind_def]
  cases m s <;> rfl

theorem uptoNext_fine {α : Type} {d : α} {m : Run α} {s s' : St} {a : α} (h : m s = .fine a s') :
    uptoNext d m s = .fine a s' := by simp [uptoNext, h]

theorem uptoNext_next {α : Type} {d : α} {m : Run α} {s s' : St} (h : m s = .next s') :
    uptoNext d m s = .fine d s' := by simp [uptoNext, h]

theorem uptoNext_over {α : Type} {d : α} {m : Run α} {s s' : St} {o : Outcome}
    (h : m s = .over o s') : uptoNext d m s = .over o s' := by simp [uptoNext, h]

theorem uptoNext_oof {α : Type} {d : α} {m : Run α} {s : St} (h : m s = .oof) :
    uptoNext d m s = .oof := by simp [uptoNext, h]

/-! ### `each` -/


theorem each_nil {α : Type} (f : α → Run Unit) : each [] f = pure () := rfl

theorem each_cons {α : Type} (x : α) (xs : List α) (f : α → Run Unit) :
    each (x :: xs) f = (do f x; each xs f) := rfl

theorem each_append {α : Type} (xs ys : List α) (f : α → Run Unit) :
    each (xs ++ ys) f = (do each xs f; each ys f) := by
  induction xs with
  | nil => rfl
  | cons x xs ih =>
    show (f x >>= fun _ => each (xs ++ ys) f) = ((f x >>= fun _ => each xs f) >>= fun _ => each ys f)
    rw [ih, bind_assoc]

theorem each_over {α : Type} (pre post : List α) (x : α) (f : α → Run Unit) (s s1 s2 : St)
    (o : Outcome) (hpre : each pre f s = .fine () s1) (hx : f x s1 = .over o s2) :
    each (pre ++ x :: post) f s = .over o s2 := by
  rw [each_append, bind_fine hpre, each_cons, bind_over _ hx]

theorem each_next {α : Type} (pre post : List α) (x : α) (f : α → Run Unit) (s s1 s2 : St)
    (hpre : each pre f s = .fine () s1) (hx : f x s1 = .next s2) :
    each (pre ++ x :: post) f s = .next s2 := by
  rw [each_append, bind_fine hpre, each_cons, bind_next _ hx]

theorem each_fine_step {α : Type} (x : α) (xs : List α) (f : α → Run Unit) (s s1 : St)
    (hx : f x s = .fine () s1) : each (x :: xs) f s = each xs f s1 := by
  rw [each_cons, bind_fine hx]

theorem started_prefix {α : Type} (f : α → Run Unit) (xs : List α) (s : St) :
    started f xs s <+: xs := by
  induction xs generalizing s with
  | nil => exact List.prefix_refl _
  | cons x xs ih =>
    unfold started
    cases h : f x s with
    | fine u s' => simpa using ih s'
    | next s' => simp
    | over o s' => simp
    | oof => simp

theorem started_all {α : Type} (f : α → Run Unit) (xs : List α) (s s' : St)
    (h : each xs f s = .fine () s') : started f xs s = xs := by
  induction xs generalizing s with
  | nil => rfl
  | cons x xs ih =>
    unfold started
    rw [each_cons, bind_def] at h
    cases hx : f x s with
    | fine u s1 => rw [hx] at h; simp [ih s1 h]
    | next s1 => rw [hx] at h; cases h
    | over o s1 => rw [hx] at h; cases h
    | oof => rw [hx] at h; cases h

theorem started_stops {α : Type} (f : α → Run Unit) (pre post : List α) (x : α) (s s1 : St)
    (hpre : each pre f s = .fine () s1) (hx : ∀ s2, f x s1 ≠ .fine () s2) :
    started f (pre ++ x :: post) s = pre ++ [x] := by
  induction pre generalizing s with
  | nil =>
    cases hpre
    show started f (x :: post) s1 = [x]
    unfold started
    cases h : f x s1 with
    | fine u s2 => exact absurd h (hx s2)
    | next s2 => rfl
    | over o s2 => rfl
    | oof => rfl
  | cons y pre ih =>
    show started f (y :: (pre ++ x :: post)) s = y :: (pre ++ [x])
    unfold started
    rw [each_cons, bind_def] at hpre
    cases hy : f y s with
    | fine u s' => rw [hy] at hpre; simp [ih s' hpre]
    | next s' => rw [hy] at hpre; cases hpre
    | over o s' => rw [hy] at hpre; cases hpre
    | oof => rw [hy] at hpre; cases hpre


theorem lift_def {α : Type} (src : Bytes) (m : EM α) (s : St) :
    lift src m s = (match m s with
      | .ok a s' => .fine a s'
      | .err (.sig .next) s' => .next s'
      | .err (.sig .exit) s' => .over .ok s'
      | .err e s' => .over (errOutcome src e) s'
      | .oof => .oof) := rfl

theorem lift_pure {α : Type} (src : Bytes) (a : α) : lift src (pure a : EM α) = pure a := rfl

theorem lift_bind {α β : Type} (src : Bytes) (m : EM α) (k : α → EM β) :
    lift src (m >>= k) = lift src m >>= fun a => lift src (k a) := by
  funext s
  show lift src (EM.bind m k) s = _
  simp only [bind_def, lift_def, EM.bind]
  cases m s with
  | ok a s' => rfl
  | err e s' =>
    cases e with
    | sig g => cases g <;> rfl
    | _ => rfl
  | oof => rfl

theorem lift_ok {α : Type} (src : Bytes) {m : EM α} {s s' : St} {a : α} (h : m s = .ok a s') :
    lift src m s = .fine a s' := by rw [lift_def, h]

/-- the results of the model's `Flow`-valued layers: `exit` = the run is over, successfully -/
def liftFlow (src : Bytes) (m : EM Flow) : Run Unit := fun s =>
  match lift src m s with
  | .fine .continue_ s' => .fine () s'
  | .fine .exit s' => .over .ok s'
  | .next s' => .next s'
  | .over o s' => .over o s'
  | .oof => .oof

theorem liftFlow_def (src : Bytes) (m : EM Flow) (s : St) :
    liftFlow src m s = (match lift src m s with
      | .fine .continue_ s' => .fine () s'
      | .fine .exit s' => .over .ok s'
      | .next s' => .next s'
      | .over o s' => .over o s'
      | .oof => .oof) := rfl

theorem liftFlow_pure (src : Bytes) : liftFlow src (pure .continue_) = pure () := rfl

theorem liftFlow_bind {α : Type} (src : Bytes) (m : EM α) (k : α → EM Flow) :
    liftFlow src (m >>= k) = lift src m >>= fun a => liftFlow src (k a) := by
  funext s
  rw [liftFlow_def, lift_bind]
  simp only [bind_def]
  cases lift src m s <;> rfl

/-! ### one element: `evalRules` -/

variable (prog : Program) (src : Bytes) (tbl : RuleTable)

theorem uptoNext_each_cons {α : Type} (x : α) (xs : List α) (f : α → Run Unit) (s : St) :
    uptoNext () (each (x :: xs) f) s = (match f x s with
      | .fine () s' => uptoNext () (each xs f) s'
      | .next s' => .fine () s'
      | .over o s' => .over o s'
      | .oof => .oof) := by
  simp only [uptoNext, each_cons, bind_def]
  cases f x s <;> rfl

theorem ruleSpec_model (r : Rule) (s : St) :
    ruleSpec (modelPrims prog src tbl) r s =
      (match r.pattern with
       | none => lift src (evalStmt prog evalFuel r.body) s
       | some p =>
         match lift src (do let c ← evalExpr prog evalFuel p; return (← readCell c).truthy : EM Bool) s with
         | .fine true s' => lift src (evalStmt prog evalFuel r.body) s'
         | .fine false s' => .fine () s'
         | .next s' => .next s'
         | .over o s' => .over o s'
         | .oof => .oof) := by
  unfold ruleSpec
  cases hp : r.pattern with
  | none => rfl
  | some p =>
    simp only [bind_def, modelPrims]
    cases lift src _ s with
    | fine b s' => cases b <;> rfl
    | _ => rfl

/-- The model handles `next` twice per rule (`catchSig .next` around the pattern and around the
    body), the specification once around the whole list (`uptoNext`).  Rule by rule
    (`uptoNext_each_cons`) both say: `next` anywhere ends the list normally, anything else that is
    not a normal end is the end of the list.  The case analysis only evaluates the two sides on
    each outcome of the pattern and of the body. -/
theorem evalRules_eq_spec (rules : List Rule) :
    lift src (evalRules prog rules) = runRulesSpec (modelPrims prog src tbl) rules := by
  induction rules with
  | nil => rfl
  | cons r rest ih =>
    funext s
    unfold runRulesSpec at ih ⊢
    rw [uptoNext_each_cons, ruleSpec_model, ← ih]
    conv => lhs; unfold evalRules
    cases hp : r.pattern with
    | none =>
      simp only [lift_def, bind, pure]
      cases hb : evalStmt prog evalFuel r.body s with
      | ok u s' => simp [EM.bind, EM.pure, catchSig, *]
      | err e s' =>
        cases e with
        | sig g => cases g <;> simp [EM.bind, EM.pure, catchSig, *]
        | _ => simp [EM.bind, EM.pure, catchSig, *]
      | oof => simp [EM.bind, EM.pure, catchSig, *]
    | some p =>
      simp only [lift_def, bind, pure]
      cases hc : evalExpr prog evalFuel p s with
      | ok c s1 =>
        cases ht : (s1.heap.get c).truthy with
        | false => simp [EM.bind, EM.pure, catchSig, readCell, *]
        | true =>
          simp only [EM.bind, EM.pure, catchSig, readCell, hc, ht]
          cases hb : evalStmt prog evalFuel r.body s1 with
          | ok u s' => simp [EM.bind, EM.pure, catchSig, *]
          | err e s' =>
            cases e with
            | sig g => cases g <;> simp [EM.bind, EM.pure, catchSig, *]
            | _ => simp [EM.bind, catchSig, *]
          | oof => simp [EM.bind, catchSig, *]
      | err e s' =>
        cases e with
        | sig g => cases g <;> simp [EM.bind, EM.pure, catchSig, *]
        | _ => simp [EM.bind, catchSig, *]
      | oof => simp [EM.bind, catchSig, *]
/-! ### the elements of a root: `evalElems`, `evalPatternRules` -/

theorem evalElems_eq_spec (rules : List Rule) (cells : List CellId) (i : Nat) :
    lift src (evalElems prog rules cells i) =
      each (cells.zipIdx i) (elementSpec (modelPrims prog src tbl) rules) := by
  induction cells generalizing i with
  | nil => rfl
  | cons c rest ih =>
    rw [List.zipIdx_cons, each_cons, ← ih]
    conv => lhs; unfold evalElems
    simp only [lift_bind, elementSpec, modelPrims, bind_assoc, evalRules_eq_spec prog src tbl]

theorem elements_model (root : CellId) (s : St) :
    (modelPrims prog src tbl).elements root s =
      .fine (match s.heap.get root with
             | .arr a => some (s.heap.arr a).toList
             | _ => none) s := by
  simp only [modelPrims, lift_def, bind, EM.bind, getHeap]
  cases s.heap.get root <;> rfl

theorem evalPatternRules_eq_spec (rules : List Rule) (root : CellId) (s : St) (hr : s.root = some root) :
    lift src (evalPatternRules prog rules) s =
      elementsSpec (modelPrims prog src tbl) rules root s := by
  unfold evalPatternRules elementsSpec
  rw [lift_bind, bind_def, bind_fine (elements_model prog src tbl root s)]
  simp only [lift_def, getSt, hr]
  simp only [← lift_def]
  cases hg : s.heap.get root with
  | arr a => simp only [evalElems_eq_spec prog src tbl]
  | _ => simp only [lift_bind, modelPrims, evalRules_eq_spec prog src tbl]
/-! ### one root: `evalSpecialRules`, `processRoot`, `processRoots` -/

theorem liftFlow_thenFlow (m : EM Flow) (k : Flow → EM Flow) (hk : k .exit = pure .exit) :
    (lift src m >>= fun fl => liftFlow src (k fl)) =
      liftFlow src m >>= fun _ => liftFlow src (k .continue_) := by
  funext s
  simp only [bind_def, liftFlow_def]
  cases h : lift src m s with
  | fine fl s' => cases fl <;> simp [hk, lift_def, pure, EM.pure]
  | next s' => rfl
  | over o s' => rfl
  | oof => rfl

theorem liftFlow_ruleFlow (m : EM Unit) (k : Flow → EM Flow) (hk : k .exit = pure .exit) :
    (lift src (ruleFlow m) >>= fun fl => liftFlow src (k fl)) =
      uptoNext () (lift src m) >>= fun _ => liftFlow src (k .continue_) := by
  funext s
  simp only [bind_def, ruleFlow, uptoNext, lift_def]
  cases hm : m s with
  | ok u s' => simp
  | err e s' =>
    cases e with
    | sig g => cases g <;> simp [liftFlow_def, lift_def, pure, EM.pure, hk]
    | _ => simp
  | oof => simp

theorem liftFlow_catchExit (m : EM Unit) : liftFlow src (catchExit m) = lift src m := by
  funext s
  simp only [liftFlow_def, catchExit, lift_def]
  cases hm : m s with
  | ok u s' => simp
  | err e s' =>
    cases e with
    | sig g => cases g <;> simp
    | _ => simp
  | oof => simp

theorem evalSpecialRules_eq_spec (mk : EM CellId) (rules : List Rule) :
    liftFlow src (evalSpecialRules prog mk rules) =
      specialSpec (modelPrims prog src tbl) (lift src mk) rules := by
  induction rules with
  | nil => rfl
  | cons r rest ih =>
    unfold specialSpec at ih ⊢
    rw [each_cons, ← ih]
    conv => lhs; unfold evalSpecialRules
    simp only [liftFlow_bind]
    simp only [liftFlow_ruleFlow, specialRuleSpec, modelPrims, bind_assoc]

/-- `evalPatternRules_eq_spec` needs `s.root = some root`, which holds only behind the `modifySt`
    in front of it: the two steps are rewritten together, with the rest of `processRoot` as a
    continuation `K` so that the equation applies under its binds. -/
theorem setRoot_then_patterns {β : Type} (rules : List Rule) (root : CellId) (K : Unit → Run β) :
    (lift src (modifySt fun s => { s with root := some root }) >>= fun _ =>
      lift src (evalPatternRules prog rules) >>= K) =
    ((modelPrims prog src tbl).setRoot root >>= fun _ =>
      elementsSpec (modelPrims prog src tbl) rules root >>= K) := by
  funext s
  have h : lift src (modifySt fun s => { s with root := some root }) s
      = .fine () { s with root := some root } := rfl
  show _ = (lift src (modifySt fun s => { s with root := some root }) >>= fun _ =>
      elementsSpec (modelPrims prog src tbl) rules root >>= K) s
  rw [bind_fine h, bind_fine h, bind_def, bind_def,
    evalPatternRules_eq_spec prog src tbl rules root _ rfl]

theorem processRoot_eq_spec (root : CellId) :
    liftFlow src (processRoot prog root) =
      rootSpec (modelPrims prog src tbl) (rulesByKind prog) root := by
  unfold processRoot rootSpec
  simp only [liftFlow_bind, liftFlow_thenFlow, liftFlow_catchExit, setRoot_then_patterns prog src tbl,
    evalSpecialRules_eq_spec prog src tbl]
  rfl

theorem processRoots_eq_spec (roots : List CellId) :
    liftFlow src (processRoots prog roots) =
      each roots (rootSpec (modelPrims prog src tbl) (rulesByKind prog)) := by
  induction roots with
  | nil => rfl
  | cons c rest ih =>
    rw [each_cons, ← ih, ← processRoot_eq_spec]
    conv => lhs; unfold processRoots
    simp only [liftFlow_bind, liftFlow_thenFlow]

/-! ### the roots of a value: `evalSelectors` -/

def ofRoots : Roots → Ended (List CellId)
  | .cells cs s => .fine cs s
  | .exit s => .over .ok s
  | .stop .oof _ => .oof
  | .stop o s => .over o s

theorem select_model (sel : Bytes) (v : JVal) (s : St) :
    (modelPrims prog src tbl).select sel v s =
      (match evalSelector tbl sel v s with
       | .inl (.oof, _) => .oof
       | .inl (o, s') => .over o s'
       | .inr (.ok c, s') => .fine c s'
       | .inr (.error .exit, s') => .over .ok s'
       | .inr (.error _, s') => .next s') := rfl

theorem selectStep_model (sel : Bytes) (v : JVal) (s : St) :
    uptoNext none (do let c ← (modelPrims prog src tbl).select sel v; pure (some c)) s =
      (match evalSelector tbl sel v s with
       | .inl (.oof, _) => .oof
       | .inl (o, s') => .over o s'
       | .inr (.ok c, s') => .fine (some c) s'
       | .inr (.error .exit, s') => .over .ok s'
       | .inr (.error _, s') => .fine none s') := by
  simp only [uptoNext, bind_def, select_model]
  cases h : evalSelector tbl sel v s with
  | inl os =>
    obtain ⟨o, s'⟩ := os
    cases o <;> rfl
  | inr cs =>
    obtain ⟨r, s'⟩ := cs
    cases r with
    | ok c => rfl
    | error g => cases g <;> rfl

theorem evalSelectors_eq_spec (v : JVal) (sels : List Bytes) (acc : List CellId) (s : St) :
    ofRoots (evalSelectors tbl v sels acc s) =
      (selectAll (modelPrims prog src tbl) v sels >>= fun cs => pure (acc.reverse ++ cs)) s := by
  induction sels generalizing acc s with
  | nil => simp [evalSelectors, selectAll, ofRoots, bind_def, pure_def]
  | cons sel rest ih =>
    unfold evalSelectors selectAll
    rw [bind_assoc, bind_def, selectStep_model]
    cases h : evalSelector tbl sel v s with
    | inl os =>
      obtain ⟨o, s'⟩ := os
      cases o <;> simp [ofRoots]
    | inr cs =>
      obtain ⟨r, s'⟩ := cs
      cases r with
      | ok c =>
        simp only [ih, bind_def, pure_def]
        cases selectAll (modelPrims prog src tbl) v rest s' <;> simp
      | error g =>
        cases g <;>
          first
          | (simp only [ofRoots]; done)
          | (simp only [ih, bind_def, pure_def]
             cases selectAll (modelPrims prog src tbl) v rest s' <;> simp)
/-! ### `next` and `exit` do not come out of the processing of a root (any program) -/

theorem evalSpecialRules_no_sig (g : Sig) (hg : g = .next ∨ g = .exit) (mk : EM CellId)
    (hmk : NoSig g mk) (rules : List Rule) : NoSig g (evalSpecialRules prog mk rules) := by
  induction rules with
  | nil => exact NoSig.pure _ _
  | cons rule rest ih =>
    unfold evalSpecialRules
    refine NoSig.bind hmk (fun c => NoSig.bind (NoSig.modifySt _ _) (fun _ => NoSig.bind ?_ (fun fl => ?_)))
    · apply NoSig.ruleFlow
      rcases hg with hg | hg
      · exact Or.inl hg
      · exact Or.inr (Or.inl hg)
    · split
      · exact NoSig.pure _ _
      · exact ih

theorem processRoots_no_sig (g : Sig) (hg : g = .next ∨ g = .exit) (cs : List CellId) :
    NoSig g (processRoots prog cs) :=
  -- a rule loop catches `next` and `exit` whatever the rules and the functions raise
  have all : ∀ g, InRule (fun g => g ≠ .next ∧ g ≠ .exit) g := fun g => by cases g <;> simp [InRule]
  .of_shaped (.processRoots (D := True) prog.fnTok_top trivial (.all all) (fun r _ => .all all r) cs)
    (by rcases hg with rfl | rfl <;> simp)


section progress
open Jqawk.Json

theorem run_rest_le {f : Bytes → Bool} {v : JVal} {rest : Bytes} (t : Tail) :
    ∀ (inp : Bytes) (s : Json.St), run f s inp t = .value v rest → rest.length ≤ inp.length
  | [], s, h => by
    cases t <;> simp only [run] at h
    · cases h
    · split at h
      · cases h; simp
      · cases h
    · cases h
  | c :: cs, s, h => by
    simp only [run] at h
    cases hs : step f s c with
    | cont s' =>
      rw [hs] at h
      have := run_rest_le t cs s' h
      simp only [List.length_cons]; omega
    | err => rw [hs] at h; cases h
    | done w bad consumed =>
      rw [hs] at h
      cases bad <;> cases consumed <;> simp at h <;> obtain ⟨rfl, rfl⟩ := h <;> simp

theorem decodeOne_progress {f : Bytes → Bool} {data rest : Bytes} {t : Tail} {v : JVal}
    (h : decodeOne f data t = .value v rest) : rest.length < data.length := by
  by_cases hne : data.dropWhile isSpace = []
  · unfold decodeOne at h
    rw [hne] at h
    cases t <;> simp at h
  · rw [decodeOne_eq_run hne] at h
    have hle : (data.dropWhile isSpace).length ≤ data.length := (List.dropWhile_suffix _).length_le
    cases hd : data.dropWhile isSpace with
    | nil => exact absurd hd hne
    | cons c cs =>
      rw [hd] at h hle
      simp only [run] at h
      have hst : step f St.init c = beginValue St.init c := rfl
      cases hs : beginValue St.init c with
      | cont s' =>
        rw [hst, hs] at h
        have := run_rest_le t cs s' h
        simp only [List.length_cons] at hle; omega
      | err => rw [hst, hs] at h; cases h
      | done w bad consumed => exact absurd hs beginValue_ne_done

end progress

/-! ### one value, one file: `processFile` -/

theorem bind_pure {α : Type} (m : Run α) : (m >>= fun a => (pure a : Run α)) = m := by
  funext s
  simp only [bind_def]
  cases m s <;> rfl

def ofStep : StepRes → Ended Unit
  | .done s => .fine () s
  | .finished .oof _ => .oof
  | .finished o s => .over o s

theorem ofStep_errOutcome (e : Err) (s : St) :
    ofStep (.finished (errOutcome src e) s) = .over (errOutcome src e) s := by
  cases e <;> rfl

def fileFrom (P : Prims) (R : RuleSets) (sels : List Bytes) (file : InputFile)
    (vc : List JVal × Bool) : Run Unit := do
  each vc.1 (valueSpec P R sels file)
  if vc.2 then pure () else endRun (.jsonErr file.name)

theorem fileSpec_eq (P : Prims) (R : RuleSets) (sels : List Bytes) (file : InputFile) :
    fileSpec P R sels file = fileFrom P R sels file (P.values file) := by
  unfold fileSpec fileFrom
  cases P.values file
  rfl

theorem valueSpec_def (P : Prims) (R : RuleSets) (sels : List Bytes) (file : InputFile) (v : JVal) :
    valueSpec P R sels file v = (P.setFile file.name >>= fun _ => rootsSpec P sels v >>= fun roots =>
      each roots (rootSpec P R)) := rfl

theorem setFile_model (name : Bytes) (s : St) :
    (do let c ← newCell (.str name none); setGlobal b!"$file" c : EM Unit) s =
      .ok () { s with heap := (s.heap.alloc (.str name none)).2,
                      frames := setLastFrame s.frames b!"$file" (s.heap.alloc (.str name none)).1 } := rfl

theorem load_eq_spec (v : JVal) (s1 : St) :
    ofRoots (match (do let val ← newValueJson v; newCell val : EM CellId) s1 with
      | .ok c s2 => .cells [c] s2
      | .err e s2 => .stop (errOutcome src e) s2
      | .oof => .stop .oof s1) =
    ((modelPrims prog src tbl).load v >>= fun c => pure [c]) s1 := by
  have hn : ∀ g, NoSig g (do let val ← newValueJson v; newCell val : EM CellId) :=
    fun g => NoSig.bind (NoSig.newValueJson g v) (fun _ => NoSig.newCell g _)
  simp only [bind_def, modelPrims, lift_def]
  cases h : (do let val ← newValueJson v; newCell val : EM CellId) s1 with
  | ok c s2 => rfl
  | err e s2 =>
    cases e with
    | sig g => exact absurd h (hn g _ _)
    | _ => rfl
  | oof => rfl

theorem roots_eq_spec (sels : List Bytes) (v : JVal) (s1 : St) :
    ofRoots (if sels.isEmpty then
        match (do let val ← newValueJson v; newCell val : EM CellId) s1 with
        | .ok c s2 => .cells [c] s2
        | .err e s2 => .stop (errOutcome src e) s2
        | .oof => .stop .oof s1
      else evalSelectors tbl v sels [] s1) =
    rootsSpec (modelPrims prog src tbl) sels v s1 := by
  unfold rootsSpec
  split
  · exact load_eq_spec prog src tbl v s1
  · rw [evalSelectors_eq_spec prog src tbl]
    simp only [List.reverse_nil, List.nil_append, bind_pure]

theorem ofStep_roots (roots : Roots) (K : St → StepRes) :
    ofStep (match roots with
      | .stop o s2 => .finished o s2
      | .exit s2 => .finished .ok s2
      | .cells cs s2 =>
        match processRoots prog cs s2 with
        | .ok .exit s3 => .finished .ok s3
        | .ok .continue_ s3 => K s3
        | .err e s3 => .finished (errOutcome src e) s3
        | .oof => .finished .oof s2) =
    (match ofRoots roots with
      | .fine cs s2 =>
        (match liftFlow src (processRoots prog cs) s2 with
         | .fine () s3 => ofStep (K s3)
         | .next s3 => .next s3
         | .over o s3 => .over o s3
         | .oof => .oof)
      | .next s2 => .next s2
      | .over o s2 => .over o s2
      | .oof => .oof) := by
  cases roots with
  | stop o s2 => cases o <;> rfl
  | exit s2 => rfl
  | cells cs s2 =>
    simp only [ofRoots, liftFlow_def, lift_def]
    cases h : processRoots prog cs s2 with
    | ok fl s3 => cases fl <;> rfl
    | err e s3 =>
      cases e with
      | sig g =>
        cases g with
        | next => exact absurd h (processRoots_no_sig prog .next (Or.inl rfl) cs _ _)
        | exit => exact absurd h (processRoots_no_sig prog .exit (Or.inr rfl) cs _ _)
        | _ => rfl
      | _ => rfl
    | oof => rfl

theorem processFile_eq_from (sels : List Bytes) (file : InputFile) :
    ∀ (fuel : Nat) (data : Bytes) (s : St), data.length < fuel →
      ofStep (processFile prog src tbl sels file fuel data s) =
        fileFrom (modelPrims prog src tbl) (rulesByKind prog) sels file
          (decodeStream file.tail fuel data) s := by
  intro fuel
  induction fuel with
  | zero => intro data s h; omega
  | succ fuel ih =>
    intro data s hlen
    unfold processFile decodeStream fileFrom
    cases hd : Json.decodeOne numOk data file.tail with
    | eof => rfl
    | error => rfl
    | needMore => rfl
    | value v rest =>
      have hrest : rest.length < fuel := by
        have := decodeOne_progress hd
        omega
      obtain ⟨s1, hs1⟩ : ∃ s1, (do let c ← newCell (.str file.name none); setGlobal b!"$file" c : EM Unit) s
          = .ok () s1 := ⟨_, setFile_model file.name s⟩
      simp only [each_cons, bind_assoc]
      simp only [hs1]
      refine (ofStep_roots prog src _ _).trans ?_
      have hR := roots_eq_spec prog src tbl sels v s1
      -- `erw`: the `match` that `unfold processFile` leaves and the one in `hR` are the auxiliary
      -- matchers of two different definitions, equal by unfolding only
      erw [hR]
      simp only [processRoots_eq_spec prog src tbl]
      rw [valueSpec_def, bind_assoc, bind_def]
      have hsf : (modelPrims prog src tbl).setFile file.name s = .fine () s1 := lift_ok src hs1
      rw [hsf]
      simp only [bind_def]
      cases rootsSpec (modelPrims prog src tbl) sels v s1 with
      | fine cs s2 =>
        simp only []
        cases each cs (rootSpec (modelPrims prog src tbl) (rulesByKind prog)) s2 with
        | fine u s3 =>
          simp only []
          rw [ih rest s3 hrest]
          unfold fileFrom
          simp only [bind_def]
        | _ => rfl
      | _ => rfl

/-! ### all files, the END rules, the whole run -/

theorem decodeStream_fuel (t : Json.Tail) : ∀ (n m : Nat) (data : Bytes),
    data.length < n → data.length < m → decodeStream t n data = decodeStream t m data := by
  intro n
  induction n with
  | zero => intro m data h; omega
  | succ n ih =>
    intro m data hn hm
    obtain ⟨m', rfl⟩ : ∃ m', m = m' + 1 := ⟨m - 1, by omega⟩
    unfold decodeStream
    cases hd : Json.decodeOne numOk data t with
    | value v rest =>
      have := decodeOne_progress hd
      simp only [ih m' rest (by omega) (by omega)]
    | _ => rfl

theorem valuesOf_unfold (name data : Bytes) (t : Json.Tail) :
    valuesOf ⟨name, data, t⟩ =
      (match Json.decodeOne numOk data t with
       | .eof => ([], true)
       | .error | .needMore => ([], false)
       | .value v rest => (v :: (valuesOf ⟨name, rest, t⟩).1, (valuesOf ⟨name, rest, t⟩).2)) := by
  unfold valuesOf
  simp only
  conv => lhs; unfold decodeStream
  cases hd : Json.decodeOne numOk data t with
  | value v rest =>
    have := decodeOne_progress hd
    simp only [decodeStream_fuel t data.length (rest.length + 1) rest (by omega) (by omega)]
  | _ => rfl

theorem processFile_eq_spec (sels : List Bytes) (file : InputFile) (s : St) :
    ofStep (processFile prog src tbl sels file (file.data.length + 2) file.data s) =
      fileSpec (modelPrims prog src tbl) (rulesByKind prog) sels file s := by
  rw [processFile_eq_from prog src tbl sels file _ _ s (by omega), fileSpec_eq]
  show _ = fileFrom _ _ _ _ (valuesOf file) s
  unfold valuesOf
  rw [decodeStream_fuel file.tail _ (file.data.length + 1) _ (by omega) (by omega)]

theorem processFiles_eq_spec (sels : List Bytes) (files : List InputFile) (s : St) :
    ofStep (processFiles prog src tbl sels files s) =
      each files (fileSpec (modelPrims prog src tbl) (rulesByKind prog) sels) s := by
  induction files generalizing s with
  | nil => rfl
  | cons f rest ih =>
    unfold processFiles
    rw [each_cons, bind_def, ← processFile_eq_spec]
    cases h : processFile prog src tbl sels f (f.data.length + 2) f.data s with
    | done s' => exact ih s'
    | finished o s' => cases o <;> rfl

/-- equal, or both out of fuel -/
def Agree (a b : RunResult) : Prop := a = b ∨ (a.outcome = .oof ∧ b.outcome = .oof)

theorem Agree.rfl' (a : RunResult) : Agree a a := .inl rfl

theorem runEnd_eq_spec (s : St) :
    runEnd prog src s =
      report (specialSpec (modelPrims prog src tbl) ((modelPrims prog src tbl).fresh (.nil none))
        (rulesByKind prog).end_ s) := by
  have hfresh : (modelPrims prog src tbl).fresh (.nil none) = lift src (newCell (.nil none)) := rfl
  rw [hfresh, ← evalSpecialRules_eq_spec]
  unfold runEnd
  simp only [liftFlow_def, lift_def, rulesByKind]
  cases h : evalSpecialRules prog (newCell (.nil none)) (rulesOf prog .end_) s with
  | ok fl s' => cases fl <;> rfl
  | err e s' =>
    cases e with
    | sig g =>
      cases g with
      | exit => exact absurd h (evalSpecialRules_no_sig prog .exit (Or.inr rfl) _ (NoSig.newCell _ _) _ _ _)
      | _ => rfl
    | _ => rfl
  | oof => rfl

theorem runFiles_eq_spec (sels : List Bytes) (files : List InputFile) (s : St) :
    Agree (runFiles prog src tbl sels files s)
      (report ((do
        each files (fileSpec (modelPrims prog src tbl) (rulesByKind prog) sels)
        specialSpec (modelPrims prog src tbl) ((modelPrims prog src tbl).fresh (.nil none))
          (rulesByKind prog).end_ : Run Unit) s)) := by
  unfold runFiles
  rw [bind_def, ← processFiles_eq_spec]
  cases h : processFiles prog src tbl sels files s with
  | done s2 => exact .inl (runEnd_eq_spec prog src tbl s2)
  | finished o s2 =>
    cases o with
    | oof => exact .inr ⟨rfl, rfl⟩
    | _ => exact .inl rfl

/-- **the whole run**: `runProgram` is the schedule specification with the model's primitive
    steps — the same outcome, the same output, the same final state — unless the evaluator runs
    out of fuel (then both sides say so; the model records WHERE in different ways, which is
    why the two results are not compared further) -/
theorem runProgram_agrees (sels : List Bytes) (files : List InputFile) :
    Agree (runProgram prog src tbl sels files)
      (runSpec (modelPrims prog src tbl) (rulesByKind prog) sels files
        (newEvaluator prog Heap.empty [] 0)) := by
  unfold runProgram runSpec scheduleSpec
  have hfresh : (modelPrims prog src tbl).fresh (.nil none) = lift src (newCell (.nil none)) := rfl
  rw [bind_def]
  conv => rhs; rw [hfresh, ← evalSpecialRules_eq_spec]
  simp only [liftFlow_def, lift_def, rulesByKind]
  cases h : evalSpecialRules prog (newCell (.nil none)) (rulesOf prog .begin_)
      (newEvaluator prog Heap.empty [] 0) with
  | ok fl s' =>
    cases fl with
    | exit => exact .inl rfl
    | continue_ => exact runFiles_eq_spec prog src tbl sels files s'
  | err e s' =>
    cases e with
    | sig g =>
      cases g with
      | exit => exact absurd h (evalSpecialRules_no_sig prog .exit (Or.inr rfl) _ (NoSig.newCell _ _) _ _ _)
      | _ => exact .inl rfl
    | _ => exact .inl rfl
  | oof => exact .inl rfl

end Jqawk.Sched
