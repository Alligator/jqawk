/-
  C06 infrastructure: running parser actions (`P = StateT PS PM`) against a token list, keeping
  the unread tokens (`PM.runWith` drops them), and run-level unfolding lemmas for the expression
  functions of the parser.
-/
import Jqawk.Lemmas.PrattSrc

namespace Jqawk

namespace ParseRes
def bind {α β : Type} : ParseRes α → (α → ParseRes β) → ParseRes β
  | .ok a, f => f a
  | .syntaxErr e, _ => .syntaxErr e
  | .oof, _ => .oof

@[simp] theorem bind_ok {α β : Type} (a : α) (f : α → ParseRes β) : (ParseRes.ok a).bind f = f a := rfl
@[simp] theorem bind_syntaxErr {α β : Type} (e : SynErr) (f : α → ParseRes β) :
    (ParseRes.syntaxErr e : ParseRes α).bind f = .syntaxErr e := rfl
@[simp] theorem bind_oof {α β : Type} (f : α → ParseRes β) : (ParseRes.oof : ParseRes α).bind f = .oof := rfl

theorem bind_assoc {α β γ : Type} (x : ParseRes α) (f : α → ParseRes β) (g : β → ParseRes γ) :
    (x.bind f).bind g = x.bind fun a => (f a).bind g := by cases x <;> rfl

def map {α β : Type} (f : α → β) : ParseRes α → ParseRes β
  | .ok a => .ok (f a)
  | .syntaxErr e => .syntaxErr e
  | .oof => .oof
end ParseRes

namespace PM

def runL {α : Type} : PM α → List Token → ParseRes (α × List Token)
  | .pure a, ts => .ok (a, ts)
  | .fail e, _ => .syntaxErr e
  | .oof, _ => .oof
  | .next k, [] => (k eofTok false).runL []
  | .next k, t :: ts => (k t false).runL ts
  | .regex _, _ => .syntaxErr ⟨0, "regex request against a token-list source"⟩

theorem runWith_tokSrc {α : Type} (m : PM α) (ts : List Token) :
    m.runWith tokSrc ts = (m.runL ts).map Prod.fst := by
  induction m generalizing ts with
  | pure a => rfl
  | fail e => rfl
  | oof => rfl
  | next k ih =>
    cases ts with
    | nil => simp only [runWith, tokSrc, runL]; exact ih _ _ _
    | cons t ts => simp only [runWith, tokSrc, runL]; exact ih _ _ _
  | regex k ih => rfl

theorem runL_bind {α β : Type} (m : PM α) (f : α → PM β) (ts : List Token) :
    (m.bind f).runL ts = (m.runL ts).bind fun r => (f r.1).runL r.2 := by
  induction m generalizing ts with
  | pure a => rfl
  | fail e => rfl
  | oof => rfl
  | next k ih =>
    cases ts with
    | nil => simp only [PM.bind, runL]; exact ih _ _ _
    | cons t ts => simp only [PM.bind, runL]; exact ih _ _ _
  | regex k ih => rfl

/-- a trailing EOF token is what the list source answers anyway -/
theorem runL_append_eof {α : Type} (m : PM α) (ts : List Token) :
    (m.runL (ts ++ [eofTok])).map Prod.fst = (m.runL ts).map Prod.fst := by
  induction m generalizing ts with
  | pure a => rfl
  | fail e => rfl
  | oof => rfl
  | next k ih =>
    cases ts with
    | nil => simp only [List.nil_append, runL]
    | cons t ts => simp only [List.cons_append, runL]; exact ih _ _ _
  | regex k ih => rfl

end PM

namespace Parser

def run {α : Type} (m : P α) (s : PS) (ts : List Token) : ParseRes ((α × PS) × List Token) :=
  (m s).runL ts

def adv (s : PS) (t : Token) : PS := { s with prev := s.cur, cur := t, didEnd := false }

@[simp] theorem adv_cur (s : PS) (t : Token) : (adv s t).cur = t := rfl
@[simp] theorem adv_prev (s : PS) (t : Token) : (adv s t).prev = s.cur := rfl

section basic
variable {α β : Type}

@[simp] theorem run_pure (a : α) (s : PS) (ts : List Token) :
    run (pure a : P α) s ts = .ok ((a, s), ts) := rfl

@[simp] theorem run_bind (m : P α) (f : α → P β) (s : PS) (ts : List Token) :
    run (m >>= f) s ts = (run m s ts).bind fun r => run (f r.1.1) r.1.2 r.2 := by
  show ((m s).bind fun p => f p.1 p.2).runL ts = _
  rw [PM.runL_bind]; rfl

@[simp] theorem run_get (s : PS) (ts : List Token) : run (get : P PS) s ts = .ok ((s, s), ts) := rfl

@[simp] theorem run_fail (pos : Nat) (msg : String) (s : PS) (ts : List Token) :
    run (fail pos msg : P α) s ts = .syntaxErr ⟨pos, msg⟩ := rfl

@[simp] theorem run_oof (s : PS) (ts : List Token) : run (oof : P α) s ts = .oof := rfl

@[simp] theorem run_advance_cons (s : PS) (t : Token) (ts : List Token) :
    run advance s (t :: ts) = .ok (((), adv s t), ts) := rfl

@[simp] theorem run_advance_nil (s : PS) : run advance s [] = .ok (((), adv s eofTok), []) := rfl

theorem run_consume_cons (tag : Tag) (s : PS) (t : Token) (ts : List Token) (h : s.cur.tag = tag) :
    run (consume tag) s (t :: ts) = .ok (((), adv s t), ts) := by
  unfold consume
  simp [h]

theorem run_consume_nil (tag : Tag) (s : PS) (h : s.cur.tag = tag) :
    run (consume tag) s [] = .ok (((), adv s eofTok), []) := by
  unfold consume
  simp [h]

@[simp] theorem run_curTag (s : PS) (ts : List Token) : run curTag s ts = .ok ((s.cur.tag, s), ts) := by
  unfold curTag; simp

end basic

end Parser

end Jqawk
