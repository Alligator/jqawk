/-
  Lemmas for C16: the integer `floor`/`ceil`/`round` pick in terms of integer (floor) division, and the
  exactness of `ofRat` on integers below 2^53 (by decoding the fields of the double `roundMag` builds).
-/
import Jqawk.Model.F64

namespace Jqawk
open F64

theorem natAbs_ediv (m d : Nat) : ((m : Int) / (d : Int)).natAbs = m / d := by
  rw [← Int.natCast_ediv, Int.natAbs_natCast]

theorem natAbs_neg_ediv (m d : Nat) (hd : 0 < d) :
    ((-(m : Int)) / (d : Int)).natAbs = if m % d ≠ 0 then m / d + 1 else m / d := by
  have hs : (d : Int).sign = 1 := Int.sign_eq_one_of_pos (Int.natCast_pos.mpr hd)
  have hdvd : (d : Int) ∣ m ↔ m % d = 0 := by rw [Int.natCast_dvd_natCast, Nat.dvd_iff_mod_eq_zero]
  rw [Int.neg_ediv, hs, ← Int.natCast_ediv]
  by_cases h : m % d = 0
  · rw [if_pos (hdvd.mpr h), if_neg (not_not_intro h), Int.sub_zero, Int.natAbs_neg, Int.natAbs_natCast]
  · rw [if_neg (mt hdvd.mp h), if_pos h, Int.sub_eq_add_neg, ← Int.neg_add, Int.natAbs_neg]; rfl

theorem round_half_div (m d : Nat) (hd : 0 < d) :
    (2 * m + d) / (2 * d) = if 2 * (m % d) ≥ d then m / d + 1 else m / d := by
  have hr := Nat.mod_lt m hd
  have hm : 2 * m + d = 2 * d * (m / d) + (2 * (m % d) + d) := by
    rw [Nat.mul_assoc, ← Nat.add_assoc, ← Nat.mul_add, Nat.div_add_mod]
  rw [hm, Nat.mul_add_div (Nat.mul_pos (by decide) hd)]
  generalize m % d = r at hr ⊢
  split
  · rw [Nat.div_eq_of_lt_le (k := 1) (m := 2 * r + d) (by omega) (by omega)]
  · rw [Nat.div_eq_of_lt (a := 2 * r + d) (by omega)]; rfl

theorem rne_one (m : Nat) : F64.rne m 1 = m := by
  simp [F64.rne, Nat.mod_one]

theorem natCast_sub_eq_neg {e k : Nat} (he : e ≤ k) : (e : Int) - (k : Int) = -((k - e : Nat) : Int) := by
  rw [Int.ofNat_sub he, Int.neg_sub]

theorem scale2_natCast (n d k : Nat) : scale2 n d (k : Int) = (n * 2 ^ k, d) := by
  rw [scale2, if_pos (Int.natCast_nonneg k), Int.toNat_natCast]

theorem scale2_neg_succ (n d k : Nat) : scale2 n d (-((k + 1 : Nat) : Int)) = (n, d * 2 ^ (k + 1)) := by
  rw [scale2, if_neg (Int.not_le.mpr (Int.neg_neg_of_pos (Int.natCast_pos.mpr k.succ_pos))), Int.neg_neg,
    Int.toNat_natCast]

theorem shift_bounds (n e k : Nat) (h1 : 2 ^ e ≤ n) (h2 : n < 2 ^ (e + 1)) (he : e ≤ k) :
    2 ^ k ≤ n * 2 ^ (k - e) ∧ n * 2 ^ (k - e) < 2 ^ (k + 1) := by
  constructor
  · calc 2 ^ k = 2 ^ e * 2 ^ (k - e) := by rw [← Nat.pow_add, Nat.add_sub_cancel' he]
      _ ≤ n * 2 ^ (k - e) := Nat.mul_le_mul_right _ h1
  · calc n * 2 ^ (k - e) < 2 ^ (e + 1) * 2 ^ (k - e) := Nat.mul_lt_mul_of_pos_right h2 (Nat.two_pow_pos _)
      _ = 2 ^ (k + 1) := by rw [← Nat.pow_add, Nat.add_right_comm, Nat.add_sub_cancel' he]

theorem roundMag_nat (n e : Nat) (h1 : 2 ^ e ≤ n) (h2 : n < 2 ^ (e + 1)) (he : e ≤ 52) :
    F64.roundMag n 1 0 = (e + 1022) * 2 ^ 52 + n * 2 ^ (52 - e) := by
  have hn0 : n ≠ 0 := Nat.ne_of_gt (Nat.lt_of_lt_of_le (Nat.two_pow_pos e) h1)
  -- the first scaling only decides that the binary exponent of `n` is `e` itself …
  have hs1 : (scale2 n 1 (0 - (e : Int))).fst ≥ (scale2 n 1 (0 - (e : Int))).snd := by
    rw [Int.zero_sub]
    cases e with
    | zero =>
      rw [show -((0 : Nat) : Int) = ((0 : Nat) : Int) from rfl, scale2_natCast]
      exact Nat.le_trans h1 (Nat.le_mul_of_pos_right _ (by decide))
    | succ e => rw [scale2_neg_succ, Nat.one_mul]; exact h1
  -- … the second one shifts `n` to a 53-bit significand, so that nothing is rounded away
  have hs2 : scale2 n 1 (0 - ((e : Int) - 52)) = (n * 2 ^ (52 - e), 1) := by
    rw [show (e : Int) - 52 = -((52 - e : Nat) : Int) from natCast_sub_eq_neg he, Int.zero_sub, Int.neg_neg,
      scale2_natCast]
  have ht : ((e : Int) - 52 + 1074).toNat = e + 1022 := by
    rw [Int.sub_eq_add_neg, Int.add_assoc]; exact Int.toNat_natCast (e + 1022)
  unfold F64.roundMag
  simp only [beq_false_of_ne hn0, Bool.false_eq_true, ↓reduceIte, (Nat.log2_eq_iff hn0).mpr ⟨h1, h2⟩,
    show Nat.log2 1 = 0 by decide, Int.natCast_zero, Int.sub_zero, Int.add_zero]
  rw [if_neg (Int.not_lt.mpr (Int.le_trans (Int.ofNat_le.mpr he) (by decide))),
    if_neg (Int.not_lt.mpr (Int.le_trans (by decide) (Int.natCast_nonneg e))), if_pos hs1,
    Int.max_eq_left (Int.le_trans (by decide) (Int.sub_le_sub_right (Int.natCast_nonneg e) 52)), hs2, ht, rne_one]
  refine Nat.min_eq_right ?_
  calc (e + 1022) * 2 ^ 52 + n * 2 ^ (52 - e) ≤ 1074 * 2 ^ 52 + 2 ^ 53 :=
        Nat.add_le_add (Nat.mul_le_mul_right _ (Nat.add_le_add_right he 1022))
          (Nat.le_of_lt (shift_bounds n e 52 h1 h2 he).2)
    _ ≤ infMag := by decide

theorem ofMag_raw (s : Bool) (M : Nat) (hM : M < 2 ^ 63) :
    (F64.ofMag s M).raw = if s then 2 ^ 63 + M else M := by
  rw [F64.raw, F64.ofMag, UInt64.toNat_ofNat']
  exact Nat.mod_eq_of_lt (by cases s; exact Nat.lt_trans hM (by decide); exact Nat.add_lt_add_left hM _)

theorem mag_ofMag (s : Bool) (M : Nat) (hM : M < 2 ^ 63) : (F64.ofMag s M).mag = M := by
  rw [F64.mag, ofMag_raw s M hM]
  cases s
  · exact Nat.mod_eq_of_lt hM
  · exact (Nat.add_mod_left ..).trans (Nat.mod_eq_of_lt hM)

theorem signBit_ofMag (s : Bool) (M : Nat) (hM : M < 2 ^ 63) : (F64.ofMag s M).signBit = s := by
  rw [F64.signBit, ofMag_raw s M hM]
  cases s
  · exact decide_eq_false (Nat.not_le_of_lt hM)
  · exact decide_eq_true (Nat.le_add_right ..)

theorem fracBits_eq (x : F64) : x.fracBits = x.mag % 2 ^ 52 :=
  (Nat.mod_mod_of_dvd _ (by decide)).symm

theorem mul_add_lt_mul {E K f B : Nat} (hE : E < K) (hf : f < B) : E * B + f < K * B :=
  calc E * B + f < E * B + B := Nat.add_lt_add_left hf _
    _ = (E + 1) * B := (Nat.succ_mul ..).symm
    _ ≤ K * B := Nat.mul_le_mul_right _ hE

theorem ofMag_normal (s : Bool) (E f : Nat) (hE0 : 0 < E) (hE : E < 2047) (hf : f < 2 ^ 52) :
    let y := F64.ofMag s (E * 2 ^ 52 + f)
    y.signBit = s ∧ y.isNaN = false ∧ y.isInf = false ∧ y.mant = f + 2 ^ 52 ∧ y.exp = (E : Int) - 1075 := by
  have hM : E * 2 ^ 52 + f < infMag := mul_add_lt_mul hE hf
  have hM63 := Nat.lt_trans hM (by decide : infMag < 2 ^ 63)
  intro y
  have hmag : y.mag = E * 2 ^ 52 + f := mag_ofMag s _ hM63
  have hexp : y.expBits = E := by
    rw [F64.expBits, hmag, Nat.add_comm, Nat.add_mul_div_right _ _ (Nat.two_pow_pos 52), Nat.div_eq_of_lt hf,
      Nat.zero_add]
  have hE0 : (E == 0) = false := beq_false_of_ne (Nat.ne_of_gt hE0)
  refine ⟨signBit_ofMag s _ hM63, ?_, ?_, ?_, ?_⟩
  · rw [F64.isNaN, hmag]; exact decide_eq_false (Nat.not_lt_of_le (Nat.le_of_lt hM))
  · rw [F64.isInf, hmag]; exact beq_false_of_ne (Nat.ne_of_lt hM)
  · rw [F64.mant, hexp, hE0, fracBits_eq, hmag, Nat.add_comm (E * _), Nat.add_mul_mod_self_right,
      Nat.mod_eq_of_lt hf]
    rfl
  · rw [F64.exp, hexp, hE0]; rfl

/-- `y` is finite and its value mant · 2^exp is exactly the integer `n` (in the model's own
    fraction representation `scale2`: numerator = n · denominator) -/
def F64.IsInt (y : F64) (n : Nat) : Prop :=
  y.isNaN = false ∧ y.isInf = false ∧
    (F64.scale2 y.mant 1 y.exp).1 = n * (F64.scale2 y.mant 1 y.exp).2

theorem ofRat_nat_exact (s : Bool) (n : Nat) (hn : n < 2 ^ 53) :
    (F64.ofRat s n 1 0).signBit = s ∧ (F64.ofRat s n 1 0).IsInt n := by
  by_cases h0 : n = 0
  · subst h0
    cases s <;> (unfold F64.IsInt; decide +kernel)
  · have he : n.log2 ≤ 52 := Nat.le_of_lt_succ ((Nat.log2_lt h0).mpr hn)
    have h1 := Nat.log2_self_le h0
    have hb := shift_bounds n n.log2 52 h1 Nat.lt_log2_self he
    rw [F64.ofRat, roundMag_nat n n.log2 h1 Nat.lt_log2_self he]
    generalize n.log2 = e at he hb ⊢
    -- the leading bit of the significand carries into the exponent field
    have hM : (e + 1022) * 2 ^ 52 + n * 2 ^ (52 - e) = (e + 1023) * 2 ^ 52 + (n * 2 ^ (52 - e) - 2 ^ 52) := by
      rw [show e + 1023 = e + 1022 + 1 from rfl, Nat.succ_mul (e + 1022), Nat.add_assoc, Nat.add_sub_cancel' hb.1]
    obtain ⟨hs, hnan, hinf, hmant, hexp⟩ := ofMag_normal s (e + 1023) (n * 2 ^ (52 - e) - 2 ^ 52) (Nat.succ_pos _)
      (Nat.lt_of_le_of_lt (Nat.add_le_add_right he 1023) (by decide)) (Nat.sub_lt_left_of_lt_add hb.1 hb.2)
    rw [hM]
    refine ⟨hs, hnan, hinf, ?_⟩
    have hexp' : ((e + 1023 : Nat) : Int) - 1075 = -((52 - e : Nat) : Int) := by
      rw [Int.natCast_add, Int.add_sub_assoc]; exact natCast_sub_eq_neg he
    rw [hmant, hexp, Nat.sub_add_cancel hb.1, hexp']
    cases 52 - e with
    | zero => rw [show -((0 : Nat) : Int) = ((0 : Nat) : Int) from rfl, scale2_natCast, Nat.pow_zero, Nat.mul_one]
    | succ k => rw [scale2_neg_succ, Nat.one_mul]

theorem F64.mant_lt (x : F64) : x.mant < 2 ^ 53 := by
  have h : x.fracBits < 2 ^ 52 := Nat.mod_lt _ (by decide)
  unfold F64.mant
  split
  · exact Nat.lt_trans h (by decide)
  · exact Nat.add_lt_add_right h (2 ^ 52)

theorem pick_lt (c : Prop) [Decidable c] (m d : Nat) (hm : m < 2 ^ 53) (hd : 2 ≤ d) :
    (if c then m / d + 1 else m / d) < 2 ^ 53 := by
  have h : m / d + 1 ≤ 2 ^ 52 :=
    Nat.le_trans (Nat.succ_le_succ (Nat.div_le_div_left hd (by decide))) (Nat.div_lt_of_lt_mul hm)
  split
  · exact Nat.lt_of_le_of_lt h (by decide)
  · exact Nat.lt_of_lt_of_le (Nat.lt_succ_self _) (Nat.le_trans h (by decide))

theorem roundWith_fix (pick : Nat → Nat → Nat → Nat) (x : F64)
    (h : x.isNaN = true ∨ x.isInf = true ∨ x.exp ≥ 0) : F64.roundWith pick x = x := by
  have : (x.isNaN || x.isInf || decide (x.exp ≥ 0)) = true := by
    rcases h with h | h | h <;> simp [h]
  rw [F64.roundWith, if_pos this]

theorem roundWith_frac (pick : Nat → Nat → Nat → Nat) (x : F64) (h1 : x.isNaN = false) (h2 : x.isInf = false)
    (h3 : x.exp < 0) :
    F64.roundWith pick x = F64.ofRat x.signBit
      (pick (x.mant / 2 ^ (-x.exp).toNat) (x.mant % 2 ^ (-x.exp).toNat) (2 ^ (-x.exp).toNat)) 1 0 := by
  rw [F64.roundWith, h1, h2, decide_eq_false (Int.not_le.mpr h3)]
  rfl

theorem floor_pick_eq (s : Bool) (m d : Nat) (hd : 0 < d) :
    (if s = true ∧ m % d ≠ 0 then m / d + 1 else m / d)
      = ((if s = true then -(m : Int) else (m : Int)) / (d : Int)).natAbs := by
  cases s
  · simp only [Bool.false_eq_true, false_and, ↓reduceIte, natAbs_ediv]
  · simp only [↓reduceIte, natAbs_neg_ediv _ _ hd, true_and]

theorem ceil_pick_eq (s : Bool) (m d : Nat) (hd : 0 < d) :
    (if ¬ s = true ∧ m % d ≠ 0 then m / d + 1 else m / d)
      = ((-(if s = true then -(m : Int) else (m : Int))) / (d : Int)).natAbs := by
  cases s
  · simp only [Bool.false_eq_true, ↓reduceIte, natAbs_neg_ediv _ _ hd, not_false_eq_true, true_and]
  · simp only [not_true_eq_false, false_and, ↓reduceIte, Int.neg_neg, natAbs_ediv]

theorem pick_div_lt (s : Bool) (m d : Nat) (hm : m < 2 ^ 53) (hd : 2 ≤ d) :
    ((if s = true then -(m : Int) else (m : Int)) / (d : Int)).natAbs < 2 ^ 53 ∧
    ((-(if s = true then -(m : Int) else (m : Int))) / (d : Int)).natAbs < 2 ^ 53 ∧
    (2 * m + d) / (2 * d) < 2 ^ 53 := by
  have hd0 : 0 < d := Nat.lt_of_lt_of_le (by decide) hd
  rw [← floor_pick_eq _ _ _ hd0, ← ceil_pick_eq _ _ _ hd0, round_half_div _ _ hd0]
  exact ⟨pick_lt _ _ _ hm hd, pick_lt _ _ _ hm hd, pick_lt _ _ _ hm hd⟩

end Jqawk
