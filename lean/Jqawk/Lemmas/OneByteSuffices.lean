/-
  C03 — "a value and at most one following byte suffice", decoder level.

  The decoder (`Json.decodeOne`, the port of encoding/json's `Decoder.Decode`) answers for the first
  value of a stream as soon as it has seen the value's own bytes and AT MOST ONE further byte:
    * arrays and objects are self-delimiting: the answer comes with the closing bracket
      (stream.go `readValue` "invents a space" after scanEndObject / scanEndArray);
    * numbers, the literals true / false / null AND STRINGS need one following byte: the scanner
      reports the end of a top-level scalar one byte late (`stateEndTop` answers scanEnd to the
      byte after the value) and `readValue` has no shortcut for a closing quote.
  Everything here is about `decodeOne … .more` (bytes read so far, the reader may deliver more).
-/
import Jqawk.Lemmas.JsonPrefix

namespace Jqawk.OneByte
open Jqawk Jqawk.Json

/-- the bytes that can continue a number literal (in SOME scanner state): digits `.` `e` `E` -/
def numCont (c : UInt8) : Bool := isDigit c || c == 0x2E || c == 0x65 || c == 0x45

/-- the scalar-carrying scanner states carry scalars (true of every state reachable from `St.init`) -/
def Good (s : St) : Prop :=
  match s.step with
  | .endTop v => composite v = false
  | .lit _ v => composite v = false
  | _ => True

theorem good_init : Good St.init := trivial

/-- `d` can end the top-level value `j`: any byte after true / false / null / a string; any byte
    that is not a digit, `.`, `e`, `E` after a number (composites: not applicable, `true`) -/
def delimits (j : JVal) (d : UInt8) : Bool :=
  match j with
  | .num _ => !numCont d
  | _ => true

open Jqawk.JsonBytes

def OutGood : Out → Prop
  | .cont s => Good s
  | _ => True

/-- a completing answer of a closing bracket: the value is an array or object, the byte is its last -/
def Closes : Out → Prop
  | .done j _ consumed => consumed = true ∧ composite j = true
  | _ => True

theorem deliver_good {s : St} {v : JVal} (h : s.stack = [] → composite v = false) : Good (deliver s v) :=
  deliver_cases s v (key := fun _ _ _ _ => trivial) (top := h) (item := fun _ _ _ => trivial)
    (member := fun _ _ _ _ => trivial)

theorem pop_good (s : St) (fs : List Frame) (v : JVal) : OutGood (pop s fs v) :=
  pop_cases s fs v (fun _ => trivial) fun hne => deliver_good fun h => absurd h hne

theorem pop_closes (s : St) (fs : List Frame) {v : JVal} (hv : composite v = true) : Closes (pop s fs v) :=
  pop_cases s fs v (fun _ => ⟨rfl, hv⟩) fun _ => trivial

theorem endValue_good (s : St) (c : UInt8) : OutGood (endValue s c) :=
  endValue_cases s c (space := trivial) (colon := fun _ _ _ _ => trivial) (comma := fun _ _ _ _ => trivial)
    (closeObj := fun _ _ _ _ => pop_good ..) (next := fun _ _ _ => trivial) (closeArr := fun _ _ _ => pop_good ..)
    (err := trivial)

theorem endValue_closes (s : St) (c : UInt8) : Closes (endValue s c) :=
  endValue_cases s c (space := trivial) (colon := fun _ _ _ _ => trivial) (comma := fun _ _ _ _ => trivial)
    (closeObj := fun _ _ _ _ => pop_closes _ _ rfl) (next := fun _ _ _ => trivial)
    (closeArr := fun _ _ _ => pop_closes _ _ rfl) (err := trivial)

theorem endNumber_good (f : Bytes → Bool) (s : St) (c : UInt8) : OutGood (endNumber f s c) :=
  afterValue_cases _ c (fun _ _ => trivial) (endValue_good ..)

theorem good_of_isStr {s : St} (h : isStr s.step = true) : Good s := by
  unfold Good; split <;> first | trivial | (rename_i e; rw [e] at h; cases h)

theorem good_of_isNum {s : St} (h : isNum s.step = true) : Good s := by
  unfold Good; split <;> first | trivial | (rename_i e; rw [e] at h; cases h)

theorem step_good (f : Bytes → Bool) {s : St} (c : UInt8) (hs : Good s) : OutGood (step f s c) := by
  have push_good : ∀ fr next, Good { s with step := next } → OutGood (push s fr next) := fun fr next h =>
    push_cases s fr next (fun _ => h) trivial
  have carried : ∀ {r v}, s.step = .lit r v → composite v = false := fun e => by
    unfold Good at hs; rw [e] at hs; exact hs
  exact step_cases f s c
    (bv := beginValue_cases s c (space := hs) (obj := push_good _ _ trivial) (arr := push_good _ _ trivial)
      (str := trivial) (neg := fun _ => trivial) (zero := fun _ => trivial) (tru := rfl) (fls := rfl) (nul := rfl)
      (digit := fun _ _ _ => trivial) (err := trivial))
    (space := hs)
    (ev := endValue_good ..)
    (closeEmpty := fun _ _ _ _ _ => endValue_good ..)
    (bs := beginString_cases s c hs trivial trivial)
    (endTop := fun _ _ => trivial)
    (strEnd := fun _ => deliver_good fun _ => rfl)
    (strMore := fun _ _ h => good_of_isStr (strNext_isStr h))
    (numMore := fun _ _ h => good_of_isNum (numNext_isNum h))
    (numEnd := fun _ _ _ => endNumber_good ..)
    (litEnd := fun _ _ e => deliver_good fun _ => carried e)
    (litMore := fun _ _ _ e => carried e)
    (err := trivial)

theorem numNext_of_not_numCont {st : Step} {d : UInt8} (hce : canEnd st = true) (h : numCont d = false) :
    numNext st d = none := by
  simp only [numCont, Bool.or_eq_false_iff] at h
  exact numNext_none h.1.1.1 h.1.1.2 (by rw [h.1.2, h.2]; rfl) (.inl hce)

/-- a completing answer: of a closing bracket, or of a scalar that ended BEFORE this byte — and
    would have ended the same way before any other delimiting byte -/
def DoneOK (f : Bytes → Bool) (s : St) : Out → Prop
  | .done j bad consumed => (consumed = true ∧ composite j = true) ∨
      (consumed = false ∧ composite j = false ∧ ∀ d, delimits j d = true → step f s d = .done j bad false)
  | _ => True

theorem Closes.doneOK {f : Bytes → Bool} {s : St} : ∀ {out : Out}, Closes out → DoneOK f s out
  | .done .., h => .inl h
  | .cont _, _ => trivial
  | .err, _ => trivial

/-- a number literal that ends a top-level value ends it before ANY byte that ends the literal -/
theorem endNumber_doneOK (f : Bytes → Bool) (s : St) (c : UInt8) (hn : isNum s.step = true)
    (hce : canEnd s.step = true) : DoneOK f s (endNumber f s c) := by
  refine afterValue_cases _ c (fun v hv => .inr ⟨rfl, ?_, fun d hd => ?_⟩) (endValue_closes ..).doneOK
  all_goals
    have hj : v = .num s.lit.reverse := by
      revert hv
      exact deliver_cases (P := fun s' => s'.step = .endTop v → _) _ _ (key := fun _ _ _ _ => nofun)
        (top := fun _ e => (Step.endTop.inj e).symm) (item := fun _ _ _ => nofun) (member := fun _ _ _ _ => nofun)
  · rw [hj]; rfl
  · subst hj
    rw [step_numEnd f s hn hce (numNext_of_not_numCont hce (by simpa [delimits] using hd))]
    exact afterValue_endTop hv d

theorem step_doneOK (f : Bytes → Bool) {s : St} (c : UInt8) (hs : Good s) : DoneOK f s (step f s c) := by
  have push_ok : ∀ fr next, DoneOK f s (push s fr next) := fun fr next =>
    push_cases s fr next (fun _ => trivial) trivial
  refine step_cases f s c
    (bv := beginValue_cases s c (space := trivial) (obj := push_ok ..) (arr := push_ok ..) (str := trivial)
      (neg := fun _ => trivial) (zero := fun _ => trivial) (tru := trivial) (fls := trivial) (nul := trivial)
      (digit := fun _ _ _ => trivial) (err := trivial))
    (space := trivial)
    (ev := (endValue_closes ..).doneOK)
    (closeEmpty := fun _ _ _ _ _ => (endValue_closes ..).doneOK)
    (bs := beginString_cases s c trivial trivial trivial)
    (endTop := fun v hv => .inr ⟨rfl, ?_, fun d _ => ?_⟩)
    (strEnd := fun _ => trivial)
    (strMore := fun _ _ _ => trivial)
    (numMore := fun _ _ _ => trivial)
    (numEnd := fun hn hce _ => endNumber_doneOK f s c hn hce)
    (litEnd := fun _ _ _ => trivial)
    (litMore := fun _ _ _ _ => trivial)
    (err := trivial)
  · unfold Good at hs; rw [hv] at hs; exact hs
  · unfold step; rw [hv]

theorem steps_good {f : Bytes → Bool} (v : Bytes) (s s' : St) : Good s → steps f s v = some s' → Good s' :=
  steps_preserves (fun s c s' hs e => by have := step_good f c hs; rwa [e] at this) v

theorem run_nil_more {f : Bytes → Bool} (s : St) : run f s [] .more = .needMore := by
  unfold run; rfl

theorem run_done {f : Bytes → Bool} {s : St} {c : UInt8} {j : JVal} {consumed : Bool} (cs : Bytes) (t : Tail)
    (h : step f s c = .done j false consumed) :
    run f s (c :: cs) t = .value j (if consumed then cs else c :: cs) := by
  rw [run, h]; rfl

theorem decodeOne_more_eq_run (f : Bytes → Bool) (inp : Bytes) :
    decodeOne f inp .more = run f St.init inp .more := by
  rw [decodeOne_eq]
  split
  · rename_i h
    have := run_ws f .more .beginValue (.inl rfl) [] 0 [] false inp [] fun x hx => List.all_eq_true.1 h x hx
    rw [List.append_nil] at this
    exact this.symm
  · rfl

/-- **Anatomy of a successful decode.**  If the decoder, given the bytes `inp` (more may follow),
    answers with the value `j` and leaves `rest` unread, then `inp = v ++ rest` where `v` (not
    empty) is the value's own text including leading white space, and
    * `j` is an array or object, and `v` ALONE already decodes to `j` with nothing left; or
    * `j` is a scalar (null, a boolean, a number, a string), `v` alone is NOT enough (the decoder
      asks for more), `rest` is not empty, and `v` followed by just the first byte `d` of `rest`
      decodes to `j` leaving `d` — as does `v` followed by any byte that `delimits j`. -/
theorem decode_split {f : Bytes → Bool} {inp rest : Bytes} {j : JVal}
    (h : decodeOne f inp .more = .value j rest) :
    ∃ v, inp = v ++ rest ∧ v ≠ [] ∧
      ((composite j = true ∧ decodeOne f v .more = .value j []) ∨
       (composite j = false ∧ decodeOne f v .more = .needMore ∧
        (∃ d r, rest = d :: r ∧ decodeOne f (v ++ [d]) .more = .value j [d]) ∧
        ∀ d, delimits j d = true → decodeOne f (v ++ [d]) .more = .value j [d])) := by
  rw [decodeOne_more_eq_run] at h
  obtain ⟨v, s', c, consumed, h2, h3, hc⟩ := run_value inp St.init h
  obtain ⟨cs, h1, h4⟩ := hc.resolve_right fun ⟨_, ht, _⟩ => nomatch ht
  have hdone := step_doneOK f c (steps_good v _ _ good_init h2)
  rw [h3] at hdone
  rcases hdone with ⟨hc, hj⟩ | ⟨hc, hj, hd⟩
  · subst hc
    simp only [↓reduceIte] at h4
    subst h4
    refine ⟨v ++ [c], by rw [h1]; simp, by simp, .inl ⟨hj, ?_⟩⟩
    rw [decodeOne_more_eq_run, run_steps f .more v [c] _ _ h2, run_done [] .more h3]; rfl
  · subst hc
    simp only [Bool.false_eq_true, ↓reduceIte] at h4
    subst h4
    have hv : v ≠ [] := by
      rintro rfl
      cases h2
      exact beginValue_ne_done h3
    refine ⟨v, h1, hv, .inr ⟨hj, ?_, ⟨c, cs, rfl, ?_⟩, fun d hdel => ?_⟩⟩
    · have := run_steps f .more v [] _ _ h2
      rw [List.append_nil] at this
      rw [decodeOne_more_eq_run, this, run_nil_more]
    · rw [decodeOne_more_eq_run, run_steps f .more v [c] _ _ h2, run_done [] .more h3]; rfl
    · rw [decodeOne_more_eq_run, run_steps f .more v [d] _ _ h2, run_done [] .more (hd d hdel)]; rfl

theorem composite_of_rest_nil {f : Bytes → Bool} {inp : Bytes} {j : JVal}
    (h : decodeOne f inp .more = .value j []) : composite j = true := by
  obtain ⟨v, _, _, h1 | ⟨_, _, ⟨d, r, hr, _⟩, _⟩⟩ := decode_split h
  · exact h1.1
  · cases hr

theorem needMore_of_prefix {f : Bytes → Bool} {p q : Bytes} (h : decodeOne f (p ++ q) .more = .needMore) :
    decodeOne f p .more = .needMore := by
  cases hp : decodeOne f p .more with
  | needMore => rfl
  | _ => rw [decodeOne_prefix q .more (by rw [hp]; nofun), hp] at h; cases h

theorem decode_shorter_rest {f : Bytes → Bool} {v rest r' : Bytes} {j : JVal}
    (h : decodeOne f (v ++ rest) .more = .value j rest) (hp : r' <+: rest)
    (hr : r' ≠ [] ∨ composite j = true) : decodeOne f (v ++ r') .more = .value j r' := by
  obtain ⟨v0, h0, _, hcase⟩ := decode_split h
  have hv : v0 = v := (List.append_cancel_right h0).symm
  subst hv
  rcases hcase with ⟨_, h1⟩ | ⟨hj, _, ⟨d, r, hrest, h2⟩, _⟩
  · simpa using decodeOne_prefix_value r' .more h1
  · have hne : r' ≠ [] := by
      rcases hr with hr | hr
      · exact hr
      · rw [hj] at hr; cases hr
    cases r' with
    | nil => exact absurd rfl hne
    | cons d' r'' =>
      subst hrest
      obtain ⟨q, hq⟩ := hp
      simp only [List.cons_append, List.cons.injEq] at hq
      obtain ⟨rfl, _⟩ := hq
      simpa using decodeOne_prefix_value r'' .more h2

end Jqawk.OneByte
