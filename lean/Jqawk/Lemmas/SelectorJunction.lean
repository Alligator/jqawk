/-
  `-r E` versus `BEGINFILE { $ = E }` (C14): the rule, its evaluation, and the expression
  evaluated by the nested evaluator of the selector and by the main evaluator.  The contexts:
  `mainX K` between the two main evaluators, `K1` / `X1` while run A is inside the nested
  evaluator of the selector and run B inside the rule, `K2` once both are back in their main
  evaluators; `junction_heap` carries the heap relation from `K1` to `K2`.  `K1` and `K2` are built
  from `K` by `Ctx.rebase` (start afresh from a cell on, run A having some cells more) and
  `Ctx.patch` (let a few old cells correspond to those), each of which keeps a context well formed.
-/
import Jqawk.Lemmas.SelectorDriver


namespace Jqawk
namespace Sel

/-- the tokens of the rule `BEGINFILE { $ = E }` other than those of `E` -/
structure SelTok where
  bt : Token
  dtok : Token
  eqtok : Token
  hd : dtok.tag = .dollar
  he : eqtok.tag = .equal

def ruleBody (T : SelTok) (E : Expr) : Stmt := .block T.bt [.expr (.binary (.ident T.dtok) E T.eqtok)]
def selRule (T : SelTok) (E : Expr) : Rule := ⟨.beginFile, none, ruleBody T E⟩
def withSel (prog : Program) (T : SelTok) (E : Expr) : Program :=
  { rules := selRule T E :: prog.rules, functions := prog.functions }

theorem rulesOf_withSel_bf (prog : Program) (T : SelTok) (E : Expr) :
    rulesOf (withSel prog T E) .beginFile = selRule T E :: rulesOf prog .beginFile := by
  simp [rulesOf, withSel, selRule]

theorem rulesOf_withSel_other (prog : Program) (T : SelTok) (E : Expr) (k : RuleKind) (hk : k ≠ .beginFile) :
    rulesOf (withSel prog T E) k = rulesOf prog k := by
  have : (RuleKind.beginFile == k) = false := by
    cases k <;> first | rfl | exact absurd rfl hk
  simp [rulesOf, withSel, selRule, this]

theorem ruleBody_eval (prog : Program) (k : Nat) (T : SelTok) (E : Expr) :
    evalStmt prog (k + 6) (ruleBody T E) = (do
      let left ← getIdentifier prog T.dtok
      let right ← evalExpr prog (k + 1) E
      let _ ← evalAssignment T.dtok.pos left right
      pure ()) := by
  funext s
  simp only [ruleBody, evalStmt, evalBlock, evalExpr, evalBinary, T.he, Expr.token, bind, EM.bind, pure, EM.pure]
  cases getIdentifier prog T.dtok s with
  | oof => rfl
  | err e s1 => rfl
  | ok left s1 =>
    dsimp only
    cases evalExpr prog (k + 1) E s1 with
    | oof => rfl
    | err e s2 => rfl
    | ok right s2 =>
      dsimp only
      cases evalAssignment T.dtok.pos left right s2 <;> rfl


/-- the context `K'` agrees with `K` on everything live in `K` at world `w` -/
structure Trans (K K' : Ctx) (w w' : Nat) : Prop where
  cell : ∀ c, LiveC K w c → K'.σ c = K.σ c ∧ LiveC K' w' c
  arr : ∀ a, K.a0 ≤ a → K'.a0 ≤ a
  obj : ∀ o, K.o0 ≤ o → K'.o0 ≤ o
  fn : ∀ i : Nat, K.progA.functions[i]? = K.progB.functions[i]? → K'.progA.functions[i]? = K'.progB.functions[i]?

variable {K K' : Ctx} {w w' : Nat}

theorem Trans.spec (t : Trans K K' w w') {sp : Option SpecRef} (h : SpecLive K w sp) :
    renSpec K'.σ sp = renSpec K.σ sp ∧ SpecLive K' w' sp := by
  cases sp with
  | none => exact ⟨rfl, trivial⟩
  | some r =>
    obtain ⟨e, l⟩ := t.cell r.parent h
    exact ⟨by simp only [renSpec_some, e], l⟩

theorem Trans.valR (t : Trans K K' w w') {a b : Val} (h : ValR K w a b) : ValR K' w' a b := by
  obtain ⟨rfl, hl⟩ := h
  cases b with
  | str s sp =>
    obtain ⟨e, l⟩ := t.spec (sp := sp) hl
    exact ⟨by simp only [renV_str, e], l⟩
  | nil sp =>
    obtain ⟨e, l⟩ := t.spec (sp := sp) hl
    exact ⟨by simp only [renV_nil, e], l⟩
  | native f b sp =>
    obtain ⟨e, l⟩ := t.spec (sp := sp) hl.2
    cases b with
    | none => exact ⟨by simp only [renV_native, e, Option.map_none], trivial, l⟩
    | some bc =>
      obtain ⟨e2, l2⟩ := t.cell bc hl.1
      exact ⟨by simp only [renV_native, e, Option.map_some, e2], l2, l⟩
  | arr a => exact ⟨rfl, t.arr a hl⟩
  | obj o => exact ⟨rfl, t.obj o hl⟩
  | fn i => exact ⟨rfl, t.fn i hl⟩
  | bool b => exact ⟨rfl, trivial⟩
  | num x => exact ⟨rfl, trivial⟩
  | regex x => exact ⟨rfl, trivial⟩
  | unknown => exact ⟨rfl, trivial⟩

theorem Trans.cellR (t : Trans K K' w w') {a b : CellId} (h : CellR K w a b) : CellR K' w' a b := by
  obtain ⟨rfl, hl⟩ := h
  obtain ⟨e, l⟩ := t.cell b hl
  exact ⟨e.symm, l⟩

theorem Trans.optCellR (t : Trans K K' w w') {a b : Option CellId} (h : OptCellR K w a b) :
    OptCellR K' w' a b := by
  cases a <;> cases b <;> first | exact h | exact t.cellR h

/-- members that correspond alike and are live in another context -/
theorem MemR.transfer {a b : List (Bytes × CellId)} (h : MemR K w a b)
    (hc : ∀ kc ∈ b, LiveC K w kc.2 → K'.σ kc.2 = K.σ kc.2 ∧ LiveC K' w' kc.2) : MemR K' w' a b := by
  obtain ⟨rfl, hl⟩ := h
  exact ⟨List.map_congr_left fun kc hkc => by rw [(hc kc hkc (hl kc hkc)).1],
    fun kc hkc => (hc kc hkc (hl kc hkc)).2⟩

theorem ArrR.transfer {a b : Array CellId} (h : ArrR K w a b)
    (hc : ∀ c ∈ b.toList, LiveC K w c → K'.σ c = K.σ c ∧ LiveC K' w' c) : ArrR K' w' a b := by
  obtain ⟨rfl, hl⟩ := h
  refine ⟨Array.ext' ?_, fun c hcm => (hc c hcm (hl c hcm)).2⟩
  simp only [Array.toList_map]
  exact List.map_congr_left fun c hcm => by rw [(hc c hcm (hl c hcm)).1]

theorem Trans.memR (t : Trans K K' w w') {a b : List (Bytes × CellId)} (h : MemR K w a b) : MemR K' w' a b :=
  h.transfer fun kc _ => t.cell kc.2

theorem Trans.arrR (t : Trans K K' w w') {a b : Array CellId} (h : ArrR K w a b) : ArrR K' w' a b :=
  h.transfer fun c _ => t.cell c

theorem Trans.frames (t : Trans K K' w w') {l1 l2 : List Frame} (h : F2 (FrameR K w) l1 l2) :
    F2 (FrameR K' w') l1 l2 := by
  induction h with
  | nil => exact .nil
  | cons h1 _ ih => exact .cons (t.memR h1) ih

/-! ### the conversion allocates plain values only -/

structure ConvOK (s s' : St) : Prop where
  pres : HeapPreserved s.heap s'.heap
  plain : ∀ i, s.heap.cells.size ≤ i → i < s'.heap.cells.size → Val.plain (s'.heap.get i)
  rest : s' = { s with heap := s'.heap }

theorem ConvOK.refl (s : St) : ConvOK s s :=
  ⟨HeapPreserved.refl _, fun _ h1 h2 => absurd h2 (Nat.not_lt.mpr h1), rfl⟩

theorem ConvOK.trans {a b c : St} (h1 : ConvOK a b) (h2 : ConvOK b c) : ConvOK a c := by
  refine ⟨h1.pres.trans h2.pres, ?_, ?_⟩
  · intro i hi1 hi2
    by_cases hb : i < b.heap.cells.size
    · rw [h2.pres.get i hb]; exact h1.plain i hi1 hb
    · exact h2.plain i (Nat.le_of_not_lt hb) hi2
  · rw [h2.rest, h1.rest]

theorem ConvOK.newCell {s : St} {v : Val} (hv : Val.plain v) :
    ConvOK s { s with heap := (s.heap.alloc v).2 } := by
  refine ⟨HeapPreserved.alloc _ _, ?_, rfl⟩
  intro i h1 h2
  rw [Heap.size_alloc] at h2
  have : i = s.heap.cells.size := Nat.le_antisymm (Nat.le_of_lt_succ h2) h1
  rw [Heap.get_alloc, this]
  simp only [↓reduceIte]
  exact hv

theorem ConvOK.heapOnly {s : St} {h' : Heap} (hp : HeapPreserved s.heap h') (hc : h'.cells = s.heap.cells) :
    ConvOK s { s with heap := h' } := by
  refine ⟨hp, ?_, rfl⟩
  intro i h1 h2
  have : h'.cells.size = s.heap.cells.size := by rw [hc]
  rw [this] at h2
  exact absurd h2 (Nat.not_lt.mpr h1)

mutual
theorem conv_ok : ∀ (j : JVal) (s : St), ∃ v s', newValueJson j s = .ok v s' ∧ ConvOK s s' ∧ Val.plain v
  | .null, s => ⟨_, s, rfl, ConvOK.refl s, rfl⟩
  | .bool b, s => ⟨_, s, rfl, ConvOK.refl s, trivial⟩
  | .num lit, s => ⟨_, s, rfl, ConvOK.refl s, trivial⟩
  | .str x, s => ⟨_, s, rfl, ConvOK.refl s, rfl⟩
  | .arr items, s => by
    obtain ⟨cs, s1, e1, h1⟩ := conv_items items s
    refine ⟨.arr s1.heap.arrs.size, { s1 with heap := (s1.heap.allocArr cs.toArray).2 }, ?_, ?_, trivial⟩
    · unfold newValueJson
      simp only [bind, EM.bind, e1, allocArrM, pure, EM.pure]
      rfl
    · exact h1.trans (ConvOK.heapOnly (HeapPreserved.allocArr _ _) rfl)
  | .obj members, s => by
    obtain ⟨cs, s1, e1, h1⟩ := conv_members members s
    refine ⟨.obj s1.heap.objs.size,
      { s1 with heap := (s1.heap.allocObj (cs.foldl (fun m kc => objInsert m kc.1 kc.2) [])).2 }, ?_, ?_, trivial⟩
    · unfold newValueJson
      simp only [bind, EM.bind, e1, allocObjM, pure, EM.pure]
      rfl
    · exact h1.trans (ConvOK.heapOnly (HeapPreserved.allocObj _ _) rfl)
theorem conv_items : ∀ (js : List JVal) (s : St), ∃ cs s', newValueItems js s = .ok cs s' ∧ ConvOK s s'
  | [], s => ⟨[], s, rfl, ConvOK.refl s⟩
  | j :: js, s => by
    obtain ⟨v, s1, e1, h1, hv⟩ := conv_ok j s
    obtain ⟨cs, s2, e2, h2⟩ := conv_items js { s1 with heap := (s1.heap.alloc v).2 }
    refine ⟨s1.heap.cells.size :: cs, s2, ?_, h1.trans ((ConvOK.newCell hv).trans h2)⟩
    unfold newValueItems
    simp only [bind, EM.bind, e1, Jqawk.newCell, pure, EM.pure]
    rw [e2]
    rfl
theorem conv_members : ∀ (ms : List (Bytes × JVal)) (s : St),
    ∃ cs s', newValueMembers ms s = .ok cs s' ∧ ConvOK s s'
  | [], s => ⟨[], s, rfl, ConvOK.refl s⟩
  | (k, j) :: ms, s => by
    obtain ⟨v, s1, e1, h1, hv⟩ := conv_ok j s
    obtain ⟨cs, s2, e2, h2⟩ := conv_members ms { s1 with heap := (s1.heap.alloc v).2 }
    refine ⟨(k, s1.heap.cells.size) :: cs, s2, ?_, h1.trans ((ConvOK.newCell hv).trans h2)⟩
    unfold newValueMembers
    simp only [bind, EM.bind, e1, Jqawk.newCell, pure, EM.pure]
    rw [e2]
    rfl
end

/-- the context of the main evaluators of the two runs: `$` is set before every rule, so the
    driver itself does not need it related -/
def mainX (K : Ctx) : XCtx :=
  { toCtx := K, allowD := false, allow := fun _ => true, baseA := [], baseB := [], inner := false,
    trackRoot := true }

theorem mainX_wf {K : Ctx} (wf : K.WF) : (mainX K).WF := ⟨wf, rfl, .inl ⟨rfl, rfl⟩⟩

theorem mainX_good {K : Ctx} (wf : K.WF) : GoodX (mainX K).withD :=
  ⟨WF_withD (mainX_wf wf), fun _ f _ _ => idsS_all f.body⟩

/-! ### contexts from contexts -/

/-- from the cell `n` of run B on, start afresh: every cell from `n` on takes part, and run A has `e` more
    cells than before; they lie in the gap `[n + K.d, n + K.d + e)`, which `σ` does not reach
    (`Ctx.WF.rebase_free`) -/
def Ctx.rebase (K : Ctx) (n e : Nat) : Ctx :=
  { K with σ := fun i => if i < n then K.σ i else i + (K.d + e), D := fun i => n ≤ i ∨ K.D i, m := n,
           d := K.d + e }

/-- the cells in `S` correspond to the cells `τ` says instead -/
def Ctx.patch (K : Ctx) (S : Nat → Prop) [DecidablePred S] (τ : Nat → Nat) : Ctx :=
  { K with σ := fun i => if S i then τ i else K.σ i }

theorem Ctx.rebase_lt {K : Ctx} {n e i : Nat} (h : i < n) : (K.rebase n e).σ i = K.σ i := if_pos h

theorem Ctx.rebase_ge {K : Ctx} {n e i : Nat} (h : n ≤ i) : (K.rebase n e).σ i = i + (K.d + e) :=
  if_neg (Nat.not_lt.mpr h)

theorem Ctx.patch_in {K : Ctx} {S : Nat → Prop} [DecidablePred S] {τ : Nat → Nat} {i : Nat} (h : S i) :
    (K.patch S τ).σ i = τ i := if_pos h

theorem Ctx.patch_out {K : Ctx} {S : Nat → Prop} [DecidablePred S] {τ : Nat → Nat} {i : Nat} (h : ¬ S i) :
    (K.patch S τ).σ i = K.σ i := if_neg h

/-- well-formedness looks at `σ`, `m`, `d` only, and at `D` from `m` on -/
theorem Ctx.WF.withD {K K' : Ctx} (wf : K.WF) (hσ : K'.σ = K.σ) (hm : K'.m = K.m) (hd : K'.d = K.d)
    (hD : ∀ i, K'.m ≤ i → K'.D i) : K'.WF :=
  ⟨fun i hi => by rw [hσ, hd]; exact wf.shift i (hm ▸ hi), fun i j h => wf.inj i j (by rwa [hσ] at h), hD,
    fun i hi => by rw [hσ, hm, hd]; exact wf.low i (hm ▸ hi)⟩

theorem Ctx.WF.rebase {K : Ctx} (wf : K.WF) {n : Nat} (hn : K.m ≤ n) (e : Nat) : (K.rebase n e).WF := by
  refine ⟨fun i hi => Ctx.rebase_ge hi, ?_, fun i hi => .inl hi, ?_⟩
  · intro i j h
    by_cases hi : i < n <;> by_cases hj : j < n
    · rw [Ctx.rebase_lt hi, Ctx.rebase_lt hj] at h; exact wf.inj i j h
    · rw [Ctx.rebase_lt hi, Ctx.rebase_ge (Nat.le_of_not_lt hj)] at h
      have := wf.σ_lt hi hn; omega
    · rw [Ctx.rebase_ge (Nat.le_of_not_lt hi), Ctx.rebase_lt hj] at h
      have := wf.σ_lt hj hn; omega
    · rw [Ctx.rebase_ge (Nat.le_of_not_lt hi), Ctx.rebase_ge (Nat.le_of_not_lt hj)] at h; omega
  · intro i (hi : i < n)
    rw [Ctx.rebase_lt hi]
    have := wf.σ_lt hi hn
    show K.σ i < n + (K.d + e)
    omega

theorem Ctx.WF.rebase_free {K : Ctx} (wf : K.WF) {n e r : Nat} (hn : K.m ≤ n) (h1 : n + K.d ≤ r)
    (h2 : r < n + K.d + e) (i : Nat) : (K.rebase n e).σ i ≠ r := by
  by_cases hi : i < n
  · rw [Ctx.rebase_lt hi]; have := wf.σ_lt hi hn; omega
  · rw [Ctx.rebase_ge (Nat.le_of_not_lt hi)]; omega

/-- cells below `m` may be sent to cells of run A that nothing corresponds to yet -/
theorem Ctx.WF.patch {K : Ctx} (wf : K.WF) {S : Nat → Prop} [DecidablePred S] {τ : Nat → Nat}
    (hS : ∀ i, S i → i < K.m) (hlt : ∀ i, S i → τ i < K.m + K.d) (hfree : ∀ i j, S i → K.σ j ≠ τ i)
    (hinj : ∀ i j, S i → S j → τ i = τ j → i = j) : (K.patch S τ).WF := by
  refine ⟨?_, ?_, wf.up, ?_⟩
  · intro i hi
    rw [Ctx.patch_out (fun h => absurd (hS i h) (Nat.not_lt.mpr hi))]
    exact wf.shift i hi
  · intro i j h
    by_cases hi : S i <;> by_cases hj : S j
    · rw [Ctx.patch_in hi, Ctx.patch_in hj] at h; exact hinj i j hi hj h
    · rw [Ctx.patch_in hi, Ctx.patch_out hj] at h; exact absurd h.symm (hfree i j hi)
    · rw [Ctx.patch_out hi, Ctx.patch_in hj] at h; exact absurd h (hfree j i hj)
    · rw [Ctx.patch_out hi, Ctx.patch_out hj] at h; exact wf.inj i j h
  · intro i hi
    by_cases h : S i
    · rw [Ctx.patch_in h]; exact hlt i h
    · rw [Ctx.patch_out h]; exact wf.low i hi

/-- the context while the selector expression is evaluated: the cells of the main program do not
    take part, everything allocated from the size of run B's heap on corresponds by the shift `d + 3`
    (the nested evaluator of the selector has allocated its three builtins first).  With `ub` the three
    builtin cells 0, 1, 2 of the main evaluator of run B take part too: they correspond to the
    builtin cells of the nested evaluator, which fill the gap. -/
def K1 (K : Ctx) (hA hB : Heap) (progB : Program) (ub : Bool) : Ctx :=
  { (K.rebase hB.cells.size 3).patch (fun i => ub = true ∧ i < 3 ∧ i < hB.cells.size)
      (fun i => hA.cells.size + i) with
    D := fun i => hB.cells.size ≤ i ∨ (ub = true ∧ i < 3),
    a0 := hB.arrs.size, o0 := hB.objs.size, progA := Program.empty, progB := progB,
    fz := hB.cells.size, fzA := hA.cells.size, snapA := hA, snapB := hB }

def X1 (K1 : Ctx) (baseA baseB : List Frame) (allow : Bytes → Bool) : XCtx :=
  { toCtx := K1, allowD := false, allow := allow, baseA := baseA, baseB := baseB, inner := false,
    trackRoot := false }

theorem K1_σ_new {K : Ctx} {hA hB : Heap} {progB : Program} {ub : Bool} {i : Nat} (hi : hB.cells.size ≤ i) :
    (K1 K hA hB progB ub).σ i = i + (K.d + 3) :=
  (Ctx.patch_out (K := K.rebase hB.cells.size 3) (S := fun i => ub = true ∧ i < 3 ∧ i < hB.cells.size)
    (τ := fun i => hA.cells.size + i) (fun h => absurd h.2.2 (Nat.not_lt.mpr hi))).trans (Ctx.rebase_ge hi)

theorem K1_σ_bi {K : Ctx} {hA hB : Heap} {progB : Program} {ub : Bool} {i : Nat} (hu : ub = true) (hi : i < 3)
    (hlt : i < hB.cells.size) : (K1 K hA hB progB ub).σ i = hA.cells.size + i :=
  Ctx.patch_in (K := K.rebase hB.cells.size 3) (S := fun i => ub = true ∧ i < 3 ∧ i < hB.cells.size)
    (τ := fun i => hA.cells.size + i) ⟨hu, hi, hlt⟩

theorem K1_wf {K : Ctx} (wf : K.WF) (hA hB : Heap) (hm : K.m ≤ hB.cells.size) (progB : Program) (ub : Bool)
    (hsz : hA.cells.size = hB.cells.size + K.d) : (K1 K hA hB progB ub).WF :=
  ((wf.rebase hm 3).patch (S := fun i => ub = true ∧ i < 3 ∧ i < hB.cells.size) (τ := fun i => hA.cells.size + i)
    (fun _ h => h.2.2)
    (fun i h => by show hA.cells.size + i < hB.cells.size + (K.d + 3); have := h.2.1; omega)
    (fun i j h => wf.rebase_free hm (by omega) (by have := h.2.1; omega) j)
    (fun _ _ _ _ h => Nat.add_left_cancel h)).withD rfl rfl rfl (fun _ h => .inl h)

/-- the context after the selector: the cells the evaluation of the expression allocated (from
    `nB` up to `eB`) stay only if `pl` says so; run A has allocated one cell more, its fresh root `rA`,
    which the `$` cell `c` of run B corresponds to -/
def K2 (K : Ctx) (nB c eB rA : Nat) (pl : Nat → Prop) (prog progB : Program) : Ctx :=
  { ((K.rebase nB 3).rebase eB 1).patch (· = c) (fun _ => rA) with
    D := fun i => if i < nB then K.D i else (i < eB → pl i),
    a0 := 0, o0 := 0, progA := prog, progB := progB, fz := 0, fzA := 0, snapA := Heap.empty,
    snapB := Heap.empty }

section K2
variable {K : Ctx} {nB c eB rA : Nat} {pl : Nat → Prop} {prog progB : Program}

theorem K2_σ_dollar : (K2 K nB c eB rA pl prog progB).σ c = rA :=
  Ctx.patch_in (K := (K.rebase nB 3).rebase eB 1) (S := (· = c)) (τ := fun _ => rA) rfl

theorem K2_σ_old {i : Nat} (hi : i < nB) (h1 : nB ≤ c) (hle : nB ≤ eB) :
    (K2 K nB c eB rA pl prog progB).σ i = K.σ i :=
  (Ctx.patch_out (K := (K.rebase nB 3).rebase eB 1) (S := (· = c)) (τ := fun _ => rA)
    (fun e : i = c => absurd hi (Nat.not_lt.mpr (e ▸ h1)))).trans
    ((Ctx.rebase_lt (Nat.lt_of_lt_of_le hi hle)).trans (Ctx.rebase_lt hi))

theorem K2_σ_mid {i : Nat} (h1 : nB ≤ i) (hc : i ≠ c) (h2 : i < eB) :
    (K2 K nB c eB rA pl prog progB).σ i = i + (K.d + 3) :=
  (Ctx.patch_out (K := (K.rebase nB 3).rebase eB 1) (S := (· = c)) (τ := fun _ => rA) hc).trans
    ((Ctx.rebase_lt h2).trans (Ctx.rebase_ge h1))

end K2

theorem K2_wf {K : Ctx} (wf : K.WF) {nB c eB rA : Nat} (pl : Nat → Prop) (hm : K.m ≤ nB) (h1 : nB ≤ c) (h2 : c < eB)
    (hr : rA = eB + (K.d + 3)) (prog progB : Program) : (K2 K nB c eB rA pl prog progB).WF :=
  have hle : nB ≤ eB := Nat.le_trans h1 (Nat.le_of_lt h2)
  (((wf.rebase hm 3).rebase (n := eB) hle 1).patch (S := (· = c)) (τ := fun _ => rA) (fun _ h => h ▸ h2)
    (fun _ _ => by show rA < eB + (K.d + 3 + 1); omega)
    (fun _ j _ => (wf.rebase hm 3).rebase_free hle (by show eB + (K.d + 3) ≤ rA; omega)
      (by show rA < eB + (K.d + 3) + 1; omega) j)
    (fun _ _ hi hj _ => hi.trans hj.symm)).withD rfl rfl rfl (fun i (hi : eB ≤ i) => by
      show if i < nB then K.D i else (i < eB → pl i)
      rw [if_neg (by omega)]
      exact fun h => absurd h (Nat.not_lt.mpr hi))


theorem K2_trans {K : Ctx} {nB c eB rA : Nat} {pl : Nat → Prop} {prog progB : Program} (h1 : nB ≤ c) (hle : nB ≤ eB)
    (hfun : prog.functions = progB.functions) : Trans K (K2 K nB c eB rA pl prog progB) nB eB := by
  refine ⟨?_, fun _ _ => Nat.zero_le _, fun _ _ => Nat.zero_le _, fun i _ => by
    show prog.functions[i]? = progB.functions[i]?
    rw [hfun]⟩
  intro x hx
  have hx2 : x < nB := hx.2
  refine ⟨K2_σ_old hx2 h1 hle, ?_, Nat.lt_of_lt_of_le hx2 hle⟩
  show (if x < nB then K.D x else _)
  simp only [hx2, ↓reduceIte]
  exact hx.1

theorem alloc_arr (h : Heap) (v : Val) (k : ArrId) : (h.alloc v).2.arr k = h.arr k := rfl
theorem alloc_obj (h : Heap) (v : Val) (k : ObjId) : (h.alloc v).2.obj k = h.obj k := rfl

theorem valR_plain_main {K : Ctx} (h0 : K.a0 = 0) (h0' : K.o0 = 0) (hp : K.progA.functions = K.progB.functions)
    {v : Val} (hv : Val.plain v) (w : Nat) : ValR K w v v :=
  ValR.of_plain hv (LiveV.plain hv (fun a _ => by rw [h0]; exact Nat.zero_le _)
    (fun o _ => by rw [h0']; exact Nat.zero_le _) (fun i _ => by rw [hp]))

theorem plain_of_renV {σ : Nat → Nat} {v : Val} (h : Val.plain (renV σ v)) : Val.plain v := by
  cases v with
  | str s sp => cases sp <;> simp_all [Val.plain, renV, renSpec]
  | nil sp => cases sp <;> simp_all [Val.plain, renV, renSpec]
  | native f b sp => cases b <;> cases sp <;> simp_all [Val.plain, renV, renSpec]
  | _ => trivial

/-- a live cell of run B holds a plain value if the cell of run A it corresponds to does -/
theorem HR.plain_of {K : Ctx} {hA hB : Heap} (r : HR K hA hB) {x : CellId} (hl : LiveC K hB.cells.size x)
    (hp : Val.plain (hA.get (K.σ x))) : Val.plain (hB.get x) :=
  plain_of_renV (σ := K.σ) ((r.cells x hl).1 ▸ hp)

/-- **the heaps after the selector / after the rule `$ = E`** are related in the context `K2`:
    what stays in the relation, beside the main program's cells, are the cells allocated since
    whose value mentions no cell — the converted document, the members of the containers the
    expression created — and the `$` cell itself, which corresponds to the fresh root of run A -/
theorem junction_heap {K : Ctx} (wf : K.WF) (h0 : K.a0 = 0) (h0' : K.o0 = 0) (prog progB : Program)
    (hfun : prog.functions = progB.functions) {hA hB hAe hBe : Heap} (hold : HR K hA hB) (ub : Bool)
    (hK1 : HR (K1 K hA hB progB ub) hAe hBe)
    (c : Nat) (hc1 : hB.cells.size ≤ c) (hc2 : c < hBe.cells.size)
    (hmemA : ∀ k, hB.arrs.size ≤ k → ∀ x ∈ (hBe.arr k).toList, x ≠ c ∧ Val.plain (hBe.get x))
    (hmemO : ∀ k, hB.objs.size ≤ k → ∀ kc ∈ hBe.obj k, kc.2 ≠ c ∧ Val.plain (hBe.get kc.2))
    (hbiB : ub = true → ∀ i, i < 3 → hBe.get i = hB.get i)
    (hbiA : ub = true → ∀ k, hB.arrs.size ≤ k → ∀ x ∈ (hBe.arr k).toList, 3 ≤ x)
    (hbiO : ub = true → ∀ k, hB.objs.size ≤ k → ∀ kc ∈ hBe.obj k, 3 ≤ kc.2)
    (w : Val) (hw : Val.plain w) :
    HR (K2 K hB.cells.size c hBe.cells.size hAe.cells.size (fun i => Val.plain (hBe.get i)) prog progB)
      ((hAe.alloc .unknown).2.set hAe.cells.size w) (hBe.set c w) := by
  let C1 : Ctx := K1 K hA hB progB ub
  let C2 : Ctx := K2 K hB.cells.size c hBe.cells.size hAe.cells.size (fun i => Val.plain (hBe.get i)) prog progB
  have hm : K.m ≤ hB.cells.size := hold.mle
  have hszc : hAe.cells.size = hBe.cells.size + (K.d + 3) := hK1.szc
  have hszA : hA.cells.size = hB.cells.size + K.d := hold.szc
  have hp2 : C2.progA.functions =
      C2.progB.functions := hfun
  have hle : hB.cells.size ≤ hBe.cells.size := Nat.le_trans hc1 (Nat.le_of_lt hc2)
  -- what the evaluation did not touch
  have fr := hK1.froz
  have pB : ∀ i, i < hB.cells.size → hBe.get i = hB.get i := by
    intro i hi
    by_cases hb : ub = true ∧ i < 3
    · exact hbiB hb.1 i hb.2
    · refine fr.cellB i hi (fun (h : hB.cells.size ≤ i ∨ (ub = true ∧ i < 3)) => ?_)
      rcases h with h | h
      · exact absurd hi (Nat.not_lt.mpr h)
      · exact hb h
  have pA : ∀ j, j < hA.cells.size → hAe.get j = hA.get j := by
    intro j hj
    refine fr.cellA j hj (fun i (hi : hB.cells.size ≤ i ∨ (ub = true ∧ i < 3)) e => ?_)
    rcases hi with hi | hi
    · rw [K1_σ_new hi] at e
      omega
    · by_cases hlt : i < hB.cells.size
      · rw [show C1.σ i = _ from K1_σ_bi hi.1 hi.2 hlt] at e
        omega
      · rw [K1_σ_new (Nat.le_of_not_lt hlt)] at e
        omega
  -- a live cell of the first phase that is a member of a new container is a new cell
  have newA : ∀ k, hB.arrs.size ≤ k → ∀ x ∈ (hBe.arr k).toList, C1.D x → hB.cells.size ≤ x := by
    intro k hk x hx hd
    rcases hd with hd | hd
    · exact hd
    · exact absurd hd.2 (Nat.not_lt.mpr (hbiA hd.1 k hk x hx))
  have newO : ∀ k, hB.objs.size ≤ k → ∀ kc ∈ hBe.obj k, C1.D kc.2 → hB.cells.size ≤ kc.2 := by
    intro k hk kc hkc hd
    rcases hd with hd | hd
    · exact hd
    · exact absurd hd.2 (Nat.not_lt.mpr (hbiO hd.1 k hk kc hkc))
  have pBa : ∀ k, k < hB.arrs.size → hBe.arr k = hB.arr k := fun k hk => fr.arrB k hk
  have pAa : ∀ k, k < hB.arrs.size → hAe.arr k = hA.arr k := fun k hk => fr.arrA k hk
  have pBo : ∀ k, k < hB.objs.size → hBe.obj k = hB.obj k := fun k hk => fr.objB k hk
  have pAo : ∀ k, k < hB.objs.size → hAe.obj k = hA.obj k := fun k hk => fr.objA k hk
  -- old live things keep their relation
  have tr := K2_trans (K := K) (rA := hAe.cells.size) (pl := fun i => Val.plain (hBe.get i)) hc1 hle hfun
  have hsA : ((hAe.alloc .unknown).2.set hAe.cells.size w).cells.size = hAe.cells.size + 1 := by
    rw [Heap.size_set, Heap.size_alloc]
  have getA : ∀ x, x < hAe.cells.size → ((hAe.alloc .unknown).2.set hAe.cells.size w).get x = hAe.get x := by
    intro x hx
    rw [Heap.get_set, Heap.get_alloc]
    have : x ≠ hAe.cells.size := Nat.ne_of_lt hx
    simp only [this, false_and, ↓reduceIte]
  have getB : ∀ x, x ≠ c → (hBe.set c w).get x = hBe.get x := by
    intro x hx
    rw [Heap.get_set]
    simp only [hx, false_and, ↓reduceIte]
  have σmid : ∀ x, hB.cells.size ≤ x → x ≠ c → x < hBe.cells.size →
      C2.σ x = C1.σ x := by
    intro x x1 x2 x3
    exact (K2_σ_mid x1 x2 x3).trans (K1_σ_new x1).symm
  have dmid : ∀ x, hB.cells.size ≤ x → Val.plain (hBe.get x) → C2.D x := by
    intro x x1 hp
    have hn : ¬ x < hB.cells.size := Nat.not_lt.mpr x1
    show (if x < hB.cells.size then K.D x else _)
    simp only [hn, ↓reduceIte]
    exact fun _ => hp
  refine ⟨?_, ?_, hK1.sza, Nat.zero_le _, hK1.szo, Nat.zero_le _, ?_, ?_, ?_, Froz.trivial rfl rfl rfl rfl⟩
  · rw [hsA, Heap.size_set, hszc]; show _ = _ + (K.d + 4); omega
  · rw [Heap.size_set]; exact Nat.le_refl _
  · -- cells
    intro i hi
    rw [Heap.size_set] at hi ⊢
    have hi2 : i < hBe.cells.size := hi.2
    by_cases a1 : i < hB.cells.size
    · -- an old cell
      have hD : K.D i := by
        have := hi.1
        simp only [K2, a1, ↓reduceIte] at this
        exact this
      rw [show C2.σ i = _ from K2_σ_old a1 hc1 hle]
      have hltA : K.σ i < hA.cells.size := by rw [hszA]; exact wf.σ_lt a1 hm
      have hlt : K.σ i < hAe.cells.size := Nat.lt_of_lt_of_le hltA fr.fzA
      rw [getA _ hlt, pA _ hltA, getB i (fun e => absurd a1 (Nat.not_lt.mpr (e ▸ hc1))), pB i a1]
      exact tr.valR (hold.cells i ⟨hD, a1⟩)
    by_cases a2 : i = c
    · -- the `$` cell
      subst a2
      rw [show C2.σ i = _ from K2_σ_dollar]
      have e3 : ((hAe.alloc .unknown).2.set hAe.cells.size w).get hAe.cells.size = w := by
        rw [Heap.get_set, Heap.size_alloc]
        simp only [Nat.lt_succ_self, and_self, ↓reduceIte]
      have e4 : (hBe.set i w).get i = w := by
        rw [Heap.get_set]; simp only [hc2, and_self, ↓reduceIte]
      rw [e3, e4]
      exact valR_plain_main rfl rfl hp2 hw _
    · -- a cell allocated since, holding a plain value
      have a1 := Nat.le_of_not_lt a1
      have hpl : Val.plain (hBe.get i) := by
        have := hi.1
        simp only [K2, Nat.not_lt.mpr a1, ↓reduceIte] at this
        exact this hi2
      rw [σmid i a1 a2 hi2, getA _ (by rw [K1_σ_new a1, hszc]; exact Nat.add_lt_add_right hi2 _), getB i a2]
      have hk := hK1.cells i ⟨.inl a1, hi2⟩
      rw [hk.1, renV_plain hpl]
      exact valR_plain_main rfl rfl hp2 hpl _
  · -- arrays
    intro k _
    rw [Heap.size_set, Heap.arr_set, Heap.arr_set, alloc_arr]
    by_cases hk : k < hB.arrs.size
    · rw [pAa k hk, pBa k hk]
      exact tr.arrR (hold.arrs k (by rw [h0]; exact Nat.zero_le _))
    · have hk' : hB.arrs.size ≤ k := Nat.le_of_not_lt hk
      exact (hK1.arrs k hk').transfer fun x hx hl =>
        have hn := newA k hk' x hx hl.1
        ⟨σmid x hn (hmemA k hk' x hx).1 hl.2, dmid x hn (hmemA k hk' x hx).2, hl.2⟩
  · -- objects
    intro k _
    rw [Heap.size_set, Heap.obj_set, Heap.obj_set, alloc_obj]
    by_cases hk : k < hB.objs.size
    · rw [pAo k hk, pBo k hk]
      exact tr.memR (hold.objs k (by rw [h0']; exact Nat.zero_le _))
    · have hk' : hB.objs.size ≤ k := Nat.le_of_not_lt hk
      exact (hK1.objs k hk').transfer fun kc hkc hl =>
        have hn := newO k hk' kc hkc hl.1
        ⟨σmid kc.2 hn (hmemO k hk' kc hkc).1 hl.2, dmid kc.2 hn (hmemO k hk' kc hkc).2, hl.2⟩

end Sel
end Jqawk
