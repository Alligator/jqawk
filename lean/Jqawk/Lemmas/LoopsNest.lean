/-
  C07: nesting.  `Leads prog l n t s m inner s0` says that running task `t` (a statement, the
  rest of a block, the rest of a loop, the remaining cases of a `match` statement) at fuel `n`
  from state `s` arrives at the sub-statement `inner`, to be run at fuel `m` from state `s0`, in a
  position from which every enclosing construct up to `t` only passes on how `inner` ends:
  through statements of blocks that completed before it, through taken `if`/`else` branches,
  through the body of a `match` statement's matching case, and — flag `l = true` — through
  iterations of enclosing loops (earlier rounds completed or continued).

  `leads_propagates`: however `inner` ends abnormally (runtime error, `return`, `next`, `exit`,
  and — if no loop boundary was crossed — `break` / `continue`), `t` ends the same way, in the
  same state up to the frame stack (a `match` body's frame is dropped), and nothing else runs.
-/
import Jqawk.Lemmas.LoopsEval


namespace Jqawk.Spec
open Jqawk

inductive Task
  | stmt (st : Stmt)
  | block (sts : List Stmt)
  | whileL (c : Expr) (b : Stmt)
  | forL (c p : Expr) (b : Stmt)
  | forInL (loc : CellId) (il : Option CellId) (b : Stmt) (items : List RawItem)
  | cases (pos : Nat) (v : CellId) (cs : List MatchCase)

variable (prog : Program)

def Task.run : Task → Nat → EM Unit
  | .stmt st, n => evalStmt prog n st
  | .block sts, n => evalBlock prog n sts
  | .whileL c b, n => whileLoop prog n c b
  | .forL c p b, n => forLoop prog n c p b
  | .forInL loc il b items, n => forInLoop prog n loc il b items
  | .cases pos v cs, n => effectOnly (evalMatchCases prog n pos v cs)

def GoesOn (r : Res Unit) (s2 : St) : Prop := r = .ok () s2 ∨ r = .err (.sig .cont) s2

inductive Leads : Bool → Nat → Task → St → Nat → Stmt → St → Prop
  | here {n : Nat} {st : Stmt} {s : St} : Leads false n (.stmt st) s n st s
  | block {l n t body s m i s0} :
      Leads l n (.block body) s m i s0 → Leads l (n + 1) (.stmt (.block t body)) s m i s0
  | blockHead {l n st rest s m i s0} :
      Leads l n (.stmt st) s m i s0 → Leads l (n + 1) (.block (st :: rest)) s m i s0
  | blockTail {l n st rest s s1 m i s0} :
      evalStmt prog n st s = .ok () s1 → Leads l n (.block rest) s1 m i s0 →
      Leads l (n + 1) (.block (st :: rest)) s m i s0
  | ifThen {l n c body els s cell s1 m i s0} :
      evalExpr prog n c s = .ok cell s1 → (s1.heap.get cell).truthy = true →
      Leads l n (.stmt body) s1 m i s0 → Leads l (n + 1) (.stmt (.if_ c body els)) s m i s0
  | ifElse {l n c body eb s cell s1 m i s0} :
      evalExpr prog n c s = .ok cell s1 → (s1.heap.get cell).truthy = false →
      Leads l n (.stmt eb) s1 m i s0 → Leads l (n + 1) (.stmt (.if_ c body (some eb))) s m i s0
  | while_ {l n c b s m i s0} :
      Leads l n (.whileL c b) s m i s0 → Leads l (n + 1) (.stmt (.while_ c b)) s m i s0
  | whileBody {l n c b s cell s1 m i s0} :
      evalExpr prog n c s = .ok cell s1 → (s1.heap.get cell).truthy = true →
      Leads l n (.stmt b) s1 m i s0 → Leads true (n + 1) (.whileL c b) s m i s0
  | whileNext {l n c b s cell s1 s2 m i s0} :
      evalExpr prog n c s = .ok cell s1 → (s1.heap.get cell).truthy = true →
      GoesOn (evalStmt prog n b s1) s2 →
      Leads l n (.whileL c b) s2 m i s0 → Leads l (n + 1) (.whileL c b) s m i s0
  | for_ {l n pre c p b s x s1 m i s0} :
      evalExpr prog n pre s = .ok x s1 →
      Leads l n (.forL c p b) s1 m i s0 → Leads l (n + 1) (.stmt (.for_ pre c p b)) s m i s0
  | forBody {l n c p b s cell s1 m i s0} :
      evalExpr prog n c s = .ok cell s1 → (s1.heap.get cell).truthy = true →
      Leads l n (.stmt b) s1 m i s0 → Leads true (n + 1) (.forL c p b) s m i s0
  | forNext {l n c p b s cell s1 s2 y s3 m i s0} :
      evalExpr prog n c s = .ok cell s1 → (s1.heap.get cell).truthy = true →
      GoesOn (evalStmt prog n b s1) s2 → evalExpr prog n p s2 = .ok y s3 →
      Leads l n (.forL c p b) s3 m i s0 → Leads l (n + 1) (.forL c p b) s m i s0
  | forIn {l n id idx iter b s hd s1 m i s0} :
      forInHeader (evalExpr prog n) id idx iter s = .ok hd s1 →
      Leads l n (.forInL hd.1 hd.2.1 b hd.2.2) s1 m i s0 →
      Leads l (n + 1) (.stmt (.forIn id idx iter b)) s m i s0
  | forInBody {l n loc il b it rest s s1 m i s0} :
      bindRaw loc il it s = .ok () s1 →
      Leads l n (.stmt b) s1 m i s0 → Leads true (n + 1) (.forInL loc il b (it :: rest)) s m i s0
  | forInNext {l n loc il b it rest s s1 s2 m i s0} :
      bindRaw loc il it s = .ok () s1 → GoesOn (evalStmt prog n b s1) s2 →
      Leads l n (.forInL loc il b rest) s2 m i s0 →
      Leads l (n + 1) (.forInL loc il b (it :: rest)) s m i s0
  | matchStmt {l n t v cs s value s1 m i s0} :
      evalExpr prog n v s = .ok value s1 →
      Leads l n (.cases t.pos value cs) s1 m i s0 →
      Leads l (n + 2) (.stmt (.expr (.match_ t v cs))) s m i s0
  | caseSkip {l n pos value pats body rest s s1 m i s0} :
      evalCaseMatch prog n value pats s = .ok none s1 →
      Leads l n (.cases pos value rest) s1 m i s0 →
      Leads l (n + 1) (.cases pos value (.mk pats body :: rest)) s m i s0
  | caseBody {l n pos value pats body rest s bindings s1 s2 s3 m i s0} :
      evalCaseMatch prog n value pats s = .ok (some bindings) s1 →
      pushFrame b!"<match>" s1 = .ok (.ok ()) s2 → bindAll bindings s2 = .ok () s3 →
      (∀ be, body ≠ .expr be) →
      Leads l n (.stmt body) s3 m i s0 →
      Leads l (n + 1) (.cases pos value (.mk pats body :: rest)) s m i s0

/-- `break` / `continue` are only passed on if no loop boundary was crossed -/
def Passes (l : Bool) (e : Err) : Prop := l = true → e ≠ .sig .brk ∧ e ≠ .sig .cont

theorem loopIter_err (body k : EM Unit) (s s1 : St) (e : Err) (h : body s = .err e s1)
    (hb : e ≠ .sig .brk) (hc : e ≠ .sig .cont) : loopIter body k s = .err e s1 := by
  unfold loopIter
  rw [h]
  cases e with
  | sig g => cases g <;> simp_all
  | _ => rfl

theorem loopIter_goesOn (body k : EM Unit) (s s2 : St) (h : GoesOn (body s) s2) :
    loopIter body k s = k s2 := by
  unfold loopIter
  rcases h with h | h <;> rw [h]

theorem leads_propagates {l : Bool} {n : Nat} {t : Task} {s : St} {m : Nat} {inner : Stmt} {s0 : St}
    (h : Leads prog l n t s m inner s0) (e : Err) (s1 : St)
    (he : evalStmt prog m inner s0 = .err e s1) (hp : Passes l e) :
    ∃ fr, t.run prog n s = .err e { s1 with frames := fr } := by
  induction h with
  | here => exact ⟨s1.frames, he⟩
  | block _ ih =>
    obtain ⟨fr, h1⟩ := ih he hp
    exact ⟨fr, by simp only [Task.run] at h1 ⊢; unfold evalStmt; exact h1⟩
  | blockHead _ ih =>
    obtain ⟨fr, h1⟩ := ih he hp
    refine ⟨fr, ?_⟩
    simp only [Task.run] at h1 ⊢
    unfold evalBlock
    simp only [bind, EM.bind, h1]
  | blockTail h0 _ ih =>
    obtain ⟨fr, h1⟩ := ih he hp
    refine ⟨fr, ?_⟩
    simp only [Task.run] at h1 ⊢
    unfold evalBlock
    simp only [bind, EM.bind, h0, h1]
  | ifThen hc ht _ ih =>
    obtain ⟨fr, h1⟩ := ih he hp
    refine ⟨fr, ?_⟩
    simp only [Task.run] at h1 ⊢
    unfold evalStmt
    simp only [bind, EM.bind, hc, readCell, ht, ↓reduceIte, h1]
  | ifElse hc ht _ ih =>
    obtain ⟨fr, h1⟩ := ih he hp
    refine ⟨fr, ?_⟩
    simp only [Task.run] at h1 ⊢
    unfold evalStmt
    simp only [bind, EM.bind, hc, readCell, ht, Bool.false_eq_true, ↓reduceIte, h1]
  | while_ _ ih =>
    obtain ⟨fr, h1⟩ := ih he hp
    exact ⟨fr, by simp only [Task.run] at h1 ⊢; unfold evalStmt; exact h1⟩
  | whileBody hc ht _ ih =>
    have hp' : Passes true e := hp
    obtain ⟨fr, h1⟩ := ih he (fun _ => hp rfl)
    refine ⟨fr, ?_⟩
    simp only [Task.run] at h1 ⊢
    unfold whileLoop
    simp only [bind, EM.bind, hc, readCell, ht, ↓reduceIte]
    exact loopIter_err _ _ _ _ _ h1 (hp' rfl).1 (hp' rfl).2
  | whileNext hc ht hg _ ih =>
    obtain ⟨fr, h1⟩ := ih he hp
    refine ⟨fr, ?_⟩
    simp only [Task.run] at h1 ⊢
    unfold whileLoop
    simp only [bind, EM.bind, hc, readCell, ht, ↓reduceIte]
    rw [loopIter_goesOn _ _ _ _ hg]; exact h1
  | for_ hpre _ ih =>
    obtain ⟨fr, h1⟩ := ih he hp
    refine ⟨fr, ?_⟩
    simp only [Task.run] at h1 ⊢
    unfold evalStmt
    simp only [bind, EM.bind, hpre, h1]
  | forBody hc ht _ ih =>
    have hp' : Passes true e := hp
    obtain ⟨fr, h1⟩ := ih he (fun _ => hp rfl)
    refine ⟨fr, ?_⟩
    simp only [Task.run] at h1 ⊢
    unfold forLoop
    simp only [bind, EM.bind, hc, readCell, ht, ↓reduceIte]
    exact loopIter_err _ _ _ _ _ h1 (hp' rfl).1 (hp' rfl).2
  | forNext hc ht hg hpost _ ih =>
    obtain ⟨fr, h1⟩ := ih he hp
    refine ⟨fr, ?_⟩
    simp only [Task.run] at h1 ⊢
    unfold forLoop
    simp only [bind, EM.bind, hc, readCell, ht, ↓reduceIte]
    rw [loopIter_goesOn _ _ _ _ hg]
    simp only [EM.bind, hpost, h1]
  | forIn hh _ ih =>
    obtain ⟨fr, h1⟩ := ih he hp
    refine ⟨fr, ?_⟩
    simp only [Task.run] at h1 ⊢
    rw [evalStmt_forIn]
    simp only [bind, EM.bind, hh, h1]
  | forInBody hb _ ih =>
    have hp' : Passes true e := hp
    obtain ⟨fr, h1⟩ := ih he (fun _ => hp rfl)
    refine ⟨fr, ?_⟩
    simp only [Task.run] at h1 ⊢
    rw [forInLoop_succ_cons]
    simp only [bind, EM.bind, hb]
    exact loopIter_err _ _ _ _ _ h1 (hp' rfl).1 (hp' rfl).2
  | forInNext hb hg _ ih =>
    obtain ⟨fr, h1⟩ := ih he hp
    refine ⟨fr, ?_⟩
    simp only [Task.run] at h1 ⊢
    rw [forInLoop_succ_cons]
    simp only [bind, EM.bind, hb]
    rw [loopIter_goesOn _ _ _ _ hg]; exact h1
  | matchStmt hv _ ih =>
    obtain ⟨fr, h1⟩ := ih he hp
    refine ⟨fr, ?_⟩
    simp only [Task.run, effectOnly, bind, EM.bind] at h1 ⊢
    unfold evalStmt
    simp only [bind, EM.bind]
    unfold evalExpr
    simp only [bind, EM.bind, hv]
    split at h1
    · cases h1
    · exact h1
    · cases h1
  | caseSkip hm _ ih =>
    obtain ⟨fr, h1⟩ := ih he hp
    refine ⟨fr, ?_⟩
    simp only [Task.run, effectOnly, bind, EM.bind] at h1 ⊢
    unfold evalMatchCases
    simp only [bind, EM.bind, hm]
    exact h1
  | @caseBody l n pos value pats body rest s bindings s1' s2 s3 m i s0 hm hpush hbind hne _ ih =>
    obtain ⟨fr, h1⟩ := ih he hp
    refine ⟨s1'.frames, ?_⟩
    simp only [Task.run, effectOnly, bind, EM.bind] at h1 ⊢
    unfold evalMatchCases
    simp only [bind, EM.bind, hm, getSt, hpush, withFrames, hbind]
    cases body with
    | expr be => exact absurd rfl (hne be)
    | _ => simp only [h1]

end Jqawk.Spec
