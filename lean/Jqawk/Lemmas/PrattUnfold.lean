/-
  C06 infrastructure: run-level unfolding lemmas for `expressionWithPrec`, `infixLoop`,
  `prefixFn`, `infixFn` driven by `expectedRuleTable`, against a token list.
-/
import Jqawk.Lemmas.PrattRun

namespace Jqawk
namespace Parser

abbrev T : RuleTable := expectedRuleTable

def precT (t : Tag) : Nat := (lookupRule T t).prec

theorem expr_succ (n p : Nat) (s : PS) (ts : List Token) (pk : PrefixKind)
    (h : (lookupRule T s.cur.tag).pre = some pk) :
    run (expressionWithPrec T (n + 1) p) s ts
      = (run (prefixFn T n pk) s ts).bind fun r => run (infixLoop T n p r.1.1) r.1.2 r.2 := by
  unfold expressionWithPrec
  simp [h]

theorem expr_ident (n p : Nat) (s : PS) (t : Token) (ts : List Token)
    (h : s.cur.tag = .ident ∨ s.cur.tag = .dollar) :
    run (expressionWithPrec T (n + 2) p) s (t :: ts)
      = run (infixLoop T (n + 1) p (.ident s.cur)) (adv s t) ts := by
  rw [expr_succ (pk := .identifier) (h := by rcases h with h | h <;> (rw [h]; rfl))]
  unfold prefixFn
  rcases h with h | h <;> simp [h]

theorem expr_lit (n p : Nat) (s : PS) (t : Token) (ts : List Token)
    (h : s.cur.tag = .num ∨ s.cur.tag = .str ∨ s.cur.tag = .true_ ∨ s.cur.tag = .false_ ∨
      s.cur.tag = .null) :
    run (expressionWithPrec T (n + 2) p) s (t :: ts)
      = run (infixLoop T (n + 1) p (.lit s.cur)) (adv s t) ts := by
  rw [expr_succ (pk := .literal) (h := by rcases h with h | h | h | h | h <;> (rw [h]; rfl))]
  unfold prefixFn
  simp

theorem expr_group (n p : Nat) (s : PS) (t : Token) (ts : List Token) (h : s.cur.tag = .lparen) :
    run (expressionWithPrec T (n + 2) p) s (t :: ts)
      = (run (expressionWithPrec T n Prec.assign) (adv s t) ts).bind fun r =>
          (run (consume .rparen) r.1.2 r.2).bind fun r' =>
            run (infixLoop T (n + 1) p r.1.1) r'.1.2 r'.2 := by
  rw [expr_succ (pk := .group) (h := by rw [h]; rfl)]
  unfold prefixFn
  simp only [run_bind, run_consume_cons _ _ _ _ h, ParseRes.bind_ok, run_pure, ParseRes.bind_assoc]

theorem expr_array (n p : Nat) (s : PS) (t : Token) (ts : List Token) (h : s.cur.tag = .lsquare) :
    run (expressionWithPrec T (n + 2) p) s (t :: ts)
      = (run (exprList T n .rsquare []) (adv s t) ts).bind fun r =>
          run (infixLoop T (n + 1) p (.arr s.cur r.1.1)) r.1.2 r.2 := by
  rw [expr_succ (pk := .array) (h := by rw [h]; rfl)]
  unfold prefixFn
  simp only [run_bind, run_consume_cons _ _ _ _ h, ParseRes.bind_ok, run_get, adv_prev, run_pure,
    ParseRes.bind_assoc]

theorem expr_object (n p : Nat) (s : PS) (t : Token) (ts : List Token) (h : s.cur.tag = .lcurly) :
    run (expressionWithPrec T (n + 2) p) s (t :: ts)
      = (run (objectLoop T n []) (adv s t) ts).bind fun r =>
          (run (consume .rcurly) r.1.2 r.2).bind fun r' =>
            run (infixLoop T (n + 1) p (.obj s.cur r.1.1)) r'.1.2 r'.2 := by
  rw [expr_succ (pk := .object) (h := by rw [h]; rfl)]
  unfold prefixFn
  simp only [run_bind, run_consume_cons _ _ _ _ h, ParseRes.bind_ok, run_get, adv_prev, run_pure,
    ParseRes.bind_assoc]

theorem objectLoop_end (n : Nat) (acc : List (Bytes × Expr)) (s : PS) (ts : List Token)
    (h : s.cur.tag = .rcurly) :
    run (objectLoop T (n + 1) acc) s ts = .ok ((acc.reverse, s), ts) := by
  unfold objectLoop
  simp [h]

theorem objectLoop_item (n : Nat) (acc : List (Bytes × Expr)) (s : PS) (t1 t2 : Token)
    (ts : List Token) (hk : s.cur.tag = .str ∨ s.cur.tag = .ident) (h1 : t1.tag = .colon) :
    run (objectLoop T (n + 1) acc) s (t1 :: t2 :: ts)
      = (run (expressionWithPrec T n Prec.assign) (adv (adv s t1) t2) ts).bind fun r =>
          (if r.1.2.cur.tag = .comma then run (consume .comma) r.1.2 r.2
           else .ok (((), r.1.2), r.2)).bind fun r' =>
            run (objectLoop T n ((s.cur.text, r.1.1) :: acc)) r'.1.2 r'.2 := by
  conv => lhs; unfold objectLoop
  have hne : (s.cur.tag == Tag.rcurly || s.cur.tag == Tag.eof) = false := by
    rcases hk with h | h <;> rw [h] <;> rfl
  have hin : [Tag.str, Tag.ident].contains s.cur.tag = true := by
    rcases hk with h | h <;> rw [h] <;> rfl
  simp only [run_bind, run_curTag, ParseRes.bind_ok, hne, Bool.false_eq_true, if_false, consumeOf,
    run_get, hin, if_true, run_advance_cons, adv_prev, run_consume_cons _ _ _ _ (show (adv s t1).cur.tag = .colon from h1)]
  congr 1; funext r
  simp only [beq_iff_eq]
  split <;> simp only [run_bind, ParseRes.bind_ok]

theorem expr_unary (n p : Nat) (s : PS) (t : Token) (ts : List Token)
    (h : (lookupRule T s.cur.tag).pre = some .unary) :
    run (expressionWithPrec T (n + 2) p) s (t :: ts)
      = (run (expressionWithPrec T n Prec.unary) (adv s t) ts).bind fun r =>
          if (s.cur.tag == .plusPlus || s.cur.tag == .minusMinus) && !assignable r.1.1 then
            .syntaxErr ⟨r.1.1.token.pos, "invalid increment target"⟩
          else run (infixLoop T (n + 1) p (.unary r.1.1 s.cur false)) r.1.2 r.2 := by
  rw [expr_succ (pk := .unary) (h := h)]
  unfold prefixFn
  simp only [run_bind, run_advance_cons, ParseRes.bind_ok, run_get, adv_prev, ParseRes.bind_assoc]
  congr 1; funext r
  split <;> simp [*]

theorem loop_stop (n p : Nat) (lhs : Expr) (s : PS) (ts : List Token) (h : ¬ p ≤ precT s.cur.tag) :
    run (infixLoop T (n + 1) p lhs) s ts = .ok ((lhs, s), ts) := by
  unfold infixLoop
  simp only [run_bind, run_get, ParseRes.bind_ok]
  have h' : ¬ p ≤ (lookupRule T s.cur.tag).prec := h
  rw [if_neg h']; rfl

theorem loop_succ (n p : Nat) (lhs : Expr) (s : PS) (ts : List Token) (ik : InfixKind)
    (hp : p ≤ precT s.cur.tag) (h : (lookupRule T s.cur.tag).inf = some ik) :
    run (infixLoop T (n + 1) p lhs) s ts
      = (run (infixFn T n ik lhs) s ts).bind fun r => run (infixLoop T n p r.1.1) r.1.2 r.2 := by
  conv => lhs; unfold infixLoop
  simp only [run_bind, run_get, ParseRes.bind_ok]
  have hp' : p ≤ (lookupRule T s.cur.tag).prec := hp
  rw [if_pos hp']
  simp [h]

theorem loop_binary (n p : Nat) (lhs : Expr) (s : PS) (t : Token) (ts : List Token)
    (hp : p ≤ precT s.cur.tag) (h : (lookupRule T s.cur.tag).inf = some .binary) :
    run (infixLoop T (n + 2) p lhs) s (t :: ts)
      = (run (expressionWithPrec T n (precT s.cur.tag + 1)) (adv s t) ts).bind fun r =>
          run (infixLoop T (n + 1) p (.binary lhs r.1.1 s.cur)) r.1.2 r.2 := by
  rw [loop_succ (ik := .binary) (hp := hp) (h := h)]
  unfold infixFn precT
  simp only [run_bind, run_advance_cons, ParseRes.bind_ok, run_get, adv_prev, run_pure,
    ParseRes.bind_assoc]

theorem loop_assign (n p : Nat) (lhs : Expr) (s : PS) (t : Token) (ts : List Token)
    (hp : p ≤ precT s.cur.tag) (h : (lookupRule T s.cur.tag).inf = some .assign)
    (ha : assignable lhs = true) :
    run (infixLoop T (n + 2) p lhs) s (t :: ts)
      = (run (expressionWithPrec T n (precT s.cur.tag)) (adv s t) ts).bind fun r =>
          run (infixLoop T (n + 1) p
            (if isCompound s.cur.tag then rewriteCompound lhs r.1.1 s.cur
             else .binary lhs r.1.1 s.cur)) r.1.2 r.2 := by
  rw [loop_succ (ik := .assign) (hp := hp) (h := h)]
  unfold infixFn precT
  simp only [ha, Bool.not_true, Bool.false_eq_true, if_false, run_bind, run_advance_cons,
    ParseRes.bind_ok, run_get, adv_prev, ParseRes.bind_assoc]
  congr 1; funext r
  split <;> simp [*]

theorem loop_assign_bad (n p : Nat) (lhs : Expr) (s : PS) (ts : List Token)
    (hp : p ≤ precT s.cur.tag) (h : (lookupRule T s.cur.tag).inf = some .assign)
    (ha : assignable lhs = false) :
    run (infixLoop T (n + 2) p lhs) s ts = .syntaxErr ⟨lhs.token.pos, "invalid assignment"⟩ := by
  rw [loop_succ (ik := .assign) (hp := hp) (h := h)]
  unfold infixFn
  simp [ha]

theorem loop_postfix (n p : Nat) (lhs : Expr) (s : PS) (t : Token) (ts : List Token)
    (hp : p ≤ precT s.cur.tag) (h : (lookupRule T s.cur.tag).inf = some .postfixOp)
    (ha : assignable lhs = true) :
    run (infixLoop T (n + 2) p lhs) s (t :: ts)
      = run (infixLoop T (n + 1) p (.unary lhs s.cur true)) (adv s t) ts := by
  rw [loop_succ (ik := .postfixOp) (hp := hp) (h := h)]
  unfold infixFn
  simp [ha]

theorem loop_member (n p : Nat) (lhs : Expr) (s : PS) (t t' : Token) (ts : List Token)
    (hp : p ≤ precT s.cur.tag) (h : s.cur.tag = .dot) (ht : t.tag = .ident) :
    run (infixLoop T (n + 2) p lhs) s (t :: t' :: ts)
      = run (infixLoop T (n + 1) p (.binary lhs (.lit t) s.cur)) (adv (adv s t) t') ts := by
  rw [loop_succ (ik := .member) (hp := hp) (h := by rw [h]; rfl)]
  unfold infixFn
  simp [run_consume_cons, h, ht]

theorem loop_is (n p : Nat) (lhs : Expr) (s : PS) (t t' : Token) (ts : List Token)
    (hp : p ≤ precT s.cur.tag) (h : s.cur.tag = .is)
    (ht : t.tag = .ident ∨ t.tag = .function ∨ t.tag = .null) :
    run (infixLoop T (n + 2) p lhs) s (t :: t' :: ts)
      = run (infixLoop T (n + 1) p (.binary lhs (.ident t) s.cur)) (adv (adv s t) t') ts := by
  rw [loop_succ (ik := .is) (hp := hp) (h := by rw [h]; rfl)]
  unfold infixFn
  simp [run_consume_cons, h, consumeOf, ht]

theorem loop_index (n p : Nat) (lhs : Expr) (s : PS) (t : Token) (ts : List Token)
    (hp : p ≤ precT s.cur.tag) (h : s.cur.tag = .lsquare) :
    run (infixLoop T (n + 2) p lhs) s (t :: ts)
      = (run (expressionWithPrec T n Prec.assign) (adv s t) ts).bind fun r =>
          (run (consume .rsquare) r.1.2 r.2).bind fun r' =>
            run (infixLoop T (n + 1) p (.binary lhs r.1.1 s.cur)) r'.1.2 r'.2 := by
  rw [loop_succ (ik := .computedMember) (hp := hp) (h := by rw [h]; rfl)]
  unfold infixFn
  simp only [run_bind, run_get, ParseRes.bind_ok, run_consume_cons _ _ _ _ h, run_pure,
    ParseRes.bind_assoc]

theorem loop_call (n p : Nat) (lhs : Expr) (s : PS) (t : Token) (ts : List Token)
    (hp : p ≤ precT s.cur.tag) (h : s.cur.tag = .lparen) :
    run (infixLoop T (n + 2) p lhs) s (t :: ts)
      = (run (exprList T n .rparen []) (adv s t) ts).bind fun r =>
          run (infixLoop T (n + 1) p (.call lhs r.1.1)) r.1.2 r.2 := by
  rw [loop_succ (ik := .call) (hp := hp) (h := by rw [h]; rfl)]
  unfold infixFn
  simp only [run_bind, run_consume_cons _ _ _ _ h, ParseRes.bind_ok, run_pure, ParseRes.bind_assoc]

theorem exprList_end (n : Nat) (endTag : Tag) (acc : List Expr) (s : PS) (t : Token)
    (ts : List Token) (h : s.cur.tag = endTag) :
    run (exprList T (n + 1) endTag acc) s (t :: ts) = .ok ((acc.reverse, adv s t), ts) := by
  unfold exprList
  simp [h, run_consume_cons]

theorem exprList_arg (n : Nat) (endTag : Tag) (acc : List Expr) (s : PS) (ts : List Token)
    (h1 : s.cur.tag ≠ .eof) (h2 : s.cur.tag ≠ endTag) :
    run (exprList T (n + 1) endTag acc) s ts
      = (run (expressionWithPrec T n Prec.assign) s ts).bind fun r =>
          if r.1.2.cur.tag = .comma then
            (run (consume .comma) r.1.2 r.2).bind fun r' =>
              run (exprList T n endTag (r.1.1 :: acc)) r'.1.2 r'.2
          else
            (run (consume endTag) r.1.2 r.2).bind fun r' =>
              .ok (((r.1.1 :: acc).reverse, r'.1.2), r'.2) := by
  conv => lhs; unfold exprList
  simp only [run_bind, run_curTag, ParseRes.bind_ok]
  have : (s.cur.tag == Tag.eof || s.cur.tag == endTag) = false := by simp [h1, h2]
  simp only [this, Bool.false_eq_true, if_false, run_bind]
  congr 1; funext r
  simp only [ParseRes.bind_ok, run_curTag, beq_iff_eq]
  split
  · simp only [run_bind]
  · simp only [run_bind, run_pure]

end Parser
end Jqawk
