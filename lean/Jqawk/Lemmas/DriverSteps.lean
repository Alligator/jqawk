/-
  The driver's two catching combinators as instances of `handle` (`Lemmas/EvalSteps.lean`), and
  `rulesOf_sub` (the rules of a kind are rules of the program), which every walk over the rule
  driver needs.
-/
import Jqawk.Lemmas.EvalSteps
import Jqawk.Model.Driver

namespace Jqawk

theorem ruleFlow_eq_handle (m : EM Unit) :
    ruleFlow m = handle m (fun _ => pure .continue_) (fun
      | .next => some (pure .continue_)
      | .exit => some (pure .exit)
      | _ => none) := by
  funext s
  unfold ruleFlow handle
  cases m s with
  | err e s' =>
    cases e with
    | sig g => cases g <;> rfl
    | _ => rfl
  | _ => rfl

theorem catchExit_eq_handle (m : EM Unit) :
    catchExit m = handle m (fun _ => pure .continue_) (fun
      | .exit => some (pure .exit)
      | _ => none) := by
  funext s
  unfold catchExit handle
  cases m s with
  | err e s' =>
    cases e with
    | sig g => cases g <;> rfl
    | _ => rfl
  | _ => rfl

theorem rulesOf_sub (prog : Program) (k : RuleKind) : ∀ r ∈ rulesOf prog k, r ∈ prog.rules :=
  fun _ hr => (List.mem_filter.mp hr).1

end Jqawk
