/-
  Panic freedom (C01), part 1: the state invariant and its heap algebra.

  The invariant is indexed by a *region* `P`: the cells with id ≥ `P.N`, the arrays with id ≥ `P.A`
  and the objects with id ≥ `P.O`.  Inside the region every stored id points into the region
  again and every function value `.fn i` has `i < P.F` (the number of functions of the program
  the running evaluator knows); outside the region only the weak bound `i < P.L` is required.
  The main evaluator runs with the region "everything" (`N = A = O = 0`, `F = L`); the nested
  evaluator of a selector shares the heap but runs with `Program.empty`, so its region is
  "everything allocated since the selector started" and `F = 0`: it can reach no function value.

  All parts of the invariant are lower bounds on cell, array and object ids (and upper bounds on
  function indices), so each part is a property of one state
  component alone (heap / frames / ruleRoot / returnVal) and is stable under allocation.
-/
import Jqawk.Model.Eval
import Jqawk.Lemmas.HeapOps
import Jqawk.Lemmas.Order


namespace Jqawk

/-- the region an evaluator works in, and the bounds on function indices -/
structure Region where
  N : Nat      -- first cell id of the region
  A : Nat      -- first array id
  O : Nat      -- first object id
  F : Nat      -- (upper) bound on function indices stored inside the region: the functions its evaluator knows
  L : Nat      -- (upper) bound on function indices stored anywhere in the heap: the functions of the main program

variable (P : Region)

def SpecOK : Option SpecRef → Prop
  | none => True
  | some r => P.N ≤ r.parent

def OptReg : Option CellId → Prop
  | none => True
  | some c => P.N ≤ c

/-- a value that may be stored in the region -/
def GoodV : Val → Prop
  | .str _ sp => SpecOK P sp
  | .nil sp => SpecOK P sp
  | .native _ b sp => OptReg P b ∧ SpecOK P sp
  | .fn i => i < P.F ∧ i < P.L
  | .arr a => P.A ≤ a
  | .obj o => P.O ≤ o
  | _ => True

/-- the weak bound that holds for EVERY cell of the heap, inside the region or not (`HeapOK.all`).
    It is what survives a change of region: a selector's evaluator works in the region `Psel` with
    `F = 0` on the heap of the main evaluator, and when it is done the main evaluator's invariant
    is recovered from `FnB` alone (`HeapOK.toSel`, `HeapOK.toMain` in NoPanicRun.lean, where
    `L = F` for the main region).  Hence `GoodV (.fn i)` carries both bounds. -/
def FnB : Val → Prop
  | .fn i => i < P.L
  | _ => True

theorem GoodV.fnB {P : Region} {v : Val} (h : GoodV P v) : FnB P v := by
  cases v <;> simp_all [GoodV, FnB]

def RegL (cs : List CellId) : Prop := ∀ c ∈ cs, P.N ≤ c
def RegM (m : List (Bytes × CellId)) : Prop := ∀ kc ∈ m, P.N ≤ kc.2
def GoodVs (vs : List Val) : Prop := ∀ v ∈ vs, GoodV P v

/-- the heap part of the invariant: the region is inside the heap (`nle`, `ale`, `ole`), every cell
    satisfies the weak bound, and what is stored inside the region points into the region -/
structure HeapOK (h : Heap) : Prop where
  nle : P.N ≤ h.cells.size
  ale : P.A ≤ h.arrs.size
  ole : P.O ≤ h.objs.size
  all : ∀ c, FnB P (h.get c)
  cells : ∀ c, P.N ≤ c → GoodV P (h.get c)
  arrs : ∀ a, P.A ≤ a → RegL P (h.arr a).toList
  objs : ∀ o, P.O ≤ o → RegM P (h.obj o)

def FramesOK (fr : List Frame) : Prop := fr ≠ [] ∧ ∀ f ∈ fr, RegM P f.locals

/-- the invariant without the rule root (what holds between rule executions) -/
structure Inv0 (s : St) : Prop where
  heap : HeapOK P s.heap
  frames : FramesOK P s.frames
  ret : OptReg P s.returnVal

variable {P}

@[simp] theorem GoodV_unknown : GoodV P .unknown := trivial
@[simp] theorem GoodV_bool (b : Bool) : GoodV P (.bool b) := trivial
@[simp] theorem GoodV_num (x : F64) : GoodV P (.num x) := trivial
@[simp] theorem GoodV_regex (x : Bytes) : GoodV P (.regex x) := trivial
@[simp] theorem GoodV_nil_none : GoodV P (.nil none) := trivial
@[simp] theorem GoodV_str_none (s : Bytes) : GoodV P (.str s none) := trivial
@[simp] theorem SpecOK_none : SpecOK P none := trivial
@[simp] theorem OptReg_none : OptReg P none := trivial

theorem copyVal_good {v w : Val} (h : copyVal v = .ok w) (hv : GoodV P v) : GoodV P w := by
  cases v <;> simp [copyVal] at h <;> subst h <;> first | trivial | exact hv

theorem RegM.objInsert {m : List (Bytes × CellId)} (hm : RegM P m) (k : Bytes) {c : CellId}
    (hc : P.N ≤ c) : RegM P (objInsert m k c) :=
  fun kc h => (mem_objInsert h).elim (hm kc) fun e => e ▸ hc

theorem RegM.nil : RegM P [] := by intro kc h; cases h

theorem RegM.foldInsert {l acc : List (Bytes × CellId)} (hl : RegM P l) (hacc : RegM P acc) :
    RegM P (l.foldl (fun m kv => Jqawk.objInsert m kv.1 kv.2) acc) := by
  induction l generalizing acc with
  | nil => exact hacc
  | cons x rest ih =>
    simp only [List.foldl_cons]
    exact ih (fun y hy => hl y (List.mem_cons_of_mem _ hy))
      (hacc.objInsert _ (hl x (List.mem_cons_self ..)))

theorem RegM.lookup {m : List (Bytes × CellId)} (hm : RegM P m) {k : Bytes} {c : CellId}
    (h : objLookup m k = some c) : P.N ≤ c :=
  hm _ (objLookup_mem h)

theorem RegM.sortByKey {m : List (Bytes × CellId)} (hm : RegM P m) : RegM P (sortByKey m) :=
  fun kc h => hm kc (mem_sortByKey h)

theorem lookupFrames_reg {fr : List Frame} (h : ∀ f ∈ fr, RegM P f.locals) {k : Bytes} {c : CellId}
    (hl : lookupFrames fr k = some c) : P.N ≤ c := by
  induction fr with
  | nil => cases hl
  | cons f fs ih =>
    unfold lookupFrames at hl
    split at hl
    · rename_i c' hc'
      cases hl
      exact (h f (List.mem_cons_self ..)).lookup hc'
    · exact ih (fun g hg => h g (List.mem_cons_of_mem _ hg)) hl

namespace HeapOK

theorem set {h : Heap} (ok : HeapOK P h) (c : CellId) {v : Val} (hv : GoodV P v) :
    HeapOK P (h.set c v) := by
  refine ⟨?_, ok.ale, ok.ole, ?_, ?_, ok.arrs, ok.objs⟩
  · show P.N ≤ (h.cells.setIfInBounds c v).size
    simp only [Array.size_setIfInBounds]; exact ok.nle
  · intro d
    rcases Heap.get_set_cases h c d v with e | e <;> rw [e]
    · exact ok.all d
    · exact hv.fnB
  · intro d hd
    rcases Heap.get_set_cases h c d v with e | e <;> rw [e]
    · exact ok.cells d hd
    · exact hv

theorem alloc {h : Heap} (ok : HeapOK P h) {v : Val} (hv : GoodV P v) :
    HeapOK P (h.alloc v).2 ∧ P.N ≤ (h.alloc v).1 := by
  refine ⟨⟨?_, ok.ale, ok.ole, ?_, ?_, ok.arrs, ok.objs⟩, ok.nle⟩
  · show P.N ≤ (h.cells.push v).size
    simp only [Array.size_push]; exact Nat.le_succ_of_le ok.nle
  · intro d
    rcases Heap.get_alloc_cases h d v with e | e <;> rw [e]
    · exact ok.all d
    · exact hv.fnB
  · intro d hd
    rcases Heap.get_alloc_cases h d v with e | e <;> rw [e]
    · exact ok.cells d hd
    · exact hv

theorem setArr {h : Heap} (ok : HeapOK P h) (a : ArrId) {items : Array CellId}
    (hi : P.A ≤ a → RegL P items.toList) : HeapOK P (h.setArr a items) := by
  refine ⟨ok.nle, ?_, ok.ole, ok.all, ok.cells, ?_, ok.objs⟩
  · show P.A ≤ (h.arrs.setIfInBounds a items).size
    simp only [Array.size_setIfInBounds]; exact ok.ale
  · intro b hb
    rcases Heap.arr_setArr_cases h a b items with e | ⟨e1, e2⟩
    · rw [e]; exact ok.arrs b hb
    · rw [e2]; exact hi (e1 ▸ hb)

theorem allocArr {h : Heap} (ok : HeapOK P h) {items : Array CellId} (hi : RegL P items.toList) :
    HeapOK P (h.allocArr items).2 ∧ P.A ≤ (h.allocArr items).1 := by
  refine ⟨⟨ok.nle, ?_, ok.ole, ok.all, ok.cells, ?_, ok.objs⟩, ok.ale⟩
  · show P.A ≤ (h.arrs.push items).size
    simp only [Array.size_push]; exact Nat.le_succ_of_le ok.ale
  · intro b hb
    rcases Heap.arr_allocArr_cases h b items with e | ⟨e1, e2⟩
    · rw [e]; exact ok.arrs b hb
    · rw [e2]; exact hi

theorem setObj {h : Heap} (ok : HeapOK P h) (o : ObjId) {m : List (Bytes × CellId)}
    (hm : P.O ≤ o → RegM P m) : HeapOK P (h.setObj o m) := by
  refine ⟨ok.nle, ok.ale, ?_, ok.all, ok.cells, ok.arrs, ?_⟩
  · show P.O ≤ (h.objs.setIfInBounds o m).size
    simp only [Array.size_setIfInBounds]; exact ok.ole
  · intro b hb
    rcases Heap.obj_setObj_cases h o b m with e | ⟨e1, e2⟩
    · rw [e]; exact ok.objs b hb
    · rw [e2]; exact hm (e1 ▸ hb)

theorem allocObj {h : Heap} (ok : HeapOK P h) {m : List (Bytes × CellId)} (hm : RegM P m) :
    HeapOK P (h.allocObj m).2 ∧ P.O ≤ (h.allocObj m).1 := by
  refine ⟨⟨ok.nle, ok.ale, ?_, ok.all, ok.cells, ok.arrs, ?_⟩, ok.ole⟩
  · show P.O ≤ (h.objs.push m).size
    simp only [Array.size_push]; exact Nat.le_succ_of_le ok.ole
  · intro b hb
    rcases Heap.obj_allocObj_cases h b m with e | ⟨e1, e2⟩
    · rw [e]; exact ok.objs b hb
    · rw [e2]; exact hm

end HeapOK

theorem RegL.getInternal {items : Array CellId} (h : RegL P items.toList) {i : Nat} (hi : i < items.size) :
    P.N ≤ items.getInternal i hi := by
  apply h
  show items[i] ∈ items.toList
  simp

theorem RegL.getD {items : Array CellId} (h : RegL P items.toList) {i : Nat} (hi : i < items.size) :
    P.N ≤ items.getD i 0 := by
  apply h
  rw [Array.getD_eq_getD_getElem?, Array.getElem?_eq_getElem hi]
  simp

theorem HeapOK.arr_getD {h : Heap} (ok : HeapOK P h) {a : ArrId} (ha : P.A ≤ a) {i : Nat}
    (hi : i < (h.arr a).size) : P.N ≤ (h.arr a).getD i 0 :=
  (ok.arrs a ha).getD hi

theorem fillNulls_ok : ∀ (n : Nat) (h : Heap) (items : Array CellId), HeapOK P h → RegL P items.toList →
    HeapOK P (fillNulls n h items).1 ∧ RegL P (fillNulls n h items).2.toList ∧
      (fillNulls n h items).2.size = items.size + n
  | 0, h, items, ok, hi => ⟨ok, hi, rfl⟩
  | n + 1, h, items, ok, hi => by
    unfold fillNulls
    have ha := ok.alloc (v := .nil none) trivial
    have hi' : RegL P (items.push (h.alloc (.nil none)).1).toList := by
      intro c hc
      simp only [Array.toList_push, List.mem_append, List.mem_singleton] at hc
      rcases hc with hc | hc
      · exact hi c hc
      · subst hc; exact ha.2
    have ih := fillNulls_ok n (h.alloc (.nil none)).2 (items.push (h.alloc (.nil none)).1) ha.1 hi'
    refine ⟨ih.1, ih.2.1, ?_⟩
    rw [ih.2.2, Array.size_push]; omega

theorem getMember_cell {h : Heap} (ok : HeapOK P h) {v m : Val} (hv : GoodV P v) {c : CellId}
    (hg : getMember h v m = .ok (.cell c)) : P.N ≤ c := by
  unfold getMember at hg
  cases v with
  | arr a =>
    dsimp only at hg
    cases m with
    | num x =>
      dsimp only at hg
      split at hg
      · cases hg
      · split at hg
        · rename_i i _ hlt
          cases hg
          exact (ok.arrs a hv).getInternal hlt
        · cases hg
    | _ =>
      simp only [protoGet] at hg
      first
        | cases hg
        | (split at hg <;> cases hg)
  | obj o =>
    dsimp only at hg
    cases m with
    | num x =>
      dsimp only at hg
      split at hg
      · rename_i c' hc'
        simp only [Except.ok.injEq, Member.cell.injEq] at hg
        subst hg
        exact (ok.objs o hv).lookup hc'
      · simp only [protoGet] at hg
        split at hg <;> cases hg
    | str s sp =>
      dsimp only at hg
      split at hg
      · rename_i c' hc'
        simp only [Except.ok.injEq, Member.cell.injEq] at hg
        subst hg
        exact (ok.objs o hv).lookup hc'
      · simp only [protoGet] at hg
        split at hg <;> cases hg
    | _ => cases hg
  | str s sp =>
    dsimp only at hg
    cases m with
    | num x =>
      dsimp only at hg
      split at hg <;> cases hg
    | _ =>
      simp only [protoGet] at hg
      first
        | cases hg
        | (split at hg <;> cases hg)
  | num x =>
    dsimp only at hg
    cases m <;> simp only [protoGet] at hg <;> first
        | cases hg
        | (split at hg <;> cases hg)
  | _ => cases hg

theorem setMember_ok {h : Heap} (ok : HeapOK P h) {v m : Val} (hv : GoodV P v) {cell : CellId}
    (hcell : P.N ≤ cell) {c : CellId} {h' : Heap} (hs : setMember h v m cell = .ok (c, h')) :
    HeapOK P h' ∧ P.N ≤ c := by
  unfold setMember at hs
  cases v with
  | arr a =>
    dsimp only at hs
    cases m with
    | num x =>
      dsimp only at hs
      split at hs
      · cases hs
      · rename_i i _
        split at hs
        · rename_i hlt
          cases hs
          exact ⟨ok.set _ (ok.cells cell hcell), (ok.arrs a hv).getInternal hlt⟩
        · split at hs
          · cases hs
          · rename_i hnlt _
            simp only [Except.ok.injEq, Prod.mk.injEq] at hs
            obtain ⟨rfl, rfl⟩ := hs
            have hf := fillNulls_ok (i + 1 - (h.arr a).size) h (h.arr a) ok (ok.arrs a hv)
            have hsz : i < (fillNulls (i + 1 - (h.arr a).size) h (h.arr a)).2.size := by
              rw [hf.2.2]; omega
            have ok2 := hf.1.setArr a (items := (fillNulls (i + 1 - (h.arr a).size) h (h.arr a)).2)
              (fun _ => hf.2.1)
            exact ⟨ok2.set _ (ok2.cells cell hcell), hf.2.1.getD hsz⟩
    | _ => cases hs
  | obj o =>
    simp only [Except.ok.injEq, Prod.mk.injEq] at hs
    obtain ⟨rfl, rfl⟩ := hs
    exact ⟨ok.setObj o (fun ho => (ok.objs o ho).objInsert _ hcell), hcell⟩
  | _ => cases hs

end Jqawk
