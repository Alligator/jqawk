/-
  The heap invariant at the start of every NESTED statement (C15): if a statement `Leads`
  (`Lemmas/LoopsNest.lean`: through blocks, taken `if`/`else` branches, loop rounds, bodies of `match`
  statements) to a sub-statement, and it is started in a state satisfying `HeapInv.Inv`, then the
  sub-statement is started in a state satisfying `HeapInv.Inv` too.
-/
import Jqawk.Lemmas.HeapInvEval
import Jqawk.Lemmas.LoopsNest


namespace Jqawk.HeapInv
open Jqawk Jqawk.IndexWrite Jqawk.Spec

theorem Good.okInv {α : Type} {m : EM α} (g : Good m) {s s' : St} {a : α} (i : Inv s.heap)
    (h : m s = .ok a s') : Inv s'.heap ∧ Trans s.heap s'.heap := by
  have := g s i trivial
  rw [h] at this; exact ⟨this.1, this.2.1⟩

theorem Good.sigInv {α : Type} {m : EM α} (g : Good m) {s s' : St} {sg : Sig} (i : Inv s.heap)
    (h : m s = .err (.sig sg) s') : Inv s'.heap ∧ Trans s.heap s'.heap := by
  have := g s i trivial
  rw [h] at this; exact this

variable (prog : Program)

theorem goesOn_inv (n : Nat) (b : Stmt) (s1 s2 : St) (i : Inv s1.heap)
    (h : GoesOn (evalStmt prog n b s1) s2) : Inv s2.heap ∧ Trans s1.heap s2.heap := by
  rcases h with h | h
  · exact ((allGood prog n).stmt b).okInv i h
  · exact ((allGood prog n).stmt b).sigInv i h

/-- what a task needs of the heap it is started in: a for-in loop's remaining items hold plain
    values in allocated cells -/
def TaskPre : Task → Heap → Prop
  | .forInL _ _ _ items, h => ItemsOK items h
  | _, _ => True

theorem bindRaw_ok {loc : CellId} {il : Option CellId} {it : RawItem} {s s1 : St} (i : Inv s.heap)
    (p : ItemOK s.heap it) (h : bindRaw loc il it s = .ok () s1) : Inv s1.heap ∧ Trans s.heap s1.heap := by
  have := bindRaw_post loc il it s i p
  rw [h] at this; exact ⟨this.1, this.2.1⟩

/-- **the invariant at the start of a nested statement** -/
theorem leads_inv {l : Bool} {n : Nat} {t : Task} {s : St} {m : Nat} {inner : Stmt} {s0 : St}
    (h : Leads prog l n t s m inner s0) : Inv s.heap → TaskPre t s.heap → Inv s0.heap := by
  induction h with
  | here => intro i _; exact i
  | block _ ih => intro i _; exact ih i trivial
  | blockHead _ ih => intro i _; exact ih i trivial
  | blockTail h1 _ ih => intro i _; exact ih (((allGood prog _).stmt _).okInv i h1).1 trivial
  | ifThen h1 _ _ ih => intro i _; exact ih (((allGood prog _).expr _).okInv i h1).1 trivial
  | ifElse h1 _ _ ih => intro i _; exact ih (((allGood prog _).expr _).okInv i h1).1 trivial
  | while_ _ ih => intro i _; exact ih i trivial
  | whileBody h1 _ _ ih => intro i _; exact ih (((allGood prog _).expr _).okInv i h1).1 trivial
  | whileNext h1 _ h2 _ ih =>
    intro i _
    exact ih (goesOn_inv prog _ _ _ _ (((allGood prog _).expr _).okInv i h1).1 h2).1 trivial
  | for_ h1 _ ih => intro i _; exact ih (((allGood prog _).expr _).okInv i h1).1 trivial
  | forBody h1 _ _ ih => intro i _; exact ih (((allGood prog _).expr _).okInv i h1).1 trivial
  | forNext h1 _ h2 h3 _ ih =>
    intro i _
    have i2 := (goesOn_inv prog _ _ _ _ (((allGood prog _).expr _).okInv i h1).1 h2).1
    exact ih (((allGood prog _).expr _).okInv i2 h3).1 trivial
  | @forIn l n id idx iter b s hd s1 m inner s0 h1 _ ih =>
    intro i _
    have := forInHeader_ht id idx iter ((allGood prog n).expr iter) s i trivial
    rw [h1] at this
    exact ih this.1 this.2.2
  | forInBody h1 _ ih =>
    intro i p
    exact ih (bindRaw_ok i (p _ List.mem_cons_self) h1).1 trivial
  | forInNext h1 h2 _ ih =>
    intro i p
    have b1 := bindRaw_ok i (p _ List.mem_cons_self) h1
    have b2 := goesOn_inv prog _ _ _ _ b1.1 h2
    exact ih b2.1 (ItemsOK.trans (b1.2.trans b2.2) (fun x hx => p x (List.mem_cons_of_mem _ hx)))
  | matchStmt h1 _ ih => intro i _; exact ih (((allGood prog _).expr _).okInv i h1).1 trivial
  | caseSkip h1 _ ih => intro i _; exact ih (((allGood prog _).caseMatch _ _).okInv i h1).1 trivial
  | @caseBody l n pos value pats body rest s bindings s1 s2 s3 m inner s0 h1 h2 h3 _ _ ih =>
    intro i _
    have i1 := (((allGood prog _).caseMatch _ _).okInv i h1).1
    have e2 : ∀ {s1 s2 : St}, pushFrame b!"<match>" s1 = .ok (.ok ()) s2 → s2.heap = s1.heap := by
      intro s1 s2 h
      unfold pushFrame at h
      split at h
      · cases h
      · cases h; rfl
    have i2 : Inv s2.heap := by rw [e2 h2]; exact i1
    exact ih ((Good.bindAll _).okInv i2 h3).1 trivial

end Jqawk.HeapInv
