import Jqawk.Lemmas.JsonBytesBuilt
/-!
  Every tree the decoder builds has strictly ascending keys at every level (`SortedJ`).  Hence a
  decoded document meets the `SortedJ` hypothesis of the byte-level round trip.
-/
namespace Jqawk.JsonBytes
open Jqawk Jqawk.Json

theorem Built.sortedJ {g : Bytes → Bool} {n : Nat} {v : JVal} (h : Built g n v) : SortedJ v := by
  induction h with
  | arr _ _ ih => exact (sortedJList_iff _).2 ih
  | obj _ hs _ _ ih => exact ⟨hs, (sortedJMembers_iff _).2 ih⟩
  | _ => trivial

theorem decodeOne_sorted (f : Bytes → Bool) (inp : Bytes) (t : Tail) (v : JVal) (rest : Bytes)
    (h : decodeOne f inp t = .value v rest) : SortedJ v :=
  (decodeOne_built f inp t v rest h).sortedJ

end Jqawk.JsonBytes
