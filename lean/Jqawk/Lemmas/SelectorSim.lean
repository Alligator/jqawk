/-
  Renaming of cell ids (C14): the relation between the states of the two runs (`SR`), the
  relation between two computations (`SimW`) and its closure under the monad operations and the
  primitives of the evaluation monad.

  An out-of-fuel result on either side makes no claim (`RR`): the fuel of `createSpeculative`
  depends on the number of cells, which differs between the two runs.

  The full context `XCtx` is used at three places: `mainX K` (the main evaluators of the two
  runs: no base frames, every name allowed, `root` tracked), `X1 K1 baseA baseB allow` (the nested
  evaluator of the selector against the main evaluator of the other run: the frames already there
  are the base, only `allow`ed names are looked up through them, `root` not tracked) — both in
  Lemmas/SelectorJunction.lean — and `X.withD` (Lemmas/SelectorDriver.lean: inside a rule, where
  `$` has just been set in both runs).
-/
import Jqawk.Lemmas.SelectorHeap
import Jqawk.Lemmas.EvalSteps


namespace Jqawk
namespace Sel

structure XCtx extends Ctx where
  /-- may `$` (the rule root) be read? -/
  allowD : Bool
  /-- names that may be looked up through the frames -/
  allow : Bytes → Bool
  /-- the frames of run A below the ones the two runs push in lock step (related to `baseB`
      only in what they bind the allowed names to) -/
  baseA : List Frame
  /-- the same for run B -/
  baseB : List Frame
  /-- a frame has been pushed on top of the base frames -/
  inner : Bool
  /-- is `root` (the document `-o` writes) the same in both runs? -/
  trackRoot : Bool

structure XCtx.WF (X : XCtx) : Prop where
  core : X.toCtx.WF
  baseLen : X.baseA.length = X.baseB.length
  base : (X.baseA = [] ∧ X.baseB = []) ∨
    ∀ name, X.allow name = true → ∃ a b, lookupFrames X.baseA name = some a ∧
      lookupFrames X.baseB name = some b ∧ CellR X.toCtx X.m a b

def XCtx.enter (X : XCtx) : XCtx := { X with inner := true }

theorem XCtx.WF.enter {X : XCtx} (wf : X.WF) : X.enter.WF := ⟨wf.core, wf.baseLen, wf.base⟩

/-- may a local be bound in the innermost frame (it is not a base frame)? -/
def XCtx.canBind (X : XCtx) : Prop := X.inner = true ∨ (X.baseA = [] ∧ X.baseB = [])

theorem XCtx.canBind_enter (X : XCtx) : X.enter.canBind := .inl rfl

inductive F2 {α : Type} (R : α → α → Prop) : List α → List α → Prop
  | nil : F2 R [] []
  | cons {a b : α} {as bs : List α} : R a b → F2 R as bs → F2 R (a :: as) (b :: bs)

theorem F2.length_eq {α : Type} {R : α → α → Prop} {l1 l2 : List α} (h : F2 R l1 l2) :
    l1.length = l2.length := by
  induction h with
  | nil => rfl
  | cons _ _ ih => simp [ih]

def FrameR (K : Ctx) (w : Nat) (f g : Frame) : Prop := MemR K w f.locals g.locals

def FR (X : XCtx) (w : Nat) (fA fB : List Frame) : Prop :=
  ∃ mfA mfB, fA = mfA ++ X.baseA ∧ fB = mfB ++ X.baseB ∧
    F2 (FrameR X.toCtx w) mfA mfB ∧ (X.inner = true → mfB ≠ [])

theorem F2.frames_mono {K : Ctx} {w w' : Nat} (hw : w ≤ w') {l1 l2 : List Frame}
    (h : F2 (FrameR K w) l1 l2) : F2 (FrameR K w') l1 l2 := by
  induction h with
  | nil => exact .nil
  | cons h1 _ ih => exact .cons (MemR.mono h1 hw) ih

theorem FR.mono {X : XCtx} {w w' : Nat} {fA fB : List Frame} (h : FR X w fA fB) (hw : w ≤ w') :
    FR X w' fA fB := by
  obtain ⟨mfA, mfB, e1, e2, h3, h4⟩ := h
  exact ⟨mfA, mfB, e1, e2, F2.frames_mono hw h3, h4⟩

theorem lookupFrames_append (l1 l2 : List Frame) (name : Bytes) :
    lookupFrames (l1 ++ l2) name =
      match lookupFrames l1 name with
      | some c => some c
      | none => lookupFrames l2 name := by
  induction l1 with
  | nil => rfl
  | cons f fs ih =>
    simp only [List.cons_append, lookupFrames]
    cases objLookup f.locals name with
    | some c => rfl
    | none => exact ih

theorem F2.frames_lookup {K : Ctx} {w : Nat} {l1 l2 : List Frame} (h : F2 (FrameR K w) l1 l2)
    (name : Bytes) : OptCellR K w (lookupFrames l1 name) (lookupFrames l2 name) := by
  induction h with
  | nil => trivial
  | @cons f g fs gs h1 _ ih =>
    simp only [lookupFrames]
    exact (MemR.lookup h1 name).byCases ih (fun _ _ h => h)

theorem FR.lookup {X : XCtx} (wf : X.WF) {w : Nat} {fA fB : List Frame} (h : FR X w fA fB)
    (hm : X.m ≤ w) (name : Bytes) (hn : X.allow name = true ∨ (X.baseA = [] ∧ X.baseB = [])) :
    (∃ a b, lookupFrames fA name = some a ∧ lookupFrames fB name = some b ∧ CellR X.toCtx w a b) ∨
    (lookupFrames fA name = none ∧ lookupFrames fB name = none ∧ X.baseA = [] ∧ X.baseB = []) := by
  obtain ⟨mfA, mfB, rfl, rfl, h3, h4⟩ := h
  rw [lookupFrames_append, lookupFrames_append]
  refine (F2.frames_lookup h3 name).byCases ?_ (fun a b hl => .inl ⟨a, b, rfl, rfl, hl⟩)
  -- not a local of the frames pushed since: the base frames decide
  have nil_case : X.baseA = [] ∧ X.baseB = [] →
      (∃ a b, lookupFrames X.baseA name = some a ∧ lookupFrames X.baseB name = some b ∧
        CellR X.toCtx w a b) ∨
      (lookupFrames X.baseA name = none ∧ lookupFrames X.baseB name = none ∧ X.baseA = [] ∧
        X.baseB = []) := by
    intro ⟨e1, e2⟩
    right
    rw [e1, e2]
    exact ⟨rfl, rfl, rfl, rfl⟩
  rcases wf.base with hnil | hbase
  · exact nil_case hnil
  · rcases hn with hn | hnil
    · obtain ⟨a, b, e1, e2, hc⟩ := hbase name hn
      exact .inl ⟨a, b, e1, e2, hc.mono hm⟩
    · exact nil_case hnil

theorem FR.length {X : XCtx} (wf : X.WF) {w : Nat} {fA fB : List Frame} (h : FR X w fA fB) :
    fA.length = fB.length := by
  obtain ⟨mfA, mfB, rfl, rfl, h3, h4⟩ := h
  rw [List.length_append, List.length_append, h3.length_eq, wf.baseLen]

structure SR (X : XCtx) (sA sB : St) : Prop where
  heap : HR X.toCtx sA.heap sB.heap
  frames : FR X sB.heap.cells.size sA.frames sB.frames
  ruleRoot : X.allowD = true → OptCellR X.toCtx sB.heap.cells.size sA.ruleRoot sB.ruleRoot
  root : X.trackRoot = true → OptCellR X.toCtx sB.heap.cells.size sA.root sB.root
  out : sA.out = sB.out
  faults : sA.faults = sB.faults

/-- `w0` = number of cells of run B at the start -/
def RR (X : XCtx) {α : Type} (VR : Nat → α → α → Prop) (w0 : Nat) : Res α → Res α → Prop
  | .oof, _ => True
  | .ok _ _, .oof => True
  | .err _ _, .oof => True
  | .ok a sA, .ok b sB => w0 ≤ sB.heap.cells.size ∧ VR sB.heap.cells.size a b ∧ SR X sA sB
  | .err eA sA, .err eB sB =>
    w0 ≤ sB.heap.cells.size ∧ eA = eB ∧ SR X sA sB ∧
      (eA = .sig .ret → OptCellR X.toCtx sB.heap.cells.size sA.returnVal sB.returnVal)
  | .ok _ _, .err _ _ => False
  | .err _ _, .ok _ _ => False

theorem RR.oofR (X : XCtx) {α : Type} (VR : Nat → α → α → Prop) (w0 : Nat) (r : Res α) :
    RR X VR w0 r .oof := by cases r <;> trivial

@[elab_as_elim]
theorem RR.byCases {X : XCtx} {α : Type} {VR : Nat → α → α → Prop} {w0 : Nat} {M : Res α → Res α → Prop}
    {rA rB : Res α} (h : RR X VR w0 rA rB) (oofA : ∀ r, M .oof r) (oofB : ∀ r, M r .oof)
    (ok : ∀ a sA b sB, w0 ≤ sB.heap.cells.size → VR sB.heap.cells.size a b → SR X sA sB →
      M (.ok a sA) (.ok b sB))
    (err : ∀ e sA sB, w0 ≤ sB.heap.cells.size → SR X sA sB →
      (e = .sig .ret → OptCellR X.toCtx sB.heap.cells.size sA.returnVal sB.returnVal) →
      M (.err e sA) (.err e sB)) : M rA rB := by
  cases rA with
  | oof => exact oofA _
  | ok a sA =>
    cases rB with
    | oof => exact oofB _
    | ok b sB => exact ok _ _ _ _ h.1 h.2.1 h.2.2
    | err _ _ => exact False.elim h
  | err e sA =>
    cases rB with
    | oof => exact oofB _
    | ok _ _ => exact False.elim h
    | err e' sB =>
      obtain ⟨h1, rfl, h3, h4⟩ := h
      exact err _ _ _ h1 h3 h4

theorem RR.weaken {X : XCtx} {α : Type} {VR : Nat → α → α → Prop} {w0 w1 : Nat} {rA rB : Res α}
    (h : RR X VR w1 rA rB) (hw : w0 ≤ w1) : RR X VR w0 rA rB :=
  h.byCases (fun _ => trivial) (fun _ => RR.oofR ..) (fun _ _ _ _ h1 h2 h3 => ⟨Nat.le_trans hw h1, h2, h3⟩)
    (fun _ _ _ h1 h3 h4 => ⟨Nat.le_trans hw h1, rfl, h3, h4⟩)

def SimW (X : XCtx) (w : Nat) {α : Type} (VR : Nat → α → α → Prop) (mA mB : EM α) : Prop :=
  ∀ sA sB, SR X sA sB → w ≤ sB.heap.cells.size → RR X VR sB.heap.cells.size (mA sA) (mB sB)

class MonoR {α : Type} (VR : Nat → α → α → Prop) : Prop where
  mono : ∀ {w w' : Nat} {a b : α}, VR w a b → w ≤ w' → VR w' a b

instance {K : Ctx} : MonoR (CellR K) := ⟨CellR.mono⟩
instance {K : Ctx} : MonoR (ValR K) := ⟨ValR.mono⟩
instance {K : Ctx} : MonoR (OptCellR K) := ⟨OptCellR.mono⟩
instance {K : Ctx} : MonoR (ListCellR K) := ⟨ListCellR.mono⟩
instance {K : Ctx} : MonoR (MemR K) := ⟨MemR.mono⟩
instance {K : Ctx} : MonoR (ListValR K) := ⟨ListValR.mono⟩
instance {K : Ctx} : MonoR (OptValR K) := ⟨OptValR.mono⟩
instance {α : Type} : MonoR (EqR (α := α)) := ⟨fun h _ => h⟩

variable {X : XCtx}

theorem SimW.mono {α : Type} {VR : Nat → α → α → Prop} {w w' : Nat} {mA mB : EM α}
    (h : SimW X w VR mA mB) (hw : w ≤ w') : SimW X w' VR mA mB :=
  fun sA sB hs hw' => h sA sB hs (Nat.le_trans hw hw')

theorem SimW.conseq {α : Type} {VR VR' : Nat → α → α → Prop} {w : Nat} {mA mB : EM α}
    (h : SimW X w VR mA mB) (hv : ∀ w' a b, w ≤ w' → VR w' a b → VR' w' a b) : SimW X w VR' mA mB := by
  intro sA sB hs hw
  exact (h sA sB hs hw).byCases (fun _ => trivial) (fun _ => RR.oofR ..)
    (fun _ _ _ _ h1 h2 h3 => ⟨h1, hv _ _ _ (Nat.le_trans hw h1) h2, h3⟩)
    (fun _ _ _ h1 h3 h4 => ⟨h1, rfl, h3, h4⟩)

theorem SimW.bind {α β : Type} {VR1 : Nat → α → α → Prop} {VR2 : Nat → β → β → Prop} {w : Nat}
    {mA mB : EM α} {fA fB : α → EM β} (hm : SimW X w VR1 mA mB)
    (hf : ∀ w' a b, w ≤ w' → VR1 w' a b → SimW X w' VR2 (fA a) (fB b)) :
    SimW X w VR2 (mA >>= fA) (mB >>= fB) := by
  intro sA sB hs hw
  show RR X VR2 _ (EM.bind mA fA sA) (EM.bind mB fB sB)
  unfold EM.bind
  exact (hm sA sB hs hw).byCases (fun _ => trivial) (fun _ => RR.oofR ..)
    (fun a sA1 b sB1 h1 h2 h3 => (hf _ a b (Nat.le_trans hw h1) h2 sA1 sB1 h3 (Nat.le_refl _)).weaken h1)
    (fun _ _ _ h1 h3 h4 => ⟨h1, rfl, h3, h4⟩)

theorem SimW.pure {α : Type} {VR : Nat → α → α → Prop} [MonoR VR] {w w0 : Nat} {a b : α}
    (h : VR w0 a b) (hw : w0 ≤ w) : SimW X w VR (Pure.pure a : EM α) (Pure.pure b) := by
  intro sA sB hs hw'
  exact ⟨Nat.le_refl _, MonoR.mono h (Nat.le_trans hw hw'), hs⟩

/-- a result related in every world (no `MonoR` needed) -/
theorem SimW.pureAll {α : Type} {VR : Nat → α → α → Prop} {w : Nat} {a b : α} (h : ∀ w', VR w' a b) :
    SimW X w VR (Pure.pure a : EM α) (Pure.pure b) :=
  fun _ _ hs _ => ⟨Nat.le_refl _, h _, hs⟩

theorem SimW.same {α : Type} {w : Nat} (a : α) : SimW X w EqR (Pure.pure a : EM α) (Pure.pure a) :=
  SimW.pureAll fun _ => rfl

theorem SimW.oof {α : Type} {VR : Nat → α → α → Prop} {w : Nat} {mB : EM α} :
    SimW X w VR (Jqawk.oof : EM α) mB := fun _ _ _ _ => trivial

theorem SimW.oofR {α : Type} {VR : Nat → α → α → Prop} {w : Nat} {mA : EM α} :
    SimW X w VR mA (Jqawk.oof : EM α) := fun _ _ _ _ => RR.oofR ..

theorem SimW.getHeap_bind {α : Type} {VR : Nat → α → α → Prop} {w : Nat} {fA fB : Heap → EM α}
    (h : ∀ hA hB, HR X.toCtx hA hB → w ≤ hB.cells.size → SimW X hB.cells.size VR (fA hA) (fB hB)) :
    SimW X w VR (getHeap >>= fA) (getHeap >>= fB) :=
  fun sA sB hs hw => h sA.heap sB.heap hs.heap hw sA sB hs (Nat.le_refl _)

theorem SimW.getSt_bind {α : Type} {VR : Nat → α → α → Prop} {w : Nat} {fA fB : St → EM α}
    (h : ∀ sA sB, SR X sA sB → w ≤ sB.heap.cells.size → SimW X sB.heap.cells.size VR (fA sA) (fB sB)) :
    SimW X w VR (getSt >>= fA) (getSt >>= fB) :=
  fun sA sB hs hw => h sA sB hs hw sA sB hs (Nat.le_refl _)

theorem SimW.throwRt {α : Type} {VR : Nat → α → α → Prop} {w : Nat} (p : Nat) (m : String) :
    SimW X w VR (Jqawk.throwRt p m : EM α) (Jqawk.throwRt p m) := by
  intro sA sB hs hw
  refine ⟨Nat.le_refl _, rfl, { hs with faults := ?_ }, fun h => by cases h⟩
  show sA.faults + 1 = sB.faults + 1
  rw [hs.faults]

theorem SimW.throwSig {α : Type} {VR : Nat → α → α → Prop} {w : Nat} (g : Sig) (hg : g ≠ .ret) :
    SimW X w VR (Jqawk.throwSig g : EM α) (Jqawk.throwSig g) := by
  intro sA sB hs hw
  exact ⟨Nat.le_refl _, rfl, hs, fun h => by cases h; exact absurd rfl hg⟩

theorem SimW.throwPanic {α : Type} {VR : Nat → α → α → Prop} {w : Nat} (m : String) :
    SimW X w VR (Jqawk.throwPanic m : EM α) (Jqawk.throwPanic m) := by
  intro sA sB hs hw
  exact ⟨Nat.le_refl _, rfl, hs, fun h => by cases h⟩

theorem SimW.throwUnmodelled {α : Type} {VR : Nat → α → α → Prop} {w : Nat} (m : String) :
    SimW X w VR (Jqawk.throwUnmodelled m : EM α) (Jqawk.throwUnmodelled m) := by
  intro sA sB hs hw
  exact ⟨Nat.le_refl _, rfl, hs, fun h => by cases h⟩

theorem SimW.ret {α : Type} {VR : Nat → α → α → Prop} {w w0 : Nat} {ca cb : Option CellId}
    (h : OptCellR X.toCtx w0 ca cb) (hw0 : w0 ≤ w) :
    SimW X w VR
      (modifySt (fun s => { s with returnVal := ca }) >>= fun _ => (Jqawk.throwSig .ret : EM α))
      (modifySt (fun s => { s with returnVal := cb }) >>= fun _ => (Jqawk.throwSig .ret : EM α)) := by
  intro sA sB hs hw
  exact ⟨Nat.le_refl _, rfl, { hs with },
    fun _ => h.mono (Nat.le_trans hw0 hw)⟩

theorem SimW.liftExcept {α : Type} {VR : Nat → α → α → Prop} [MonoR VR] {w w0 : Nat} (p : Nat)
    {ea eb : Except String α}
    (h : match ea, eb with
      | .ok a, .ok b => VR w0 a b
      | .error m, .error m' => m = m'
      | _, _ => False) (hw : w0 ≤ w) :
    SimW X w VR (Jqawk.liftExcept p ea) (Jqawk.liftExcept p eb) := by
  cases ea <;> cases eb <;> simp only at h
  · subst h; exact SimW.throwRt _ _
  · exact SimW.pure h hw

theorem SR.withHeap {sA sB : St} (hs : SR X sA sB) {hA hB : Heap} (r : HR X.toCtx hA hB)
    (hle : sB.heap.cells.size ≤ hB.cells.size) :
    SR X { sA with heap := hA } { sB with heap := hB } :=
  ⟨r, hs.frames.mono hle, fun h => (hs.ruleRoot h).mono hle, fun h => (hs.root h).mono hle, hs.out, hs.faults⟩

theorem SimW.newCell (wf : X.WF) {w w0 : Nat} {va vb : Val} (hv : ValR X.toCtx w0 va vb) (hw0 : w0 ≤ w) :
    SimW X w (CellR X.toCtx) (Jqawk.newCell va) (Jqawk.newCell vb) := by
  intro sA sB hs hw
  obtain ⟨r1, c1⟩ := hs.heap.alloc wf.core hv (Nat.le_trans hw0 hw)
  refine ⟨?_, ?_, hs.withHeap r1 ?_⟩
  · show sB.heap.cells.size ≤ (sB.heap.alloc vb).2.cells.size
    rw [Heap.size_alloc]; exact Nat.le_succ _
  · show CellR X.toCtx (sB.heap.alloc vb).2.cells.size _ _
    rw [Heap.size_alloc]; exact c1
  · show sB.heap.cells.size ≤ (sB.heap.alloc vb).2.cells.size
    rw [Heap.size_alloc]; exact Nat.le_succ _

theorem SimW.newScalar (wf : X.WF) {w : Nat} {v : Val} (hv : Scalar v := by trivial) :
    SimW X w (CellR X.toCtx) (Jqawk.newCell v) (Jqawk.newCell v) :=
  SimW.newCell wf (ValR.scalar 0 hv) (Nat.zero_le _)

theorem SimW.readCell {w w0 : Nat} {a b : CellId} (h : CellR X.toCtx w0 a b) (hw0 : w0 ≤ w) :
    SimW X w (ValR X.toCtx) (Jqawk.readCell a) (Jqawk.readCell b) := by
  intro sA sB hs hw
  exact ⟨Nat.le_refl _, hs.heap.get h (Nat.le_trans hw0 hw), hs⟩

theorem SimW.readCell_bind {α : Type} {VR : Nat → α → α → Prop} {w w0 : Nat} {a b : CellId}
    (h : CellR X.toCtx w0 a b) (hw0 : w0 ≤ w) {fA fB : Val → EM α}
    (hf : ∀ w' va vb, w ≤ w' → ValR X.toCtx w' va vb → SimW X w' VR (fA va) (fB vb)) :
    SimW X w VR (Jqawk.readCell a >>= fA) (Jqawk.readCell b >>= fB) :=
  SimW.bind (SimW.readCell h hw0) hf

theorem SimW.writeCell (wf : X.WF) {w w0 w1 : Nat} {a b : CellId} (h : CellR X.toCtx w0 a b) (hw0 : w0 ≤ w)
    {va vb : Val} (hv : ValR X.toCtx w1 va vb) (hw1 : w1 ≤ w) :
    SimW X w EqR (Jqawk.writeCell a va) (Jqawk.writeCell b vb) := by
  intro sA sB hs hw
  have r1 := hs.heap.set wf.core h (Nat.le_trans hw0 hw) hv (Nat.le_trans hw1 hw)
  refine ⟨?_, rfl, hs.withHeap r1 ?_⟩
  · show sB.heap.cells.size ≤ (sB.heap.set b vb).cells.size
    rw [Heap.size_set]; exact Nat.le_refl _
  · rw [Heap.size_set]; exact Nat.le_refl _


/-- ids of arrays / objects: the same in both runs, and live -/
def IdR (lo : Nat) (_ : Nat) (a b : Nat) : Prop := a = b ∧ lo ≤ b
instance {lo : Nat} : MonoR (IdR lo) := ⟨fun h _ => h⟩

def ExR {α : Type} (VR : Nat → α → α → Prop) (w : Nat) : Except String α → Except String α → Prop
  | .ok a, .ok b => VR w a b
  | .error m, .error m' => m = m'
  | _, _ => False

instance {α : Type} {VR : Nat → α → α → Prop} [MonoR VR] : MonoR (ExR VR) :=
  ⟨fun {w w' a b} h hw => by
    cases a <;> cases b <;> first | exact h | exact MonoR.mono (VR := VR) h hw⟩

@[elab_as_elim]
theorem ExR.byCases {α : Type} {VR : Nat → α → α → Prop} {w : Nat} {M : Except String α → Except String α → Prop}
    {ra rb : Except String α} (h : ExR VR w ra rb) (error : ∀ m, M (.error m) (.error m))
    (ok : ∀ a b, VR w a b → M (.ok a) (.ok b)) : M ra rb := by
  cases ra <;> cases rb <;> first | exact h ▸ error _ | exact ok _ _ h | exact False.elim h

theorem SimW.exResult {β : Type} {VR : Nat → β → β → Prop} {w : Nat} {ra rb : Except String CellId}
    (hr : ExR (CellR X.toCtx) w ra rb) (pos : Nat) {kA kB : CellId → EM β}
    (hk : ∀ a b, CellR X.toCtx w a b → SimW X w VR (kA a) (kB b)) :
    SimW X w VR
      (match (generalizing := false) ra with | .error m => Jqawk.throwRt pos m | .ok c => kA c)
      (match (generalizing := false) rb with | .error m => Jqawk.throwRt pos m | .ok c => kB c) :=
  hr.byCases (fun _ => SimW.throwRt _ _) hk

theorem SimW.allocArrM {w w0 : Nat} {xa xb : Array CellId} (hx : ArrR X.toCtx w0 xa xb)
    (hw0 : w0 ≤ w) : SimW X w (IdR X.a0) (Jqawk.allocArrM xa) (Jqawk.allocArrM xb) := by
  intro sA sB hs hw
  obtain ⟨r1, e1, e2⟩ := hs.heap.allocArr hx (Nat.le_trans hw0 hw)
  exact ⟨Nat.le_refl _, ⟨e1, e2⟩, hs.withHeap r1 (Nat.le_refl _)⟩

theorem SimW.allocObjM {w w0 : Nat} {xa xb : List (Bytes × CellId)}
    (hx : MemR X.toCtx w0 xa xb) (hw0 : w0 ≤ w) :
    SimW X w (IdR X.o0) (Jqawk.allocObjM xa) (Jqawk.allocObjM xb) := by
  intro sA sB hs hw
  obtain ⟨r1, e1, e2⟩ := hs.heap.allocObj hx (Nat.le_trans hw0 hw)
  exact ⟨Nat.le_refl _, ⟨e1, e2⟩, hs.withHeap r1 (Nat.le_refl _)⟩

/-- a new array, and what is done with it as a value -/
theorem SimW.allocArr_bind {β : Type} {VR : Nat → β → β → Prop} {w w0 : Nat} {xa xb : Array CellId}
    (hx : ArrR X.toCtx w0 xa xb) (hw0 : w0 ≤ w) {kA kB : ArrId → EM β}
    (hk : ∀ w' a, w ≤ w' → ValR X.toCtx w' (.arr a) (.arr a) → SimW X w' VR (kA a) (kB a)) :
    SimW X w VR (Jqawk.allocArrM xa >>= kA) (Jqawk.allocArrM xb >>= kB) :=
  SimW.bind (SimW.allocArrM hx hw0) (fun w' _ a hw' ha => ha.1 ▸ hk w' a hw' ⟨rfl, ha.2⟩)

theorem SimW.allocObj_bind {β : Type} {VR : Nat → β → β → Prop} {w w0 : Nat} {xa xb : List (Bytes × CellId)}
    (hx : MemR X.toCtx w0 xa xb) (hw0 : w0 ≤ w) {kA kB : ObjId → EM β}
    (hk : ∀ w' o, w ≤ w' → ValR X.toCtx w' (.obj o) (.obj o) → SimW X w' VR (kA o) (kB o)) :
    SimW X w VR (Jqawk.allocObjM xa >>= kA) (Jqawk.allocObjM xb >>= kB) :=
  SimW.bind (SimW.allocObjM hx hw0) (fun w' _ o hw' ho => ho.1 ▸ hk w' o hw' ⟨rfl, ho.2⟩)

theorem SimW.emit {w : Nat} (b : Bytes) : SimW X w EqR (Jqawk.emit b) (Jqawk.emit b) := by
  intro sA sB hs hw
  refine ⟨Nat.le_refl _, rfl, { hs with out := ?_ }⟩
  show b :: sA.out = b :: sB.out
  rw [hs.out]

theorem SimW.setLocal (hcb : X.canBind) {w w0 : Nat} (name : Bytes) {a b : CellId}
    (h : CellR X.toCtx w0 a b) (hw0 : w0 ≤ w) :
    SimW X w EqR (Jqawk.setLocal name a) (Jqawk.setLocal name b) := by
  intro sA sB hs hw
  obtain ⟨mfA, mfB, eA, eB, h3, h4⟩ := hs.frames
  unfold Jqawk.setLocal
  cases h3 with
  | nil =>
    rcases hcb with hi | ⟨bA, bB⟩
    · exact absurd rfl (h4 hi)
    · have fA : sA.frames = [] := by rw [eA, bA]; rfl
      have fB : sB.frames = [] := by rw [eB, bB]; rfl
      simp only [fA, fB]
      exact ⟨Nat.le_refl _, rfl, hs, fun h => by cases h⟩
  | @cons f g fs gs h1 h2 =>
    simp only [eA, eB, List.cons_append]
    refine ⟨Nat.le_refl _, rfl, { hs with frames := ?_ }⟩
    refine ⟨_ :: fs, _ :: gs, rfl, rfl, F2.cons ?_ h2, fun _ => by simp⟩
    exact MemR.objInsert h1 name (h.mono (Nat.le_trans hw0 hw))

theorem SimW.getVariable (wf : X.WF) {w : Nat} (name : Bytes)
    (hn : X.allow name = true ∨ (X.baseA = [] ∧ X.baseB = [])) :
    SimW X w (ExR (CellR X.toCtx)) (Jqawk.getVariable name) (Jqawk.getVariable name) := by
  unfold Jqawk.getVariable
  apply SimW.getSt_bind
  intro sA sB hs hw
  rcases hs.frames.lookup wf hs.heap.mle name hn with ⟨a, b, e1, e2, hc⟩ | ⟨e1, e2, bA, bB⟩
  · rw [e1, e2]
    exact SimW.pure (VR := ExR (CellR X.toCtx)) (a := .ok a) (b := .ok b) hc (Nat.le_refl _)
  · rw [e1, e2]
    dsimp only
    split
    · exact SimW.pureAll fun _ => rfl
    · refine SimW.bind (SimW.newScalar wf) (fun w1 ca cb hw1 hc => ?_)
      refine SimW.bind (SimW.setLocal (.inr ⟨bA, bB⟩) name hc (Nat.le_refl _)) (fun w2 _ _ hw2 _ => ?_)
      exact SimW.pure (VR := ExR (CellR X.toCtx)) (a := .ok ca) (b := .ok cb) hc hw2

theorem SimW.bindAll (hcb : X.canBind) {w w0 : Nat} {la lb : List (Bytes × CellId)}
    (h : MemR X.toCtx w0 la lb) (hw0 : w0 ≤ w) : SimW X w EqR (Jqawk.bindAll la) (Jqawk.bindAll lb) := by
  obtain ⟨rfl, hl⟩ := h
  induction lb generalizing w with
  | nil => exact SimW.same _
  | cons kc rest ih =>
    obtain ⟨k, c⟩ := kc
    simp only [renM, List.map_cons, Jqawk.bindAll]
    refine SimW.bind (SimW.setLocal hcb k ⟨rfl, hl (k, c) (List.mem_cons_self ..)⟩ hw0) (fun w1 _ _ hw1 _ => ?_)
    exact ih (Nat.le_trans hw0 hw1) (fun x hx => hl x (List.mem_cons_of_mem _ hx))

theorem SimW.bindParams (wf : X.WF) (hcb : X.canBind) {w w0 : Nat} (ps : List Bytes) {va vb : List Val}
    (h : ListValR X.toCtx w0 va vb) (hw0 : w0 ≤ w) :
    SimW X w EqR (Jqawk.bindParams ps va) (Jqawk.bindParams ps vb) := by
  obtain ⟨rfl, hl⟩ := h
  induction ps generalizing w vb with
  | nil => exact SimW.same _
  | cons p ps ih =>
    cases vb with
    | nil =>
      simp only [List.map_nil, Jqawk.bindParams]
      refine SimW.bind (SimW.newScalar wf) (fun w1 ca cb hw1 hc => ?_)
      refine SimW.bind (SimW.setLocal hcb p hc (Nat.le_refl _)) (fun w2 _ _ hw2 _ => ?_)
      exact ih (vb := []) (Nat.le_trans hw0 (Nat.le_trans hw1 hw2)) (fun x hx => by cases hx)
    | cons v vs =>
      simp only [List.map_cons, Jqawk.bindParams]
      refine SimW.bind (SimW.newCell wf ⟨rfl, hl v (List.mem_cons_self ..)⟩ hw0) (fun w1 ca cb hw1 hc => ?_)
      refine SimW.bind (SimW.setLocal hcb p hc (Nat.le_refl _)) (fun w2 _ _ hw2 _ => ?_)
      exact ih (vb := vs) (Nat.le_trans hw0 (Nat.le_trans hw1 hw2))
        (fun x hx => hl x (List.mem_cons_of_mem _ hx))

theorem SimW.copyValue (wf : X.WF) {w w0 w1 : Nat} {sa sb da db : CellId} (hs : CellR X.toCtx w0 sa sb)
    (hw0 : w0 ≤ w) (hd : CellR X.toCtx w1 da db) (hw1 : w1 ≤ w) :
    SimW X w (ExR (CellR X.toCtx)) (Jqawk.copyValue sa da) (Jqawk.copyValue sb db) := by
  unfold Jqawk.copyValue
  refine SimW.readCell_bind hs hw0 (fun w2 va vb hw2 hv => ?_)
  rw [hv.1, copyVal_renV]
  cases hcv : copyVal vb with
  | error m =>
    exact SimW.pureAll fun _ => rfl
  | ok x =>
    dsimp only
    have hx : ValR X.toCtx w2 x x := ValR.of_plain (copyVal_plain hcv) (copyVal_live hcv hv.2)
    refine SimW.bind (SimW.writeCell wf hd (Nat.le_trans hw1 hw2) hx (Nat.le_refl _)) (fun w3 _ _ hw3 _ => ?_)
    exact SimW.pure (VR := ExR (CellR X.toCtx)) (a := .ok da) (b := .ok db) hd
      (Nat.le_trans hw1 (Nat.le_trans hw2 hw3))

theorem SimW.framed (wf : X.WF) {α : Type} {VR : Nat → α → α → Prop} {w : Nat} (name : Bytes) (pos : Nat)
    {bodyA bodyB : EM α} (hb : SimW X.enter w VR bodyA bodyB) :
    SimW X w VR (Jqawk.framed name pos bodyA) (Jqawk.framed name pos bodyB) := by
  intro sA sB hs hw
  have hlen := hs.frames.length wf
  rw [framed_eq, framed_eq]
  by_cases hd : sB.frames.length > callDepthLimit
  · rw [if_pos hd, if_pos (hlen ▸ hd)]
    exact SimW.throwRt pos _ sA sB hs hw
  · rw [if_neg hd, if_neg (hlen ▸ hd)]
    unfold Jqawk.withFrames
    obtain ⟨mfA, mfB, eA, eB, h3, h4⟩ := hs.frames
    have hs' : SR X.enter
        { sA with frames := ⟨name, []⟩ :: sA.frames, maxDepth := max sA.maxDepth (sA.frames.length + 1) }
        { sB with frames := ⟨name, []⟩ :: sB.frames, maxDepth := max sB.maxDepth (sB.frames.length + 1) } := by
      refine { hs with frames := ?_ }
      refine ⟨⟨name, []⟩ :: mfA, ⟨name, []⟩ :: mfB, ?_, ?_, F2.cons (MemR.nil _) h3, fun _ => by simp⟩
      · show _ :: sA.frames = _; rw [eA]; rfl
      · show _ :: sB.frames = _; rw [eB]; rfl
    have fix : ∀ (s1A s1B : St), SR X.enter s1A s1B → sB.heap.cells.size ≤ s1B.heap.cells.size →
        SR X { s1A with frames := sA.frames } { s1B with frames := sB.frames } := by
      intro s1A s1B h hle
      exact ⟨h.heap, hs.frames.mono hle, h.ruleRoot, h.root, h.out, h.faults⟩
    exact (hb _ _ hs' hw).byCases (fun _ => trivial) (fun _ => RR.oofR ..)
      (fun _ _ _ _ h1 h2 h3 => ⟨h1, h2, fix _ _ h3 h1⟩) (fun _ _ _ h1 h3 h4 => ⟨h1, rfl, fix _ _ h3 h1, h4⟩)

theorem SimW.loopIter {w : Nat} {bodyA bodyB kA kB : EM Unit} (hb : SimW X w EqR bodyA bodyB)
    (hk : SimW X w EqR kA kB) : SimW X w EqR (Jqawk.loopIter bodyA kA) (Jqawk.loopIter bodyB kB) := by
  intro sA sB hs hw
  unfold Jqawk.loopIter
  refine (hb sA sB hs hw).byCases (fun _ => trivial) (fun _ => RR.oofR ..)
    (fun _ sA1 _ sB1 h1 _ h3 => (hk sA1 sB1 h3 (Nat.le_trans hw h1)).weaken h1) (fun e sA1 sB1 h1 h3 h4 => ?_)
  cases e with
  | sig g =>
    cases g with
    | brk => exact ⟨h1, rfl, h3⟩
    | cont => exact (hk sA1 sB1 h3 (Nat.le_trans hw h1)).weaken h1
    | _ => exact ⟨h1, rfl, h3, h4⟩
  | _ => exact ⟨h1, rfl, h3, h4⟩

theorem SimW.catchReturn {w : Nat} {bodyA bodyB : EM Unit} (hb : SimW X w EqR bodyA bodyB) :
    SimW X w (ValR X.toCtx) (Jqawk.catchReturn bodyA) (Jqawk.catchReturn bodyB) := by
  intro sA sB hs hw
  unfold Jqawk.catchReturn
  refine (hb sA sB hs hw).byCases (fun _ => trivial) (fun _ => RR.oofR ..)
    (fun _ _ _ _ h1 _ h3 => ⟨h1, ValR.scalar _, h3⟩) (fun e sA1 sB1 h1 h3 h4 => ?_)
  cases e with
  | sig g =>
    cases g with
    | ret =>
      -- the return slot holds corresponding cells
      exact ⟨h1, (h4 rfl).byCases (ValR.scalar _) (fun _ _ hr => h3.heap.get hr (Nat.le_refl _)), h3⟩
    | _ => exact ⟨h1, rfl, h3, fun h => nomatch h⟩
  | _ => exact ⟨h1, rfl, h3, h4⟩

theorem SimW.catchSig {α : Type} {VR : Nat → α → α → Prop} {w : Nat} (g : Sig) {dA dB : α}
    (hd : ∀ w', VR w' dA dB) {mA mB : EM α} (hm : SimW X w VR mA mB) :
    SimW X w VR (Jqawk.catchSig g dA mA) (Jqawk.catchSig g dB mB) := by
  intro sA sB hs hw
  unfold Jqawk.catchSig
  refine (hm sA sB hs hw).byCases (fun _ => trivial) (fun _ => RR.oofR ..) (fun _ _ _ _ h1 h2 h3 => ⟨h1, h2, h3⟩)
    (fun e sA1 sB1 h1 h3 h4 => ?_)
  cases e with
  | sig g' =>
    dsimp only
    split
    · exact ⟨h1, hd _, h3⟩
    · exact ⟨h1, rfl, h3, h4⟩
  | _ => exact ⟨h1, rfl, h3, h4⟩

end Sel
end Jqawk
