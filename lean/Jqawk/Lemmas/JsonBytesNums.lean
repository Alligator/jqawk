import Jqawk.Lemmas.JsonBytesBuilt
/-!
  Every number literal in a tree the decoder returns satisfies `NumLit` (it is grammatical and
  `numOk` accepted it — otherwise the decoder answers with an error).
-/
namespace Jqawk.JsonBytes
open Jqawk Jqawk.Json

theorem numLit_mono {g g' : Bytes → Bool} (h : ∀ l, g l = true → g' l = true) (lit : Bytes)
    (hl : NumLit g lit) : NumLit g' lit := by
  rw [numLit_iff] at hl ⊢
  exact ⟨hl.1, h lit hl.2⟩

mutual
theorem numsOK_mono {g g' : Bytes → Bool} (h : ∀ l, g l = true → g' l = true) :
    ∀ (j : JVal), NumsOK g j → NumsOK g' j
  | .null, _ => trivial
  | .bool _, _ => trivial
  | .str _, _ => trivial
  | .num lit, hl => numLit_mono h lit hl
  | .arr xs, hl => numsOKList_mono h xs hl
  | .obj ms, hl => numsOKMembers_mono h ms hl
theorem numsOKList_mono {g g' : Bytes → Bool} (h : ∀ l, g l = true → g' l = true) :
    ∀ (xs : List JVal), NumsOKList g xs → NumsOKList g' xs
  | [], _ => trivial
  | x :: xs, hl => ⟨numsOK_mono h x hl.1, numsOKList_mono h xs hl.2⟩
theorem numsOKMembers_mono {g g' : Bytes → Bool} (h : ∀ l, g l = true → g' l = true) :
    ∀ (ms : List (Bytes × JVal)), NumsOKMembers g ms → NumsOKMembers g' ms
  | [], _ => trivial
  | (_, v) :: ms, hl => ⟨numsOK_mono h v hl.1, numsOKMembers_mono h ms hl.2⟩
end

theorem Built.numsOK {f : Bytes → Bool} {n : Nat} {v : JVal} (h : Built f n v) : NumsOK f v := by
  induction h with
  | num _ hg ha => exact (numLit_iff f _).2 ⟨hg, ha⟩
  | arr _ _ ih => exact (numsOKList_iff f _).2 ih
  | obj _ _ _ _ ih => exact (numsOKMembers_iff f _).2 ih
  | _ => trivial

theorem decodeOne_numsOK (f : Bytes → Bool) (inp : Bytes) (t : Tail) (v : JVal) (rest : Bytes)
    (h : decodeOne f inp t = .value v rest) : NumsOK f v :=
  (decodeOne_built f inp t v rest h).numsOK

end Jqawk.JsonBytes
