/-
  Two facts about parser programs that several invariant files use: a `>>=` whose first part is
  known runs on with its second part, and the case analysis for the one `match` of the parser
  that `split` does not reach directly (the dispatch between the two `for` forms in
  `Parser.statement`).
-/
import Jqawk.Model.Parser

namespace Jqawk

theorem P.bind_eq_of_pure {α β : Type} (m : P α) (f : α → P β) (ps : PS) (a : α) (ps' : PS)
    (h : m ps = .pure (a, ps')) : (m >>= f) ps = f a ps' := by
  show (m ps).bind _ = _
  rw [h]; rfl

theorem P.bind_eq_of_fail {α β : Type} (m : P α) (f : α → P β) (ps : PS) (e : SynErr)
    (h : m ps = .fail e) : (m >>= f) ps = .fail e := by
  show (m ps).bind _ = _
  rw [h]; rfl

/-- After `for ( pre`, `statement` parses a for-in loop only if `pre` is an identifier and the flag
    (the next token is `in` or `,`) holds; in every other case it parses a three-part loop.
    Stated for the matcher itself so that the three-part branch is visited once, not once per
    constructor of `Expr`. -/
theorem Parser.statement.match_1_cases {α : Type} {C : α → Prop} {pre : Expr} {fl : Bool}
    {A : Token → α} {B : Expr → Bool → α}
    (hA : ∀ id, pre = .ident id → fl = true → C (A id)) (hB : C (B pre fl)) :
    C (Parser.statement.match_1 (fun _ _ => α) pre fl A B) := by
  cases pre <;> cases fl <;> first | exact hB | exact hA _ rfl rfl

end Jqawk
