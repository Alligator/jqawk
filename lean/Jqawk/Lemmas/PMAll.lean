/-
  A unary predicate on parser programs: "every successful leaf satisfies `P`", with the
  weakest-precondition style rules for the state-passing layer `P = StateT PS PM`.
  `PM.All P m` quantifies over all lexer answers; `PM.AllR R P m` only over the `regex` answers
  that satisfy `R` (the real lexer only answers `regex` requests with tokens of tag `regex`).
-/
import Jqawk.Lemmas.PM
import Jqawk.Lemmas.Ite

namespace Jqawk

namespace PM

def All {α : Type} (P : α → Prop) : PM α → Prop
  | .pure a => P a
  | .fail _ => True
  | .oof => True
  | .next k => ∀ t nl, All P (k t nl)
  | .regex k => ∀ t, All P (k t)

def AllR {α : Type} (R : Token → Prop) (P : α → Prop) : PM α → Prop
  | .pure a => P a
  | .fail _ => True
  | .oof => True
  | .next k => ∀ t nl, AllR R P (k t nl)
  | .regex k => ∀ t, R t → AllR R P (k t)

variable {α β : Type} {R : Token → Prop}

theorem all_iff_allR (P : α → Prop) (m : PM α) : All P m ↔ AllR (fun _ => True) P m := by
  induction m with
  | pure a => rfl
  | fail e => rfl
  | oof => rfl
  | next k ih => simp only [All, AllR, ih]
  | regex k ih => simp only [All, AllR, ih, true_imp_iff]

theorem AllR.weaken {R' : Token → Prop} (hR : ∀ t, R' t → R t) {P : α → Prop} {m : PM α}
    (h : AllR R P m) : AllR R' P m := by
  induction m with
  | pure a => exact h
  | fail e => trivial
  | oof => trivial
  | next k ih => exact fun t nl => ih t nl (h t nl)
  | regex k ih => exact fun t ht => ih t (h t (hR t ht))

theorem All.toR {P : α → Prop} {m : PM α} (h : All P m) : AllR R P m :=
  AllR.weaken (fun _ _ => trivial) ((all_iff_allR P m).mp h)

theorem AllR.mono {P Q : α → Prop} {m : PM α} (h : AllR R P m) (hpq : ∀ a, P a → Q a) :
    AllR R Q m := by
  induction m with
  | pure a => exact hpq a h
  | fail e => trivial
  | oof => trivial
  | next k ih => exact fun t nl => ih t nl (h t nl)
  | regex k ih => exact fun t ht => ih t (h t ht)

theorem All.mono {P Q : α → Prop} {m : PM α} (h : All P m) (hpq : ∀ a, P a → Q a) : All Q m := by
  rw [all_iff_allR] at h ⊢; exact h.mono hpq

theorem allR_bind_iff (P : β → Prop) (m : PM α) (f : α → PM β) :
    AllR R P (m.bind f) ↔ AllR R (fun a => AllR R P (f a)) m := by
  induction m with
  | pure a => rfl
  | fail e => rfl
  | oof => rfl
  | next k ih => simp only [PM.bind, AllR, ih]
  | regex k ih => simp only [PM.bind, AllR, ih]

theorem all_bind_iff (P : β → Prop) (m : PM α) (f : α → PM β) :
    All P (m.bind f) ↔ All (fun a => All P (f a)) m := by
  induction m with
  | pure a => rfl
  | fail e => rfl
  | oof => rfl
  | next k ih => simp only [PM.bind, All, ih]
  | regex k ih => simp only [PM.bind, All, ih]

theorem All.bind {Q : α → Prop} {P : β → Prop} {m : PM α} {f : α → PM β}
    (hm : All Q m) (hf : ∀ a, Q a → All P (f a)) : All P (m.bind f) :=
  (all_bind_iff P m f).mpr (hm.mono hf)

theorem AllR.bind {Q : α → Prop} {P : β → Prop} {m : PM α} {f : α → PM β}
    (hm : AllR R Q m) (hf : ∀ a, Q a → AllR R P (f a)) : AllR R P (m.bind f) :=
  (allR_bind_iff P m f).mpr (hm.mono hf)

theorem runWith_all {σ : Type} (src : TokSrc σ) {P : α → Prop} {m : PM α} (h : All P m)
    {s : σ} {a : α} (hr : m.runWith src s = .ok a) : P a := by
  induction m generalizing s with
  | pure b => simp only [runWith, ParseRes.ok.injEq] at hr; subst hr; exact h
  | fail e => cases hr
  | oof => cases hr
  | next k ih =>
    simp only [runWith] at hr
    split at hr
    · cases hr
    · exact ih _ _ (h _ _) hr
  | regex k ih =>
    simp only [runWith] at hr
    split at hr
    · cases hr
    · exact ih _ (h _) hr

theorem run_all {P : α → Prop} {m : PM α} (h : All P m) {s : LexState} {a : α}
    (hr : m.run s = .ok a) : P a := by
  rw [run_eq_runWith] at hr; exact runWith_all _ h hr

theorem runWith_allR {σ : Type} (src : TokSrc σ)
    (hsrc : ∀ s t s', src.regex s = .ok (t, s') → R t) {P : α → Prop} {m : PM α}
    (h : AllR R P m) {s : σ} {a : α} (hr : m.runWith src s = .ok a) : P a := by
  induction m generalizing s with
  | pure b => simp only [runWith, ParseRes.ok.injEq] at hr; subst hr; exact h
  | fail e => cases hr
  | oof => cases hr
  | next k ih =>
    simp only [runWith] at hr
    split at hr
    · cases hr
    · exact ih _ _ (h _ _) hr
  | regex k ih =>
    simp only [runWith] at hr
    split at hr
    · cases hr
    · rename_i t s' heq
      exact ih _ (h _ (hsrc _ _ _ heq)) hr

theorem lexer_regex_tag (s : LexState) (t : Token) (s' : LexState)
    (h : lexerSrc.regex s = .ok (t, s')) : t.tag = .regex := by
  simp only [lexerSrc, Lexer.regex] at h
  split at h
  · cases h
  · simp only [Except.ok.injEq, Prod.mk.injEq] at h
    rw [← h.1]

theorem run_allR {P : α → Prop} {m : PM α} (h : AllR (fun t => t.tag = .regex) P m)
    {s : LexState} {a : α} (hr : m.run s = .ok a) : P a := by
  rw [run_eq_runWith] at hr; exact runWith_allR _ lexer_regex_tag h hr

end PM

/-! One rule per action of `P = StateT PS PM`, each for the action followed by the rest of the
  program (`act >>= f`), so that a proof can follow the program text: the hypothesis of a rule is
  the goal for `f` in the state the action leaves. -/

namespace PAll
open Parser
variable {α : Type} {R : Token → Prop}

theorem get_iff (Q : PS × PS → Prop) (ps : PS) :
    PM.AllR R Q ((get : P PS) ps) ↔ Q (ps, ps) := Iff.rfl

theorem curTag_iff (Q : Tag × PS → Prop) (ps : PS) :
    PM.AllR R Q (curTag ps) ↔ Q (ps.cur.tag, ps) := Iff.rfl

end PAll

namespace PM.AllR
open Parser
variable {α β : Type} {R : Token → Prop} {Q : β × PS → Prop} {f : α → P β} {ps : PS}

theorem seq {m : Jqawk.P α} (h : AllR R (fun r => AllR R Q (f r.1 r.2)) (m ps)) :
    AllR R Q ((m >>= f) ps) := by
  show AllR R Q ((m ps).bind _)
  exact (allR_bind_iff Q (m ps) _).mpr h

theorem after {P : α × PS → Prop} {m : Jqawk.P α} (h : AllR R P (m ps))
    (k : ∀ a ps', P (a, ps') → AllR R Q (f a ps')) : AllR R Q ((m >>= f) ps) :=
  seq (h.mono fun r hr => k r.1 r.2 hr)

theorem ret {Q : α × PS → Prop} {a : α} (h : Q (a, ps)) : AllR R Q ((pure a : Jqawk.P α) ps) := h

theorem failed {Q : α × PS → Prop} {pos : Nat} {msg : String} :
    AllR R Q ((Parser.fail pos msg : Jqawk.P α) ps) := trivial

theorem get {f : PS → Jqawk.P β} (h : AllR R Q (f ps ps)) : AllR R Q ((get >>= f) ps) := seq h

theorem modify {f : Unit → Jqawk.P β} (g : PS → PS) (h : AllR R Q (f () (g ps))) :
    AllR R Q ((modify g >>= f) ps) := seq h

theorem setDidEnd {f : Unit → Jqawk.P β} (b : Bool) (h : AllR R Q (f () { ps with didEnd := b })) :
    AllR R Q ((setDidEnd b >>= f) ps) := seq h

theorem curTag {f : Tag → Jqawk.P β} (h : AllR R Q (f ps.cur.tag ps)) :
    AllR R Q ((curTag >>= f) ps) := seq h

theorem atEnd {f : Bool → Jqawk.P β} (h : AllR R Q (f (ps.cur.tag == .eof) ps)) :
    AllR R Q ((atEnd >>= f) ps) := seq h

theorem advance {f : Unit → Jqawk.P β}
    (h : ∀ {t nl}, AllR R Q (f () { ps with prev := ps.cur, cur := t, didEnd := nl })) :
    AllR R Q ((advance >>= f) ps) := seq fun _ _ => h

theorem consume {f : Unit → Jqawk.P β} (tag : Tag)
    (h : ps.cur.tag = tag → ∀ {t nl},
      AllR R Q (f () { ps with prev := ps.cur, cur := t, didEnd := nl })) :
    AllR R Q ((consume tag >>= f) ps) := by
  refine seq ?_
  show AllR R _ ((if (ps.cur.tag == tag) = true then Parser.advance else _ : Jqawk.P Unit) ps)
  split
  · rename_i hc; exact fun _ _ => h (by simpa using hc)
  · trivial

theorem consumeOf {f : Unit → Jqawk.P β} (tags : List Tag)
    (h : ps.cur.tag ∈ tags → ∀ {t nl},
      AllR R Q (f () { ps with prev := ps.cur, cur := t, didEnd := nl })) :
    AllR R Q ((consumeOf tags >>= f) ps) := by
  refine seq ?_
  show AllR R _ ((if tags.contains ps.cur.tag = true then Parser.advance else _ : Jqawk.P Unit) ps)
  split
  · rename_i hc; exact fun _ _ => h (by simpa using hc)
  · trivial

theorem consumeIgnore {f : Unit → Jqawk.P β} (tag : Tag)
    (h₁ : ∀ {t nl}, AllR R Q (f () { ps with prev := ps.cur, cur := t, didEnd := nl }))
    (h₂ : AllR R Q (f () ps)) : AllR R Q ((consumeIgnore tag >>= f) ps) := by
  refine seq ?_
  show AllR R _ ((if (ps.cur.tag == tag) = true then Parser.advance else pure () : Jqawk.P Unit) ps)
  split
  · exact fun _ _ => h₁
  · exact h₂

theorem atStatementEnd {f : Bool → Jqawk.P β}
    (h : ∀ {b c p d}, AllR R Q (f b { ps with prev := p, cur := c, didEnd := d })) :
    AllR R Q ((atStatementEnd >>= f) ps) := by
  refine seq ?_
  have hq : ∀ b, AllR R Q (f b ps) := fun b => h (b := b) (c := ps.cur) (p := ps.prev) (d := ps.didEnd)
  show AllR R _ ((if ps.didEnd = true then pure true else
    match ps.cur.tag with
    | .rcurly => pure true
    | .semiColon => (do Parser.advance; pure true)
    | _ => pure false : Jqawk.P Bool) ps)
  split
  · exact hq _
  · generalize ps.cur.tag = tg
    cases tg
    case semiColon => exact fun _ _ => h
    all_goals exact hq _

theorem ite {Q : α × PS → Prop} {c : Prop} [Decidable c] {a b : Jqawk.P α}
    (ha : c → AllR R Q (a ps)) (hb : ¬c → AllR R Q (b ps)) :
    AllR R Q ((if c then a else b) ps) :=
  ite_elim (P := fun m : Jqawk.P α => AllR R Q (m ps)) ha hb

theorem regexPrefix {Q : Expr × PS → Prop}
    (h : ∀ {tok}, R tok → ∀ {t nl}, Q (.lit tok, { ps with prev := tok, cur := t, didEnd := nl })) :
    AllR R Q (regexPrefix ps) := fun _ hR _ _ => h hR

end PM.AllR

end Jqawk
