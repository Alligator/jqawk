/-
  `-r E` behaves as `BEGINFILE { $ = E }` (C14): contexts, renaming of values, and the relations
  between values of two runs.

  Two runs of the evaluator are compared whose heaps differ by an injective renaming `σ` of the
  *cell* ids of the second run (run B) into those of the first (run A); array and object ids are
  the same in both runs (the extra cells of run A — the builtins of the nested evaluator, the
  root cell of the selector — are cells only).  From the id `m` on, `σ` is the shift by `d`, so
  cells allocated in lock step correspond automatically.  `D` singles out the cells of run B that
  take part in the relation (everything from `m` on; below `m` it leaves out what the evaluation
  cannot reach: the main program's cells while the selector runs, the detached `$` of ENDFILE
  rules); related values only mention cells of `D` that are allocated ("world" `w` = number of
  cells of run B).

  The files, in import order (`A ← B`: A imports B):

  * `CreateSpec`      `createSpeculative` with its helpers named (also used by `NoPanicEval`).
  * `SelectorForms`   evaluator functions in the form the lemmas below take apart (`memberStep_eq`,
                      `native_cases`, `forInLoop_eq`, …); no relation, no invariant.
  two runs related by a renaming:
  * `SelectorRen`     this file: `Ctx`, `renV`, `LiveV`, `ValR` and its liftings.
  * `SelectorHeap`    ← Ren: `HR` between two heaps (with the frozen part `Froz`), kept by every
                      heap operation, by `getMember` and `setMember`.
  * `SelectorRender`  ← Heap: `pretty` and `toJVal` do not see cell ids.
  * `SelectorSim`     ← Heap: `XCtx`, `SR` between two states, `SimW` between two computations and
                      its rules for `bind`, the primitives, `framed` and the catching combinators.
  * `SelectorPrims`   ← Sim, Forms, CreateSpec: member step, `createSpeculative`, assignment.
  * `SelectorNatives` ← Sim, Render, Forms: `callNative`.
  * `SelectorEval`    ← Prims, Natives: `allSim`, the induction over all evaluator functions.
  * `SelectorDriver`  ← Eval: `evalRules`, the rule loops, `newValueJson`.
  one run of the selector:
  * `SelectorPath`    ← Forms: selectors `selE` only allocate cells (`NA`).
  * `SelectorPlain`   ← Eval (for `idsE`), Path, NoPanicAll: selectors `selX` keep every cell and
                      leave only plain members in the region (`Qp`, `allPl`).
  one run of the main evaluator (nothing of the renaming):
  * `SelectorBi`      ← NoPanicLogic: `InvB`, `BP` and its rules.
  * `SelectorBiEval`  ← Bi, Forms, CreateSpec, NoPanicAll: `allBP`.
  * `SelectorBiDriver` ← BiEval, NoPanicDriver: the rule driver, `newEvaluator_invB`.
  the argument:
  * `SelectorJunction` ← Driver: contexts from contexts (`Ctx.rebase`, `Ctx.patch`); `mainX`, `K1`/`X1`,
                      `K2` and how the heaps pass from one to the next.
  * `SelectorStep`    ← Junction, Plain, BiDriver: one decoded value (`junction`).
  * `SelectorRun`     ← Step: files, ENDFILE rules (`Kdrop`), the start (`Kid`), whole runs
                      (`runProgram_rel`).
  `Props/C14.lean` reaches these through `Lemmas/CliFinish.lean`.
-/
import Jqawk.Model.Eval
import Jqawk.Lemmas.Order


namespace Jqawk
namespace Sel

structure Ctx where
  /-- the cell of run A that corresponds to a cell of run B -/
  σ : Nat → Nat
  /-- the cells of run B that take part in the relation -/
  D : Nat → Prop
  /-- the arrays from `a0` on are related (the same id in both runs); those below are frozen -/
  a0 : Nat
  /-- the same for objects -/
  o0 : Nat
  /-- from the cell `m` of run B on, every cell takes part and `σ` is the shift by `d` -/
  m : Nat
  /-- how many more cells run A has -/
  d : Nat
  /-- the programs of the two runs: a function value `.fn i` is related to itself when both
      programs have the same function at index `i` -/
  progA : Program
  progB : Program
  /-- the cells of run B below `fz` outside `D`, the cells of run A below `fzA` that no cell of `D`
      corresponds to, and the arrays / objects below `a0` / `o0` are never touched: they stay as
      in these snapshots -/
  fz : Nat := 0
  fzA : Nat := 0
  snapA : Heap := Heap.empty
  snapB : Heap := Heap.empty

def renSpec (σ : Nat → Nat) : Option SpecRef → Option SpecRef
  | none => none
  | some r => some ⟨σ r.parent, r.key⟩

def renV (σ : Nat → Nat) : Val → Val
  | .str s sp => .str s (renSpec σ sp)
  | .nil sp => .nil (renSpec σ sp)
  | .native f b sp => .native f (b.map σ) (renSpec σ sp)
  | .bool b => .bool b
  | .num x => .num x
  | .arr a => .arr a
  | .obj o => .obj o
  | .fn i => .fn i
  | .regex s => .regex s
  | .unknown => .unknown

def renM (σ : Nat → Nat) (m : List (Bytes × CellId)) : List (Bytes × CellId) :=
  m.map fun kc => (kc.1, σ kc.2)

variable {σ : Nat → Nat}

@[simp] theorem renSpec_none : renSpec σ none = none := rfl
@[simp] theorem renSpec_some (r : SpecRef) : renSpec σ (some r) = some ⟨σ r.parent, r.key⟩ := rfl

@[simp] theorem renV_str (s : Bytes) (sp : Option SpecRef) : renV σ (.str s sp) = .str s (renSpec σ sp) := rfl
@[simp] theorem renV_nil (sp : Option SpecRef) : renV σ (.nil sp) = .nil (renSpec σ sp) := rfl
@[simp] theorem renV_native (f : Native) (b : Option CellId) (sp : Option SpecRef) :
    renV σ (.native f b sp) = .native f (b.map σ) (renSpec σ sp) := rfl
@[simp] theorem renV_bool (b : Bool) : renV σ (.bool b) = .bool b := rfl
@[simp] theorem renV_num (x : F64) : renV σ (.num x) = .num x := rfl
@[simp] theorem renV_arr (a : ArrId) : renV σ (.arr a) = .arr a := rfl
@[simp] theorem renV_obj (o : ObjId) : renV σ (.obj o) = .obj o := rfl
@[simp] theorem renV_fn (i : Nat) : renV σ (.fn i) = .fn i := rfl
@[simp] theorem renV_regex (s : Bytes) : renV σ (.regex s) = .regex s := rfl
@[simp] theorem renV_unknown : renV σ .unknown = .unknown := rfl

@[simp] theorem kind_renV (v : Val) : (renV σ v).kind = v.kind := by cases v <;> rfl
@[simp] theorem truthy_renV (v : Val) : (renV σ v).truthy = v.truthy := by cases v <;> rfl
@[simp] theorem asNum_renV (v : Val) : (renV σ v).asNum = v.asNum := by cases v <;> rfl
@[simp] theorem str_renV (v : Val) : (renV σ v).str! = v.str! := by cases v <;> rfl
@[simp] theorem tagName_renV (v : Val) : (renV σ v).tagName = v.tagName := by cases v <;> rfl
@[simp] theorem cont_renV (v : Val) : (renV σ v).cont? = v.cont? := by cases v <;> rfl

@[simp] theorem copyVal_renV (v : Val) : copyVal (renV σ v) = copyVal v := by cases v <;> rfl

theorem compare_renV (a b : Val) : (renV σ a).compare (renV σ b) = a.compare b := by
  cases a <;> cases b <;> rfl

theorem binaryOp_renV (op : Tag) (l r : Val) : binaryOp op (renV σ l) (renV σ r) = binaryOp op l r := by
  unfold binaryOp
  simp only [kind_renV, compare_renV, str_renV, asNum_renV]
  cases r <;> rfl

theorem isType_renV (v : Val) (t : Token) : isType (renV σ v) t = isType v t := by
  unfold isType
  simp only [kind_renV]

def Val.plain : Val → Prop
  | .str _ sp => sp = none
  | .nil sp => sp = none
  | .native _ b sp => b = none ∧ sp = none
  | _ => True

theorem renV_plain {v : Val} (h : Val.plain v) : renV σ v = v := by
  cases v <;> simp_all [Val.plain, renV]

theorem copyVal_plain {v w : Val} (h : copyVal v = .ok w) : Val.plain w := by
  cases v <;> simp [copyVal] at h <;> subst h <;> simp [Val.plain]

/-! ### liveness: which cells a value of run B may mention -/

variable (C : Ctx)

def LiveC (w : Nat) (c : CellId) : Prop := C.D c ∧ c < w

def SpecLive (w : Nat) : Option SpecRef → Prop
  | none => True
  | some r => LiveC C w r.parent

def OptLive (w : Nat) : Option CellId → Prop
  | none => True
  | some c => LiveC C w c

/-- a value of run B that may be related to one of run A: the cells it mentions take part and
    exist, its array or object is not a frozen one (`a0`, `o0`), its function is the same in both
    programs -/
def LiveV (w : Nat) : Val → Prop
  | .str _ sp => SpecLive C w sp
  | .nil sp => SpecLive C w sp
  | .native _ b sp => OptLive C w b ∧ SpecLive C w sp
  | .arr a => C.a0 ≤ a
  | .obj o => C.o0 ≤ o
  | .fn i => C.progA.functions[i]? = C.progB.functions[i]?
  | _ => True

def LiveL (w : Nat) (cs : List CellId) : Prop := ∀ c ∈ cs, LiveC C w c
def LiveM (w : Nat) (m : List (Bytes × CellId)) : Prop := ∀ kc ∈ m, LiveC C w kc.2

variable {C}

theorem LiveC.mono {w w' : Nat} {c : CellId} (h : LiveC C w c) (hw : w ≤ w') : LiveC C w' c :=
  ⟨h.1, Nat.lt_of_lt_of_le h.2 hw⟩

theorem SpecLive.mono {w w' : Nat} {sp : Option SpecRef} (h : SpecLive C w sp) (hw : w ≤ w') :
    SpecLive C w' sp := by
  cases sp with
  | none => trivial
  | some r => exact LiveC.mono h hw

theorem OptLive.mono {w w' : Nat} {sp : Option CellId} (h : OptLive C w sp) (hw : w ≤ w') :
    OptLive C w' sp := by
  cases sp with
  | none => trivial
  | some r => exact LiveC.mono h hw

theorem LiveV.mono {w w' : Nat} {v : Val} (h : LiveV C w v) (hw : w ≤ w') : LiveV C w' v := by
  cases v with
  | str s sp => exact SpecLive.mono h hw
  | nil sp => exact SpecLive.mono h hw
  | native f b sp => exact ⟨OptLive.mono h.1 hw, SpecLive.mono h.2 hw⟩
  | _ => exact h

theorem LiveL.mono {w w' : Nat} {cs : List CellId} (h : LiveL C w cs) (hw : w ≤ w') : LiveL C w' cs :=
  fun c hc => (h c hc).mono hw

theorem LiveM.mono {w w' : Nat} {m : List (Bytes × CellId)} (h : LiveM C w m) (hw : w ≤ w') :
    LiveM C w' m :=
  fun c hc => (h c hc).mono hw

theorem LiveV.plain {w : Nat} {v : Val} (h : Val.plain v) (ha : ∀ a, v = .arr a → C.a0 ≤ a)
    (ho : ∀ o, v = .obj o → C.o0 ≤ o)
    (hf : ∀ i, v = .fn i → C.progA.functions[i]? = C.progB.functions[i]?) : LiveV C w v := by
  cases v with
  | str s sp => simp only [Val.plain] at h; subst h; trivial
  | nil sp => simp only [Val.plain] at h; subst h; trivial
  | native f b sp => simp only [Val.plain] at h; obtain ⟨rfl, rfl⟩ := h; exact ⟨trivial, trivial⟩
  | arr a => exact ha a rfl
  | obj o => exact ho o rfl
  | fn i => exact hf i rfl
  | _ => trivial

theorem copyVal_live {w : Nat} {v x : Val} (h : copyVal v = .ok x) (hv : LiveV C w v) : LiveV C w x := by
  cases v <;> simp [copyVal] at h <;> subst h <;> first | trivial | exact hv

variable (C)

def CellR (w : Nat) (a b : CellId) : Prop := a = C.σ b ∧ LiveC C w b
def ValR (w : Nat) (a b : Val) : Prop := a = renV C.σ b ∧ LiveV C w b
def OptCellR (w : Nat) : Option CellId → Option CellId → Prop
  | none, none => True
  | some a, some b => CellR C w a b
  | _, _ => False
def ListCellR (w : Nat) (as bs : List CellId) : Prop := as = bs.map C.σ ∧ LiveL C w bs
def MemR (w : Nat) (as bs : List (Bytes × CellId)) : Prop := as = renM C.σ bs ∧ LiveM C w bs
def ListValR (w : Nat) (as bs : List Val) : Prop := as = bs.map (renV C.σ) ∧ ∀ v ∈ bs, LiveV C w v
def OptValR (w : Nat) : Option Val → Option Val → Prop
  | none, none => True
  | some a, some b => ValR C w a b
  | _, _ => False
/-- for result types without cell ids; the world plays no part -/
def EqR {α : Type} (_ : Nat) (a b : α) : Prop := a = b

variable {C}

theorem CellR.mono {w w' : Nat} {a b : CellId} (h : CellR C w a b) (hw : w ≤ w') : CellR C w' a b :=
  ⟨h.1, h.2.mono hw⟩
theorem ValR.mono {w w' : Nat} {a b : Val} (h : ValR C w a b) (hw : w ≤ w') : ValR C w' a b :=
  ⟨h.1, h.2.mono hw⟩
theorem OptCellR.mono {w w' : Nat} {a b : Option CellId} (h : OptCellR C w a b) (hw : w ≤ w') :
    OptCellR C w' a b := by
  cases a <;> cases b <;> first | exact h | exact CellR.mono h hw
theorem ListCellR.mono {w w' : Nat} {a b : List CellId} (h : ListCellR C w a b) (hw : w ≤ w') :
    ListCellR C w' a b := ⟨h.1, h.2.mono hw⟩
theorem MemR.mono {w w' : Nat} {a b : List (Bytes × CellId)} (h : MemR C w a b) (hw : w ≤ w') :
    MemR C w' a b := ⟨h.1, h.2.mono hw⟩
theorem ListValR.mono {w w' : Nat} {a b : List Val} (h : ListValR C w a b) (hw : w ≤ w') :
    ListValR C w' a b := ⟨h.1, fun v hv => (h.2 v hv).mono hw⟩
theorem OptValR.mono {w w' : Nat} {a b : Option Val} (h : OptValR C w a b) (hw : w ≤ w') :
    OptValR C w' a b := by
  cases a <;> cases b <;> first | exact h | exact ValR.mono h hw

@[elab_as_elim]
theorem OptCellR.byCases {w : Nat} {M : Option CellId → Option CellId → Prop} {a b : Option CellId}
    (h : OptCellR C w a b) (none : M none none) (some : ∀ x y, CellR C w x y → M (some x) (some y)) : M a b := by
  cases a <;> cases b <;> first | exact none | exact some _ _ h | exact False.elim h

@[elab_as_elim]
theorem OptValR.byCases {w : Nat} {M : Option Val → Option Val → Prop} {a b : Option Val}
    (h : OptValR C w a b) (none : M none none) (some : ∀ x y, ValR C w x y → M (some x) (some y)) : M a b := by
  cases a <;> cases b <;> first | exact none | exact some _ _ h | exact False.elim h

theorem ValR.kind {w : Nat} {a b : Val} (h : ValR C w a b) : a.kind = b.kind := by rw [h.1, kind_renV]
theorem ValR.truthy {w : Nat} {a b : Val} (h : ValR C w a b) : a.truthy = b.truthy := by
  rw [h.1, truthy_renV]
theorem ValR.asNum {w : Nat} {a b : Val} (h : ValR C w a b) : a.asNum = b.asNum := by
  rw [h.1, asNum_renV]
theorem ValR.str {w : Nat} {a b : Val} (h : ValR C w a b) : a.str! = b.str! := by rw [h.1, str_renV]

theorem ValR.of_plain {w : Nat} {v : Val} (h : Val.plain v) (hl : LiveV C w v) : ValR C w v v :=
  ⟨(renV_plain h).symm, hl⟩

/-- a value that mentions no cell, array, object or function: what literals and the arithmetic,
    comparison and regex operators yield -/
def Scalar : Val → Prop
  | .bool _ | .num _ | .str _ none | .nil none | .regex _ | .unknown => True
  | _ => False

theorem ValR.scalar (w : Nat) {v : Val} (h : Scalar v := by trivial) : ValR C w v v := by
  cases v with
  | str s sp => cases sp <;> first | exact ⟨rfl, trivial⟩ | exact h.elim
  | nil sp => cases sp <;> first | exact ⟨rfl, trivial⟩ | exact h.elim
  | bool _ | num _ | regex _ | unknown => exact ⟨rfl, trivial⟩
  | _ => exact h.elim

theorem ValR.unknown (w : Nat) : ValR C w .unknown .unknown := ValR.scalar w

theorem ListCellR.nil (w : Nat) : ListCellR C w [] [] := ⟨rfl, fun _ h => by cases h⟩
theorem ListCellR.cons {w : Nat} {a b : CellId} {as bs : List CellId} (h : CellR C w a b)
    (ht : ListCellR C w as bs) : ListCellR C w (a :: as) (b :: bs) :=
  ⟨by rw [h.1, ht.1]; rfl, List.forall_mem_cons.mpr ⟨h.2, ht.2⟩⟩

theorem MemR.nil (w : Nat) : MemR C w [] [] := ⟨rfl, fun _ h => by cases h⟩

theorem ListValR.nil (w : Nat) : ListValR C w [] [] := ⟨rfl, fun _ h => by cases h⟩
theorem ListValR.cons {w : Nat} {a b : Val} {as bs : List Val} (h : ValR C w a b)
    (ht : ListValR C w as bs) : ListValR C w (a :: as) (b :: bs) :=
  ⟨by rw [h.1, ht.1]; rfl, List.forall_mem_cons.mpr ⟨h.2, ht.2⟩⟩

theorem ListValR.getD {w : Nat} {as bs : List Val} (h : ListValR C w as bs) (i : Nat) :
    ValR C w (as.getD i .unknown) (bs.getD i .unknown) := by
  obtain ⟨rfl, hl⟩ := h
  simp only [List.getD_eq_getElem?_getD, List.getElem?_map]
  cases hb : bs[i]? with
  | none => exact ValR.unknown w
  | some v => exact ⟨rfl, hl v (List.mem_of_getElem? hb)⟩

theorem ListValR.length {w : Nat} {as bs : List Val} (h : ListValR C w as bs) : as.length = bs.length := by
  rw [h.1, List.length_map]

theorem objLookup_renM (m : List (Bytes × CellId)) (k : Bytes) :
    objLookup (renM σ m) k = (objLookup m k).map σ := by
  induction m with
  | nil => rfl
  | cons x rest ih =>
    obtain ⟨k0, c0⟩ := x
    simp only [renM, List.map_cons, objLookup] at ih ⊢
    split
    · rfl
    · exact ih

theorem objInsert_renM (m : List (Bytes × CellId)) (k : Bytes) (c : CellId) :
    objInsert (renM σ m) k (σ c) = renM σ (objInsert m k c) := by
  induction m with
  | nil => rfl
  | cons x rest ih =>
    obtain ⟨k0, c0⟩ := x
    simp only [renM, List.map_cons, objInsert] at ih ⊢
    split
    · rfl
    · simp only [List.map_cons, ih]

theorem LiveM.objInsert {w : Nat} {m : List (Bytes × CellId)} (hm : LiveM C w m) (k : Bytes) {c : CellId}
    (hc : LiveC C w c) : LiveM C w (objInsert m k c) :=
  fun kc h => (mem_objInsert h).elim (hm kc) fun e => e ▸ hc

theorem LiveM.lookup {w : Nat} {m : List (Bytes × CellId)} (hm : LiveM C w m) {k : Bytes} {c : CellId}
    (h : objLookup m k = some c) : LiveC C w c :=
  hm (k, c) (objLookup_mem h)

theorem MemR.objInsert {w : Nat} {as bs : List (Bytes × CellId)} (h : MemR C w as bs) (k : Bytes)
    {a b : CellId} (hc : CellR C w a b) : MemR C w (objInsert as k a) (objInsert bs k b) := by
  obtain ⟨rfl, hl⟩ := h
  obtain ⟨rfl, hb⟩ := hc
  exact ⟨objInsert_renM bs k b, hl.objInsert k hb⟩

theorem MemR.lookup {w : Nat} {as bs : List (Bytes × CellId)} (h : MemR C w as bs) (k : Bytes) :
    OptCellR C w (objLookup as k) (objLookup bs k) := by
  obtain ⟨rfl, hl⟩ := h
  rw [objLookup_renM]
  cases hb : objLookup bs k with
  | none => trivial
  | some c => exact ⟨rfl, hl.lookup hb⟩

theorem insertByKey_renM (kv : Bytes × CellId) (m : List (Bytes × CellId)) :
    insertByKey (kv.1, σ kv.2) (renM σ m) = renM σ (insertByKey kv m) := by
  induction m with
  | nil => rfl
  | cons x rest ih =>
    simp only [renM, List.map_cons, insertByKey] at ih ⊢
    split
    · rfl
    · simp only [List.map_cons, ih]

theorem sortByKey_renM (m : List (Bytes × CellId)) : sortByKey (renM σ m) = renM σ (sortByKey m) := by
  induction m with
  | nil => rfl
  | cons x rest ih =>
    show insertByKey (x.1, σ x.2) (sortByKey (renM σ rest)) = _
    rw [ih, insertByKey_renM]
    rfl

theorem LiveM.sortByKey {w : Nat} {m : List (Bytes × CellId)} (h : LiveM C w m) : LiveM C w (sortByKey m) :=
  fun kc hkc => h kc (mem_sortByKey hkc)

end Sel
end Jqawk
