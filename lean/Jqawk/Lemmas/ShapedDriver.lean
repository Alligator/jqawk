/-
  The rule driver is `Shaped`: one walk over `evalRules`, `evalElems`, `evalPatternRules`,
  `evalSpecialRules`, `processRoot`, `processRoots`, and `selectorRun`.  A rule loop catches `next`
  (and `exit`), so the evaluator runs under `fun g => g = .next ∨ S g` resp. `InRule S`; what the
  rules and the function bodies may raise is asked for at that index (`RuleIn`, `Program.FnConf`).
  The statements about these functions in DriverInvariant, DriverSignals, ProvenanceDriver,
  Schedule (`next`/`exit` in any program) and SelectorRun (`FL`) are readings of this walk.
-/
import Jqawk.Lemmas.ShapedEval
import Jqawk.Lemmas.DriverRun


namespace Jqawk

/-- what the pattern and the body of a rule can raise -/
structure RuleIn (G : Nat → Prop) (S : Sig → Prop) (r : Rule) : Prop where
  body : Conf S (canS · r.body)
  bodyTok : TokOK G (r.body.tokens false)
  pat : ∀ p, r.pattern = some p → Conf S (canE · p) ∧ TokOK G (p.tokens false)

/-- the signals a rule loop catches, and `S` -/
abbrev InRule (S : Sig → Prop) : Sig → Prop := fun g => g = .next ∨ g = .exit ∨ S g

theorem RuleIn.mono {G : Nat → Prop} {S S' : Sig → Prop} {r : Rule} (h : RuleIn G S r)
    (hs : ∀ g, S g → S' g) : RuleIn G S' r :=
  ⟨fun g hg => hs g (h.body g hg), h.bodyTok, fun p hp => ⟨fun g hg => hs g ((h.pat p hp).1 g hg), (h.pat p hp).2⟩⟩

/-- a rule in a setting where every signal and every position is allowed -/
theorem RuleIn.all {S : Sig → Prop} (h : ∀ g, S g) (r : Rule) : RuleIn (fun _ => True) S r :=
  ⟨fun g _ => h g, fun _ _ => trivial, fun _ _ => ⟨fun g _ => h g, fun _ _ => trivial⟩⟩

namespace Shaped
variable {D : Prop} {G : Nat → Prop} {S : Sig → Prop} {prog : Program}

section rules
variable (hfG : prog.FnTok G)
include hfG

section
-- the evaluator runs under a handler of `next`
variable (hfS : prog.FnConf (fun g => g = .next ∨ S g))
include hfS

theorem evalRules (rules : List Rule) (hr : ∀ r ∈ rules, RuleIn G (fun g => g = .next ∨ S g) r) :
    Shaped D G S (Jqawk.evalRules prog rules) := by
  have hall := allShaped (D := D) hfG evalFuel _ hfS
  induction rules with
  | nil => exact pure ()
  | cons rule rest ih =>
    have ih := ih fun r h => hr r (List.mem_cons_of_mem _ h)
    have h := hr rule List.mem_cons_self
    unfold Jqawk.evalRules
    refine bind ?_ fun _ => ?_
    · split
      · exact pure _
      · rename_i p hp
        exact catchSig _ _ (bind (hall.expr p (h.pat p hp).1 (h.pat p hp).2) fun _ =>
          bind (readCell _) fun _ => pure _)
    · split
      · exact pure _
      · exact ite ih (bind (catchSig _ _ (bind (hall.stmt _ h.body h.bodyTok) fun _ => pure _)) fun _ =>
          ite ih (pure _))

variable (d : D)
include d

theorem evalElems (rules : List Rule) (hr : ∀ r ∈ rules, RuleIn G (fun g => g = .next ∨ S g) r)
    (items : List CellId) (i : Nat) : Shaped D G S (Jqawk.evalElems prog rules items i) := by
  induction items generalizing i with
  | nil => exact pure ()
  | cons item rest ih =>
    unfold Jqawk.evalElems
    exact bind (setRoots d _ fun _ => rfl) fun _ => bind (newCell _) fun _ => bind (setLocal ..) fun _ =>
      bind (evalRules hfG hfS rules hr) fun _ => ih (i + 1)

theorem evalPatternRules (rules : List Rule) (hr : ∀ r ∈ rules, RuleIn G (fun g => g = .next ∨ S g) r) :
    Shaped D G S (Jqawk.evalPatternRules prog rules) := by
  unfold Jqawk.evalPatternRules
  refine bind getSt fun _ => ?_
  split
  · exact pure _
  · split
    · exact evalElems hfG hfS d rules hr _ _
    · exact bind (setRoots d _ fun _ => rfl) fun _ => evalRules hfG hfS rules hr

end

variable (d : D) (hfS : prog.FnConf (InRule S))
include d hfS

theorem evalSpecialRules {mkRoot : EM CellId} (hmk : Shaped D G S mkRoot) (rules : List Rule)
    (hr : ∀ r ∈ rules, RuleIn G (InRule S) r) : Shaped D G S (Jqawk.evalSpecialRules prog mkRoot rules) := by
  have hall := allShaped (D := D) hfG evalFuel _ hfS
  induction rules with
  | nil => exact pure _
  | cons rule rest ih =>
    unfold Jqawk.evalSpecialRules
    refine bind hmk fun _ => bind (setRoots d _ fun _ => rfl) fun _ => bind (ruleFlow
      (hall.stmt _ (hr rule List.mem_cons_self).body (hr rule List.mem_cons_self).bodyTok)) fun _ => ?_
    split
    · exact pure _
    · exact ih fun r h => hr r (List.mem_cons_of_mem _ h)

variable (hr : ∀ r ∈ prog.rules, RuleIn G (InRule S) r)
include hr

theorem processRoot (c : CellId) : Shaped D G S (Jqawk.processRoot prog c) := by
  have hk : ∀ k, ∀ r ∈ rulesOf prog k, RuleIn G (InRule S) r := fun k r h => hr r (rulesOf_sub prog k r h)
  unfold Jqawk.processRoot
  refine bind (readCell _) fun _ => bind (evalSpecialRules hfG d hfS (pure _) _ (hk _)) fun _ => ?_
  split
  · exact pure _
  · refine bind (setRoots d _ fun _ => rfl) fun _ => bind (catchExit
      (evalPatternRules hfG hfS d _ (hk _))) fun _ => ?_
    split
    · exact pure _
    · exact evalSpecialRules hfG d hfS (newCell _) _ (hk _)

theorem processRoots (cs : List CellId) : Shaped D G S (Jqawk.processRoots prog cs) := by
  induction cs with
  | nil => exact pure _
  | cons c rest ih =>
    unfold Jqawk.processRoots
    refine bind (processRoot hfG d hfS hr c) fun _ => ?_
    split
    · exact pure _
    · exact ih

end rules

theorem selectorRun (d : D) (rootValue : JVal) {expr : Expr} (hS : Conf S (canE · expr))
    (hG : TokOK G (expr.tokens false)) : Shaped D G S (Jqawk.selectorRun rootValue expr) := by
  unfold Jqawk.selectorRun
  refine bind (newValueJson _) fun _ => bind (newCell _) fun _ => bind (setRoots d _ fun _ => rfl) fun _ =>
    bind ((allShaped (prog := Program.empty) (fun _ h => nomatch h) evalFuel S fun _ h => nomatch h).expr
      _ hS hG) fun _ => bind (newCell _) fun _ => bind (copyValue ..) fun _ => ?_
  split
  · exact throwRt hG.token _
  · exact pure _

end Shaped

/-- what every shaped computation keeps, the driver's steps keep: four of the six obligations of
    `Run.Invariant` (the selectors run in a state of their own, `quiet` is about `J` and `F` alone) -/
theorem Run.Invariant.of_shaped {prog : Program} {tbl : RuleTable} {src : Bytes} {sels : List Bytes}
    {J : St → Prop} {F : Outcome → St → Prop} {G : Nat → Prop} {S : Sig → Prop}
    (keeps : ∀ {α : Type} {m : EM α}, Shaped True G S m → Run.Keeps J F src m)
    (hfG : prog.FnTok G) (hfS : prog.FnConf (InRule S)) (hr : ∀ r ∈ prog.rules, RuleIn G (InRule S) r)
    (selector : ∀ sel ∈ sels, ∀ v s, J s →
      (∀ o s', evalSelector tbl sel v s = .inl (o, s') → F o s') ∧
      (∀ x s', evalSelector tbl sel v s = .inr (x, s') → J s'))
    (quiet : ∀ s, J s → F .ok s ∧ F .oof s ∧ ∀ name, F (.jsonErr name) s) :
    Run.Invariant prog tbl src sels J F where
  setFile _ := keeps (.bind (.newCell _) fun _ => .setGlobal trivial _ _)
  newRoot v := keeps (.bind (.newValueJson v) fun _ => .newCell _)
  roots cs := keeps (.processRoots hfG trivial hfS hr cs)
  special k := keeps (.evalSpecialRules hfG trivial hfS (.newCell _) _ fun r h => hr r (rulesOf_sub prog k r h))
  selector := selector
  quiet := quiet

end Jqawk
