import Jqawk.Model.Json
import Jqawk.Lemmas.Ite
import Jqawk.Lemmas.JValEq
/-!
  The scanner of `Model/Json.lean`, one step at a time.
  * Namespace `Jqawk.Json`: for every step function (`deliver`, `push`, `pop`, `endValue`,
    `afterValue`, `beginValue`, `beginString`) a case lemma that splits its cascade once — a
    property of all its possible answers is a property of its answer.
  * Namespace `Jqawk.JsonBytes` (where the byte-level round trip of Lemmas/JsonBytes*.lean lives):
    runs of the scanner (`steps`, `run_steps`; a property kept by every step is kept along
    `steps`, `steps_preserves`; `run_value`: how `run` comes to a value; white space is skipped,
    `run_ws`), the string and the number states as two finite automata (`strNext`, `numNext`,
    `path`) on which `step` acts as "append the byte and move on" (`step_num`), and `step_cases`:
    one step by what the scanner does.
-/
namespace Jqawk.Json

theorem deliver_cases {P : St → Prop} (s : St) (v : JVal)
    (key : ∀ ms k fs, s.stack = .obj ms k false :: fs →
      P { s with step := .endValue, stack := .obj ms (match v with | .str k => k | _ => []) false :: fs })
    (top : s.stack = [] → P { s with step := .endTop v })
    (item : ∀ acc fs, s.stack = .arr acc :: fs → P { s with step := .endValue, stack := .arr (v :: acc) :: fs })
    (member : ∀ ms k fs, s.stack = .obj ms k true :: fs →
      P { s with step := .endValue, stack := .obj (insertMember k v ms) [] true :: fs }) :
    P (deliver s v) := by
  unfold deliver
  split
  · exact top ‹_›
  · exact item _ _ ‹_›
  · exact key _ _ _ ‹_›
  · exact member _ _ _ ‹_›

theorem push_cases {P : Out → Prop} (s : St) (fr : Frame) (next : Step)
    (ok : s.depth + 1 ≤ maxNestingDepth →
      P (.cont { s with step := next, stack := fr :: s.stack, depth := s.depth + 1 }))
    (err : P .err) : P (push s fr next) :=
  ite_elim ok fun _ => err

theorem pop_cases {P : Out → Prop} (s : St) (fs : List Frame) (v : JVal)
    (top : fs = [] → P (.done v s.bad true))
    (inner : fs ≠ [] → P (.cont (deliver { s with stack := fs, depth := s.depth - 1 } v))) :
    P (pop s fs v) := by
  cases fs with
  | nil => exact top rfl
  | cons fr fs => exact inner (List.cons_ne_nil _ _)

theorem endValue_cases {P : Out → Prop} (s : St) (c : UInt8)
    (space : P (.cont { s with step := .endValue }))
    (colon : ∀ ms k fs, s.stack = .obj ms k false :: fs →
      P (.cont { s with step := .beginValue, stack := .obj ms k true :: fs }))
    (comma : ∀ ms k fs, s.stack = .obj ms k true :: fs →
      P (.cont { s with step := .beginString, stack := .obj ms [] false :: fs }))
    (closeObj : ∀ ms k fs, s.stack = .obj ms k true :: fs → P (pop s fs (.obj ms)))
    (next : ∀ acc fs, s.stack = .arr acc :: fs → P (.cont { s with step := .beginValue }))
    (closeArr : ∀ acc fs, s.stack = .arr acc :: fs → P (pop s fs (.arr acc.reverse)))
    (err : P .err) : P (endValue s c) := by
  unfold endValue
  refine ite_elim (fun _ => space) fun _ => ?_
  split
  · exact err
  · exact ite_elim (fun _ => colon _ _ _ ‹_›) fun _ => err
  · exact ite_elim (fun _ => comma _ _ _ ‹_›) fun _ => ite_elim (fun _ => closeObj _ _ _ ‹_›) fun _ => err
  · exact ite_elim (fun _ => next _ _ ‹_›) fun _ => ite_elim (fun _ => closeArr _ _ ‹_›) fun _ => err

theorem afterValue_cases {P : Out → Prop} (s : St) (c : UInt8)
    (top : ∀ v, s.step = .endTop v → P (.done v s.bad false)) (inner : P (endValue s c)) :
    P (afterValue s c) := by
  unfold afterValue
  split
  · exact top _ ‹_›
  · exact inner

theorem afterValue_endTop {s : St} {v : JVal} (h : s.step = .endTop v) (c : UInt8) :
    afterValue s c = .done v s.bad false := by
  unfold afterValue; rw [h]

theorem beginValue_cases {P : Out → Prop} (s : St) (c : UInt8)
    (space : P (.cont s))
    (obj : P (push s (.obj [] [] false) .beginStringOrEmpty))
    (arr : P (push s (.arr []) .beginValueOrEmpty))
    (str : P (.cont { s with step := .inString, lit := [] }))
    (neg : c = 0x2D → P (.cont { s with step := .neg, lit := [c] }))
    (zero : c = 0x30 → P (.cont { s with step := .s0, lit := [c] }))
    (tru : P (.cont { s with step := .lit [0x72, 0x75, 0x65] (.bool true) }))
    (fls : P (.cont { s with step := .lit [0x61, 0x6C, 0x73, 0x65] (.bool false) }))
    (nul : P (.cont { s with step := .lit [0x75, 0x6C, 0x6C] .null }))
    (digit : c ≠ 0x2D → c ≠ 0x30 → isDigit c = true → P (.cont { s with step := .s1, lit := [c] }))
    (err : P .err) : P (beginValue s c) :=
  ite_elim (fun _ => space) fun _ => ite_elim (fun _ => obj) fun _ => ite_elim (fun _ => arr) fun _ =>
  ite_elim (fun _ => str) fun _ => ite_elim (fun h => neg (beq_iff_eq.1 h)) fun h2D =>
  ite_elim (fun h => zero (beq_iff_eq.1 h)) fun h30 => ite_elim (fun _ => tru) fun _ =>
  ite_elim (fun _ => fls) fun _ => ite_elim (fun _ => nul) fun _ =>
  ite_elim (fun h => digit (fun e => h2D (beq_iff_eq.2 e)) (fun e => h30 (beq_iff_eq.2 e)) h) fun _ => err

theorem beginString_cases {P : Out → Prop} (s : St) (c : UInt8)
    (space : P (.cont s)) (str : P (.cont { s with step := .inString, lit := [] })) (err : P .err) :
    P (beginString s c) :=
  ite_elim (fun _ => space) fun _ => ite_elim (fun _ => str) fun _ => err

theorem beginValue_ne_done {s : St} {c : UInt8} {j : JVal} {bad consumed : Bool} :
    beginValue s c ≠ .done j bad consumed := by
  have push_ne : ∀ fr next, push s fr next ≠ .done j bad consumed := fun fr next =>
    push_cases (P := (· ≠ _)) s fr next (fun _ => Out.noConfusion) Out.noConfusion
  exact beginValue_cases (P := (· ≠ _)) s c Out.noConfusion (push_ne _ _) (push_ne _ _) Out.noConfusion
    (fun _ => Out.noConfusion) (fun _ => Out.noConfusion) Out.noConfusion Out.noConfusion Out.noConfusion
    (fun _ _ _ => Out.noConfusion) Out.noConfusion

end Jqawk.Json

namespace Jqawk.OneByte

def composite : JVal → Bool
  | .arr _ => true
  | .obj _ => true
  | _ => false

end Jqawk.OneByte

namespace Jqawk.JsonBytes
open Jqawk Jqawk.Json

theorem forall_u8 {P : UInt8 → Prop} (h : ∀ n, n < 256 → P (UInt8.ofNat n)) : ∀ c, P c := by
  intro c
  have := h c.toNat c.toNat_lt
  simpa using this

def steps (f : Bytes → Bool) : St → Bytes → Option St
  | s, [] => some s
  | s, c :: cs => match step f s c with | .cont s' => steps f s' cs | _ => none

theorem steps_append (f : Bytes → Bool) : ∀ (a b : Bytes) (s s' : St), steps f s a = some s' →
    steps f s (a ++ b) = steps f s' b
  | [], b, s, s', h => by cases h; rfl
  | c :: cs, b, s, s', h => by
    simp only [steps, List.cons_append] at h ⊢
    cases hs : step f s c with
    | cont s1 => rw [hs] at h; exact steps_append f cs b s1 s' h
    | err => rw [hs] at h; cases h
    | done _ _ _ => rw [hs] at h; cases h

theorem run_steps (f : Bytes → Bool) (t : Tail) : ∀ (a b : Bytes) (s s' : St), steps f s a = some s' →
    run f s (a ++ b) t = run f s' b t
  | [], b, s, s', h => by cases h; rfl
  | c :: cs, b, s, s', h => by
    simp only [steps] at h
    rw [List.cons_append, run]
    cases hs : step f s c with
    | cont s1 => rw [hs] at h; exact run_steps f t cs b s1 s' h
    | err => rw [hs] at h; cases h
    | done _ _ _ => rw [hs] at h; cases h

/-- a property kept by every continuing step is kept by `steps` -/
theorem steps_preserves {f : Bytes → Bool} {P : St → Prop}
    (hP : ∀ s c s', P s → step f s c = .cont s' → P s') :
    ∀ (v : Bytes) {s s' : St}, P s → steps f s v = some s' → P s'
  | [], _, _, hs, h => by cases h; exact hs
  | c :: cs, s, s', hs, h => by
    simp only [steps] at h
    cases hst : step f s c with
    | cont s1 => rw [hst] at h; exact steps_preserves hP cs (hP s c s1 hs hst) h
    | err => rw [hst] at h; cases h
    | done _ _ _ => rw [hst] at h; cases h

/-- How `run` comes to a value: the scanner passes over `pre` and completes the value on the
    next byte `c` — a byte of the input, or the space Go feeds it at a clean end of input. -/
theorem run_value {f : Bytes → Bool} {v : JVal} {rest : Bytes} {t : Tail} :
    ∀ (inp : Bytes) (s : St), run f s inp t = .value v rest →
      ∃ pre s' c consumed, steps f s pre = some s' ∧ step f s' c = .done v false consumed ∧
        ((∃ cs, inp = pre ++ c :: cs ∧ rest = if consumed then cs else c :: cs) ∨
         (inp = pre ∧ t = .eof ∧ rest = []))
  | [], s, h => by
    cases t with
    | more => cases h
    | ioerr => cases h
    | eof =>
      simp only [run] at h
      split at h
      · cases h; exact ⟨[], s, 0x20, _, rfl, ‹_›, .inr ⟨rfl, rfl, rfl⟩⟩
      · cases h
  | c :: cs, s, h => by
    simp only [run] at h
    cases hst : step f s c with
    | cont s1 =>
      rw [hst] at h
      obtain ⟨pre, s', c', consumed, h1, h2, h3⟩ := run_value cs s1 h
      refine ⟨c :: pre, s', c', consumed, by simp only [steps, hst]; exact h1, h2, ?_⟩
      rcases h3 with ⟨cs', rfl, hr⟩ | ⟨rfl, ht, hr⟩
      · exact .inl ⟨cs', rfl, hr⟩
      · exact .inr ⟨rfl, ht, hr⟩
    | err => rw [hst] at h; cases h
    | done w bad consumed =>
      rw [hst] at h
      cases bad
      · cases h; exact ⟨[], s, c, consumed, rfl, hst, .inl ⟨cs, rfl, rfl⟩⟩
      · cases h

/-- where `deliver` stores a finished value when the parse stack is not empty -/
def deliverStk : List Frame → JVal → List Frame
  | [], _ => []
  | .arr acc :: fs, v => .arr (v :: acc) :: fs
  | .obj ms _ false :: fs, v => .obj ms (match v with | .str k => k | _ => []) false :: fs
  | .obj ms k true :: fs, v => .obj (insertMember k v ms) [] true :: fs

theorem deliver_eq (st : Step) (fr : Frame) (fs : List Frame) (dp : Nat) (lit : Bytes) (bad : Bool) (v : JVal) :
    deliver ⟨st, fr :: fs, dp, lit, bad⟩ v = ⟨.endValue, deliverStk (fr :: fs) v, dp, lit, bad⟩ := by
  rcases fr with acc | ⟨ms, k, b⟩
  · rfl
  · cases b <;> rfl

def SkipsWs (st : Step) : Prop :=
  st = .beginValue ∨ st = .beginValueOrEmpty ∨ st = .beginString ∨ st = .beginStringOrEmpty ∨ st = .endValue

theorem steps_ws (f : Bytes → Bool) (st : Step) (h : SkipsWs st) (stk : List Frame) (dp : Nat)
    (lit : Bytes) (bad : Bool) : ∀ ws : Bytes, (∀ x ∈ ws, isSpace x = true) →
    steps f ⟨st, stk, dp, lit, bad⟩ ws = some ⟨st, stk, dp, lit, bad⟩ := by
  intro ws
  induction ws with
  | nil => intro _; rfl
  | cons x xs ih =>
    intro hx
    have h1 : isSpace x = true := hx x (by simp)
    have h2 := ih fun y hy => hx y (by simp [hy])
    rcases h with rfl | rfl | rfl | rfl | rfl <;>
      simp [steps, step, beginValue, beginString, endValue, h1, h2]

theorem run_ws (f : Bytes → Bool) (t : Tail) (st : Step) (h : SkipsWs st) (stk : List Frame) (dp : Nat)
    (lit : Bytes) (bad : Bool) (ws rest : Bytes) (hws : ∀ x ∈ ws, isSpace x = true) :
    run f ⟨st, stk, dp, lit, bad⟩ (ws ++ rest) t = run f ⟨st, stk, dp, lit, bad⟩ rest t :=
  run_steps f t ws rest _ _ (steps_ws f st h stk dp lit bad ws hws)

def path (next : Step → UInt8 → Option Step) : Step → Bytes → Option Step
  | st, [] => some st
  | st, c :: cs => match next st c with | some st' => path next st' cs | none => none

theorem path_append {next : Step → UInt8 → Option Step} {st st' : Step} (b : Bytes) :
    ∀ {a : Bytes}, path next st a = some st' → path next st (a ++ b) = path next st' b
  | [], h => by cases h; rfl
  | x :: xs, h => by
    simp only [path, List.cons_append] at h ⊢
    cases hx : next st x with
    | none => rw [hx] at h; cases h
    | some sn => rw [hx] at h; exact path_append b h

theorem path_snoc {next : Step → UInt8 → Option Step} {st st' st'' : Step} {ds : Bytes} {c : UInt8}
    (h1 : path next st ds = some st') (h2 : next st' c = some st'') : path next st (ds ++ [c]) = some st'' := by
  rw [path_append [c] h1, path, h2]; rfl

def isStr : Step → Bool
  | .inString | .inStringEsc | .inStringEscU _ => true
  | _ => false

def escOK (c : UInt8) : Bool :=
  c == 0x62 || c == 0x66 || c == 0x6E || c == 0x72 || c == 0x74 || c == 0x5C || c == 0x2F || c == 0x22

/-- `none`: closing quote or error -/
def strNext : Step → UInt8 → Option Step
  | .inString, c => if c == 0x22 then none else if c == 0x5C then some .inStringEsc
                    else if c < 0x20 then none else some .inString
  | .inStringEsc, c => if escOK c then some .inString else if c == 0x75 then some (.inStringEscU 3) else none
  | .inStringEscU n, c =>
    if (hexVal c).isSome then some (match n with | 0 => .inString | k + 1 => .inStringEscU k) else none
  | _, _ => none

theorem strNext_isStr {st st' : Step} {c : UInt8} (h : strNext st c = some st') : isStr st' = true := by
  cases st <;> simp only [strNext] at h <;> (repeat' split at h) <;> first | (cases h; rfl) | cases h

def isNum : Step → Bool
  | .neg | .s0 | .s1 | .dot | .dot0 | .e | .eSign | .e0 => true
  | _ => false

def canEnd : Step → Bool
  | .s0 | .s1 | .dot0 | .e0 => true
  | _ => false

def numNext : Step → UInt8 → Option Step
  | .neg, c => if c == 0x30 then some .s0 else if isDigit c then some .s1 else none
  | .s1, c => if isDigit c then some .s1 else if c == 0x2E then some .dot
              else if c == 0x65 || c == 0x45 then some .e else none
  | .s0, c => if c == 0x2E then some .dot else if c == 0x65 || c == 0x45 then some .e else none
  | .dot, c => if isDigit c then some .dot0 else none
  | .dot0, c => if isDigit c then some .dot0 else if c == 0x65 || c == 0x45 then some .e else none
  | .e, c => if c == 0x2B || c == 0x2D then some .eSign else if isDigit c then some .e0 else none
  | .eSign, c => if isDigit c then some .e0 else none
  | .e0, c => if isDigit c then some .e0 else none
  | _, _ => none

theorem numNext_isNum {st st' : Step} {c : UInt8} (h : numNext st c = some st') : isNum st' = true := by
  cases st <;> simp only [numNext] at h <;> (repeat' split at h) <;> first | (cases h; rfl) | cases h

/-- a byte that is no digit, `.`, `e`, `E` continues no number literal — nor a sign, except in
    state `e`, which is not a state where a literal may end -/
theorem numNext_none {st : Step} {c : UInt8} (h1 : isDigit c = false) (h2 : (c == 0x2E) = false)
    (h3 : (c == 0x65 || c == 0x45) = false) (h4 : canEnd st = true ∨ (c == 0x2B || c == 0x2D) = false) :
    numNext st c = none := by
  have h0 : (c == 0x30) = false := Bool.eq_false_iff.2 fun e => by
    rw [beq_iff_eq.1 e] at h1; exact absurd h1 (by decide)
  cases st <;> first | rfl | simp [numNext, h0, h1, h2, h3] | skip
  rcases h4 with h4 | h4
  · cases h4
  · simpa using h4

theorem step_num (f : Bytes → Bool) (st : Step) (hn : isNum st = true) (stk : List Frame) (dp : Nat)
    (acc : Bytes) (bad : Bool) (c : UInt8) :
    step f ⟨st, stk, dp, acc, bad⟩ c =
      match numNext st c with
      | some st' => .cont ⟨st', stk, dp, c :: acc, bad⟩
      | none => if canEnd st then endNumber f ⟨st, stk, dp, acc, bad⟩ c else .err := by
  let k (o : Option Step) : Out := match o with
    | some st' => .cont ⟨st', stk, dp, c :: acc, bad⟩
    | none => if canEnd st then endNumber f ⟨st, stk, dp, acc, bad⟩ c else .err
  show _ = k _
  -- state by state, the cascade of `step` is that of `numNext` under `k`
  cases st <;> first | exact Bool.noConfusion hn | skip
  · exact ite_match k (fun _ => rfl) fun _ => ite_match k (fun _ => rfl) fun _ => rfl
  · exact ite_match k (fun _ => rfl) fun _ => ite_match k (fun _ => rfl) fun _ => rfl
  · exact ite_match k (fun _ => rfl) fun _ => ite_match k (fun _ => rfl) fun _ =>
      ite_match k (fun _ => rfl) fun _ => rfl
  · exact ite_match k (fun _ => rfl) fun _ => rfl
  · exact ite_match k (fun _ => rfl) fun _ => ite_match k (fun _ => rfl) fun _ => rfl
  · exact ite_match k (fun _ => rfl) fun _ => ite_match k (fun _ => rfl) fun _ => rfl
  · exact ite_match k (fun _ => rfl) fun _ => rfl
  · exact ite_match k (fun _ => rfl) fun _ => rfl

theorem step_numEnd (f : Bytes → Bool) (s : St) (hn : isNum s.step = true) (hce : canEnd s.step = true)
    {c : UInt8} (h : numNext s.step c = none) : step f s c = endNumber f s c := by
  obtain ⟨st, stk, dp, acc, bad⟩ := s
  rw [step_num f st hn, h]
  exact if_pos hce

/-- **One scanner step**, by what the scanner does rather than by the state it is in. -/
theorem step_cases {P : Out → Prop} (f : Bytes → Bool) (s : St) (c : UInt8)
    (bv : P (beginValue s c))
    (space : P (.cont s))
    (ev : P (endValue s c))
    (closeEmpty : ∀ ms k b fs, s.stack = .obj ms k b :: fs →
      P (endValue { s with stack := .obj ms k true :: fs } c))
    (bs : P (beginString s c))
    (endTop : ∀ v, s.step = .endTop v → P (.done v s.bad false))
    (strEnd : s.step = .inString → P (.cont (deliver { s with lit := [] } (.str (unquote s.lit.reverse)))))
    (strMore : ∀ st', isStr s.step = true → strNext s.step c = some st' → P (more s c st'))
    (numMore : ∀ st', isNum s.step = true → numNext s.step c = some st' → P (more s c st'))
    (numEnd : isNum s.step = true → canEnd s.step = true → numNext s.step c = none → P (endNumber f s c))
    (litEnd : ∀ x v, s.step = .lit [x] v → P (.cont (deliver s v)))
    (litMore : ∀ x xs v, s.step = .lit (x :: xs) v → P (.cont { s with step := .lit xs v }))
    (err : P .err) : P (step f s c) := by
  by_cases hn : isNum s.step = true
  · obtain ⟨st, stk, dp, acc, bad⟩ := s
    rw [step_num f st hn]
    cases hnx : numNext st c with
    | some st' => exact numMore st' hn hnx
    | none => exact ite_elim (fun h => numEnd hn h hnx) fun _ => err
  -- `h_1 … h_18`: the alternatives of the `match` in `Json.step`, in its order (`beginValue`,
  -- `beginValueOrEmpty`, …, `lit`); the number states `h_10 … h_17` are closed at the end by `hn`
  unfold step
  split
  case h_1 => exact bv
  case h_2 => exact ite_elim (fun _ => space) fun _ => ite_elim (fun _ => ev) fun _ => bv
  case h_3 =>
    refine ite_elim (fun _ => space) fun _ => ite_elim (fun _ => ?_) fun _ => bs
    split
    · exact closeEmpty _ _ _ _ ‹_›
    · exact err
  case h_4 => exact bs
  case h_5 => exact ev
  case h_6 => exact endTop _ ‹_›
  case h_7 hst =>
    refine ite_elim (fun _ => strEnd hst) fun h22 => ite_elim (fun h5C => ?_) fun h5C =>
      ite_elim (fun _ => err) fun h20 => ?_
    · exact strMore _ (by rw [hst]; rfl) (by rw [hst]; exact (if_neg h22).trans (if_pos h5C))
    · exact strMore _ (by rw [hst]; rfl) (by rw [hst]; exact (if_neg h22).trans ((if_neg h5C).trans (if_neg h20)))
  case h_8 hst =>
    refine ite_elim (fun hesc => ?_) fun hesc => ite_elim (fun h75 => ?_) fun _ => err
    · exact strMore _ (by rw [hst]; rfl) (by rw [hst]; exact if_pos hesc)
    · exact strMore _ (by rw [hst]; rfl) (by rw [hst]; exact (if_neg hesc).trans (if_pos h75))
  case h_9 n hst =>
    exact ite_elim (fun hhex => strMore _ (by rw [hst]; rfl) (by rw [hst]; exact if_pos hhex))
      fun _ => err
  case h_18 rest v hst =>
    split
    · exact err
    · exact ite_elim (fun _ => litEnd _ _ hst) fun _ => err
    · exact ite_elim (fun _ => litMore _ _ _ hst) fun _ => err
  all_goals (rename_i hst; rw [hst] at hn; exact absurd rfl hn)

end Jqawk.JsonBytes
