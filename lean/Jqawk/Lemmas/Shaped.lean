/-
  `Shaped D G S m`: the computation `m` is built from the state primitives with `handle` (hence
  `>>=`, `loopIter`, `catchReturn`, `catchSig`, `ruleFlow`, `catchExit`) and `framed`, raises a
  runtime error only at a position in `G` and a signal only in `S`; a handler takes the signals
  it catches out of `S`.  `D` allows the writes that only the rule driver performs (`$`, the
  root, `$file`).  What holds of the primitives and is closed under `handle` and `framed` holds
  of every shaped computation, by one induction: `Shaped.errs` (which errors can come out: `NoSig`
  and `RtPos` are readings of it) and `Safe.of_shaped` / `SafeD.of_shaped`.
-/
import Jqawk.Model.Driver
import Jqawk.Lemmas.EvalSteps
import Jqawk.Lemmas.DriverSteps
import Jqawk.Lemmas.EvalNodes
import Jqawk.Model.Scope
import Jqawk.Lemmas.EvalRuleAttr

namespace Jqawk

/-- the errors with a position in `G` or a signal in `S`; a panic or `unmodelled` always -/
def Err.Within (G : Nat → Prop) (S : Sig → Prop) : Err → Prop
  | .runtime p _ => G p
  | .sig g => S g
  | _ => True

inductive Shaped (D : Prop) (G : Nat → Prop) : (Sig → Prop) → {α : Type} → EM α → Prop
  | pure {S} {α : Type} (a : α) : Shaped D G S (Pure.pure a : EM α)
  | oof {S} {α : Type} : Shaped D G S (Jqawk.oof : EM α)
  | throwPanic {S} {α : Type} (m : String) : Shaped D G S (Jqawk.throwPanic m : EM α)
  | throwUnmodelled {S} {α : Type} (m : String) : Shaped D G S (Jqawk.throwUnmodelled m : EM α)
  | throwRt {S} {α : Type} {p : Nat} (hp : G p) (m : String) : Shaped D G S (Jqawk.throwRt p m : EM α)
  | throwSig {S} {α : Type} {g : Sig} (hg : S g) : Shaped D G S (Jqawk.throwSig g : EM α)
  | getSt {S} : Shaped D G S Jqawk.getSt
  | getHeap {S} : Shaped D G S Jqawk.getHeap
  | setHeap {S} (h : Heap) : Shaped D G S (Jqawk.setHeap h)
  | readCell {S} (c : CellId) : Shaped D G S (Jqawk.readCell c)
  | writeCell {S} (c : CellId) (v : Val) : Shaped D G S (Jqawk.writeCell c v)
  | newCell {S} (v : Val) : Shaped D G S (Jqawk.newCell v)
  | allocArrM {S} (items : Array CellId) : Shaped D G S (Jqawk.allocArrM items)
  | allocObjM {S} (m : List (Bytes × CellId)) : Shaped D G S (Jqawk.allocObjM m)
  | emit {S} (b : Bytes) : Shaped D G S (Jqawk.emit b)
  | setLocal {S} (name : Bytes) (c : CellId) : Shaped D G S (Jqawk.setLocal name c)
  | setReturnVal {S} (c : Option CellId) :
      Shaped D G S (Jqawk.modifySt fun s => { s with returnVal := c })
  /-- the driver's writes: any update of `root` and `ruleRoot`, and `$file` in the root frame -/
  | setRoots {S} (d : D) (f : St → St)
      (hf : ∀ s, f s = { s with root := (f s).root, ruleRoot := (f s).ruleRoot }) :
      Shaped D G S (Jqawk.modifySt f)
  | setGlobal {S} (d : D) (name : Bytes) (c : CellId) : Shaped D G S (Jqawk.setGlobal name c)
  /-- `m` may raise the signals `S'`; those that `onSig` does not catch are in `S` -/
  | handle {S S'} {α β : Type} {m : EM α} {onOk : α → EM β} {onSig : Sig → Option (EM β)} :
      Shaped D G S' m → (∀ a, Shaped D G S (onOk a)) → (∀ g k, onSig g = some k → Shaped D G S k) →
      (∀ g, S' g → onSig g = none → S g) → Shaped D G S (Jqawk.handle m onOk onSig)
  | framed {S} {α : Type} (name : Bytes) {pos : Nat} (hp : G pos) {body : EM α} :
      Shaped D G S body → Shaped D G S (Jqawk.framed name pos body)

namespace Shaped
variable {D : Prop} {G : Nat → Prop} {S : Sig → Prop}

theorem bind {α β : Type} {m : EM α} {f : α → EM β} (hm : Shaped D G S m)
    (hf : ∀ a, Shaped D G S (f a)) : Shaped D G S (m >>= f) :=
  bind_eq_handle m f ▸ handle hm hf (fun _ _ h => nomatch h) (fun _ h _ => h)

theorem ite {α : Type} {c : Prop} [Decidable c] {a b : EM α} (ha : Shaped D G S a) (hb : Shaped D G S b) :
    Shaped D G S (if c then a else b) := by
  split <;> assumption

/-- a loop catches `break` and `continue` of its body -/
theorem loopIter {body k : EM Unit} (hb : Shaped D G (fun g => g.loopSig = true ∨ S g) body)
    (hk : Shaped D G S k) : Shaped D G S (Jqawk.loopIter body k) :=
  loopIter_eq_handle body k ▸ handle hb (fun _ => hk)
    (by intro g k' h; cases g <;> cases h <;> first | exact pure _ | exact hk)
    (by intro g hg h; cases g <;> first | (cases h; done) | exact hg.resolve_left (by decide))

theorem returnSlot : Shaped D G S Jqawk.returnSlot :=
  (bind getSt fun s => pure (match s.returnVal with | some c => s.heap.get c | none => .nil none) :)

/-- a call catches `return` of the body -/
theorem catchReturn {body : EM Unit} (hb : Shaped D G (fun g => g = .ret ∨ S g) body) :
    Shaped D G S (Jqawk.catchReturn body) :=
  catchReturn_eq_handle body ▸ handle hb (fun _ => pure _)
    (by intro g k h; cases g <;> cases h; exact returnSlot)
    (by intro g hg h; cases g <;> first | (cases h; done) | exact hg.resolve_left (by decide))

theorem catchSig {α : Type} (g : Sig) (d : α) {m : EM α} (hm : Shaped D G (fun g' => g' = g ∨ S g') m) :
    Shaped D G S (Jqawk.catchSig g d m) :=
  catchSig_eq_handle g d m ▸ handle hm pure
    (by intro g' k h; split at h <;> cases h; exact pure _)
    (by intro g' hg h; split at h; cases h; exact hg.resolve_left ‹_›)

theorem ruleFlow {m : EM Unit} (hm : Shaped D G (fun g => g = .next ∨ g = .exit ∨ S g) m) :
    Shaped D G S (Jqawk.ruleFlow m) :=
  ruleFlow_eq_handle m ▸ handle hm (fun _ => pure _)
    (by intro g k h; cases g <;> cases h <;> exact pure _)
    (by intro g hg h; cases g <;> first | (cases h; done) | simpa using hg)

theorem catchExit {m : EM Unit} (hm : Shaped D G (fun g => g = .exit ∨ S g) m) :
    Shaped D G S (Jqawk.catchExit m) :=
  catchExit_eq_handle m ▸ handle hm (fun _ => pure _)
    (by intro g k h; cases g <;> cases h; exact pure _)
    (by intro g hg h; cases g <;> first | (cases h; done) | simpa using hg)

/-- **which errors come out of a shaped computation** -/
theorem errs {S} {α : Type} {m : EM α} (h : Shaped D G S m) {s s' : St} {e : Err} (he : m s = .err e s') :
    e.Within G S := by
  induction h generalizing s s' e with
  | throwRt hp _ => cases he; exact hp
  | throwSig hg => cases he; exact hg
  | throwPanic _ => cases he; trivial
  | throwUnmodelled _ => cases he; trivial
  | setLocal name c => unfold Jqawk.setLocal at he; split at he <;> cases he; trivial
  | handle _ _ _ hS ihm ihok ihsig =>
    unfold Jqawk.handle at he
    split at he
    · exact ihok _ he
    · split at he
      · exact ihsig _ _ ‹_› he
      · cases he; exact hS _ (ihm (e := .sig _) ‹_›) ‹_›
    · cases he
      have := ihm ‹_›
      rename_i e _ _ _; cases e <;> first | exact this | trivial | simp_all
    · cases he
  | framed name hp _ ih =>
    rw [framed_eq] at he
    split at he
    · cases he; exact hp
    · unfold withFrames at he
      split at he <;> cases he
      exact ih ‹_›
  | _ => cases he

/-! ### the helpers of the evaluator that only sequence primitives -/

attribute [eval_rule] pure readCell newCell oof throwPanic throwUnmodelled getSt getHeap setHeap writeCell
  allocArrM allocObjM emit setLocal setReturnVal

@[eval_rule] theorem getVariable (name : Bytes) : Shaped D G S (Jqawk.getVariable name) := by
  unfold Jqawk.getVariable; em_auto

@[eval_rule] theorem copyValue (a b : CellId) : Shaped D G S (Jqawk.copyValue a b) := by
  unfold Jqawk.copyValue; em_auto

@[eval_rule] theorem bindAll : ∀ l, Shaped D G S (Jqawk.bindAll l)
  | [] => pure ()
  | (k, c) :: rest => bind (setLocal k c) fun _ => bindAll rest

@[eval_rule] theorem bindParams : ∀ ps as, Shaped D G S (Jqawk.bindParams ps as)
  | [], _ => pure ()
  | _ :: ps, [] => bind (newCell _) fun _ => bind (setLocal ..) fun _ => bindParams ps []
  | _ :: ps, _ :: as => bind (newCell _) fun _ => bind (setLocal ..) fun _ => bindParams ps as

@[eval_rule] theorem allocCells : ∀ vs, Shaped D G S (Jqawk.allocCells vs)
  | [] => pure []
  | v :: vs => bind (newCell v) fun _ => bind (allocCells vs) fun _ => pure _

@[eval_rule] theorem newArrayOf (vs : List Val) : Shaped D G S (Jqawk.newArrayOf vs) :=
  bind (allocCells vs) fun _ => bind getHeap fun _ => bind (setHeap _) fun _ => pure _

@[eval_rule] theorem bindRaw (loc : CellId) (il : Option CellId) (it : Spec.RawItem) :
    Shaped D G S (Spec.bindRaw loc il it) := by
  unfold Spec.bindRaw; em_auto

/-- native functions report failures as plain Go errors; `callFunction` attaches the position -/
@[eval_rule] theorem callNative (f : Native) (args : List Val) (this : Option Val) :
    Shaped D G S (Jqawk.callNative f args this) := by
  unfold Jqawk.callNative
  refine bind getHeap fun h => ?_
  cases f <;> dsimp only <;> em_auto

@[eval_rule] theorem createSpeculative : ∀ n c, Shaped D G S (Jqawk.createSpeculative n c)
  | 0, _ => oof
  | n + 1, c => by
    unfold Jqawk.createSpeculative
    dsimp only
    repeat' first | em_step | (with_reducible exact createSpeculative n _)

mutual
theorem newValueJson : ∀ j, Shaped D G S (Jqawk.newValueJson j)
  | .null | .bool _ | .num _ | .str _ => by unfold Jqawk.newValueJson; exact pure _
  | .arr items => by
    unfold Jqawk.newValueJson
    exact bind (newValueItems items) fun _ => bind (allocArrM _) fun _ => pure _
  | .obj members => by
    unfold Jqawk.newValueJson
    exact bind (newValueMembers members) fun _ => bind (allocObjM _) fun _ => pure _
theorem newValueItems : ∀ js, Shaped D G S (Jqawk.newValueItems js)
  | [] => by unfold Jqawk.newValueItems; exact pure _
  | j :: js => by
    unfold Jqawk.newValueItems
    exact bind (newValueJson j) fun v => bind (newCell v) fun _ => bind (newValueItems js) fun _ => pure _
theorem newValueMembers : ∀ ms, Shaped D G S (Jqawk.newValueMembers ms)
  | [] => by unfold Jqawk.newValueMembers; exact pure _
  | (k, j) :: ms => by
    unfold Jqawk.newValueMembers
    exact bind (newValueJson j) fun v => bind (newCell v) fun _ => bind (newValueMembers ms) fun _ => pure _
end

theorem memberStep {pos : Nat} (hp : G pos) (l r : CellId) : Shaped D G S (Jqawk.memberStep pos l r) := by
  unfold Jqawk.memberStep
  repeat' first | em_step | dsimp only | exact throwRt hp _

theorem evalAssignment {pos : Nat} (hp : G pos) (l r : CellId) :
    Shaped D G S (Jqawk.evalAssignment pos l r) := by
  unfold Jqawk.evalAssignment; dsimp only
  repeat' first | em_step | exact throwRt hp _

theorem getIdentifier (prog : Program) {t : Token} (ht : G t.pos) :
    Shaped D G S (Jqawk.getIdentifier prog t) := by
  unfold Jqawk.getIdentifier
  repeat' first | em_step | exact throwRt ht _

end Shaped

end Jqawk
