import Jqawk.Lemmas.JsonBytesCanon
/-!
  What the decoder can build.  `Built g n v`: the tree `v` can stand below `n` open brackets when
  `g` accepts its number literals — nesting within `maxNestingDepth`, keys strictly ascending,
  strings unquoted from literals the scanner accepts, numbers grammatical.  Every value
  `decodeOne` returns is `Built` (`decodeOne_built`): an invariant of the scanner state machine,
  proved here once.  That decoded keys are sorted, strings valid UTF-8, numbers well-formed and
  nesting bounded are inductions over `Built` (JsonBytesSorted, JsonBytesUtf8, JsonBytesNums,
  JsonBytesDepth).
-/
namespace Jqawk.JsonBytes
open Jqawk Jqawk.Json

/-- `k` is what `unquote` makes of a string literal the scanner accepts -/
def Unquoted (k : Bytes) : Prop := ∃ raw, path strNext .inString raw = some .inString ∧ k = unquote raw

theorem Unquoted.nil : Unquoted [] := ⟨[], rfl, rfl⟩

inductive Built (g : Bytes → Bool) : Nat → JVal → Prop
  | null {n} (h : n ≤ maxNestingDepth) : Built g n .null
  | bool {n} (b : Bool) (h : n ≤ maxNestingDepth) : Built g n (.bool b)
  | num {n lit} (h : n ≤ maxNestingDepth) (hg : numGrammar lit = true) (ha : g lit = true) : Built g n (.num lit)
  | str {n k} (h : n ≤ maxNestingDepth) (hk : Unquoted k) : Built g n (.str k)
  | arr {n xs} (h : n + 1 ≤ maxNestingDepth) (hx : ∀ v ∈ xs, Built g (n + 1) v) : Built g n (.arr xs)
  | obj {n ms} (h : n + 1 ≤ maxNestingDepth) (hs : SortedKeys ms) (hk : ∀ kv ∈ ms, Unquoted kv.1)
      (hv : ∀ kv ∈ ms, Built g (n + 1) kv.2) : Built g n (.obj ms)

namespace Built
variable {g g' : Bytes → Bool} {n : Nat} {v : JVal}

theorem mono (hg : ∀ l, g l = true → g' l = true) (h : Built g n v) : Built g' n v := by
  induction h with
  | null h => exact .null h
  | bool b h => exact .bool b h
  | num h hgr ha => exact .num h hgr (hg _ ha)
  | str h hk => exact .str h hk
  | arr h _ ih => exact .arr h ih
  | obj h hs hk _ ih => exact .obj h hs hk ih

/-- the key under which a value delivered in key position is remembered -/
theorem key : Built g n v → Unquoted (match v with | .str k => k | _ => []) := by
  intro h; cases h <;> first | assumption | exact .nil

theorem arr_cons {acc : List JVal} (h : Built g n (.arr acc)) (hv : Built g (n + 1) v) :
    Built g n (.arr (v :: acc)) := by
  cases h with
  | arr h hx => exact .arr h (List.forall_mem_cons.2 ⟨hv, hx⟩)

theorem arr_reverse {acc : List JVal} (h : Built g n (.arr acc)) : Built g n (.arr acc.reverse) := by
  cases h with
  | arr h hx => exact .arr h fun w hw => hx w (List.mem_reverse.1 hw)

theorem obj_insert {ms : List (Bytes × JVal)} {k : Bytes} (h : Built g n (.obj ms)) (hk : Unquoted k)
    (hv : Built g (n + 1) v) : Built g n (.obj (insertMember k v ms)) := by
  cases h with
  | obj h hs hks hvs =>
    refine .obj h (insertMember_sorted k v ms hs) (fun kv hkv => ?_) fun kv hkv => ?_
    · rcases mem_insertMember hkv with rfl | hkv
      · exact hk
      · exact hks kv hkv
    · rcases mem_insertMember hkv with rfl | hkv
      · exact hv
      · exact hvs kv hkv

end Built

/-- a frame with `n` frames below it holds the beginnings of a `Built` container -/
def FrameB (g : Bytes → Bool) (n : Nat) : Frame → Prop
  | .arr acc => Built g n (.arr acc)
  | .obj ms k _ => Built g n (.obj ms) ∧ Unquoted k

def StackB (g : Bytes → Bool) : List Frame → Prop
  | [] => True
  | fr :: fs => FrameB g fs.length fr ∧ StackB g fs

theorem StackB.mono {g g' : Bytes → Bool} (hg : ∀ l, g l = true → g' l = true) :
    ∀ {stk : List Frame}, StackB g stk → StackB g' stk
  | [], _ => trivial
  | .arr _ :: _, h => ⟨h.1.mono hg, h.2.mono hg⟩
  | .obj _ _ _ :: _, h => ⟨⟨h.1.1.mono hg, h.1.2⟩, h.2.mono hg⟩

theorem StackB.length_le {g : Bytes → Bool} : ∀ {stk : List Frame}, StackB g stk → stk.length ≤ maxNestingDepth
  | [], _ => Nat.zero_le _
  | .arr _ :: _, h => by cases h.1 with | arr h _ => exact h
  | .obj _ _ _ :: _, h => by cases h.1.1 with | obj h _ _ _ => exact h

/-- the values carried by a step are `Built`; `n` = height of the stack -/
def StepB (g : Bytes → Bool) (n : Nat) : Step → Prop
  | .endTop v => Built g 0 v
  | .lit _ v => Built g n v
  | _ => True

/-- in a string or number state the literal read so far is a path of the respective automaton -/
structure LitProg (st : Step) (lit : Bytes) : Prop where
  str : isStr st = true → path strNext .inString lit.reverse = some st
  num : isNum st = true → ∃ b ds, lit.reverse = b :: ds ∧ (b == 0x2D || isDigit b) = true ∧
    path numNext (firstNum b) ds = some st

theorem LitProg.other {st : Step} {lit : Bytes} (h1 : isStr st = false) (h2 : isNum st = false) :
    LitProg st lit :=
  ⟨fun h => Bool.noConfusion (h1.symm.trans h), fun h => Bool.noConfusion (h2.symm.trans h)⟩

structure StB (g : Bytes → Bool) (s : St) : Prop where
  dep : s.depth = s.stack.length
  stk : StackB g s.stack
  stp : StepB g s.stack.length s.step
  lit : LitProg s.step s.lit

/-- the outcome keeps the invariant and the `bad` flag `b` -/
def OutB (g : Bytes → Bool) (b : Bool) : Out → Prop
  | .cont s => StB g s ∧ s.bad = b
  | .done v bad _ => Built g 0 v ∧ bad = b
  | .err => True

variable {g : Bytes → Bool}

theorem isNum_of_isStr {st : Step} (h : isStr st = true) : isNum st = false := by
  cases st <;> first | rfl | cases h

theorem isStr_of_isNum {st : Step} (h : isNum st = true) : isStr st = false := by
  cases st <;> first | rfl | cases h

theorem stepB_of_isStr {n : Nat} {st : Step} (h : isStr st = true) : StepB g n st := by
  cases st <;> first | trivial | cases h

theorem stepB_of_isNum {n : Nat} {st : Step} (h : isNum st = true) : StepB g n st := by
  cases st <;> first | trivial | cases h

theorem deliver_b (s : St) (v : JVal) (hd : s.depth = s.stack.length) (hs : StackB g s.stack)
    (hv : Built g s.stack.length v) : StB g (deliver s v) ∧ (deliver s v).bad = s.bad := by
  refine deliver_cases (P := fun s' => StB g s' ∧ s'.bad = s.bad) s v (key := fun ms k fs h => ?_)
    (top := fun h => ?_) (item := fun acc fs h => ?_) (member := fun ms k fs h => ?_)
  all_goals rw [h] at hs hv hd
  · exact ⟨⟨hd, ⟨⟨hs.1.1, hv.key⟩, hs.2⟩, trivial, .other rfl rfl⟩, rfl⟩
  · exact ⟨⟨hd.trans (congrArg _ h.symm), h ▸ trivial, hv, .other rfl rfl⟩, rfl⟩
  · exact ⟨⟨hd, ⟨hs.1.arr_cons hv, hs.2⟩, trivial, .other rfl rfl⟩, rfl⟩
  · exact ⟨⟨hd, ⟨⟨hs.1.1.obj_insert hs.1.2 hv, .nil⟩, hs.2⟩, trivial, .other rfl rfl⟩, rfl⟩

/-- closing a bracket: `s.stack = fr :: fs`, the composite `v` built from `fr` -/
theorem pop_b (s : St) (fs : List Frame) (v : JVal) (hd : s.depth = fs.length + 1) (hfs : StackB g fs)
    (hv : Built g fs.length v) : OutB g s.bad (pop s fs v) :=
  pop_cases s fs v (fun h => ⟨by rw [h] at hv; exact hv, rfl⟩) fun _ =>
    deliver_b { s with stack := fs, depth := s.depth - 1 } v (by rw [hd]; rfl) hfs hv

theorem endValue_b (s : St) (c : UInt8) (hd : s.depth = s.stack.length) (hs : StackB g s.stack) :
    OutB g s.bad (endValue s c) := by
  refine endValue_cases s c
    (space := ⟨⟨hd, hs, trivial, .other rfl rfl⟩, rfl⟩)
    (colon := fun ms k fs h => ?_) (comma := fun ms k fs h => ?_) (closeObj := fun ms k fs h => ?_)
    (next := fun acc fs h => ⟨⟨hd, hs, trivial, .other rfl rfl⟩, rfl⟩) (closeArr := fun acc fs h => ?_)
    (err := trivial)
  all_goals rw [h] at hs hd
  · exact ⟨⟨hd, hs, trivial, .other rfl rfl⟩, rfl⟩
  · exact ⟨⟨hd, ⟨⟨hs.1.1, .nil⟩, hs.2⟩, trivial, .other rfl rfl⟩, rfl⟩
  · exact pop_b s fs _ hd hs.2 hs.1.1
  · exact pop_b s fs _ hd hs.2 hs.1.arr_reverse

theorem more_b (s : St) (c : UInt8) (next : Step) (h : StB g s) (hn : StepB g s.stack.length next)
    (hl : LitProg next (c :: s.lit)) : OutB g s.bad (more s c next) :=
  ⟨⟨h.dep, h.stk, hn, hl⟩, rfl⟩

theorem afterValue_b (s : St) (c : UInt8) (h : StB g s) : OutB g s.bad (afterValue s c) :=
  afterValue_cases s c (fun v hv => ⟨by have := h.stp; rw [hv] at this; exact this, rfl⟩)
    (endValue_b s c h.dep h.stk)

theorem push_b (s : St) (fr : Frame) (next : Step) (h : StB g s)
    (hfr : s.stack.length + 1 ≤ maxNestingDepth → FrameB g s.stack.length fr)
    (hn : StepB g (s.stack.length + 1) next) (h1 : isStr next = false) (h2 : isNum next = false) :
    OutB g s.bad (push s fr next) :=
  push_cases s fr next (fun hle => ⟨⟨congrArg (· + 1) h.dep, ⟨hfr (h.dep ▸ hle), h.stk⟩, hn, .other h1 h2⟩, rfl⟩)
    trivial

theorem beginValue_b (s : St) (c : UInt8) (h : StB g s) : OutB g s.bad (beginValue s c) := by
  have hl := h.stk.length_le
  have num : ∀ st, (c == 0x2D || isDigit c) = true → st = firstNum c →
      OutB g s.bad (.cont { s with step := st, lit := [c] }) := fun st hc hst =>
    ⟨⟨h.dep, h.stk, stepB_of_isNum (hst ▸ isNum_firstNum c),
      ⟨fun hs => (by rw [isStr_of_isNum (hst ▸ isNum_firstNum c)] at hs; cases hs),
       fun _ => ⟨c, [], rfl, hc, hst ▸ rfl⟩⟩⟩, rfl⟩
  refine beginValue_cases s c
    (space := ⟨h, rfl⟩)
    (obj := push_b s _ _ h (fun hle => ⟨.obj hle .nil nofun nofun, .nil⟩) trivial rfl rfl)
    (arr := push_b s _ _ h (fun hle => .arr hle nofun) trivial rfl rfl)
    (str := ⟨⟨h.dep, h.stk, trivial, ⟨fun _ => rfl, nofun⟩⟩, rfl⟩)
    (neg := fun hc => num _ (by rw [hc]; rfl) (by rw [hc]; rfl))
    (zero := fun hc => num _ (by rw [hc]; rfl) (by rw [hc]; rfl))
    (tru := ⟨⟨h.dep, h.stk, .bool _ hl, .other rfl rfl⟩, rfl⟩)
    (fls := ⟨⟨h.dep, h.stk, .bool _ hl, .other rfl rfl⟩, rfl⟩)
    (nul := ⟨⟨h.dep, h.stk, .null hl, .other rfl rfl⟩, rfl⟩)
    (digit := fun h2D h30 hd => num _ (by rw [hd]; exact Bool.or_true _) ?_)
    (err := trivial)
  unfold firstNum
  rw [if_neg (by simpa using h2D), if_neg (by simpa using h30)]

theorem beginString_b (s : St) (c : UInt8) (h : StB g s) : OutB g s.bad (beginString s c) :=
  beginString_cases s c ⟨h, rfl⟩ ⟨⟨h.dep, h.stk, trivial, ⟨fun _ => rfl, nofun⟩⟩, rfl⟩ trivial

/-- the invariant: every number so far is grammatical, and accepted by `f` unless `bad` is set -/
def Inv (f : Bytes → Bool) (s : St) : Prop := StB (fun lit => s.bad || f lit) s

def OutI (f : Bytes → Bool) : Out → Prop
  | .cont s => Inv f s
  | .done v bad _ => Built (fun lit => bad || f lit) 0 v
  | .err => True

theorem outB_outI {f : Bytes → Bool} {b : Bool} {out : Out} (h : OutB (fun lit => b || f lit) b out) :
    OutI f out := by
  cases out with
  | cont s' => obtain ⟨h1, h2⟩ := h; subst h2; exact h1
  | done v bad c => obtain ⟨h1, h2⟩ := h; subst h2; exact h1
  | err => trivial

theorem endNumber_inv (f : Bytes → Bool) (s : St) (c : UInt8) (h : Inv f s) (hn : isNum s.step = true)
    (hce : canEnd s.step = true) : OutI f (endNumber f s c) := by
  have hmono : ∀ l, (s.bad || f l) = true → ((s.bad || !f s.lit.reverse) || f l) = true := by
    intro l hl; rw [Bool.or_right_comm, hl]; rfl
  have hs' := h.stk.mono hmono
  obtain ⟨b, ds, hl, hb, hp⟩ := h.lit.num hn
  have hv : Built (fun lit => (s.bad || !f s.lit.reverse) || f lit) s.stack.length (.num s.lit.reverse) := by
    refine .num h.stk.length_le ?_ (by cases f s.lit.reverse <;> simp)
    rw [hl, numGrammar, hb, Bool.true_and]
    exact (numAccepts_iff_path ds _).2 ⟨_, hp, hce⟩
  obtain ⟨h1, h2⟩ :=
    deliver_b { s with lit := [], bad := s.bad || !f s.lit.reverse } (.num s.lit.reverse) h.dep hs' hv
  have := afterValue_b _ c h1
  rw [h2] at this
  exact outB_outI this

theorem step_inv (f : Bytes → Bool) (s : St) (c : UInt8) (h : Inv f s) : OutI f (step f s c) := by
  refine step_cases f s c
    (bv := outB_outI (beginValue_b s c h))
    (space := h)
    (ev := outB_outI (endValue_b s c h.dep h.stk))
    (closeEmpty := fun ms k b fs hstk => ?_)
    (bs := outB_outI (beginString_b s c h))
    (endTop := fun v hv => ?_)
    (strEnd := fun hst => ?_)
    (strMore := fun st' hs hnx => ?_)
    (numMore := fun st' hn hnx => ?_)
    (numEnd := fun hn hce _ => endNumber_inv f s c h hn hce)
    (litEnd := fun x v hst => ?_)
    (litMore := fun x xs v hst => ?_)
    (err := trivial)
  · have hd := h.dep
    have hs := h.stk
    rw [hstk] at hd hs
    exact outB_outI (b := s.bad) (endValue_b { s with stack := .obj ms k true :: fs } c hd hs)
  · have := h.stp; rw [hv] at this; exact this
  · have hp := h.lit.str; rw [hst] at hp
    exact outB_outI (b := s.bad) (deliver_b { s with lit := [] } _ h.dep h.stk
      (.str h.stk.length_le ⟨_, hp rfl, rfl⟩))
  · refine outB_outI (more_b s c st' h (stepB_of_isStr (strNext_isStr hnx)) ⟨fun _ => ?_, fun hn => ?_⟩)
    · rw [List.reverse_cons]; exact path_snoc (h.lit.str hs) hnx
    · rw [isNum_of_isStr (strNext_isStr hnx)] at hn; cases hn
  · refine outB_outI (more_b s c st' h (stepB_of_isNum (numNext_isNum hnx)) ⟨fun hs => ?_, fun _ => ?_⟩)
    · rw [isStr_of_isNum (numNext_isNum hnx)] at hs; cases hs
    · obtain ⟨b, ds, hl, hb, hp⟩ := h.lit.num hn
      exact ⟨b, ds ++ [c], by rw [List.reverse_cons, hl]; rfl, hb, path_snoc hp hnx⟩
  · have := h.stp; rw [hst] at this
    exact outB_outI (b := s.bad) (deliver_b s v h.dep h.stk this)
  · have := h.stp; rw [hst] at this
    exact ⟨h.dep, h.stk, this, .other rfl rfl⟩

theorem run_inv (f : Bytes → Bool) (t : Tail) (inp : Bytes) (s : St) (v : JVal) (rest : Bytes) (hs : Inv f s)
    (h : run f s inp t = .value v rest) : Built f 0 v := by
  obtain ⟨pre, s', c, consumed, h1, h2, _⟩ := run_value inp s h
  have := step_inv f s' c (steps_preserves (P := Inv f)
    (fun s c s' hs e => by have := step_inv f s c hs; rwa [e] at this) pre hs h1)
  rw [h2] at this
  exact this.mono fun l hl => hl

theorem decodeOne_built (f : Bytes → Bool) (inp : Bytes) (t : Tail) (v : JVal) (rest : Bytes)
    (h : decodeOne f inp t = .value v rest) : Built f 0 v := by
  unfold decodeOne at h
  split at h
  · cases h
  · cases h
  · cases h
  · exact run_inv f _ _ St.init v rest ⟨rfl, trivial, trivial, .other rfl rfl⟩ h

end Jqawk.JsonBytes
