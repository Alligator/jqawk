/-
  Lemmas about rendering (`pretty`, `toJVal`).  Both walk the heap the same way — stop at a
  container on the ancestor path, else descend with the path extended and one unit of fuel less —
  and `walk_induction` is that recursion as an induction principle, with the pigeonhole bound on
  the path proved once; termination of either renderer on every heap is an instance.
-/
import Jqawk.Model.Render
import Jqawk.Lemmas.HeapOps

namespace Jqawk

/-- `omega` does not look through the abbreviations `ArrId`/`ObjId`/`CellId` (= `Nat`) -/
macro "omega_ids" : tactic =>
  `(tactic| ((try unfold ArrId at *); (try unfold ObjId at *); (try unfold CellId at *); omega))

theorem mapM_option_ne_none {α β : Type} (f : α → Option β) (l : List α)
    (hf : ∀ x ∈ l, f x ≠ none) : l.mapM f ≠ none := by
  induction l with
  | nil => simp
  | cons x xs ih =>
    have hx := hf x (by simp)
    have hxs := ih (fun y hy => hf y (by simp [hy]))
    cases h1 : f x with
    | none => exact absurd h1 hx
    | some y =>
      cases h2 : xs.mapM f with
      | none => exact absurd h2 hxs
      | some ys => simp [List.mapM_cons, h1, h2]

/-- pigeonhole: a duplicate-free list of naturals below `N` has at most `N` elements -/
theorem nodup_length_le_of_lt (N : Nat) : ∀ (l : List Nat), l.Nodup → (∀ x ∈ l, x < N) → l.length ≤ N := by
  induction N with
  | zero =>
    intro l _ hl
    cases l with
    | nil => simp
    | cons x xs => exact absurd (hl x (by simp)) (by omega)
  | succ N ih =>
    intro l hnd hl
    have h1 : (l.erase N).Nodup := hnd.erase N
    have h2 : ∀ x ∈ l.erase N, x < N := by
      intro x hx
      have hx' := (hnd.mem_erase_iff).1 hx
      have := hl x hx'.2
      omega
    have h3 := ih _ h1 h2
    have h4 := List.length_erase_le (a := N) (l := l)
    by_cases hm : N ∈ l
    · rw [List.length_erase_of_mem hm] at h3; omega
    · rw [List.erase_of_not_mem hm] at h3; omega


def Cont.valid (h : Heap) : Cont → Prop
  | .a i => i < h.arrs.size
  | .o i => i < h.objs.size

def Heap.nconts (h : Heap) : Nat := h.arrs.size + h.objs.size

def Cont.code (h : Heap) : Cont → Nat
  | .a i => i
  | .o i => h.arrs.size + i

theorem Cont.code_inj (h : Heap) (c d : Cont) (hc : c.valid h) (hd : d.valid h)
    (e : c.code h = d.code h) : c = d := by
  cases c with
  | a i => cases d with
    | a j => simp only [Cont.code] at e; rw [e]
    | o j => have h1 : i < h.arrs.size := hc
             simp only [Cont.code] at e; omega_ids
  | o i => cases d with
    | a j => have h1 : j < h.arrs.size := hd
             simp only [Cont.code] at e; omega_ids
    | o j => simp only [Cont.code] at e; congr 1; omega_ids

theorem Cont.code_lt (h : Heap) (c : Cont) (hc : c.valid h) : c.code h < h.nconts := by
  cases c with
  | a i => have h1 : i < h.arrs.size := hc
           simp only [Cont.code, Heap.nconts]; omega_ids
  | o i => have h1 : i < h.objs.size := hc
           simp only [Cont.code, Heap.nconts]; omega_ids

/-- pigeonhole on ancestor paths: a duplicate-free path of allocated containers is no longer
    than the number of containers of the heap -/
theorem path_length_le (h : Heap) (path : List Cont) (hnd : path.Nodup)
    (hv : ∀ c ∈ path, c.valid h) : path.length ≤ h.nconts := by
  have h1 : (path.map (Cont.code h)).Nodup := by
    induction path with
    | nil => simp
    | cons c cs ih =>
      rw [List.map_cons, List.nodup_cons]
      rw [List.nodup_cons] at hnd
      refine ⟨?_, ih hnd.2 (fun d hd => hv d (by simp [hd]))⟩
      intro hm
      obtain ⟨d, hd, e⟩ := List.mem_map.1 hm
      have := Cont.code_inj h d c (hv d (by simp [hd])) (hv c (by simp)) e
      exact hnd.1 (this ▸ hd)
  have h2 : ∀ x ∈ path.map (Cont.code h), x < h.nconts := by
    intro x hx
    obtain ⟨d, hd, e⟩ := List.mem_map.1 hx
    exact e ▸ Cont.code_lt h d (hv d hd)
  simpa using nodup_length_le_of_lt _ _ h1 h2

theorem onPath_arr (path : List Cont) (a : ArrId) : onPath path (.arr a) = path.contains (.a a) := rfl
theorem onPath_obj (path : List Cont) (o : ObjId) : onPath path (.obj o) = path.contains (.o o) := rfl

/-- the invariant kept by both renderers along the ancestor path -/
structure PathOk (h : Heap) (path : List Cont) : Prop where
  nodup : path.Nodup
  valid : ∀ c ∈ path, c.valid h

theorem PathOk.nil (h : Heap) : PathOk h [] := ⟨List.nodup_nil, by simp⟩

theorem PathOk.snoc {h : Heap} {path : List Cont} (hp : PathOk h path) (c : Cont)
    (hc : c.valid h) (hn : path.contains c = false) : PathOk h (path ++ [c]) := by
  constructor
  · rw [List.nodup_append]
    refine ⟨hp.nodup, by simp, ?_⟩
    intro x hx y hy
    simp at hy; subst hy
    intro e; subst e
    simp at hn; exact hn hx
  · intro d hd
    simp at hd
    rcases hd with hd | rfl
    · exact hp.valid d hd
    · exact hc

/-- Induction along the renderers' walk.  A property that holds where the walk stops (a
    container on the path, a leaf) and passes from the elements / members of a container, below
    the extended path with one unit of fuel less, to the container, holds wherever the fuel
    covers the containers not yet on a duplicate-free path. -/
theorem walk_induction (h : Heap) {F : Nat → List Cont → Bool → Val → Prop}
    (stop : ∀ n path check v, (check && onPath path v) = true → F (n + 1) path check v)
    (leaf : ∀ n path check v, v.cont? = none → F (n + 1) path check v)
    (arr : ∀ n path check a, (check && path.contains (.a a)) = false →
      (∀ c ∈ (h.arr a).toList, F n (path ++ [.a a]) true (h.get c)) → F (n + 1) path check (.arr a))
    (obj : ∀ n path check o, (check && path.contains (.o o)) = false →
      (∀ kv ∈ sortByKey (h.obj o), F n (path ++ [.o o]) true (h.get kv.2)) → F (n + 1) path check (.obj o)) :
    ∀ (n : Nat) (path : List Cont) (check : Bool) (v : Val), PathOk h path →
      (check = true ∨ onPath path v = false) → h.nconts + 1 ≤ path.length + n → F n path check v := by
  intro n
  induction n with
  | zero =>
    intro path _ _ hp _ hlen
    have := path_length_le h path hp.nodup hp.valid
    omega
  | succ n ih =>
    intro path check v hp hc hlen
    by_cases hcond : (check && onPath path v) = true
    · exact stop n path check v hcond
    have hnp : onPath path v = false := by
      rcases hc with rfl | hc
      · simpa using hcond
      · exact hc
    have hcond' : (check && onPath path v) = false := by rw [hnp, Bool.and_false]
    cases hv : v.cont? with
    | none => exact leaf n path check v hv
    | some c =>
      -- a dangling id is an empty container; an allocated one extends the path
      cases v with
      | arr a =>
        refine arr n path check a hcond' fun c hc => ?_
        by_cases hva : a < h.arrs.size
        · exact ih _ true _ (hp.snoc (.a a) hva hnp) (.inl rfl) (by simp; omega)
        · rw [Heap.arr_of_not_valid h a hva] at hc; cases hc
      | obj o =>
        refine obj n path check o hcond' fun kv hkv => ?_
        by_cases hvo : o < h.objs.size
        · exact ih _ true _ (hp.snoc (.o o) hvo hnp) (.inl rfl) (by simp; omega)
        · rw [Heap.obj_of_not_valid h o hvo] at hkv; cases hkv
      | _ => cases hv

theorem sequence_ne_oof {α : Type} (l : List (GoValRes α)) (hl : ∀ x ∈ l, x ≠ .oof) :
    GoValRes.sequence l ≠ .oof := by
  induction l with
  | nil => simp [GoValRes.sequence]
  | cons x xs ih =>
    have hxs := ih (fun y hy => hl y (by simp [hy]))
    cases x with
    | oof => exact absurd rfl (hl _ (by simp))
    | error m => simp [GoValRes.sequence]
    | ok v =>
      simp only [GoValRes.sequence]
      split <;> simp_all

def circMarker : Bytes := b!"<circular reference>"

theorem pretty_on_path (h : Heap) (n : Nat) (path : List Cont) (q : Bool) (v : Val)
    (hp : onPath path v = true) : pretty h (n + 1) path q true v = some circMarker := by
  rw [pretty.eq_def]; simp [hp, circMarker]

theorem pretty_arr_unfold (h : Heap) (n : Nat) (path : List Cont) (q check : Bool) (a : ArrId)
    (hp : (check && path.contains (.a a)) = false) :
    pretty h (n + 1) path q check (.arr a) =
      ((h.arr a).toList.mapM (fun c => pretty h n (path ++ [.a a]) true true (h.get c))).map
        (fun parts => [91] ++ joinSep b!", " parts ++ [93]) := by
  rw [pretty.eq_def]
  simp only [onPath_arr, hp]
  cases (h.arr a).toList.mapM (fun c => pretty h n (path ++ [.a a]) true true (h.get c)) <;> simp

theorem pretty_obj_unfold (h : Heap) (n : Nat) (path : List Cont) (q check : Bool) (o : ObjId)
    (hp : (check && path.contains (.o o)) = false) :
    pretty h (n + 1) path q check (.obj o) =
      ((sortByKey (h.obj o)).mapM (fun kv =>
          (pretty h n (path ++ [.o o]) true true (h.get kv.2)).map
            (fun r => [34] ++ kv.1 ++ [34] ++ b!": " ++ r))).map
        (fun parts => [123] ++ joinSep b!", " parts ++ [125]) := by
  rw [pretty.eq_def]
  simp only [onPath_obj, hp]
  have : (fun (kv : Bytes × CellId) =>
          match pretty h n (path ++ [.o o]) true true (h.get kv.2) with
          | none => none
          | some r => some ([34] ++ kv.1 ++ [34] ++ b!": " ++ r)) =
        (fun kv => (pretty h n (path ++ [.o o]) true true (h.get kv.2)).map
            (fun r => [34] ++ kv.1 ++ [34] ++ b!": " ++ r)) := by
    funext kv; cases pretty h n (path ++ [.o o]) true true (h.get kv.2) <;> rfl
  change (if false = true then _ else
      (match (sortByKey (h.obj o)).mapM (fun (kv : Bytes × CellId) =>
          match pretty h n (path ++ [.o o]) true true (h.get kv.2) with
          | none => none
          | some r => some ([34] ++ kv.1 ++ [34] ++ b!": " ++ r)) with
       | none => none
       | some parts => some ([123] ++ joinSep b!", " parts ++ [125]))) = _
  rw [this]
  cases (sortByKey (h.obj o)).mapM (fun kv =>
          (pretty h n (path ++ [.o o]) true true (h.get kv.2)).map
            (fun r => [34] ++ kv.1 ++ [34] ++ b!": " ++ r)) <;> simp

theorem mapM_option_eq_some {α β : Type} (f : α → Option β) :
    ∀ (l : List α) (r : List β), l.mapM f = some r ↔ l.map f = r.map some := by
  intro l
  induction l with
  | nil => intro r; cases r <;> simp
  | cons x xs ih =>
    intro r
    rw [List.mapM_cons]
    cases r with
    | nil => cases f x <;> cases xs.mapM f <;> simp
    | cons z zs =>
      rw [List.map_cons, List.map_cons, List.cons.injEq, ← ih zs]
      cases f x <;> cases xs.mapM f <;> simp

/-- the `match` after `sequence` in the array case -/
def GoValRes.map {α β : Type} (f : α → β) : GoValRes α → GoValRes β
  | .ok v => .ok (f v)
  | .error m => .error m
  | .oof => .oof

theorem toJVal_arr_unfold (h : Heap) (n : Nat) (path : List Cont) (check : Bool) (a : ArrId)
    (hp : (check && path.contains (.a a)) = false) :
    toJVal h (n + 1) path check (.arr a) =
      (GoValRes.sequence ((h.arr a).toList.map fun c => toJVal h n (path ++ [.a a]) true (h.get c))).map
        JVal.arr := by
  rw [toJVal.eq_def]
  simp only [onPath_arr, hp]
  cases GoValRes.sequence ((h.arr a).toList.map fun c => toJVal h n (path ++ [.a a]) true (h.get c)) <;>
    simp [GoValRes.map]

theorem toJVal_obj_unfold (h : Heap) (n : Nat) (path : List Cont) (check : Bool) (o : ObjId)
    (hp : (check && path.contains (.o o)) = false) :
    toJVal h (n + 1) path check (.obj o) =
      (GoValRes.sequence ((sortByKey (h.obj o)).map fun kv =>
          (toJVal h n (path ++ [.o o]) true (h.get kv.2)).map (fun j => (kv.1, j)))).map JVal.obj := by
  rw [toJVal.eq_def]
  simp only [onPath_obj, hp]
  have : (fun (kv : Bytes × CellId) =>
          match toJVal h n (path ++ [.o o]) true (h.get kv.2) with
          | .ok j => GoValRes.ok (kv.1, j)
          | .error m => .error m
          | .oof => .oof) =
        (fun kv => (toJVal h n (path ++ [.o o]) true (h.get kv.2)).map (fun j => (kv.1, j))) := by
    funext kv; cases toJVal h n (path ++ [.o o]) true (h.get kv.2) <;> rfl
  change (if false = true then _ else
      (match GoValRes.sequence ((sortByKey (h.obj o)).map fun (kv : Bytes × CellId) =>
          match toJVal h n (path ++ [.o o]) true (h.get kv.2) with
          | .ok j => GoValRes.ok (kv.1, j)
          | .error m => .error m
          | .oof => .oof) with
       | .ok members => GoValRes.ok (JVal.obj members)
       | .error m => .error m
       | .oof => .oof)) = _
  rw [this]
  cases GoValRes.sequence ((sortByKey (h.obj o)).map fun kv =>
          (toJVal h n (path ++ [.o o]) true (h.get kv.2)).map (fun j => (kv.1, j))) <;>
    simp [GoValRes.map]

theorem GoValRes.map_eq_oof {α β : Type} (f : α → β) (r : GoValRes α) (e : r.map f = .oof) : r = .oof := by
  cases r <;> first | rfl | cases e

/-- Fuel `≥ nconts + 1 - path.length` suffices along a duplicate-free path of allocated
    containers; no assumption on the heap.  The side condition `check = true ∨ onPath path v = false`
    holds at every call site (top level: empty path). -/
theorem pretty_ne_none_gen (h : Heap) (n : Nat) (path : List Cont) (quote check : Bool) (v : Val)
    (hp : PathOk h path) (hc : check = true ∨ onPath path v = false) (hlen : h.nconts + 1 ≤ path.length + n) :
    pretty h n path quote check v ≠ none := by
  refine walk_induction h (F := fun n path check v => ∀ q, pretty h n path q check v ≠ none)
    (fun n path check v hs q => ?_) (fun n path check v hv q => ?_) (fun n path check a hs ih q => ?_)
    (fun n path check o hs ih q => ?_) n path check v hp hc hlen quote
  · rw [pretty.eq_def]; simp [hs]
  · rw [pretty.eq_def]; simp only; split
    · simp
    · cases v <;> simp_all [Val.cont?]
  · rw [pretty_arr_unfold h n path q check a hs]
    rw [ne_eq, Option.map_eq_none_iff]
    exact mapM_option_ne_none _ _ fun c hc => ih c hc true
  · rw [pretty_obj_unfold h n path q check o hs]
    rw [ne_eq, Option.map_eq_none_iff]
    exact mapM_option_ne_none _ _ fun kv hkv => by
      rw [ne_eq, Option.map_eq_none_iff]; exact ih kv hkv true

theorem toJVal_ne_oof_gen (h : Heap) (n : Nat) (path : List Cont) (check : Bool) (v : Val)
    (hp : PathOk h path) (hc : check = true ∨ onPath path v = false) (hlen : h.nconts + 1 ≤ path.length + n) :
    toJVal h n path check v ≠ .oof := by
  refine walk_induction h (F := fun n path check v => toJVal h n path check v ≠ .oof)
    (fun n path check v hs => ?_) (fun n path check v hv => ?_) (fun n path check a hs ih => ?_)
    (fun n path check o hs ih => ?_) n path check v hp hc hlen
  · rw [toJVal.eq_def]; simp [hs]
  · rw [toJVal.eq_def]; simp only; split
    · simp
    · cases v <;> first | (cases hv; done) | (simp only; split <;> simp) | simp
  · rw [toJVal_arr_unfold h n path check a hs]
    refine mt (GoValRes.map_eq_oof _ _) (sequence_ne_oof _ fun x hx => ?_)
    obtain ⟨c, hc, rfl⟩ := List.mem_map.1 hx
    exact ih c hc
  · rw [toJVal_obj_unfold h n path check o hs]
    refine mt (GoValRes.map_eq_oof _ _) (sequence_ne_oof _ fun x hx => ?_)
    obtain ⟨kv, hkv, rfl⟩ := List.mem_map.1 hx
    exact mt (GoValRes.map_eq_oof _ _) (ih kv hkv)

theorem sequence_eq_ok {α : Type} : ∀ (l : List (GoValRes α)) (r : List α),
    GoValRes.sequence l = .ok r ↔ l = r.map .ok := by
  intro l
  induction l with
  | nil => intro r; cases r <;> simp [GoValRes.sequence]
  | cons x xs ih =>
    intro r
    cases r with
    | nil => cases x <;> simp [GoValRes.sequence]; split <;> simp
    | cons z zs =>
      rw [List.map_cons, List.cons.injEq, ← ih zs]
      cases x <;> simp [GoValRes.sequence]
      split <;> simp_all

theorem sequence_error_mem {α : Type} (l : List (GoValRes α)) (m : String)
    (e : GoValRes.sequence l = .error m) : GoValRes.error m ∈ l := by
  induction l with
  | nil => simp [GoValRes.sequence] at e
  | cons x xs ih =>
    cases x with
    | oof => simp [GoValRes.sequence] at e
    | error m' => simp [GoValRes.sequence] at e; simp [e]
    | ok v =>
      simp only [GoValRes.sequence] at e
      split at e <;> simp_all

theorem sequence_not_ok_of_error {α : Type} (l : List (GoValRes α)) (m : String)
    (hm : GoValRes.error m ∈ l) : ∀ r, GoValRes.sequence l ≠ .ok r := by
  intro r e
  rw [sequence_eq_ok] at e
  subst e
  simp at hm

/-! ### the renderers see an object only through `sortByKey` -/

theorem pretty_congr (h1 h2 : Heap) (hget : ∀ c, h1.get c = h2.get c) (harr : ∀ a, h1.arr a = h2.arr a)
    (hobj : ∀ o, sortByKey (h1.obj o) = sortByKey (h2.obj o)) : ∀ n, pretty h1 n = pretty h2 n := by
  intro n
  induction n with
  | zero => funext path q check v; simp [pretty]
  | succ n ih =>
    funext path q check v
    rw [pretty.eq_def, pretty.eq_def]
    simp only [ih, hget, harr, hobj]

theorem toJVal_congr (h1 h2 : Heap) (hget : ∀ c, h1.get c = h2.get c) (harr : ∀ a, h1.arr a = h2.arr a)
    (hobj : ∀ o, sortByKey (h1.obj o) = sortByKey (h2.obj o)) : ∀ n, toJVal h1 n = toJVal h2 n := by
  intro n
  induction n with
  | zero => funext path check v; simp [toJVal]
  | succ n ih =>
    funext path check v
    rw [toJVal.eq_def, toJVal.eq_def]
    simp only [ih, hget, harr, hobj]

theorem map_eq_map_some {α β : Type} (f : α → Option β) (l : List α) (parts : List β)
    (e : l.map f = parts.map some) :
    parts.length = l.length ∧ ∀ i (hi : i < l.length), ∃ x, parts[i]? = some x ∧ f l[i] = some x := by
  have hlen : parts.length = l.length := by simpa using (congrArg List.length e).symm
  refine ⟨hlen, fun i hi => ?_⟩
  have hi' : i < parts.length := by omega
  refine ⟨parts[i], by simp [hi'], ?_⟩
  have := congrArg (fun l => l[i]?) e
  simpa [hi, hi'] using this

theorem sequence_map_congr {α β : Type} (f g : α → GoValRes β) (l : List α)
    (hfg : ∀ x ∈ l, f x ≠ .oof → g x = f x) (hne : GoValRes.sequence (l.map f) ≠ .oof) :
    GoValRes.sequence (l.map g) = GoValRes.sequence (l.map f) := by
  induction l with
  | nil => rfl
  | cons x xs ih =>
    simp only [List.map_cons] at hne ⊢
    cases hx : f x with
    | oof => simp [hx, GoValRes.sequence] at hne
    | error m =>
      rw [hfg x (by simp) (by simp [hx])]
      simp [hx, GoValRes.sequence]
    | ok v =>
      rw [hfg x (by simp) (by simp [hx])]
      simp only [hx, GoValRes.sequence] at hne ⊢
      have : GoValRes.sequence (xs.map f) ≠ .oof := by
        intro e; simp [e] at hne
      rw [ih (fun y hy => hfg y (by simp [hy])) this]

theorem toJVal_fuel_succ (h : Heap) : ∀ (n : Nat) (path : List Cont) (check : Bool) (v : Val),
    toJVal h n path check v ≠ .oof → toJVal h (n + 1) path check v = toJVal h n path check v := by
  intro n
  induction n with
  | zero => intro path check v hne; simp [toJVal] at hne
  | succ n ih =>
    intro path check v hne
    by_cases hon : (check && onPath path v) = true
    · rw [toJVal.eq_def, toJVal.eq_def]; simp [hon]
    · have hon' : (check && onPath path v) = false := by simpa using hon
      cases v with
      | arr a =>
        have hp : (check && path.contains (.a a)) = false := by simpa [onPath_arr] using hon'
        rw [toJVal_arr_unfold h n path check a hp] at hne ⊢
        rw [toJVal_arr_unfold h (n + 1) path check a hp]
        have hs : GoValRes.sequence ((h.arr a).toList.map fun c => toJVal h n (path ++ [.a a]) true (h.get c))
            ≠ .oof := by
          intro e; simp [e, GoValRes.map] at hne
        rw [sequence_map_congr _ _ _ (fun c _ hc => ih _ _ _ hc) hs]
      | obj o =>
        have hp : (check && path.contains (.o o)) = false := by simpa [onPath_obj] using hon'
        rw [toJVal_obj_unfold h n path check o hp] at hne ⊢
        rw [toJVal_obj_unfold h (n + 1) path check o hp]
        have hs : GoValRes.sequence ((sortByKey (h.obj o)).map fun kv =>
            (toJVal h n (path ++ [.o o]) true (h.get kv.2)).map (fun j => (kv.1, j))) ≠ .oof := by
          intro e; rw [e] at hne; exact hne rfl
        rw [sequence_map_congr _ _ _ (fun kv _ hc => by
          have : toJVal h n (path ++ [.o o]) true (h.get kv.2) ≠ .oof := by
            intro e; rw [e] at hc; exact hc rfl
          rw [ih _ _ _ this]) hs]
      | _ => rw [toJVal.eq_def, toJVal.eq_def]

theorem toJVal_fuel_mono (h : Heap) (n m : Nat) (hnm : n ≤ m) (path : List Cont) (check : Bool) (v : Val)
    (hne : toJVal h n path check v ≠ .oof) : toJVal h m path check v = toJVal h n path check v := by
  induction m with
  | zero => have : n = 0 := by omega
            subst this; rfl
  | succ m ih =>
    by_cases e : n = m + 1
    · subst e; rfl
    · have h1 := ih (by omega)
      rw [toJVal_fuel_succ h m path check v (by rw [h1]; exact hne), h1]

theorem toJValTop_of_fuel (h : Heap) (n : Nat) (v : Val) (j : JVal)
    (e : toJVal h n [] false v = .ok j) : toJValTop h v = .ok j := by
  have hne : toJValTop h v ≠ .oof :=
    toJVal_ne_oof_gen h _ [] false v (PathOk.nil h) (Or.inr (by cases v <;> rfl))
      (by simp [renderFuel, Heap.nconts])
  have h1 := toJVal_fuel_mono h (renderFuel h) (max (renderFuel h) n) (Nat.le_max_left _ _) [] false v hne
  have h2 := toJVal_fuel_mono h n (max (renderFuel h) n) (Nat.le_max_right _ _) [] false v (by simp [e])
  rw [toJValTop, ← h1, h2, e]

end Jqawk
