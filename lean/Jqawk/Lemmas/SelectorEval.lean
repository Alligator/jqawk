/-
  Renaming of cell ids (C14): the whole evaluator.  Two runs of any evaluator function from
  related states, on programs that agree on every function a live value can refer to, give
  related results — provided every identifier the code looks up is allowed in the context
  (`idsE`, `idsS`: all of them in the main evaluator; `$` and the builtins for a selector that is
  compared with the same expression evaluated by a rule; everything but `$` in ENDFILE rules).

  `AllSim nA nB` has one field per evaluator function, for the fuels `nA` of run A and `nB` of
  run B; it holds when either fuel is 0 (`allSim_zeroL`, `allSim_zeroR`) and passes from
  `nA, nB` to `nA + 1, nB + 1` (`allSim_succ`).
-/
import Jqawk.Lemmas.SelectorPrims
import Jqawk.Lemmas.SelectorNatives
import Jqawk.Lemmas.EvalNodes


namespace Jqawk
namespace Sel

mutual
/-- every identifier the evaluation of the expression can look up is allowed: `$` if `d`, a name
    if `ok` says so (patterns of `match` bind, they do not look up; the right side of `is` is a
    type name) -/
def idsE (d : Bool) (ok : Bytes → Bool) : Expr → Bool
  | .lit _ => true
  | .ident t => if t.tag == .dollar then d else ok t.text
  | .arr _ items => idsEs d ok items
  | .obj _ items => idsKVs d ok items
  | .unary e _ _ => idsE d ok e
  | .binary l r op => idsE d ok l && (op.tag == .is || idsE d ok r)
  | .call f args => idsE d ok f && idsEs d ok args
  | .match_ _ v cases => idsE d ok v && idsCases d ok cases
def idsEs (d : Bool) (ok : Bytes → Bool) : List Expr → Bool
  | [] => true
  | e :: es => idsE d ok e && idsEs d ok es
def idsKVs (d : Bool) (ok : Bytes → Bool) : List (Bytes × Expr) → Bool
  | [] => true
  | (_, e) :: es => idsE d ok e && idsKVs d ok es
def idsCases (d : Bool) (ok : Bytes → Bool) : List MatchCase → Bool
  | [] => true
  | (.mk _ body) :: cs => idsS d ok body && idsCases d ok cs
def idsS (d : Bool) (ok : Bytes → Bool) : Stmt → Bool
  | .block _ body => idsSs d ok body
  | .print _ args => (!args.isEmpty || d) && idsEs d ok args
  | .expr e => idsE d ok e
  | .ret none => true
  | .ret (some e) => idsE d ok e
  | .brk _ => true
  | .cont _ => true
  | .next _ => true
  | .exit _ => true
  | .if_ c b none => idsE d ok c && idsS d ok b
  | .if_ c b (some e) => idsE d ok c && idsS d ok b && idsS d ok e
  | .while_ c b => idsE d ok c && idsS d ok b
  | .for_ pre c post b => idsE d ok pre && idsE d ok c && idsE d ok post && idsS d ok b
  | .forIn id idx iter b =>
    ok id.text && (match idx with | none => true | some it => ok it.text) && idsE d ok iter && idsS d ok b
def idsSs (d : Bool) (ok : Bytes → Bool) : List Stmt → Bool
  | [] => true
  | s :: ss => idsS d ok s && idsSs d ok ss
end

mutual
theorem idsE_all : ∀ e : Expr, idsE true (fun _ => true) e = true
  | .lit _ => rfl
  | .ident t => by simp [idsE]
  | .arr _ items => by rw [idsE]; exact idsEs_all items
  | .obj _ items => by rw [idsE]; exact idsKVs_all items
  | .unary e _ _ => by rw [idsE]; exact idsE_all e
  | .binary l r op => by rw [idsE, idsE_all l, idsE_all r]; simp
  | .call f args => by rw [idsE, idsE_all f, idsEs_all args]; rfl
  | .match_ _ v cases => by rw [idsE, idsE_all v, idsCases_all cases]; rfl
theorem idsEs_all : ∀ es : List Expr, idsEs true (fun _ => true) es = true
  | [] => rfl
  | e :: es => by rw [idsEs, idsE_all e, idsEs_all es]; rfl
theorem idsKVs_all : ∀ es : List (Bytes × Expr), idsKVs true (fun _ => true) es = true
  | [] => rfl
  | (_, e) :: es => by rw [idsKVs, idsE_all e, idsKVs_all es]; rfl
theorem idsCases_all : ∀ cs : List MatchCase, idsCases true (fun _ => true) cs = true
  | [] => rfl
  | (.mk _ body) :: cs => by rw [idsCases, idsS_all body, idsCases_all cs]; rfl
theorem idsS_all : ∀ s : Stmt, idsS true (fun _ => true) s = true
  | .block _ body => by rw [idsS]; exact idsSs_all body
  | .print _ args => by rw [idsS, idsEs_all args]; simp
  | .expr e => by rw [idsS]; exact idsE_all e
  | .ret none => rfl
  | .ret (some e) => by rw [idsS]; exact idsE_all e
  | .brk _ => rfl
  | .cont _ => rfl
  | .next _ => rfl
  | .exit _ => rfl
  | .if_ c b none => by rw [idsS, idsE_all c, idsS_all b]; rfl
  | .if_ c b (some e) => by rw [idsS, idsE_all c, idsS_all b, idsS_all e]; rfl
  | .while_ c b => by rw [idsS, idsE_all c, idsS_all b]; rfl
  | .for_ pre c post b => by rw [idsS, idsE_all pre, idsE_all c, idsE_all post, idsS_all b]; rfl
  | .forIn id idx iter b => by
    cases idx <;> simp only [idsS, idsE_all iter, idsS_all b, Bool.and_self]
theorem idsSs_all : ∀ ss : List Stmt, idsSs true (fun _ => true) ss = true
  | [] => rfl
  | s :: ss => by rw [idsSs, idsS_all s, idsSs_all ss]; rfl
end


structure GoodX (X : XCtx) : Prop where
  wf : X.WF
  fns : ∀ (i : Nat) (f : FuncDef), X.progA.functions[i]? = some f → X.progB.functions[i]? = some f →
    idsS X.allowD X.allow f.body = true

theorem GoodX.enter {X : XCtx} (g : GoodX X) : GoodX X.enter := ⟨g.wf.enter, g.fns⟩

def OptMemR (K : Ctx) (w : Nat) : Option (List (Bytes × CellId)) → Option (List (Bytes × CellId)) → Prop
  | none, none => True
  | some a, some b => MemR K w a b
  | _, _ => False

@[elab_as_elim]
theorem OptMemR.byCases {K : Ctx} {w : Nat}
    {M : Option (List (Bytes × CellId)) → Option (List (Bytes × CellId)) → Prop}
    {a b : Option (List (Bytes × CellId))} (h : OptMemR K w a b) (none : M none none)
    (some : ∀ x y, MemR K w x y → M (some x) (some y)) : M a b := by
  cases a <;> cases b <;> first | exact none | exact some _ _ h | exact False.elim h

instance {K : Ctx} : MonoR (OptMemR K) :=
  ⟨fun h hw => h.byCases trivial (fun _ _ h => MemR.mono h hw)⟩

def ItemR (K : Ctx) (w : Nat) (a b : Option Val × (CellId ⊕ (Val × Option CellId))) : Prop :=
  OptValR K w a.1 b.1 ∧
  match a.2, b.2 with
  | .inl ca, .inl cb => CellR K w ca cb
  | .inr (va, oa), .inr (vb, ob) => ValR K w va vb ∧ OptCellR K w oa ob
  | _, _ => False

theorem ItemR.cases {K : Ctx} {w : Nat} {a b : Item} (h : ItemR K w a b) :
    (∃ ca cb, a.2 = .inl ca ∧ b.2 = .inl cb ∧ CellR K w ca cb) ∨
    ∃ va oa vb ob, a.2 = .inr (va, oa) ∧ b.2 = .inr (vb, ob) ∧ ValR K w va vb ∧ OptCellR K w oa ob := by
  obtain ⟨ia, xa⟩ := a
  obtain ⟨ib, xb⟩ := b
  have h2 := h.2
  cases xa <;> cases xb <;> first
    | exact .inl ⟨_, _, rfl, rfl, h2⟩
    | exact .inr ⟨_, _, _, _, rfl, rfl, h2.1, h2.2⟩
    | exact False.elim h2

structure AllSim (nA nB : Nat) : Prop where
  expr : ∀ {X : XCtx}, GoodX X → ∀ (w : Nat) (e : Expr), idsE X.allowD X.allow e = true →
    SimW X w (CellR X.toCtx) (evalExpr X.progA nA e) (evalExpr X.progB nB e)
  objItems : ∀ {X : XCtx}, GoodX X → ∀ (w w0 : Nat) (pos : Nat) (items : List (Bytes × Expr))
    (accA accB : List (Bytes × CellId)), idsKVs X.allowD X.allow items = true →
    MemR X.toCtx w0 accA accB → w0 ≤ w →
    SimW X w (MemR X.toCtx) (evalObjItems X.progA nA pos items accA) (evalObjItems X.progB nB pos items accB)
  exprList : ∀ {X : XCtx}, GoodX X → ∀ (w : Nat) (es : List Expr) (copy : Bool),
    idsEs X.allowD X.allow es = true →
    SimW X w (ListCellR X.toCtx) (evalExprList X.progA nA es copy) (evalExprList X.progB nB es copy)
  matchCases : ∀ {X : XCtx}, GoodX X → ∀ (w w0 : Nat) (pos : Nat) (va vb : CellId) (cs : List MatchCase),
    idsCases X.allowD X.allow cs = true → CellR X.toCtx w0 va vb → w0 ≤ w →
    SimW X w (CellR X.toCtx) (evalMatchCases X.progA nA pos va cs) (evalMatchCases X.progB nB pos vb cs)
  caseMatch : ∀ {X : XCtx}, GoodX X → ∀ (w w0 : Nat) (va vb : CellId) (ps : List Expr),
    CellR X.toCtx w0 va vb → w0 ≤ w →
    SimW X w (OptMemR X.toCtx) (evalCaseMatch X.progA nA va ps) (evalCaseMatch X.progB nB vb ps)
  arrayCaseMatch : ∀ {X : XCtx}, GoodX X → ∀ (w w0 : Nat) (va vb : CellId) (ps : List Expr),
    CellR X.toCtx w0 va vb → w0 ≤ w →
    SimW X w (OptMemR X.toCtx) (evalArrayCaseMatch X.progA nA va ps) (evalArrayCaseMatch X.progB nB vb ps)
  matchElems : ∀ {X : XCtx}, GoodX X → ∀ (w w0 w1 : Nat) (ca cb : List CellId) (ps : List Expr)
    (accA accB : List (Bytes × CellId)), ListCellR X.toCtx w0 ca cb → w0 ≤ w →
    MemR X.toCtx w1 accA accB → w1 ≤ w →
    SimW X w (OptMemR X.toCtx) (Jqawk.matchElems X.progA nA ca ps accA) (Jqawk.matchElems X.progB nB cb ps accB)
  call : ∀ {X : XCtx}, GoodX X → ∀ (w w0 w1 : Nat) (pos : Nat) (fa fb : CellId) (aa ab : List CellId),
    CellR X.toCtx w0 fa fb → w0 ≤ w → ListCellR X.toCtx w1 aa ab → w1 ≤ w →
    SimW X w (CellR X.toCtx) (callFunction X.progA nA pos fa aa) (callFunction X.progB nB pos fb ab)
  unary : ∀ {X : XCtx}, GoodX X → ∀ (w : Nat) (e : Expr) (op : Token) (p : Bool),
    idsE X.allowD X.allow e = true →
    SimW X w (CellR X.toCtx) (evalUnary X.progA nA e op p) (evalUnary X.progB nB e op p)
  binary : ∀ {X : XCtx}, GoodX X → ∀ (w : Nat) (l r : Expr) (op : Token),
    idsE X.allowD X.allow l = true → (op.tag == Tag.is || idsE X.allowD X.allow r) = true →
    SimW X w (CellR X.toCtx) (evalBinary X.progA nA l r op) (evalBinary X.progB nB l r op)
  stmt : ∀ {X : XCtx}, GoodX X → ∀ (w : Nat) (st : Stmt), idsS X.allowD X.allow st = true →
    SimW X w EqR (evalStmt X.progA nA st) (evalStmt X.progB nB st)
  block : ∀ {X : XCtx}, GoodX X → ∀ (w : Nat) (sts : List Stmt), idsSs X.allowD X.allow sts = true →
    SimW X w EqR (evalBlock X.progA nA sts) (evalBlock X.progB nB sts)
  whileL : ∀ {X : XCtx}, GoodX X → ∀ (w : Nat) (c : Expr) (b : Stmt), idsE X.allowD X.allow c = true →
    idsS X.allowD X.allow b = true →
    SimW X w EqR (whileLoop X.progA nA c b) (whileLoop X.progB nB c b)
  forL : ∀ {X : XCtx}, GoodX X → ∀ (w : Nat) (c p : Expr) (b : Stmt), idsE X.allowD X.allow c = true →
    idsE X.allowD X.allow p = true → idsS X.allowD X.allow b = true →
    SimW X w EqR (forLoop X.progA nA c p b) (forLoop X.progB nB c p b)
  forInL : ∀ {X : XCtx}, GoodX X → ∀ (w w0 : Nat) (la lb : CellId) (ia ib : Option CellId) (b : Stmt)
    (itA itB : List Item), CellR X.toCtx w0 la lb → OptCellR X.toCtx w0 ia ib →
    F2 (ItemR X.toCtx w0) itA itB → w0 ≤ w → idsS X.allowD X.allow b = true →
    SimW X w EqR (forInLoop X.progA nA la ia b itA) (forInLoop X.progB nB lb ib b itB)

theorem allSim_zeroL (nB : Nat) : AllSim 0 nB := by
  constructor <;> intros <;> unfold_eval <;> exact SimW.oof

theorem allSim_zeroR (nA : Nat) : AllSim nA 0 := by
  constructor <;> intros <;> unfold_eval <;> exact SimW.oofR

theorem binaryOp_scalar {op : Tag} {l r v : Val} (h : binaryOp op l r = .val v) : Scalar v := by
  rcases binaryOp_val h with ⟨_, rfl⟩ | ⟨_, rfl⟩ | ⟨_, rfl⟩ <;> trivial

theorem SimW.strengthen {X : XCtx} {α : Type} {VR : Nat → α → α → Prop} {w : Nat} {mA mB : EM α}
    {P : α → Prop} (h : SimW X w VR mA mB) (hp : ∀ s b s', mB s = .ok b s' → P b) :
    SimW X w (fun w' a b => VR w' a b ∧ P b) mA mB := by
  intro sA sB hs hw
  have h1 := h sA sB hs hw
  cases hA : mA sA <;> cases hB : mB sB <;> rw [hA, hB] at h1 <;> first
    | trivial
    | exact h1
    | exact ⟨h1.1, ⟨h1.2.1, hp _ _ _ hB⟩, h1.2.2⟩

theorem exprList_length (prog : Program) : ∀ (n : Nat) (es : List Expr) (c : Bool) (s : St)
    (cells : List CellId) (s' : St), evalExprList prog n es c s = .ok cells s' → cells.length = es.length
  | 0, _, _, _, _, _, h => by unfold evalExprList at h; cases h
  | n + 1, [], _, _, _, _, h => by
    unfold evalExprList at h
    simp only [pure, EM.pure, Res.ok.injEq] at h
    rw [← h.1]
    rfl
  | n + 1, e :: rest, c, s, cells, s', h => by
    unfold evalExprList at h
    simp only [bind, EM.bind] at h
    split at h
    · rename_i v s1 _
      split at h
      · rename_i c1 s2 _
        split at h
        · rename_i cs s3 hrec
          simp only [pure, EM.pure, Res.ok.injEq] at h
          rw [← h.1, List.length_cons, List.length_cons, exprList_length prog n rest c s2 cs s3 hrec]
        · cases h
        · cases h
      · cases h
      · cases h
    · cases h
    · cases h

theorem getVarOrThrow {X : XCtx} (g : GoodX X) (w : Nat) (name : Bytes) (pos : Nat)
    (hn : X.allow name = true) :
    SimW X w (CellR X.toCtx)
      (do match (← getVariable name) with
          | .ok c => pure c
          | .error m => throwRt pos m)
      (do match (← getVariable name) with
          | .ok c => pure c
          | .error m => throwRt pos m) := by
  refine SimW.bind (SimW.getVariable g.wf name (.inl hn)) (fun w1 ra rb hw1 hr => ?_)
  exact hr.byCases (fun _ => SimW.throwRt _ _) (fun _ _ h => SimW.pure h (Nat.le_refl _))

theorem sim_getIdentifier {X : XCtx} (g : GoodX X) (w : Nat) (t : Token)
    (ht : idsE X.allowD X.allow (.ident t) = true) :
    SimW X w (CellR X.toCtx) (getIdentifier X.progA t) (getIdentifier X.progB t) := by
  unfold getIdentifier
  simp only [idsE] at ht
  by_cases hd : (t.tag == Tag.dollar) = true
  · simp only [hd, ↓reduceIte] at ht ⊢
    apply SimW.getSt_bind
    intro sA sB hs hw
    exact (hs.ruleRoot ht).byCases (SimW.throwRt _ _) (fun _ _ hr => SimW.pure hr (Nat.le_refl _))
  · simp only [hd, Bool.false_eq_true, ↓reduceIte] at ht ⊢
    exact getVarOrThrow g w t.text t.pos ht

theorem MemR.foldInsert {K : Ctx} {w : Nat} : ∀ {na nb accA accB : List (Bytes × CellId)},
    MemR K w na nb → MemR K w accA accB →
    MemR K w (na.foldl (fun m kv => Jqawk.objInsert m kv.1 kv.2) accA)
      (nb.foldl (fun m kv => Jqawk.objInsert m kv.1 kv.2) accB) := by
  intro na nb accA accB hn hacc
  obtain ⟨rfl, hl⟩ := hn
  induction nb generalizing accA accB with
  | nil => exact hacc
  | cons kc rest ih =>
    simp only [renM, List.map_cons, List.foldl_cons]
    exact ih (hacc.objInsert kc.1 ⟨rfl, hl kc (List.mem_cons_self ..)⟩) (fun x hx => hl x (List.mem_cons_of_mem _ hx))

theorem listValR_get {X : XCtx} {hA hB : Heap} (hh : HR X.toCtx hA hB) {w0 : Nat} {aa ab : List CellId}
    (ha : ListCellR X.toCtx w0 aa ab) (hw : w0 ≤ hB.cells.size) :
    ListValR X.toCtx hB.cells.size (aa.map hA.get) (ab.map hB.get) := by
  obtain ⟨rfl, hl⟩ := ha
  refine ⟨?_, ?_⟩
  · rw [List.map_map, List.map_map]
    apply List.map_congr_left
    intro c hc
    exact (hh.cells c ((hl c hc).mono hw)).1
  · intro v hv
    obtain ⟨c, hc, rfl⟩ := List.mem_map.mp hv
    exact (hh.cells c ((hl c hc).mono hw)).2

theorem mapM_pretty_rel {X : XCtx} {sA sB : St} (hs : SR X sA sB) {w0 : Nat} {ca cb : List CellId}
    (hc : ListCellR X.toCtx w0 ca cb) (hw : w0 ≤ sB.heap.cells.size) :
    ca.mapM (fun c => prettyTop sA.heap (sA.heap.get c)) = cb.mapM (fun c => prettyTop sB.heap (sB.heap.get c)) := by
  obtain ⟨rfl, hl⟩ := hc
  rw [mapM_opt_map]
  apply mapM_opt_congr
  intro c hcm
  exact prettyTop_rel hs.heap (hs.heap.cells c ((hl c hcm).mono hw)) (Nat.le_refl _)

theorem f2_zipIdx {K : Ctx} {w : Nat} : ∀ (cs : List CellId) (k : Nat), LiveL K w cs →
    F2 (ItemR K w)
      (((cs.map K.σ).zipIdx k).map fun (c, i) => ((some (Val.num (F64.ofNat i)), Sum.inl c) : Item))
      ((cs.zipIdx k).map fun (c, i) => ((some (Val.num (F64.ofNat i)), Sum.inl c) : Item))
  | [], _, _ => F2.nil
  | c :: cs, k, hl => by
    simp only [List.map_cons, List.zipIdx_cons]
    refine F2.cons ⟨ValR.scalar w, ⟨rfl, hl c (List.mem_cons_self ..)⟩⟩ ?_
    exact f2_zipIdx cs (k + 1) (fun x hx => hl x (List.mem_cons_of_mem _ hx))

theorem f2_members {K : Ctx} {w : Nat} : ∀ (m : List (Bytes × CellId)), LiveM K w m →
    F2 (ItemR K w)
      ((renM K.σ m).map fun (k, c) => ((none, Sum.inr (Val.str k none, some c)) : Item))
      (m.map fun (k, c) => ((none, Sum.inr (Val.str k none, some c)) : Item))
  | [], _ => F2.nil
  | kc :: rest, hl => by
    simp only [renM, List.map_cons]
    refine F2.cons ⟨trivial, ValR.scalar w, ⟨rfl, hl kc (List.mem_cons_self ..)⟩⟩ ?_
    exact f2_members rest (fun x hx => hl x (List.mem_cons_of_mem _ hx))

theorem f2_runes {K : Ctx} {w : Nat} : ∀ (l : List (Nat × Nat)),
    F2 (ItemR K w)
      (l.map fun (off, r) => ((some (Val.num (F64.ofNat off)), Sum.inr (Val.str (utf8Encode r) none, none)) : Item))
      (l.map fun (off, r) => ((some (Val.num (F64.ofNat off)), Sum.inr (Val.str (utf8Encode r) none, none)) : Item))
  | [] => F2.nil
  | x :: rest => by
    simp only [List.map_cons]
    exact F2.cons ⟨ValR.scalar w, ValR.scalar w, trivial⟩ (f2_runes rest)

theorem f2_mono_items {K : Ctx} {w w' : Nat} (hw : w ≤ w') {l1 l2 : List Item}
    (h : F2 (ItemR K w) l1 l2) : F2 (ItemR K w') l1 l2 := by
  induction h with
  | nil => exact .nil
  | @cons a b as bs h1 _ ih =>
    refine .cons ⟨h1.1.mono hw, ?_⟩ ih
    have h2 := h1.2
    revert h2
    cases a.2 <;> cases b.2 <;> intro h2 <;> first
      | exact h2.elim
      | exact CellR.mono h2 hw
      | exact ⟨h2.1.mono hw, h2.2.mono hw⟩

theorem allSim_succ (nA nB : Nat) (ih : AllSim nA nB) : AllSim (nA + 1) (nB + 1) := by
  constructor
  case expr =>
    intro X g w e he
    have wf := g.wf
    unfold evalExpr
    cases e with
    | lit t =>
      dsimp only
      split
      all_goals first
        | exact SimW.newScalar wf
        | exact SimW.throwPanic _
        | (split <;> first | exact SimW.throwRt _ _ | exact SimW.newScalar wf)
    | ident t => exact sim_getIdentifier g w t he
    | unary inner op p =>
      simp only [idsE] at he
      exact ih.unary g w inner op p he
    | binary l r op =>
      simp only [idsE, Bool.and_eq_true] at he
      exact ih.binary g w l r op he.1 he.2
    | call f args =>
      simp only [idsE, Bool.and_eq_true] at he
      dsimp only
      refine SimW.bind (ih.expr g w f he.1) (fun w1 fa fb hw1 hf => ?_)
      refine SimW.bind (ih.exprList g w1 args true he.2) (fun w2 aa ab hw2 ha => ?_)
      exact ih.call g w2 w1 w2 _ fa fb aa ab hf hw2 ha (Nat.le_refl _)
    | arr t items =>
      simp only [idsE] at he
      dsimp only
      refine SimW.bind (ih.exprList g w items true he) (fun w1 ca cb hw1 hc => ?_)
      exact SimW.allocArr_bind (ArrR.ofList hc) (Nat.le_refl _) (fun _ _ _ hv => SimW.newCell wf hv (Nat.le_refl _))
    | match_ t v cases =>
      simp only [idsE, Bool.and_eq_true] at he
      dsimp only
      refine SimW.bind (ih.expr g w v he.1) (fun w1 va vb hw1 hv => ?_)
      exact ih.matchCases g w1 w1 _ va vb cases he.2 hv (Nat.le_refl _)
    | obj t items =>
      simp only [idsE] at he
      dsimp only
      refine SimW.bind (ih.objItems g w 0 t.pos items [] [] he (MemR.nil 0) (Nat.zero_le _))
        (fun w1 ma mb hw1 hm => ?_)
      exact SimW.allocObj_bind hm (Nat.le_refl _) (fun _ _ _ hv => SimW.newCell wf hv (Nat.le_refl _))
  case objItems =>
    intro X g w w0 pos items accA accB hi hacc hw0
    have wf := g.wf
    cases items with
    | nil => unfold evalObjItems; exact SimW.pure hacc hw0
    | cons kv rest =>
      obtain ⟨k, e⟩ := kv
      simp only [idsKVs, Bool.and_eq_true] at hi
      unfold evalObjItems
      refine SimW.bind (ih.expr g w e hi.1) (fun w1 va vb hw1 hv => ?_)
      refine SimW.bind (SimW.newScalar wf) (fun w2 ca cb hw2 hc => ?_)
      refine SimW.bind (SimW.copyValue wf hv hw2 hc (Nat.le_refl _)) (fun w3 ra rb hw3 hr => ?_)
      refine SimW.exResult hr pos (fun c1 c2 hcc => ?_)
      exact ih.objItems g w3 w3 pos rest _ _ hi.2
        ((hacc.mono (Nat.le_trans hw0 (Nat.le_trans hw1 (Nat.le_trans hw2 hw3)))).objInsert k hcc) (Nat.le_refl _)
  case exprList =>
    intro X g w es copy hi
    have wf := g.wf
    cases es with
    | nil => unfold evalExprList; exact SimW.pure (ListCellR.nil 0) (Nat.zero_le _)
    | cons e rest =>
      simp only [idsEs, Bool.and_eq_true] at hi
      unfold evalExprList
      refine SimW.bind (ih.expr g w e hi.1) (fun w1 va vb hw1 hv => ?_)
      refine SimW.bind (VR1 := CellR X.toCtx) ?_ (fun w2 ca cb hw2 hc => ?_)
      · cases copy with
        | false => exact SimW.pure hv (Nat.le_refl _)
        | true =>
          simp only [↓reduceIte]
          refine SimW.bind (SimW.newScalar wf) (fun w3 fa fb hw3 hf => ?_)
          refine SimW.bind (SimW.copyValue wf hv hw3 hf (Nat.le_refl _)) (fun w4 ra rb hw4 hr => ?_)
          exact SimW.exResult hr _ (fun c1 c2 hcc => SimW.pure hcc (Nat.le_refl _))
      · refine SimW.bind (ih.exprList g w2 rest copy hi.2) (fun w3 csa csb hw3 hcs => ?_)
        exact SimW.pure (VR := ListCellR X.toCtx) (ListCellR.cons (hc.mono hw3) hcs) (Nat.le_refl _)
  case matchCases =>
    intro X g w w0 pos va vb cs hi hv hw0
    have wf := g.wf
    cases cs with
    | nil => unfold evalMatchCases; exact SimW.newScalar wf
    | cons c rest =>
      obtain ⟨pats, body⟩ := c
      simp only [idsCases, Bool.and_eq_true] at hi
      unfold evalMatchCases
      refine SimW.bind (ih.caseMatch g w w0 va vb pats hv hw0) (fun w1 ra rb hw1 hr => ?_)
      refine hr.byCases (ih.matchCases g w1 w0 pos va vb rest hi.2 hv (Nat.le_trans hw0 hw1)) (fun ba bb hb => ?_)
      dsimp only
      apply SimW.framed wf
      refine SimW.bind (SimW.bindAll (X := X.enter) X.canBind_enter hb (Nat.le_refl _))
        (fun w2 _ _ hw2 _ => ?_)
      cases body with
      | expr be => exact ih.expr g.enter w2 be hi.1
      | _ =>
        refine SimW.bind (ih.stmt g.enter w2 _ hi.1) (fun w3 _ _ hw3 _ => ?_)
        exact SimW.newScalar (X := X.enter) wf.enter
  case caseMatch =>
    intro X g w w0 va vb ps hv hw0
    have wf := g.wf
    cases ps with
    | nil => unfold evalCaseMatch; exact SimW.pureAll fun _ => trivial
    | cons p rest =>
      unfold evalCaseMatch
      cases p with
      | lit t =>
        dsimp only
        refine SimW.bind (ih.expr g w (.lit t) rfl) (fun w1 ca cb hw1 hc => ?_)
        refine SimW.readCell_bind hv (Nat.le_trans hw0 hw1) (fun w2 v1 v2 hw2 hvv => ?_)
        refine SimW.readCell_bind hc hw2 (fun w3 c1 c2 hw3 hcv => ?_)
        rw [hvv.kind, hvv.1, hcv.1, compare_renV]
        have hrest := ih.caseMatch g w3 w0 va vb rest hv (Nat.le_trans hw0 (Nat.le_trans hw1 (Nat.le_trans hw2 hw3)))
        split
        · exact hrest
        · split
          · exact SimW.throwRt _ _
          · split
            · exact SimW.pureAll fun _ => MemR.nil _
            · exact hrest
      | arr t items =>
        dsimp only
        refine SimW.bind (ih.arrayCaseMatch g w w0 va vb items hv hw0) (fun w1 ra rb hw1 hr => ?_)
        exact hr.byCases (ih.caseMatch g w1 w0 va vb rest hv (Nat.le_trans hw0 hw1))
          (fun ba bb hb => SimW.pure (VR := OptMemR X.toCtx) (a := some ba) (b := some bb) hb (Nat.le_refl _))
      | ident t =>
        dsimp only
        refine SimW.pure (VR := OptMemR X.toCtx) (a := some [(t.text, va)]) (b := some [(t.text, vb)]) (w0 := w0) ?_ hw0
        obtain ⟨rfl, hl⟩ := hv
        refine ⟨rfl, ?_⟩
        intro kc hkc
        simp only [List.mem_singleton] at hkc
        subst hkc
        exact hl
      | _ => exact SimW.throwRt _ _
  case arrayCaseMatch =>
    intro X g w w0 va vb ps hv hw0
    have wf := g.wf
    unfold evalArrayCaseMatch
    refine SimW.readCell_bind hv hw0 (fun w1 v1 v2 hw1 hvv => ?_)
    have retN : ∀ w', SimW X w' (OptMemR X.toCtx) (pure none) (pure none) := fun w' =>
      SimW.pureAll fun _ => trivial
    obtain ⟨rfl, hvl⟩ := hvv
    cases v2 with
    | arr a =>
      simp only [renV_arr]
      apply SimW.getHeap_bind
      intro hA hB hh hw2
      have har := hh.arrs a hvl
      have hlen : (hA.arr a).toList.length = (hB.arr a).toList.length := by
        simp only [Array.length_toList]; exact har.size
      rw [hlen]
      split
      · exact retN _
      · exact ih.matchElems g _ _ 0 _ _ ps [] [] har.toList (Nat.le_refl _) (MemR.nil 0) (Nat.zero_le _)
    | _ => exact retN _
  case matchElems =>
    intro X g w w0 w1 ca cb ps accA accB hc hw0 hacc hw1
    have wf := g.wf
    obtain ⟨rfl, hl⟩ := hc
    cases cb with
    | nil =>
      unfold Jqawk.matchElems
      exact SimW.pure (VR := OptMemR X.toCtx) (a := some accA) (b := some accB) hacc hw1
    | cons c cs =>
      cases ps with
      | nil =>
        simp only [List.map_cons]
        unfold Jqawk.matchElems
        exact SimW.pure (VR := OptMemR X.toCtx) (a := some accA) (b := some accB) hacc hw1
      | cons p ps =>
        simp only [List.map_cons]
        unfold Jqawk.matchElems
        have hcc : CellR X.toCtx w0 (X.σ c) c := ⟨rfl, hl c (List.mem_cons_self ..)⟩
        refine SimW.bind (ih.caseMatch g w w0 _ _ [p] hcc hw0) (fun w2 ra rb hw2 hr => ?_)
        exact hr.byCases (SimW.pureAll fun _ => trivial)
          (fun na nb hn => ih.matchElems g w2 w0 w2 _ _ ps _ _ ⟨rfl, fun x hx => hl x (List.mem_cons_of_mem _ hx)⟩
            (Nat.le_trans hw0 hw2) (MemR.foldInsert hn (hacc.mono (Nat.le_trans hw1 hw2))) (Nat.le_refl _))
  case call =>
    intro X g w w0 w1 pos fa fb aa ab hf hw0 ha hw1
    have wf := g.wf
    unfold callFunction
    refine SimW.readCell_bind hf hw0 (fun w2 fva fvb hw2 hfv => ?_)
    apply SimW.getHeap_bind
    intro hA hB hh hw3
    have hargs := listValR_get hh ha (Nat.le_trans hw1 (Nat.le_trans hw2 hw3))
    obtain ⟨rfl, hfl⟩ := hfv
    cases fvb with
    | native f b sp =>
      simp only [renV_native]
      have hthis : OptValR X.toCtx hB.cells.size ((b.map X.σ).map hA.get) (b.map hB.get) := by
        cases b with
        | none => trivial
        | some bc =>
          have hbl : LiveC X.toCtx w2 bc := hfl.1
          exact hh.cells bc (hbl.mono hw3)
      refine SimW.bind (SimW.callNative wf f hargs (Nat.le_refl _) hthis (Nat.le_refl _)) (fun w4 ra rb hw4 hr => ?_)
      refine hr.byCases (fun _ => SimW.throwRt _ _) (fun oa ob ho => ?_)
      exact ho.byCases (SimW.newScalar wf) (fun _ _ hv => SimW.newCell wf hv (Nat.le_refl _))
    | fn i =>
      simp only [renV_fn]
      have hprog : X.progA.functions[i]? = X.progB.functions[i]? := hfl
      rw [hprog]
      cases hfi : X.progB.functions[i]? with
      | none => exact SimW.throwPanic _
      | some fd =>
        dsimp only
        have hbody := g.fns i fd (hprog.trans hfi) hfi
        apply SimW.framed wf
        refine SimW.bind (SimW.bindParams (X := X.enter) wf.enter X.canBind_enter fd.args hargs (Nat.le_refl _))
          (fun w4 _ _ hw4 _ => ?_)
        refine SimW.bind (SimW.catchReturn (ih.stmt g.enter w4 fd.body hbody)) (fun w5 rva rvb hw5 hrv => ?_)
        exact SimW.newCell (X := X.enter) wf.enter hrv (Nat.le_refl _)
    | _ => exact SimW.throwRt _ _
  case unary =>
    intro X g w e op p he
    have wf := g.wf
    unfold evalUnary
    refine SimW.bind (ih.expr g w e he) (fun w1 ca cb hw1 hc => ?_)
    refine SimW.readCell_bind hc (Nat.le_refl _) (fun w2 va vb hw2 hv => ?_)
    rw [hv.truthy, hv.asNum]
    split
    iterate 3 exact SimW.newScalar wf
    iterate 2
      refine SimW.bind (SimW.newScalar wf) (fun w3 na nb hw3 hn => ?_)
      refine SimW.bind (SimW.evalAssignment wf op.pos hc (Nat.le_trans hw2 hw3) hn (Nat.le_refl _))
        (fun w4 aa ab hw4 ha => ?_)
      cases p with
      | true => exact SimW.newScalar wf
      | false =>
        exact SimW.readCell_bind ha (Nat.le_refl _) (fun w5 x y hw5 hxy => SimW.newCell wf hxy (Nat.le_refl _))
    exact SimW.throwRt _ _
  case binary =>
    intro X g w l r op hl hr
    have wf := g.wf
    unfold evalBinary
    refine SimW.bind (ih.expr g w l hl) (fun w1 la lb hw1 hlc => ?_)
    have truthyCell : ∀ w' (ca cb : CellId), CellR X.toCtx w' ca cb →
        SimW X w' (CellR X.toCtx) (do newCell (.bool (← readCell ca).truthy)) (do newCell (.bool (← readCell cb).truthy)) := by
      intro w' ca cb hc
      refine SimW.readCell_bind hc (Nat.le_refl _) (fun w2 va vb hw2 hv => ?_)
      rw [hv.truthy]
      exact SimW.newScalar wf
    split
    · -- &&
      rename_i htag
      have hr' : idsE X.allowD X.allow r = true := by simpa [htag] using hr
      refine SimW.readCell_bind hlc (Nat.le_refl _) (fun w2 va vb hw2 hv => ?_)
      rw [hv.truthy]
      split
      · refine SimW.bind (ih.expr g w2 r hr') (fun w3 ra rb hw3 hrc => ?_)
        exact truthyCell w3 ra rb hrc
      · exact SimW.newScalar wf
    · -- ||
      rename_i htag
      have hr' : idsE X.allowD X.allow r = true := by simpa [htag] using hr
      refine SimW.readCell_bind hlc (Nat.le_refl _) (fun w2 va vb hw2 hv => ?_)
      rw [hv.truthy]
      split
      · exact SimW.newScalar wf
      · refine SimW.bind (ih.expr g w2 r hr') (fun w3 ra rb hw3 hrc => ?_)
        exact truthyCell w3 ra rb hrc
    · -- is
      cases r with
      | ident t =>
        dsimp only
        refine SimW.readCell_bind hlc (Nat.le_refl _) (fun w2 va vb hw2 hv => ?_)
        rw [hv.1, isType_renV]
        exact SimW.newScalar wf
      | _ => exact SimW.throwRt _ _
    · rename_i h1 h2 h3
      have hr' : idsE X.allowD X.allow r = true := by
        cases hb : (op.tag == Tag.is) with
        | true => exact absurd (by simpa using hb) h3
        | false => simpa [hb] using hr
      refine SimW.bind (ih.expr g w1 r hr') (fun w2 ra rb hw2 hrc => ?_)
      split
      · exact SimW.memberStep wf _ hlc hw2 hrc (Nat.le_refl _)
      · exact SimW.memberStep wf _ hlc hw2 hrc (Nat.le_refl _)
      · exact SimW.evalAssignment wf _ hlc hw2 hrc (Nat.le_refl _)
      · split
        · refine SimW.readCell_bind hlc hw2 (fun w3 va vb hw3 hv => ?_)
          refine SimW.readCell_bind hrc hw3 (fun w4 va' vb' hw4 hv' => ?_)
          rw [hv.1, hv'.1, binaryOp_renV]
          split
          · rename_i v hbo
            exact SimW.newScalar wf (binaryOp_scalar hbo)
          · exact SimW.throwRt _ _
          · exact SimW.throwUnmodelled _
        · exact SimW.throwRt _ _
  case stmt =>
    intro X g w st hi
    have wf := g.wf
    unfold evalStmt
    cases st with
    | block t body => simp only [idsS] at hi; exact ih.block g w body hi
    | print t args =>
      simp only [idsS, Bool.and_eq_true, Bool.or_eq_true, Bool.not_eq_true'] at hi
      dsimp only
      refine SimW.bind (SimW.strengthen (ih.exprList g w args false hi.2)
        (fun s b s' h => exprList_length X.progB nB args false s b s' h)) (fun w1 ca cb hw1 hcp => ?_)
      obtain ⟨hc, hlen⟩ := hcp
      apply SimW.getSt_bind
      intro sA sB hs hw2
      have hemp : ca.isEmpty = cb.isEmpty := by rw [hc.1]; cases cb <;> rfl
      rw [hemp]
      cases hcb : cb.isEmpty with
      | true =>
        simp only [↓reduceIte]
        have hargs : args.isEmpty = true := by
          have : cb = [] := by simpa using hcb
          rw [this] at hlen
          cases args with
          | nil => rfl
          | cons _ _ => simp at hlen
        have hd : X.allowD = true := by
          rcases hi.1 with h | h
          · rw [hargs] at h; cases h
          · exact h
        refine (hs.ruleRoot hd).byCases (SimW.throwPanic _) (fun ra rb hr => ?_)
        dsimp only
        rw [prettyTop_rel hs.heap (hs.heap.get hr (Nat.le_refl _)) (Nat.le_refl _)]
        cases prettyTop sB.heap (sB.heap.get rb) with
        | none => exact SimW.oof
        | some r => exact SimW.emit _
      | false =>
        simp only [Bool.false_eq_true, ↓reduceIte]
        rw [mapM_pretty_rel hs hc hw2]
        cases List.mapM (fun c => prettyTop sB.heap (sB.heap.get c)) cb with
        | none => exact SimW.oof
        | some parts => exact SimW.emit _
    | expr e =>
      simp only [idsS] at hi
      dsimp only
      exact SimW.bind (ih.expr g w e hi) (fun w1 _ _ _ _ => SimW.same _)
    | ret oe =>
      cases oe with
      | none => exact SimW.ret (ca := none) (cb := none) (w0 := 0) trivial (Nat.zero_le _)
      | some e =>
        simp only [idsS] at hi
        dsimp only
        refine SimW.bind (ih.expr g w e hi) (fun w1 ca cb hw1 hc => ?_)
        exact SimW.ret (ca := some ca) (cb := some cb) hc (Nat.le_refl _)
    | if_ c body els =>
      cases els with
      | none =>
        simp only [idsS, Bool.and_eq_true] at hi
        dsimp only
        refine SimW.bind (ih.expr g w c hi.1) (fun w1 ca cb hw1 hc => ?_)
        refine SimW.readCell_bind hc (Nat.le_refl _) (fun w2 va vb hw2 hv => ?_)
        rw [hv.truthy]
        split
        · exact ih.stmt g w2 body hi.2
        · exact SimW.same _
      | some eb =>
        simp only [idsS, Bool.and_eq_true] at hi
        dsimp only
        refine SimW.bind (ih.expr g w c hi.1.1) (fun w1 ca cb hw1 hc => ?_)
        refine SimW.readCell_bind hc (Nat.le_refl _) (fun w2 va vb hw2 hv => ?_)
        rw [hv.truthy]
        split
        · exact ih.stmt g w2 body hi.1.2
        · exact ih.stmt g w2 eb hi.2
    | while_ c body =>
      simp only [idsS, Bool.and_eq_true] at hi
      exact ih.whileL g w c body hi.1 hi.2
    | for_ pre c post body =>
      simp only [idsS, Bool.and_eq_true] at hi
      dsimp only
      refine SimW.bind (ih.expr g w pre hi.1.1.1) (fun w1 _ _ hw1 _ => ?_)
      exact ih.forL g w1 c post body hi.1.1.2 hi.1.2 hi.2
    | forIn id idx iter body =>
      simp only [idsS, Bool.and_eq_true] at hi
      obtain ⟨⟨⟨hid, hidx⟩, hiter⟩, hbody⟩ := hi
      dsimp only
      refine SimW.bind (getVarOrThrow g w id.text id.pos hid) (fun w1 la lb hw1 hloc => ?_)
      refine SimW.bind (VR1 := OptCellR X.toCtx) ?_ (fun w2 ia ib hw2 hil => ?_)
      · cases idx with
        | none => exact SimW.pureAll fun _ => trivial
        | some it =>
          dsimp only at hidx ⊢
          refine SimW.bind (SimW.getVariable g.wf it.text (.inl hidx)) (fun w3 ra rb hw3 hr => ?_)
          exact hr.byCases (fun _ => SimW.throwRt _ _)
            (fun ca cb h => SimW.pure (VR := OptCellR X.toCtx) (a := some ca) (b := some cb) h (Nat.le_refl _))
      · refine SimW.bind (ih.expr g w2 iter hiter) (fun w3 ca cb hw3 hc => ?_)
        apply SimW.getHeap_bind
        intro hA hB hh hw4
        have hv := hh.get hc hw4
        have hloc' : CellR X.toCtx hB.cells.size la lb := hloc.mono (Nat.le_trans hw2 (Nat.le_trans hw3 hw4))
        have hil' : OptCellR X.toCtx hB.cells.size ia ib := hil.mono (Nat.le_trans hw3 hw4)
        rw [hv.1]
        cases hgb : hB.get cb with
        | arr a =>
          rw [hgb] at hv
          have har := hh.arrs a hv.2
          simp only [renV_arr]
          rw [har.1, Array.toList_map]
          exact ih.forInL g _ _ la lb ia ib body _ _ hloc' hil' (f2_zipIdx _ 0 har.2) (Nat.le_refl _) hbody
        | obj o =>
          rw [hgb] at hv
          have hob := hh.objs o hv.2
          simp only [renV_obj]
          rw [hob.1, sortByKey_renM]
          exact ih.forInL g _ _ la lb ia ib body _ _ hloc' hil' (f2_members _ hob.2.sortByKey) (Nat.le_refl _) hbody
        | str s sp =>
          simp only [renV_str]
          exact ih.forInL g _ _ la lb ia ib body _ _ hloc' hil' (f2_runes _) (Nat.le_refl _) hbody
        | _ => exact SimW.throwRt _ _
    | brk t => exact SimW.throwSig _ (by decide)
    | cont t => exact SimW.throwSig _ (by decide)
    | next t => exact SimW.throwSig _ (by decide)
    | exit t => exact SimW.throwSig _ (by decide)
  case block =>
    intro X g w sts hi
    cases sts with
    | nil => unfold evalBlock; exact SimW.same _
    | cons st rest =>
      simp only [idsSs, Bool.and_eq_true] at hi
      unfold evalBlock
      exact SimW.bind (ih.stmt g w st hi.1) (fun w1 _ _ _ _ => ih.block g w1 rest hi.2)
  case whileL =>
    intro X g w c b hc hb
    unfold whileLoop
    refine SimW.bind (ih.expr g w c hc) (fun w1 ca cb hw1 hcc => ?_)
    refine SimW.readCell_bind hcc (Nat.le_refl _) (fun w2 va vb hw2 hv => ?_)
    rw [hv.truthy]
    split
    · exact SimW.loopIter (ih.stmt g w2 b hb) (ih.whileL g w2 c b hc hb)
    · exact SimW.same _
  case forL =>
    intro X g w c p b hc hp hb
    unfold forLoop
    refine SimW.bind (ih.expr g w c hc) (fun w1 ca cb hw1 hcc => ?_)
    refine SimW.readCell_bind hcc (Nat.le_refl _) (fun w2 va vb hw2 hv => ?_)
    rw [hv.truthy]
    split
    · refine SimW.loopIter (ih.stmt g w2 b hb) ?_
      exact SimW.bind (ih.expr g w2 p hp) (fun w3 _ _ _ _ => ih.forL g w3 c p b hc hp hb)
    · exact SimW.same _
  case forInL =>
    intro X g w w0 la lb ia ib b itA itB hl hil hit hw0 hb
    have wf := g.wf
    cases hit with
    | nil => unfold forInLoop; exact SimW.same _
    | @cons xa xb ra rb hx hrest =>
      obtain ⟨idxA, itemA⟩ := xa
      obtain ⟨idxB, itemB⟩ := xb
      have hidx : OptValR X.toCtx w0 idxA idxB := hx.1
      rw [forInLoop_eq, forInLoop_eq]
      refine SimW.bind (VR1 := EqR) ?_ (fun w1 _ _ hw1 _ => SimW.bind (VR1 := EqR) ?_ (fun w2 _ _ hw2 _ =>
        SimW.loopIter (ih.stmt g w2 b hb)
          (ih.forInL g w2 w0 la lb ia ib b ra rb hl hil hrest (Nat.le_trans hw0 (Nat.le_trans hw1 hw2)) hb)))
      · -- the index variable
        unfold setIndex
        refine hil.byCases (SimW.same _) (fun ica icb hic => ?_)
        refine hidx.byCases ?_ (fun iva ivb hiv => SimW.writeCell wf hic hw0 hiv hw0)
        rcases hx.cases with ⟨ca, cb, rfl, rfl, hc⟩ | ⟨va, oa, vb, ob, rfl, rfl, hv, ho⟩
        · exact SimW.same _
        · exact ho.byCases (SimW.same _) (fun mca mcb hmc => SimW.readCell_bind hmc hw0 (fun w2 x y hw2 hxy =>
            SimW.writeCell wf hic (Nat.le_trans hw0 hw2) hxy (Nat.le_refl _)))
      · unfold setLoc
        rcases hx.cases with ⟨ca, cb, rfl, rfl, hc⟩ | ⟨va, oa, vb, ob, rfl, rfl, hv, ho⟩
        · exact SimW.readCell_bind hc (Nat.le_trans hw0 hw1) (fun w3 x y hw3 hxy =>
            SimW.writeCell wf hl (Nat.le_trans hw0 (Nat.le_trans hw1 hw3)) hxy (Nat.le_refl _))
        · exact SimW.writeCell wf hl (Nat.le_trans hw0 hw1) hv (Nat.le_trans hw0 hw1)

/-- **the evaluator does not see cell ids**: every evaluator function, with any fuel on either
    side (an out-of-fuel result on either side makes no claim), in every good context -/
theorem allSim : ∀ nA nB, AllSim nA nB
  | 0, nB => allSim_zeroL nB
  | nA + 1, 0 => allSim_zeroR (nA + 1)
  | nA + 1, nB + 1 => allSim_succ nA nB (allSim nA nB)

end Sel
end Jqawk
