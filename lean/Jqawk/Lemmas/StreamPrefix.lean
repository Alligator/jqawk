/-
  The driver consumes a byte stream value by value.
  * `processValue` is the body of the decode loop `processFile` for ONE decoded value;
    `processFile_succ` shows that the factoring is exact.
  * `processFile_prefix`: processing `pre ++ more` first does exactly what processing `pre` alone
    (with more bytes possibly to come) does, and only then looks at the later bytes.  (C03: "for
    any prefix of a stream the output is the output of the complete values in that prefix".)
-/
import Jqawk.Lemmas.DriverInvariant
import Jqawk.Lemmas.JsonPrefix

namespace Jqawk.OneByte
open Jqawk Jqawk.Json

variable (prog : Program)

/-- what the decode loop does with one decoded top-level value `v` of the file called `name`:
    `.done s'` = all rules ran, the loop goes on to the next value in state `s'`;
    `.finished o s'` = the run is over (exit, runtime error, out of fuel, …) -/
def processValue (src : Bytes) (tbl : RuleTable) (sels : List Bytes) (name : Bytes) (v : JVal) (s : St) :
    StepRes :=
  let setFile : EM Unit := do
    let c ← newCell (.str name none)
    setGlobal b!"$file" c
  match setFile s with
  | .err e s' => .finished (errOutcome src e) s'
  | .oof => .finished .oof s
  | .ok () s1 =>
    let roots : Roots :=
      if sels.isEmpty then
        match (do let val ← newValueJson v; newCell val : EM CellId) s1 with
        | .ok c s2 => .cells [c] s2
        | .err e s2 => .stop (errOutcome src e) s2
        | .oof => .stop .oof s1
      else evalSelectors tbl v sels [] s1
    match roots with
    | .stop o s2 => .finished o s2
    | .exit s2 => .finished .ok s2
    | .cells cs s2 =>
      match processRoots prog cs s2 with
      | .ok .exit s3 => .finished .ok s3
      | .ok .continue_ s3 => .done s3
      | .err e s3 => .finished (errOutcome src e) s3
      | .oof => .finished .oof s2

theorem processFile_succ (src : Bytes) (tbl : RuleTable) (sels : List Bytes) (file : InputFile)
    (fuel : Nat) (data : Bytes) (s : St) :
    processFile prog src tbl sels file (fuel + 1) data s =
      match decodeOne numOk data file.tail with
      | .eof => .done s
      | .error | .needMore => .finished (.jsonErr file.name) s
      | .value v rest =>
        match processValue prog src tbl sels file.name v s with
        | .done s' => processFile prog src tbl sels file fuel rest s'
        | .finished o s' => .finished o s' := by
  rw [processFile]
  cases decodeOne numOk data file.tail with
  | eof => rfl
  | error => rfl
  | needMore => rfl
  | value v rest =>
    dsimp only
    unfold processValue
    dsimp only
    split
    · rename_i h; rw [h]
    · rename_i h; rw [h]
    · rename_i s1 h; rw [h]; dsimp only
      have fin : ∀ (r : Res Flow) (s2 : St),
          (match r with
            | .ok .exit s3 => StepRes.finished .ok s3
            | .ok .continue_ s3 => processFile prog src tbl sels file fuel rest s3
            | .err e s3 => .finished (errOutcome src e) s3
            | .oof => .finished .oof s2) =
          (match (match r with
            | .ok .exit s3 => StepRes.finished .ok s3
            | .ok .continue_ s3 => .done s3
            | .err e s3 => .finished (errOutcome src e) s3
            | .oof => .finished .oof s2) with
           | .done s' => processFile prog src tbl sels file fuel rest s'
           | .finished o s' => .finished o s') := by
        intro r s2
        cases r with
        | ok fl s3 => cases fl <;> rfl
        | err e s3 => rfl
        | oof => rfl
      cases hb : sels.isEmpty
      · simp only [Bool.false_eq_true, ↓reduceIte]
        cases evalSelectors tbl v sels [] s1 with
        | stop o s2 => rfl
        | exit s2 => rfl
        | cells cs s2 => exact fin _ _
      · simp only [↓reduceIte]
        cases (newValueJson v >>= fun val => newCell val : EM CellId) s1 with
        | ok c s2 => exact fin _ _
        | err e s2 => rfl
        | oof => rfl

theorem processValue_ne_jsonErr (src : Bytes) (tbl : RuleTable) (name : Bytes) (v : JVal) (s s' : St)
    (n : Bytes) : processValue prog src tbl [] name v s ≠ .finished (.jsonErr n) s' := by
  have herr : ∀ e, errOutcome src e ≠ .jsonErr n := fun e => by cases e <;> simp [errOutcome]
  unfold processValue
  intro h
  dsimp only [List.isEmpty_nil, ↓reduceIte] at h
  split at h
  · simp only [StepRes.finished.injEq] at h; exact herr _ h.1
  · cases h
  · rename_i s1 _
    cases hr : (newValueJson v >>= fun val => newCell val : EM CellId) s1 with
    | ok c s2 =>
      simp only [hr, if_true] at h
      split at h
      · cases h
      · cases h
      · simp only [StepRes.finished.injEq] at h; exact herr _ h.1
      · cases h
    | err e s2 => simp only [hr, if_true, StepRes.finished.injEq] at h; exact herr _ h.1
    | oof => simp only [hr, if_true] at h; cases h

end Jqawk.OneByte

namespace Jqawk
open Jqawk.Json

def StepRes.state : StepRes → St
  | .done s => s
  | .finished _ s => s

/-- how the processing of a prefix `r1` relates to the processing of the whole stream `r2`:
    * the prefix ended the run (exit, runtime error, …): the whole stream ends the same way in the
      same state, the later bytes are never looked at;
    * the prefix was used up (the decoder wanted more bytes, or hit a fault): the state reached
      after its complete values is a state the whole run passes through — its output only
      extends the prefix's output;
    * out of fuel: nothing claimed. -/
def PrefixRel (r1 r2 : StepRes) : Prop :=
  match r1 with
  | .finished .oof _ => True
  | .finished (.jsonErr _) s' => OutExt s' r2.state
  | .done s' => OutExt s' r2.state
  | .finished o s' => r2 = .finished o s'

theorem prefixRel_same (o : Outcome) (s : St) : PrefixRel (.finished o s) (.finished o s) := by
  cases o <;> simp [PrefixRel, StepRes.state, OutExt.refl]

variable (prog : Program)

theorem goodStep_outExt {s : St} {r : StepRes} (h : GoodStep s r) : OutExt s r.state := by
  cases r with
  | done s' => exact h.1
  | finished o s' => exact h.1

theorem processFile_prefix (src : Bytes) (tbl : RuleTable) (sels : List Bytes) (f1 f2 : InputFile)
    (hn : f1.name = f2.name) (h1 : f1.tail = .more) (more : Bytes) :
    ∀ (n : Nat) (pre : Bytes) (s : St) (m : Nat), n ≤ m →
      PrefixRel (processFile prog src tbl sels f1 n pre s)
        (processFile prog src tbl sels f2 m (pre ++ more) s) := by
  intro n
  induction n with
  | zero => intro pre s m _; simp [processFile, PrefixRel]
  | succ n ih =>
    intro pre s m hm
    obtain _ | m' := m
    · exact absurd hm (Nat.not_succ_le_zero _)
    have hgood := processFile_good prog src tbl sels f2 (m' + 1) (pre ++ more) s
    rw [OneByte.processFile_succ prog src tbl sels f1, h1]
    cases hd : decodeOne numOk pre .more with
    | eof => exact goodStep_outExt hgood
    | error => exact goodStep_outExt hgood
    | needMore => exact goodStep_outExt hgood
    | value v rest =>
      -- the whole stream decodes the same value first and does the same with it
      rw [OneByte.processFile_succ prog src tbl sels f2, decodeOne_prefix_value more f2.tail hd, hn]
      dsimp only
      cases OneByte.processValue prog src tbl sels f2.name v s with
      | done s1 => exact ih _ _ _ (Nat.le_of_succ_le_succ hm)
      | finished o s1 => exact prefixRel_same _ _

end Jqawk
