import Jqawk.Lemmas.JsonBytesBuilt
/-!
  Every tree the decoder builds has nesting depth at most `maxNestingDepth` (10000):
  `pushParseState` refuses to go deeper.
-/
namespace Jqawk.JsonBytes
open Jqawk Jqawk.Json

theorem depthList_le_iff (l : List JVal) (m : Nat) : depthList l ≤ m ↔ ∀ v ∈ l, depth v ≤ m := by
  induction l with
  | nil => simp [depthList]
  | cons x xs ih => simp [depthList, Nat.max_le, ih]

theorem depthMembers_le_iff (l : List (Bytes × JVal)) (m : Nat) :
    depthMembers l ≤ m ↔ ∀ kv ∈ l, depth kv.2 ≤ m := by
  induction l with
  | nil => simp [depthMembers]
  | cons x xs ih => obtain ⟨k, v⟩ := x; simp [depthMembers, Nat.max_le, ih]

theorem Built.depth_le {g : Bytes → Bool} {n : Nat} {v : JVal} (h : Built g n v) :
    depth v + n ≤ maxNestingDepth := by
  induction h with
  | @arr n xs h _ ih =>
    have := (depthList_le_iff xs (maxNestingDepth - (n + 1))).2 fun v hv => by have := ih v hv; omega
    simp only [depth]; omega
  | @obj n ms h _ _ _ ih =>
    have := (depthMembers_le_iff ms (maxNestingDepth - (n + 1))).2 fun kv hkv => by have := ih kv hkv; omega
    simp only [depth]; omega
  | _ => simp only [depth]; omega

theorem decodeOne_depth (f : Bytes → Bool) (inp : Bytes) (t : Tail) (v : JVal) (rest : Bytes)
    (h : decodeOne f inp t = .value v rest) : depth v ≤ maxNestingDepth :=
  (decodeOne_built f inp t v rest h).depth_le

end Jqawk.JsonBytes
