/-
  Lemmas for C15: `contains` as a scan with `==`, `sort` as a stable merge sort into a fresh array
  (`sortHeap`), and the index read `getMember` on an array against `ListArr.get`.
-/
import Jqawk.Lemmas.Heap
import Jqawk.Lemmas.SortOrder

namespace Jqawk
open Jqawk Spec

theorem containsLoop_eq (h : Heap) (v : Val) (cells : List CellId) :
    containsLoop h v cells =
      match ListArr.contains v (cells.map h.get) with
      | .ok b => .ok (some (.bool b))
      | .error m => .error m := by
  induction cells with
  | nil => rfl
  | cons c cs ih =>
    simp only [containsLoop, List.map_cons, ListArr.contains, binaryOp, isCompareOp, beq_self_eq_true,
      Bool.or_true, Bool.true_or, ↓reduceIte]
    by_cases hu : (v.kind == Kind.unknown || (h.get c).kind == Kind.unknown) = true
    · simp only [hu, ↓reduceIte]
      exact ih
    · simp only [hu, Bool.false_eq_true, ↓reduceIte]
      cases hc : v.compare (h.get c) with
      | error m => rfl
      | ok r =>
        by_cases hr : r = 0
        · simp [hr, cmpResult]
        · have hr' : (r == 0) = false := by simpa using hr
          simp only [cmpResult, hr']
          exact ih

theorem sortLe_total (l : List Val) (x y : Val) : (ListArr.sortLe l x y || ListArr.sortLe l y x) = true := by
  unfold ListArr.sortLe
  split
  · exact f64Le_total _ _
  · exact Bytes.le_total_bool _ _

theorem sortLe_trans (l : List Val) (x y z : Val) (h1 : ListArr.sortLe l x y = true)
    (h2 : ListArr.sortLe l y z = true) : ListArr.sortLe l x z = true := by
  unfold ListArr.sortLe at *
  split at h1
  · rename_i h; simp only [h, ↓reduceIte] at h2 ⊢; exact f64Le_trans _ _ _ h1 h2
  · rename_i h; simp only [h] at h2 ⊢; exact Bytes.le_trans _ _ _ h1 h2

theorem mergeSort_isStableSort (l0 l : List Val) :
    ListArr.IsStableSort (ListArr.sortLe l0) l (l.mergeSort (ListArr.sortLe l0)) where
  perm := List.mergeSort_perm _ _
  sorted := List.pairwise_mergeSort (sortLe_trans l0) (sortLe_total l0) l
  stable := fun _ hs hp => List.sublist_mergeSort (sortLe_trans l0) (sortLe_total l0) hp hs

def sortHeap (h : Heap) (sorted : List Val) : Heap :=
  { cells := (h.allocMany sorted).cells,
    arrs := h.arrs.push (List.range' h.cells.size sorted.length).toArray,
    objs := h.objs }

theorem callNative_arrSort (a : ArrId) (args : List Val) (s : St) :
    callNative .arrSort args (some (.arr a)) s =
      .ok (.ok (some (.arr s.heap.arrs.size)))
        { s with heap := (sortHeap s.heap
            (((absArr s.heap a).map ListArr.sortCopy).mergeSort (ListArr.sortLe (absArr s.heap a)))) } := by
  by_cases hc : ((absArr s.heap a).all fun v => v.kind == Kind.num) = true
  · have hc' : ((List.map s.heap.get (s.heap.arr a).toList).all fun v => v.kind == Kind.num) = true := hc
    simp only [callNative, bind, EM.bind, getHeap, newArrayOf_eq, pure, EM.pure, sortHeap, hc',
      ListArr.sortLe, hc, ↓reduceIte]
    rfl
  · have hc' : ¬ ((List.map s.heap.get (s.heap.arr a).toList).all fun v => v.kind == Kind.num) = true := hc
    simp only [callNative, bind, EM.bind, getHeap, newArrayOf_eq, pure, EM.pure, sortHeap, hc',
      ListArr.sortLe, hc]
    rfl

theorem absArr_sortHeap_new (h : Heap) (sorted : List Val) :
    absArr (sortHeap h sorted) h.arrs.size = sorted := by
  have : (sortHeap h sorted).arr h.arrs.size = (List.range' h.cells.size sorted.length).toArray := by
    simp [sortHeap, Heap.arr, Array.getD_eq_getD_getElem?]
  simp only [absArr, this]
  exact Heap.map_get_allocMany h sorted

theorem absArr_sortHeap_old (h : Heap) (wf : h.WF) (sorted : List Val) (b : ArrId) (hb : b < h.arrs.size) :
    absArr (sortHeap h sorted) b = absArr h b := by
  have : (sortHeap h sorted).arr b = h.arr b := by
    simp [sortHeap, Heap.arr, Array.getD_eq_getD_getElem?, Array.getElem?_push, Nat.ne_of_lt hb, Heap.allocMany]
  simp only [absArr, this]
  apply List.map_congr_left
  intro c hc
  exact Heap.get_allocMany_old h sorted c (wf.arrs b c hc)


theorem Heap.WF.sortHeap {h : Heap} (wf : h.WF) (sorted : List Val) : (sortHeap h sorted).WF := by
  have hsize : (Jqawk.sortHeap h sorted).cells.size = h.cells.size + sorted.length := by
    simp [Jqawk.sortHeap, Heap.allocMany]
  constructor
  · intro b c hc
    rw [hsize]
    by_cases hb : b < h.arrs.size
    · have : (Jqawk.sortHeap h sorted).arr b = h.arr b := by
        simp [Jqawk.sortHeap, Heap.arr, Array.getD_eq_getD_getElem?, Array.getElem?_push, Nat.ne_of_lt hb]
      rw [this] at hc
      exact Nat.lt_add_right _ (wf.arrs b c hc)
    · by_cases hb' : b = h.arrs.size
      · have : (Jqawk.sortHeap h sorted).arr b = (List.range' h.cells.size sorted.length).toArray := by
          simp [Jqawk.sortHeap, Heap.arr, Array.getD_eq_getD_getElem?, hb']
        rw [this] at hc
        simp only [List.mem_range'_1] at hc
        exact hc.2
      · have : (Jqawk.sortHeap h sorted).arr b = #[] := by
          simp only [Jqawk.sortHeap, Heap.arr, Array.getD_eq_getD_getElem?]
          rw [Array.getElem?_eq_none (by
            simp only [Array.size_push]
            exact Nat.succ_le_of_lt (Nat.lt_of_le_of_ne (Nat.le_of_not_lt hb) (Ne.symm hb')))]
          rfl
        rw [this] at hc; simp at hc
  · intro o k c hc
    rw [hsize]
    exact Nat.lt_add_right _ (wf.objs o k c hc)

theorem getMember_arr_num (h : Heap) (a : ArrId) (x : F64) :
    match ListArr.get (absArr h a) x.toGoInt with
    | none => getMember h (.arr a) (.num x) = .error "index out of range"
    | some none => getMember h (.arr a) (.num x) = .ok .missing
    | some (some v) => ∃ c, getMember h (.arr a) (.num x) = .ok (.cell c) ∧ h.get c = v := by
  have hlen : (absArr h a).length = (h.arr a).size := by simp [absArr]
  have hget : ∀ i, i < (h.arr a).size → (absArr h a)[i]? = some (h.get ((h.arr a).getD i 0)) := by
    intro i hi
    simp [absArr, Array.getD_eq_getD_getElem?, hi]
  have hnone : ∀ i, ¬ i < (h.arr a).size → (absArr h a)[i]? = none := by
    intro i hi
    simp only [List.getElem?_eq_none_iff, hlen]; omega
  simp only [getMember, ListArr.get, hlen]
  generalize x.toGoInt = i
  by_cases h0 : 0 ≤ i
  · rw [resolveIndex_nonneg _ _ h0, if_pos h0]
    by_cases hi : i.toNat < (h.arr a).size
    · simp only [hget _ hi, hi, ↓reduceIte]; exact ⟨_, rfl, rfl⟩
    · simp only [hnone _ hi, hi, ↓reduceIte]
  · rw [resolveIndex_neg _ _ (by omega), if_neg h0]
    by_cases hr : (-i).toNat ≤ (h.arr a).size
    · simp only [hr, ↓reduceIte]
      by_cases hi : (h.arr a).size - (-i).toNat < (h.arr a).size
      · simp only [hget _ hi, hi, ↓reduceIte]; exact ⟨_, rfl, rfl⟩
      · simp only [hnone _ hi, hi, ↓reduceIte]
    · simp only [hr, ↓reduceIte]

end Jqawk
