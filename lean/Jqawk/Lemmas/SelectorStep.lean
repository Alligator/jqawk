/-
  `-r E` versus `BEGINFILE { $ = E }` (C14): one decoded value.  The selector (`evalSelector`:
  nested evaluator, conversion of the value, `E`, a fresh root cell) against the conversion
  followed by the rule `$ = E` in the main evaluator: same outcome, and afterwards the two main
  evaluators are related again, the root of the one corresponding to `$` of the other.
-/
import Jqawk.Lemmas.SelectorJunction
import Jqawk.Lemmas.SelectorPlain
import Jqawk.Lemmas.SelectorBiDriver
import Jqawk.Lemmas.BlameSites
import Jqawk.Lemmas.Invariant


namespace Jqawk
namespace Sel
open BlameSites (needsCreate)

def ruleStep (progB : Program) (T : SelTok) (E : Expr) (v : JVal) : EM (CellId × Val × Flow) := do
  let val ← newValueJson v
  let c ← newCell val
  modifySt fun s => { s with ruleRoot := some c }
  let fl ← ruleFlow (evalStmt progB evalFuel (ruleBody T E))
  pure (c, val, fl)

/-- an error of the selector against the same error of the rule: same class, same message (the
    position refers to the selector text in one case, to the program text in the other) -/
def OutErr (sel : Bytes) : Outcome → Err → Prop
  | .runtimeErr s _ m, .runtime _ m' => s = sel ∧ m = m'
  | .panic m, .panic m' => m = m'
  | .unmodelled m, .unmodelled m' => m = m'
  | _, _ => False

inductive JRel (prog progB : Program) (sel : Bytes) :
    ((Outcome × St) ⊕ (Except Sig CellId × St)) → Res (CellId × Val × Flow) → Prop
  | oofB (a : (Outcome × St) ⊕ (Except Sig CellId × St)) : JRel prog progB sel a .oof
  | oofA (s : St) (b : Res (CellId × Val × Flow)) : JRel prog progB sel (.inl (.oof, s)) b
  | ok (r c : CellId) (vb : Val) (sA' sB' : St) (K' : Ctx) (wf : K'.WF) (h0 : K'.a0 = 0) (h0' : K'.o0 = 0)
      (hA : K'.progA = prog) (hB : K'.progB = progB) (hs : SR (mainX K') sA' sB')
      (hlen : sB'.frames.length = 1) (hc : CellR K' sB'.heap.cells.size r c) :
      JRel prog progB sel (.inr (.ok r, sA')) (.ok (c, vb, .continue_) sB')
  | err (oA : Outcome) (e : Err) (sA' sB' : St) (ho : OutErr sel oA e) (hout : sA'.out = sB'.out) :
      JRel prog progB sel (.inl (oA, sA')) (.err e sB')

theorem newEvaluator_empty_heap (h : Heap) (out : List Bytes) (faults : Nat) :
    (newEvaluator Program.empty h out faults).heap =
      (((h.alloc (.native .printf none none)).2.alloc (.native .json none none)).2.alloc
          (.native .num none none)).2 := rfl

structure NestedOK (h : Heap) (out : List Bytes) (faults : Nat) (s0 : St) : Prop where
  arrs : s0.heap.arrs = h.arrs
  objs : s0.heap.objs = h.objs
  size : s0.heap.cells.size = h.cells.size + 3
  pres : HeapPreserved h s0.heap
  flen : s0.frames.length = 1
  out : s0.out = out
  faults : s0.faults = faults
  bp : lookupFrames s0.frames b!"printf" = some h.cells.size
  bj : lookupFrames s0.frames b!"json" = some (h.cells.size + 1)
  bn : lookupFrames s0.frames b!"num" = some (h.cells.size + 2)
  c0 : s0.heap.get h.cells.size = .native .printf none none
  c1 : s0.heap.get (h.cells.size + 1) = .native .json none none
  c2 : s0.heap.get (h.cells.size + 2) = .native .num none none

theorem newEvaluator_empty_ok (h : Heap) (out : List Bytes) (faults : Nat) :
    NestedOK h out faults (newEvaluator Program.empty h out faults) := by
  refine ⟨rfl, rfl, ?_, ?_, rfl, rfl, rfl, ?_, ?_, ?_, ?_, ?_, ?_⟩
  · rw [newEvaluator_empty_heap, Heap.size_alloc, Heap.size_alloc, Heap.size_alloc]
  · rw [newEvaluator_empty_heap]
    exact ((HeapPreserved.alloc _ _).trans (HeapPreserved.alloc _ _)).trans (HeapPreserved.alloc _ _)
  · rfl
  · show some ((h.alloc (.native .printf none none)).2.cells.size) = _
    rw [Heap.size_alloc]
  · show some (((h.alloc (.native .printf none none)).2.alloc (.native .json none none)).2.cells.size) = _
    rw [Heap.size_alloc, Heap.size_alloc]
  · rw [newEvaluator_empty_heap, Heap.get_alloc, Heap.get_alloc, Heap.get_alloc, Heap.size_alloc, Heap.size_alloc]
    have e1 : ¬ h.cells.size = h.cells.size + 1 + 1 := by omega
    have e2 : ¬ h.cells.size = h.cells.size + 1 := by omega
    simp only [e1, e2, ↓reduceIte]
  · rw [newEvaluator_empty_heap, Heap.get_alloc, Heap.get_alloc, Heap.size_alloc, Heap.size_alloc]
    have e1 : ¬ h.cells.size + 1 = h.cells.size + 1 + 1 := by omega
    simp only [e1, ↓reduceIte]
  · rw [newEvaluator_empty_heap, Heap.get_alloc, Heap.size_alloc, Heap.size_alloc]
    simp only [↓reduceIte]

theorem getIdentifier_dollar (prog : Program) (t : Token) (ht : t.tag = .dollar) (s : St) (c : CellId)
    (hr : s.ruleRoot = some c) : getIdentifier prog t s = .ok c s := by
  simp only [getIdentifier, ht, beq_self_eq_true, ↓reduceIte, bind, EM.bind, getSt, hr, pure, EM.pure]


/-- the nested evaluator after the conversion: root and `$` are the fresh cell -/
def stAd (sAv : St) (vA : Val) : St :=
  { sAv with heap := (sAv.heap.alloc vA).2, root := some sAv.heap.cells.size,
             ruleRoot := some sAv.heap.cells.size }

/-- the main evaluator of run B after the conversion: `$` is the fresh cell -/
def stBd (sBv : St) (vB : Val) : St :=
  { sBv with heap := (sBv.heap.alloc vB).2, ruleRoot := some sBv.heap.cells.size }

/-- the part of `selectorRun` after the conversion -/
def selAfter (E : Expr) : EM CellId := do
  let cell ← evalExpr Program.empty evalFuel E
  let root ← newCell .unknown
  match (← copyValue cell root) with
  | .error m => throwRt E.token.pos m
  | .ok c => pure c

theorem selectorRun_eq (v : JVal) (E : Expr) (s0 : St) (vA : Val) (sAv : St)
    (e1 : newValueJson v s0 = .ok vA sAv) :
    selectorRun v E s0 = selAfter E (stAd sAv vA) := by
  simp only [selectorRun, selAfter, bind, EM.bind, e1, Jqawk.newCell, modifySt]
  rfl

/-- the part of `ruleStep` after the conversion -/
def ruleAfter (progB : Program) (T : SelTok) (E : Expr) (val : Val) (c : CellId) : EM (CellId × Val × Flow) := do
  let fl ← ruleFlow (do
    let right ← evalExpr progB 999995 E
    let _ ← evalAssignment T.dtok.pos c right
    pure ())
  pure (c, val, fl)

theorem ruleStep_eq (progB : Program) (T : SelTok) (E : Expr) (v : JVal) (sB : St) (vB : Val) (sBv : St)
    (e1 : newValueJson v sB = .ok vB sBv) :
    ruleStep progB T E v sB = ruleAfter progB T E vB sBv.heap.cells.size (stBd sBv vB) := by
  have hf : evalFuel = 999994 + 6 := rfl
  simp only [ruleStep, ruleAfter, bind, EM.bind, e1, Jqawk.newCell, modifySt, hf, ruleBody_eval]
  simp only [Jqawk.ruleFlow, EM.bind]
  rw [getIdentifier_dollar progB T.dtok T.hd _ sBv.heap.cells.size rfl]
  rfl

theorem selAfter_ok (E : Expr) (s : St) (x : CellId) (se : St)
    (h : evalExpr Program.empty evalFuel E s = .ok x se) :
    selAfter E s =
      match copyVal ((se.heap.alloc .unknown).2.get x) with
      | .ok w => .ok se.heap.cells.size { se with heap := (se.heap.alloc .unknown).2.set se.heap.cells.size w }
      | .error m => throwRt E.token.pos m { se with heap := (se.heap.alloc .unknown).2 } := by
  simp only [selAfter, bind, EM.bind, h, Jqawk.newCell, copyValue, readCell, pure]
  cases copyVal ((se.heap.alloc .unknown).2.get x) <;> rfl

theorem selAfter_err (E : Expr) (s : St) (e : Err) (se : St)
    (h : evalExpr Program.empty evalFuel E s = .err e se) : selAfter E s = .err e se := by
  simp only [selAfter, bind, EM.bind, h]

theorem selAfter_oof (E : Expr) (s : St)
    (h : evalExpr Program.empty evalFuel E s = .oof) : selAfter E s = .oof := by
  simp only [selAfter, bind, EM.bind, h]

theorem evalAssignment_plain (pos : Nat) (l r : CellId) (s : St) (h : needsCreate (s.heap.get l) = false) :
    evalAssignment pos l r s =
      match copyVal (s.heap.get r) with
      | .ok w => .ok l { s with heap := s.heap.set l w }
      | .error m => throwRt pos m s := by
  rw [BlameSites.evalAssignment_eq]
  simp only [bind, EM.bind, readCell, h, Bool.false_eq_true, ↓reduceIte, pure, EM.pure, copyValue]
  cases copyVal (s.heap.get r) <;> rfl

theorem ruleAfter_ok (progB : Program) (T : SelTok) (E : Expr) (val : Val) (c : CellId) (s : St) (x : CellId) (se : St)
    (h : evalExpr progB 999995 E s = .ok x se) (hn : needsCreate (se.heap.get c) = false) :
    ruleAfter progB T E val c s =
      match copyVal (se.heap.get x) with
      | .ok w => .ok (c, val, .continue_) { se with heap := se.heap.set c w }
      | .error m => throwRt T.dtok.pos m se := by
  simp only [ruleAfter, Jqawk.ruleFlow, bind, EM.bind, h, evalAssignment_plain _ _ _ _ hn]
  cases copyVal (se.heap.get x) <;> rfl

theorem ruleAfter_oof (progB : Program) (T : SelTok) (E : Expr) (val : Val) (c : CellId) (s : St)
    (h : evalExpr progB 999995 E s = .oof) : ruleAfter progB T E val c s = .oof := by
  simp only [ruleAfter, Jqawk.ruleFlow, bind, EM.bind, h]

theorem ruleAfter_err (progB : Program) (T : SelTok) (E : Expr) (val : Val) (c : CellId) (s : St) (e : Err) (se : St)
    (h : evalExpr progB 999995 E s = .err e se) (hsig : ∀ g, e ≠ .sig g) :
    ruleAfter progB T E val c s = .err e se := by
  simp only [ruleAfter, Jqawk.ruleFlow, bind, EM.bind, h]
  cases e with
  | sig g => exact absurd rfl (hsig g)
  | _ => rfl

theorem needsCreate_plain {v : Val} (h : Val.plain v) : needsCreate v = false := by
  cases v with
  | str s sp => simp only [Val.plain] at h; subst h; rfl
  | nil sp => simp only [Val.plain] at h; subst h; rfl
  | native f b sp => simp only [Val.plain] at h; obtain ⟨rfl, rfl⟩ := h; rfl
  | _ => rfl

theorem evalSelector_eq (tbl : RuleTable) (sel : Bytes) (E : Expr) (hp : parseExpressionSrc tbl sel = .ok E)
    (v : JVal) (s : St) :
    evalSelector tbl sel v s =
      (let back (s1 : St) : St :=
        { s with heap := s1.heap, out := s1.out, faults := s1.faults, faultOut := s1.faultOut,
                 maxDepth := max s.maxDepth s1.maxDepth }
       match selectorRun v E (newEvaluator Program.empty s.heap s.out s.faults) with
       | .ok c s1 => .inr (.ok c, back s1)
       | .err (.sig .exit) s1 => .inr (.error .exit, back s1)
       | .err (.sig .next) s1 => .inr (.error .next, back s1)
       | .err (.sig g) s1 => .inl (.sentinel g, back s1)
       | .err (.runtime pos msg) s1 => .inl (.runtimeErr sel pos msg, back s1)
       | .err (.panic m) s1 => .inl (.panic m, back s1)
       | .err (.unmodelled w) s1 => .inl (.unmodelled w, back s1)
       | .oof => .inl (.oof, s)) := by
  unfold evalSelector
  rw [hp]
  rfl

def maxFn : List Val → Nat
  | [] => 0
  | .fn i :: rest => max (i + 1) (maxFn rest)
  | _ :: rest => maxFn rest

theorem lt_maxFn {l : List Val} {i : Nat} (h : Val.fn i ∈ l) : i < maxFn l := by
  induction l with
  | nil => cases h
  | cons v rest ih =>
    rcases List.mem_cons.mp h with e | e
    · subst e; simp only [maxFn]; omega
    · have := ih e
      cases v <;> simp only [maxFn] <;> omega

/-- any heap satisfies the heap part of the region invariant for the region "everything allocated
    from now on", with a bound on the function indices it contains -/
theorem heapOK_sel (h : Heap) :
    HeapOK ⟨h.cells.size, h.arrs.size, h.objs.size, 0, maxFn h.cells.toList⟩ h := by
  refine ⟨Nat.le_refl _, Nat.le_refl _, Nat.le_refl _, ?_, ?_, ?_, ?_⟩
  · intro c
    by_cases hc : c < h.cells.size
    · have : h.get c = h.cells[c] := by
        simp [Heap.get, Array.getD_eq_getD_getElem?, hc]
      cases hv : h.get c with
      | fn i =>
        show i < maxFn h.cells.toList
        apply lt_maxFn
        rw [← hv, this]
        exact Array.getElem_mem_toList hc
      | _ => trivial
    · rw [Heap.get_of_not_valid h c hc]; trivial
  · intro c hc
    rw [Heap.get_of_not_valid h c (Nat.not_lt.mpr hc)]; trivial
  · intro a ha c hc
    rw [Heap.arr_of_not_valid h a (Nat.not_lt.mpr ha)] at hc; simp at hc
  · intro o ho kc hkc
    rw [Heap.obj_of_not_valid h o (Nat.not_lt.mpr ho)] at hkc; cases hkc

/-- the region of the nested evaluator of a selector started on heap `h` -/
def Pn (h : Heap) : Region := ⟨h.cells.size, h.arrs.size, h.objs.size, 0, maxFn h.cells.toList⟩

theorem nested_invK (h : Heap) (out : List Bytes) (faults : Nat) (v : JVal) (vA : Val) (sAv : St)
    (e : newValueJson v (newEvaluator Program.empty h out faults) = .ok vA sAv) :
    InvK (Pn h) (KSet (Pn h)) (stAd sAv vA) := by
  have i0 : InvK (Pn h) KAny (newEvaluator Program.empty h out faults) :=
    newEvaluator_inv (P := Pn h) Program.empty (Nat.zero_le _) (Nat.zero_le _) (heapOK_sel h) out faults
  have i1 := NP.newValueJson (P := Pn h) (K := KAny) v _ i0
  unfold NPat at i1
  rw [e] at i1
  have i2 := NP.newCell (P := Pn h) (K := KAny) i1.2 sAv i1.1
  exact ⟨⟨i2.1.heap, i2.1.frames, i2.1.ret⟩, ⟨sAv.heap.cells.size, rfl, i2.2⟩⟩

/-- the builtins of the main evaluator are what `NewEvaluator` made them (run B, when the
    selector may call them) -/
def BInv (progB : Program) (s : St) : Prop :=
  ∃ h0, InvB (P3 progB) h0 b0m KAny s ∧ h0.get 0 = .native .printf none none ∧
    h0.get 1 = .native .json none none ∧ h0.get 2 = .native .num none none

structure BI (s : St) : Prop where
  bp : lookupFrames s.frames b!"printf" = some 0
  bj : lookupFrames s.frames b!"json" = some 1
  bn : lookupFrames s.frames b!"num" = some 2
  c0 : s.heap.get 0 = .native .printf none none
  c1 : s.heap.get 1 = .native .json none none
  c2 : s.heap.get 2 = .native .num none none
  sz : 3 ≤ s.heap.cells.size

theorem lookupFrames_single (f : Frame) (k : Bytes) : lookupFrames [f] k = botLookup [f] k := by
  simp only [lookupFrames, botLookup, List.getLast?_singleton]
  cases objLookup f.locals k <;> rfl

theorem BInv.bi {progB : Program} {s : St} (h : BInv progB s) (hlen : s.frames.length = 1) : BI s := by
  obtain ⟨h0, inv, e0, e1, e2⟩ := h
  obtain ⟨f, hf⟩ : ∃ f, s.frames = [f] := by
    cases hfr : s.frames with
    | nil => rw [hfr] at hlen; cases hlen
    | cons f fs =>
      cases fs with
      | nil => exact ⟨f, rfl⟩
      | cons g gs => rw [hfr] at hlen; simp at hlen
  have hb := inv.frames.bot
  rw [hf] at hb
  refine ⟨?_, ?_, ?_, ?_, ?_, ?_, inv.heap.nle⟩
  · rw [hf, lookupFrames_single, hb _ (by decide)]; rfl
  · rw [hf, lookupFrames_single, hb _ (by decide)]; rfl
  · rw [hf, lookupFrames_single, hb _ (by decide)]; rfl
  · rw [inv.heap.keep 0 (show 0 < 3 by decide), e0]
  · rw [inv.heap.keep 1 (show 1 < 3 by decide), e1]
  · rw [inv.heap.keep 2 (show 2 < 3 by decide), e2]

theorem renV_native_plain {σ : Nat → Nat} {v : Val} {f : Native} (h : renV σ v = .native f none none) :
    v = .native f none none := by
  cases v with
  | native g b sp =>
    cases b <;> cases sp <;> simp_all [renV, renSpec]
  | str s sp => cases sp <;> simp [renV, renSpec] at h
  | nil sp => cases sp <;> simp [renV, renSpec] at h
  | _ => simp [renV] at h

set_option linter.unusedVariables false in
/-- **one decoded value**: the selector in its nested evaluator against the conversion followed by
    the rule `$ = E` in the main evaluator (`C14.selector_step` and `selector_step_builtins` are
    the two values of `ub`).  `hKA`, `hKB` play no part: the context after the step is built from
    `prog` and `withSel prog T E` themselves. -/
theorem junction (prog : Program) (T : SelTok) (E : Expr) (ub : Bool)
    (hE : selX (fun k => ub && isB k) E = true)
    (hwfE : E.wfB = true) (tbl : RuleTable) (sel : Bytes)
    (hparse : parseExpressionSrc tbl sel = .ok E) (v : JVal) {K : Ctx} (wf : K.WF) (h0 : K.a0 = 0)
    (h0' : K.o0 = 0) (hKA : K.progA = prog) (hKB : K.progB = withSel prog T E) {sA sB : St}
    (hs : SR (mainX K) sA sB) (hlen : sB.frames.length = 1)
    (hub : ub = true → BInv (withSel prog T E) sB ∧ (withSel prog T E).wfB = true ∧
      okProg (withSel prog T E) = true ∧ okE E = true) :
    JRel prog (withSel prog T E) sel (evalSelector tbl sel v sA) (ruleStep (withSel prog T E) T E v sB) := by
  have hfun : prog.functions = (withSel prog T E).functions := rfl
  generalize withSel prog T E = progB at hKB hub hfun ⊢
  have hbi : ub = true → BI sB := fun h => (hub h).1.bi hlen
  have hnest := newEvaluator_empty_ok sA.heap sA.out sA.faults
  have hnv := nested_invK sA.heap sA.out sA.faults v
  generalize hs0 : newEvaluator Program.empty sA.heap sA.out sA.faults = s0 at hnest hnv
  let C1 : Ctx := K1 K sA.heap sB.heap progB ub
  let Y1 : XCtx := X1 C1 s0.frames sB.frames (fun k => ub && isB k)
  -- the context of the first phase
  have hm : K.m ≤ sB.heap.cells.size := hs.heap.mle
  have hszc : sA.heap.cells.size = sB.heap.cells.size + K.d := hs.heap.szc
  have wf1 := K1_wf wf sA.heap sB.heap hm progB ub hszc
  have xwf1 : Y1.WF := by
    refine ⟨wf1, ?_, .inr (fun name h => ?_)⟩
    · show s0.frames.length = sB.frames.length
      rw [hnest.flen, hlen]
    · have h' : (ub && isB name) = true := h
      simp only [Bool.and_eq_true] at h'
      have hu := h'.1
      have b := hbi hu
      subst hu
      have hn := h'.2
      simp only [isB, Bool.or_eq_true, beq_iff_eq] at hn
      have live : ∀ i, i < 3 → LiveC (K1 K sA.heap sB.heap progB true) sB.heap.cells.size i :=
        fun i hi => ⟨.inr ⟨rfl, hi⟩, Nat.lt_of_lt_of_le hi b.sz⟩
      rcases hn with (rfl | rfl) | rfl
      · exact ⟨_, _, hnest.bp, b.bp, (K1_σ_bi (i := 0) rfl (by decide) (Nat.lt_of_lt_of_le (by decide) b.sz)).symm, live 0 (by decide)⟩
      · exact ⟨_, _, hnest.bj, b.bj, (K1_σ_bi (i := 1) rfl (by decide) (Nat.lt_of_lt_of_le (by decide) b.sz)).symm, live 1 (by decide)⟩
      · exact ⟨_, _, hnest.bn, b.bn, (K1_σ_bi (i := 2) rfl (by decide) (Nat.lt_of_lt_of_le (by decide) b.sz)).symm, live 2 (by decide)⟩
  -- the nested evaluator and the main evaluator of run B are related in that context
  have hsr0 : SR Y1 s0 sB := by
    refine ⟨⟨?_, Nat.le_refl _, ?_, Nat.le_refl _, ?_, Nat.le_refl _, ?_, ?_, ?_, ?_⟩, ?_, (fun h => by cases h),
      (fun h => by cases h), ?_, ?_⟩
    · show s0.heap.cells.size = sB.heap.cells.size + (K.d + 3)
      rw [hnest.size, hszc]; omega
    · rw [hnest.arrs]; exact hs.heap.sza
    · rw [hnest.objs]; exact hs.heap.szo
    · intro i hi
      rcases hi.1 with h1 | ⟨hu, h3⟩
      · exact absurd hi.2 (Nat.not_lt.mpr h1)
      · have b := hbi hu
        subst hu
        show ValR _ _ (s0.heap.get ((K1 K sA.heap sB.heap progB true).σ i)) _
        rw [K1_σ_bi rfl h3 (Nat.lt_of_lt_of_le h3 b.sz)]
        have natR : ∀ (f : Native), ValR (K1 K sA.heap sB.heap progB true) sB.heap.cells.size
            (.native f none none) (.native f none none) := fun f => ⟨rfl, trivial, trivial⟩
        rcases lt3 i h3 with rfl | rfl | rfl
        · rw [show sA.heap.cells.size + 0 = sA.heap.cells.size from rfl, hnest.c0, b.c0]; exact natR _
        · rw [hnest.c1, b.c1]; exact natR _
        · rw [hnest.c2, b.c2]; exact natR _
    · intro k hk
      have hk' : ¬ k < sB.heap.arrs.size := Nat.not_lt.mpr hk
      rw [Heap.arr_of_not_valid _ k hk', Heap.arr_of_not_valid _ k (by rw [hnest.arrs, hs.heap.sza]; exact hk')]
      exact ArrR.empty _ _
    · intro k hk
      have hk' : ¬ k < sB.heap.objs.size := Nat.not_lt.mpr hk
      rw [Heap.obj_of_not_valid _ k hk', Heap.obj_of_not_valid _ k (by rw [hnest.objs, hs.heap.szo]; exact hk')]
      exact MemR.nil _
    · -- nothing has been touched yet
      refine ⟨Nat.le_refl _, ?_, ?_, Nat.le_refl _, ?_, Nat.le_refl _, fun _ _ _ => rfl, ?_, fun _ _ => rfl, ?_,
        fun _ _ => rfl, ?_⟩
      · show sA.heap.cells.size ≤ s0.heap.cells.size
        rw [hnest.size]; exact Nat.le_add_right _ _
      · show sB.heap.arrs.size ≤ s0.heap.arrs.size
        rw [hnest.arrs, hs.heap.sza]; exact Nat.le_refl _
      · show sB.heap.objs.size ≤ s0.heap.objs.size
        rw [hnest.objs, hs.heap.szo]; exact Nat.le_refl _
      · intro j hj _
        exact hnest.pres.get j hj
      · intro k hk
        have hk' : k < sB.heap.arrs.size := hk
        exact hnest.pres.arr k (by rw [hs.heap.sza]; exact hk')
      · intro k hk
        have hk' : k < sB.heap.objs.size := hk
        exact hnest.pres.obj k (by rw [hs.heap.szo]; exact hk')
    · exact ⟨[], [], rfl, rfl, F2.nil, fun h => by cases h⟩
    · rw [hnest.out]; exact hs.out
    · rw [hnest.faults]; exact hs.faults
  -- the conversion of the decoded value, in both runs
  obtain ⟨vA, sAv, eA1, cA1, plA⟩ := conv_ok v s0
  obtain ⟨vB, sBv, eB1, cB1, plB⟩ := conv_ok v sB
  have r1 := sim_newValueJson xwf1 v sB.heap.cells.size s0 sB hsr0 (Nat.le_refl _)
  rw [eA1, eB1] at r1
  obtain ⟨hw1, hv1, hsr1⟩ := r1
  -- the root cell / the `$` cell
  have r2 := SimW.newCell xwf1 hv1 (Nat.le_refl _) sAv sBv hsr1 (Nat.le_refl _)
  obtain ⟨hw2, hc2, hsr2⟩ := r2
  have hszv : sAv.heap.cells.size = sBv.heap.cells.size + (K.d + 3) := hsr1.heap.szc
  have hs0sz : s0.heap.cells.size = sB.heap.cells.size + (K.d + 3) := by rw [hnest.size, hszc]; omega
  -- `$` is set in both runs
  have hsrd : SR Y1.withD
      (stAd sAv vA) (stBd sBv vB) :=
    { hsr2 with ruleRoot := fun _ => hc2, root := fun h => by cases h }
  have g1 : GoodX Y1.withD :=
    ⟨WF_withD xwf1, fun i f hf _ => by
      have : (Program.empty.functions[i]? : Option FuncDef) = some f := hf
      simp [Program.empty] at this⟩
  have hids : idsE true (fun k => ub && isB k) E = true := selX_ids _ E hE
  -- the nested evaluator: region invariant, members of its containers are plain
  have hinvA : InvK (Pn sA.heap) (KSet (Pn sA.heap)) (stAd sAv vA) := hnv vA sAv eA1
  have hmphA : MPH (Pn sA.heap) sAv.heap.cells.size (stAd sAv vA).heap := by
    have hck : ∀ x, x < sAv.heap.cells.size → (sAv.heap.alloc vA).2.get x = sAv.heap.get x := by
      intro x hx
      rw [Heap.get_alloc]; simp only [Nat.ne_of_lt hx, ↓reduceIte]
    have key : ∀ y, C1.D y → y < sBv.heap.cells.size →
        PC sAv.heap.cells.size (sAv.heap.alloc vA).2 (C1.σ y) := by
      intro y yd y2
      by_cases hb : ub = true ∧ y < 3
      · -- a builtin cell of the nested evaluator
        obtain ⟨hu, y3⟩ := hb
        have b := hbi hu
        subst hu
        rw [K1_σ_bi rfl y3 (Nat.lt_of_lt_of_le y3 b.sz)]
        have hle0 : s0.heap.cells.size ≤ sAv.heap.cells.size := cA1.pres.cells
        have hlt0 : sA.heap.cells.size + y < s0.heap.cells.size := by
          rw [hnest.size]; exact Nat.add_lt_add_left y3 _
        have hlt : sA.heap.cells.size + y < sAv.heap.cells.size := Nat.lt_of_lt_of_le hlt0 hle0
        refine ⟨Nat.ne_of_lt hlt, by rw [Heap.size_alloc]; exact Nat.lt_succ_of_lt hlt, ?_⟩
        rw [hck _ hlt, cA1.pres.get _ hlt0]
        rcases lt3 y y3 with rfl | rfl | rfl
        · rw [show sA.heap.cells.size + 0 = sA.heap.cells.size from rfl, hnest.c0]; exact ⟨rfl, rfl⟩
        · rw [hnest.c1]; exact ⟨rfl, rfl⟩
        · rw [hnest.c2]; exact ⟨rfl, rfl⟩
      have y1 : sB.heap.cells.size ≤ y := by
        rcases yd with h | h
        · exact h
        · exact absurd h hb
      have hn : ¬ y < sB.heap.cells.size := Nat.not_lt.mpr y1
      have e : C1.σ y = y + (K.d + 3) := K1_σ_new y1
      rw [e]
      have hlt : y + (K.d + 3) < sAv.heap.cells.size := by rw [hszv]; exact Nat.add_lt_add_right y2 _
      refine ⟨Nat.ne_of_lt hlt, by rw [Heap.size_alloc]; exact Nat.lt_succ_of_lt hlt, ?_⟩
      rw [hck _ hlt]
      exact cA1.plain _ (by rw [hs0sz]; exact Nat.add_le_add_right y1 _) hlt
    refine ⟨by show _ < (sAv.heap.alloc vA).2.cells.size; rw [Heap.size_alloc]; exact Nat.lt_succ_self _, ?_, ?_⟩
    · intro k hk x hx
      have hk' : sB.heap.arrs.size ≤ k := by
        have : sA.heap.arrs.size ≤ k := hk
        rw [hs.heap.sza] at this; exact this
      have har := hsr1.heap.arrs k hk'
      have hx' : x ∈ (sAv.heap.arr k).toList := hx
      rw [har.1, Array.toList_map] at hx'
      obtain ⟨y, hy, rfl⟩ := List.mem_map.mp hx'
      have hl := har.2 y hy
      exact key y hl.1 hl.2
    · intro k hk kc hkc
      have hk' : sB.heap.objs.size ≤ k := by
        have : sA.heap.objs.size ≤ k := hk
        rw [hs.heap.szo] at this; exact this
      have hob := hsr1.heap.objs k hk'
      have hkc' : kc ∈ sAv.heap.obj k := hkc
      rw [hob.1] at hkc'
      obtain ⟨y, hy, rfl⟩ := List.mem_map.mp hkc'
      have hl := hob.2 y hy
      exact key y.2 hl.1 hl.2
  -- run B: the invariant that keeps the builtins intact
  have hinvBd : ub = true → ∃ h0, InvB (P3 progB) h0 b0m (KSet (P3 progB)) (stBd sBv vB) ∧
      ∀ i, i < 3 → sB.heap.get i = h0.get i := by
    intro hu
    obtain ⟨⟨h0, inv, _, _, _⟩, _, _, _⟩ := hub hu
    have i1 := BP.newValueJson (P := P3 progB) (h0 := h0) (b0 := b0m) (K := KAny) v sB inv
    unfold BPat at i1
    rw [eB1] at i1
    have i2 := i1.1.heap.alloc i1.2
    exact ⟨h0, ⟨i2.1, i1.1.frames, i1.1.ret, i1.1.root, ⟨sBv.heap.cells.size, rfl, i2.2⟩⟩, inv.heap.keep⟩
  have eqA := selectorRun_eq v E s0 vA sAv eA1
  have eqB := ruleStep_eq progB T E v sB vB sBv eB1
  have hszd : (stBd sBv vB).heap.cells.size = sBv.heap.cells.size + 1 := Heap.size_alloc _ _
  have hgetcA : (stAd sAv vA).heap.get sAv.heap.cells.size = vA := by
    show (sAv.heap.alloc vA).2.get sAv.heap.cells.size = vA
    rw [Heap.get_alloc]; simp
  have hszdA : (stAd sAv vA).heap.cells.size = sAv.heap.cells.size + 1 := Heap.size_alloc _ _
  have hfrBd : (stBd sBv vB).frames = sBv.frames := rfl
  have hrootBd : (stBd sBv vB).root = sBv.root := rfl
  revert hsrd hinvA hmphA hinvBd eqA eqB hszd hgetcA hszdA hfrBd hrootBd
  generalize stAd sAv vA = sAd
  generalize stBd sBv vB = sBd
  intro hsrd hinvA hmphA hinvBd eqA eqB hszd hgetcA hszdA hfrBd hrootBd
  have rE : RR _ (CellR C1)
      sBd.heap.cells.size (evalExpr Program.empty evalFuel E sAd) (evalExpr progB 999995 E sBd) :=
    (allSim evalFuel 999995).expr g1 sBd.heap.cells.size E hids sAd sBd hsrd (Nat.le_refl _)
  have plA' := (allPl (P := Pn sA.heap) (rc := sAv.heap.cells.size) rfl (fun k => ub && isB k) evalFuel).expr E sAd hE hwfE
    hinvA hmphA
  have sfB := (allSafe progB 999995).expr E sBd
  rw [evalSelector_eq tbl sel E hparse, hs0, eqA, eqB]
  revert rE plA' sfB
  generalize hEA : evalExpr Program.empty evalFuel E sAd = resA
  generalize hEB : evalExpr progB 999995 E sBd = resB
  intro rE plA' sfB
  cases resA with
  | oof => rw [selAfter_oof E _ hEA]; exact JRel.oofA _ _
  | err eA sAe =>
    cases resB with
    | oof => rw [ruleAfter_oof _ T E _ _ _ hEB]; exact JRel.oofB _
    | ok xB sBe => exact rE.elim
    | err eB sBe =>
      obtain ⟨_, rfl, hsrE, _⟩ := rE
      rw [selAfter_err E _ _ _ hEA, ruleAfter_err _ T E _ _ _ _ _ hEB plA']
      cases eA with
      | sig g => exact absurd rfl (plA' g)
      | runtime pos msg => exact JRel.err _ _ _ _ ⟨rfl, rfl⟩ hsrE.out
      | panic m => exact JRel.err _ _ _ _ rfl hsrE.out
      | unmodelled m => exact JRel.err _ _ _ _ rfl hsrE.out
  | ok xA sAe =>
    cases resB with
    | oof => rw [ruleAfter_oof _ T E _ _ _ hEB]; exact JRel.oofB _
    | err eB sBe => exact rE.elim
    | ok xB sBe =>
      obtain ⟨hwE, hcx, hsrE⟩ := rE
      obtain ⟨ckA, mphE, _⟩ := plA'
      have hK1e : HR C1 sAe.heap sBe.heap := hsrE.heap
      have hszE : sAe.heap.cells.size = sBe.heap.cells.size + (K.d + 3) := hK1e.szc
      have hc1 : sB.heap.cells.size ≤ sBv.heap.cells.size := cB1.pres.cells
      have hc2' : sBv.heap.cells.size < sBe.heap.cells.size := by omega
      have hσc : C1.σ sBv.heap.cells.size = sAv.heap.cells.size := by
        have hn : ¬ sBv.heap.cells.size < sB.heap.cells.size := Nat.not_lt.mpr hc1
        rw [show C1.σ sBv.heap.cells.size = _ from K1_σ_new hc1]; omega
      -- `$` of run B holds a plain value, which needs no creation
      have hplc : Val.plain (sBe.heap.get sBv.heap.cells.size) :=
        hK1e.plain_of ⟨.inl hc1, hc2'⟩ (by rw [hσc, ckA.2 _ (by omega), hgetcA]; exact plA)
      have hn : needsCreate (sBe.heap.get sBv.heap.cells.size) = false := needsCreate_plain hplc
      -- the value to copy
      have hxB : xB < sBe.heap.cells.size := hcx.2.2
      have hxA : xA < sAe.heap.cells.size := by
        rw [hcx.1, hszE]; exact wf1.σ_lt hxB hK1e.mle
      have hvx := hK1e.get hcx (Nat.le_refl _)
      have hgetxA : (sAe.heap.alloc .unknown).2.get xA = sAe.heap.get xA := by
        rw [Heap.get_alloc]; simp only [Nat.ne_of_lt hxA, ↓reduceIte]
      rw [selAfter_ok E _ _ _ hEA, ruleAfter_ok _ T E _ _ _ _ _ hEB hn, hgetxA, hvx.1, copyVal_renV]
      cases hcv : copyVal (sBe.heap.get xB) with
      | error m =>
        exact JRel.err _ _ _ _ ⟨rfl, rfl⟩ hsrE.out
      | ok w =>
        have hwp : Val.plain w := copyVal_plain hcv
        -- the members of the containers of run B: those of run A, renamed
        have hmemA : ∀ k, sB.heap.arrs.size ≤ k → ∀ x ∈ (sBe.heap.arr k).toList,
            x ≠ sBv.heap.cells.size ∧ Val.plain (sBe.heap.get x) := by
          intro k hk x hx
          have har := hK1e.arrs k hk
          have hl := har.2 x hx
          have hxA' : C1.σ x ∈ (sAe.heap.arr k).toList := by
            rw [har.1, Array.toList_map]; exact List.mem_map_of_mem hx
          have hpc := mphE.arrs k (by show sA.heap.arrs.size ≤ k; rw [hs.heap.sza]; exact hk) _ hxA'
          exact ⟨fun e => hpc.1 (by rw [e]; exact hσc), hK1e.plain_of hl hpc.2.2⟩
        have hmemO : ∀ k, sB.heap.objs.size ≤ k → ∀ kc ∈ sBe.heap.obj k,
            kc.2 ≠ sBv.heap.cells.size ∧ Val.plain (sBe.heap.get kc.2) := by
          intro k hk kc hkc
          have hob := hK1e.objs k hk
          have hl := hob.2 kc hkc
          have hxA' : (kc.1, C1.σ kc.2) ∈ sAe.heap.obj k := by
            rw [hob.1]; exact List.mem_map_of_mem (f := fun kc => (kc.1, C1.σ kc.2)) hkc
          have hpc := mphE.objs k (by show sA.heap.objs.size ≤ k; rw [hs.heap.szo]; exact hk) _ hxA'
          exact ⟨fun e => hpc.1 (by show C1.σ kc.2 = _; rw [e]; exact hσc), hK1e.plain_of hl hpc.2.2⟩
        -- the builtins of run B, and the members of its containers, after the expression
        have hinvBe : ub = true → ∃ h0, InvB (P3 progB) h0 b0m (KSet (P3 progB)) sBe ∧
            ∀ i, i < 3 → sB.heap.get i = h0.get i := by
          intro hu
          obtain ⟨h0, inv, hk⟩ := hinvBd hu
          obtain ⟨_, hwfP, hokP, hokE⟩ := hub hu
          have i3 := (allBP (P3 progB) h0 b0m progB (Nat.le_refl _)
            (Program.wfB_functions hwfP) (okProg_functions hokP) 999995).expr E hwfE hokE sBd inv
          unfold BPat at i3
          rw [hEB] at i3
          exact ⟨h0, i3.1, hk⟩
        have hbiB : ub = true → ∀ i, i < 3 → sBe.heap.get i = sB.heap.get i := by
          intro hu i hi
          obtain ⟨h0, inv, hk⟩ := hinvBe hu
          rw [inv.heap.keep i hi, hk i hi]
        have hbiA : ub = true → ∀ k, sB.heap.arrs.size ≤ k → ∀ x ∈ (sBe.heap.arr k).toList, 3 ≤ x := by
          intro hu k _ x hx
          obtain ⟨h0, inv, _⟩ := hinvBe hu
          exact inv.heap.arrs k (Nat.zero_le _) x hx
        have hbiO : ub = true → ∀ k, sB.heap.objs.size ≤ k → ∀ kc ∈ sBe.heap.obj k, 3 ≤ kc.2 := by
          intro hu k _ kc hkc
          obtain ⟨h0, inv, _⟩ := hinvBe hu
          exact inv.heap.objs k (Nat.zero_le _) kc hkc
        have hheap := junction_heap wf h0 h0' prog progB hfun hs.heap ub hK1e
          sBv.heap.cells.size hc1 hc2' hmemA hmemO hbiB hbiA hbiO w hwp
        have wf2 := K2_wf wf (rA := sAe.heap.cells.size) (fun i => Val.plain (sBe.heap.get i)) hm hc1 hc2' hszE
          prog progB
        -- frames and root of run B are those of before
        have hkeep : Keeps sBd sBe := sfB.1
        have hfrE : sBe.frames = sB.frames := by
          obtain ⟨mfA, mfB, eA, eB, hf2, _⟩ := hsrE.frames
          have hl1 : sBe.frames.length = sBd.frames.length := hkeep.frames.length
          have hl2 : sBd.frames = sB.frames := by rw [hfrBd, cB1.rest]
          have eB' : sBe.frames = mfB ++ sB.frames := eB
          rw [eB', hl2, List.length_append] at hl1
          have : mfB = [] := List.eq_nil_of_length_eq_zero (by omega)
          rw [eB', this]; rfl
        have hrootE : sBe.root = sB.root := by
          rw [hkeep.root, hrootBd, cB1.rest]
        -- old live things keep their relation in the new context
        have tr := K2_trans (K := K) (rA := sAe.heap.cells.size)
          (pl := fun i => Val.plain (sBe.heap.get i)) hc1 (Nat.le_trans hc1 (Nat.le_of_lt hc2')) hfun
        refine JRel.ok _ _ _ _ _ _ wf2 rfl rfl rfl rfl ?_ ?_ ?_
        · -- the states
          refine ⟨hheap, ?_, (fun h => by cases h), ?_, ?_, ?_⟩
          · obtain ⟨mfA, mfB, eA, eB, hf2, hin⟩ := hs.frames
            refine ⟨mfA, mfB, eA, ?_, ?_, hin⟩
            · show sBe.frames = _
              rw [hfrE]; exact eB
            · show F2 (FrameR _ (sBe.heap.set sBv.heap.cells.size w).cells.size) mfA mfB
              rw [Heap.size_set]
              exact tr.frames hf2
          · intro _
            show OptCellR _ (sBe.heap.set sBv.heap.cells.size w).cells.size sA.root sBe.root
            rw [Heap.size_set, hrootE]
            exact tr.optCellR (hs.root rfl)
          · show sAe.out = sBe.out
            exact hsrE.out
          · show sAe.faults = sBe.faults
            exact hsrE.faults
        · show sBe.frames.length = 1
          rw [hfrE]; exact hlen
        · show CellR _ (sBe.heap.set sBv.heap.cells.size w).cells.size sAe.heap.cells.size sBv.heap.cells.size
          rw [Heap.size_set]
          have hnot : ¬ sBv.heap.cells.size < sB.heap.cells.size := Nat.not_lt.mpr hc1
          refine ⟨?_, ?_, hc2'⟩
          · exact K2_σ_dollar.symm
          · show (if sBv.heap.cells.size < sB.heap.cells.size then _ else _)
            simp only [hnot, ↓reduceIte]
            exact fun _ => hplc

end Sel
end Jqawk
