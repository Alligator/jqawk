/-
  Renaming of cell ids (C14): the native functions in the two runs.

  A native added to the model has to be added to `recvKind`, to `offKind` (what it does on a
  receiver of another kind) and as a premise of `native_cases` (Lemmas/SelectorForms.lean); the
  three proofs by `native_cases` then get a new case each: `SimW.callNative` here,
  `qp_callNative` (Lemmas/SelectorPlain.lean) and `BP.callNative` (Lemmas/SelectorBiEval.lean).
-/
import Jqawk.Lemmas.SelectorSim
import Jqawk.Lemmas.SelectorRender
import Jqawk.Lemmas.SelectorForms


namespace Jqawk
namespace Sel

variable {X : XCtx}

theorem SimW.allocCells (wf : X.WF) {w w0 : Nat} {va vb : List Val} (h : ListValR X.toCtx w0 va vb)
    (hw0 : w0 ≤ w) : SimW X w (ListCellR X.toCtx) (Jqawk.allocCells va) (Jqawk.allocCells vb) := by
  obtain ⟨rfl, hl⟩ := h
  induction vb generalizing w with
  | nil => exact SimW.pure (VR := ListCellR X.toCtx) (ListCellR.nil 0) (Nat.zero_le _)
  | cons v vs ih =>
    simp only [List.map_cons, Jqawk.allocCells]
    refine SimW.bind (SimW.newCell wf ⟨rfl, hl v (List.mem_cons_self ..)⟩ hw0) (fun w1 ca cb hw1 hc => ?_)
    refine SimW.bind (ih (Nat.le_trans hw0 hw1) (fun x hx => hl x (List.mem_cons_of_mem _ hx)))
      (fun w2 csa csb hw2 hcs => ?_)
    exact SimW.pure (VR := ListCellR X.toCtx) (ListCellR.cons (hc.mono hw2) hcs) (Nat.le_refl _)

theorem SimW.newArrayOf (wf : X.WF) {w w0 : Nat} {va vb : List Val} (h : ListValR X.toCtx w0 va vb)
    (hw0 : w0 ≤ w) : SimW X w (ValR X.toCtx) (Jqawk.newArrayOf va) (Jqawk.newArrayOf vb) := by
  rw [newArrayOf_eq2, newArrayOf_eq2]
  refine SimW.bind (SimW.allocCells wf h hw0) (fun w1 ca cb hw1 hc => ?_)
  refine SimW.bind (SimW.allocArrM (ArrR.ofList hc) (Nat.le_refl _)) (fun w2 a a' hw2 ha => ?_)
  obtain ⟨rfl, hle⟩ := ha
  exact SimW.pure (VR := ValR X.toCtx) (a := .arr a) (b := .arr a) (w0 := w2) ⟨rfl, hle⟩ (Nat.le_refl _)

theorem SimW.setArrM {w : Nat} {a : ArrId} (ha : X.a0 ≤ a) {fA fB : Array CellId → Array CellId}
    (hf : ∀ w' xa xb, w ≤ w' → ArrR X.toCtx w' xa xb → ArrR X.toCtx w' (fA xa) (fB xb)) :
    SimW X w EqR (Sel.setArrM a fA) (Sel.setArrM a fB) := by
  intro sA sB hs hw
  have hx := hf _ _ _ hw (hs.heap.arrs a ha)
  have r1 := hs.heap.setArr ha hx (Nat.le_refl _)
  exact ⟨Nat.le_refl _, rfl, hs.withHeap r1 (Nat.le_refl _)⟩


theorem checkArg_map (σ : Nat → Nat) (args : List Val) (i : Nat) (k : Kind) :
    checkArg (args.map (renV σ)) i k =
      match checkArg args i k with
      | .ok v => .ok (renV σ v)
      | .error m => .error m := by
  unfold checkArg
  simp only [List.getElem?_map]
  cases args[i]? with
  | none => rfl
  | some v =>
    simp only [Option.map_some, kind_renV]
    split <;> rfl

theorem printfLoop_rel (σ : Nat → Nat) (rA rB : Val → Option Bytes) (args : List Val)
    (hr : ∀ v ∈ args, rA (renV σ v) = rB v) : ∀ (fuel : Nat) (fmt : Bytes) (idx : Nat) (acc : Bytes),
    printfLoop rA (args.map (renV σ)) fuel fmt idx acc = printfLoop rB args fuel fmt idx acc := by
  intro fuel
  induction fuel with
  | zero => intro fmt idx acc; rfl
  | succ fuel ih =>
    intro fmt idx acc
    cases fmt with
    | nil => rfl
    | cons b rest =>
      cases h3 : args[idx]? with
      | none =>
        cases h1 : checkArg args idx Kind.str <;> cases h2 : checkArg args idx Kind.num <;>
          simp only [printfLoop, checkArg_map, List.getElem?_map, ih, h1, h2, h3, str_renV,
            Option.map_none]
      | some v =>
        have hv := hr v (List.mem_of_getElem? h3)
        cases h1 : checkArg args idx Kind.str <;> cases h2 : checkArg args idx Kind.num <;>
          simp only [printfLoop, checkArg_map, List.getElem?_map, ih, h1, h2, h3, str_renV,
            Option.map_some, hv]

theorem printfFormat_rel (σ : Nat → Nat) (rA rB : Val → Option Bytes) (args : List Val)
    (hr : ∀ v ∈ args, rA (renV σ v) = rB v) :
    printfFormat rA (args.map (renV σ)) = printfFormat rB args := by
  cases args with
  | nil => rfl
  | cons v vs =>
    cases v with
    | str fmt sp =>
      simp only [printfFormat, List.map_cons, renV_str]
      exact printfLoop_rel σ rA rB (.str fmt sp :: vs) hr _ _ _ _
    | _ => rfl

theorem containsLoop_rel {hA hB : Heap} (r : HR X.toCtx hA hB) (v : Val) :
    ∀ cs : List CellId, LiveL X.toCtx hB.cells.size cs →
      containsLoop hA (renV X.σ v) (cs.map X.σ) = containsLoop hB v cs
  | [], _ => rfl
  | c :: cs, hl => by
    have hc := r.cells c (hl c (List.mem_cons_self ..))
    have ih := containsLoop_rel r v cs (fun x hx => hl x (List.mem_cons_of_mem _ hx))
    simp only [List.map_cons, containsLoop, hc.1, kind_renV, compare_renV, ih]

theorem isKeyVal_renV (v : Val) : isKeyVal (renV X.σ v) = isKeyVal v := by cases v <;> rfl

theorem pluckVal_rel {hA hB : Heap} (r : HR X.toCtx hA hB) {members : List (Bytes × CellId)}
    (hm : LiveM X.toCtx hB.cells.size members) (key : Bytes) :
    ValR X.toCtx hB.cells.size (pluckVal hA (renM X.σ members) key) (pluckVal hB members key) := by
  unfold pluckVal
  rw [objLookup_renM]
  cases hl : objLookup members key with
  | none => exact ValR.scalar _
  | some c => exact r.cells c (hm.lookup hl)

def KvsR (K : Ctx) (w : Nat) (as bs : List (Bytes × Val)) : Prop :=
  as.map (·.1) = bs.map (·.1) ∧ ListValR K w (as.map (·.2)) (bs.map (·.2))

theorem pluckCollect_rel {hA hB : Heap} (r : HR X.toCtx hA hB) {members : List (Bytes × CellId)}
    (hm : LiveM X.toCtx hB.cells.size members) (args : List Val) :
    match pluckCollect hA (renM X.σ members) (args.map (renV X.σ)) [], pluckCollect hB members args [] with
    | .error m, .error m' => m = m'
    | .ok ka, .ok kb => KvsR X.toCtx hB.cells.size ka kb
    | _, _ => False := by
  rw [pluckCollect_eq, pluckCollect_eq]
  have hall : (args.map (renV X.σ)).all isKeyVal = args.all isKeyVal := by
    rw [List.all_map]
    congr 1
    funext v
    exact isKeyVal_renV v
  rw [hall]
  by_cases hk : args.all isKeyVal = true
  · simp only [hk, ↓reduceIte, List.reverse_nil, List.nil_append, List.map_map]
    refine ⟨?_, ?_, ?_⟩
    · simp only [List.map_map]
      apply List.map_congr_left
      intro v hv
      simp only [Function.comp, str_renV]
    · simp only [List.map_map]
      apply List.map_congr_left
      intro v hv
      simp only [Function.comp, str_renV]
      exact (pluckVal_rel r hm _).1
    · intro v hv
      simp only [List.map_map, List.mem_map, Function.comp] at hv
      obtain ⟨k, _, rfl⟩ := hv
      exact (pluckVal_rel r hm _).2
  · simp only [hk, Bool.false_eq_true, ↓reduceIte]

theorem pluckMembers_rel {K : Ctx} {w : Nat} (ks : List Bytes) : ∀ {ca cb : List CellId} {ma mb : List (Bytes × CellId)},
    ListCellR K w ca cb → MemR K w ma mb → MemR K w (pluckMembers (ks.zip ca) ma) (pluckMembers (ks.zip cb) mb) := by
  induction ks with
  | nil => intro ca cb ma mb _ hm; simpa [pluckMembers] using hm
  | cons k ks ih =>
    intro ca cb ma mb hc hm
    obtain ⟨rfl, hl⟩ := hc
    cases cb with
    | nil => simpa [pluckMembers] using hm
    | cons c cs =>
      simp only [List.map_cons, List.zip_cons_cons, pluckMembers, List.foldl_cons]
      exact ih (ca := cs.map K.σ) (cb := cs) ⟨rfl, fun x hx => hl x (List.mem_cons_of_mem _ hx)⟩
        (hm.objInsert k ⟨rfl, hl c (List.mem_cons_self ..)⟩)

theorem sortCopies_renV (items : List Val) : sortCopies (items.map (renV X.σ)) = sortCopies items := by
  unfold sortCopies
  rw [List.map_map]
  apply List.map_congr_left
  intro v _
  simp only [Function.comp, copyVal_renV]

theorem sortCopies_ok {w : Nat} {items : List Val} (h : ∀ v ∈ items, LiveV X.toCtx w v) :
    ∀ x ∈ sortCopies items, Val.plain x ∧ LiveV X.toCtx w x := by
  intro x hx
  simp only [sortCopies, List.mem_map] at hx
  obtain ⟨v, hv, rfl⟩ := hx
  cases hc : copyVal v with
  | ok y => exact ⟨copyVal_plain hc, copyVal_live hc (h v hv)⟩
  | error m => exact ⟨rfl, trivial⟩

theorem listValR_self {w : Nat} {l : List Val} (h : ∀ x ∈ l, Val.plain x ∧ LiveV X.toCtx w x) :
    ListValR X.toCtx w l l := by
  refine ⟨?_, fun v hv => (h v hv).2⟩
  have : l.map (renV X.σ) = l.map id := List.map_congr_left (fun v hv => renV_plain (h v hv).1)
  rw [this, List.map_id]

abbrev NatR (K : Ctx) := ExR (OptValR K)

theorem retNone {w : Nat} : SimW X w (NatR X.toCtx) (pure (.ok none)) (pure (.ok none)) :=
  SimW.pure (VR := NatR X.toCtx) (a := .ok none) (b := .ok none) (w0 := 0) trivial (Nat.zero_le _)

theorem retErr {w : Nat} (m : String) : SimW X w (NatR X.toCtx) (pure (.error m)) (pure (.error m)) :=
  SimW.pure (VR := NatR X.toCtx) (a := .error m) (b := .error m) (w0 := 0) rfl (Nat.zero_le _)

theorem retVal {w w0 : Nat} {va vb : Val} (h : ValR X.toCtx w0 va vb) (hw : w0 ≤ w) :
    SimW X w (NatR X.toCtx) (pure (.ok (some va))) (pure (.ok (some vb))) :=
  SimW.pure (VR := NatR X.toCtx) (a := .ok (some va)) (b := .ok (some vb)) h hw

theorem retScalar {w : Nat} {v : Val} (hv : Scalar v := by trivial) :
    SimW X w (NatR X.toCtx) (pure (.ok (some v))) (pure (.ok (some v))) :=
  retVal (ValR.scalar 0 hv) (Nat.zero_le _)

theorem OptValR.some_right {K : Ctx} {w : Nat} {ta : Option Val} {v : Val} (h : OptValR K w ta (some v)) :
    ta = some (renV K.σ v) ∧ LiveV K w v := by
  cases ta with
  | none => exact False.elim h
  | some a => exact ⟨congrArg some h.1, h.2⟩

theorem OptValR.kind_ne {K : Ctx} {w : Nat} {ta tb : Option Val} {k : Kind} (h : OptValR K w ta tb)
    (hb : ∀ v, tb = some v → v.kind ≠ k) : ∀ v, ta = some v → v.kind ≠ k := by
  intro v e
  subst e
  cases tb with
  | none => exact False.elim h
  | some b => rw [ValR.kind h]; exact hb b rfl

theorem checkArgCount_rel {K : Ctx} {w : Nat} {aa ab : List Val} (ha : ListValR K w aa ab) (n : Nat) :
    checkArgCount aa n = checkArgCount ab n := by
  unfold checkArgCount; rw [ha.length]

theorem SimW.offKind (wf : X.WF) (f : Native) {w : Nat} : SimW X w (NatR X.toCtx) (offKind f) (offKind f) := by
  cases f with
  | strSplit =>
    exact SimW.bind (SimW.newArrayOf wf (ListValR.nil 0) (Nat.zero_le _)) (fun _ _ _ _ hv => retVal hv (Nat.le_refl _))
  | arrLength | objLength | strLength | strLower | strUpper => exact retScalar
  | numFloor | numCeil | numRound => exact retScalar
  | _ => exact retNone

theorem SimW.callNative (wf : X.WF) (f : Native) {w w0 w1 : Nat} {aa ab : List Val}
    (ha : ListValR X.toCtx w0 aa ab) (hw0 : w0 ≤ w) {ta tb : Option Val} (ht : OptValR X.toCtx w1 ta tb)
    (hw1 : w1 ≤ w) :
    SimW X w (NatR X.toCtx) (Jqawk.callNative f aa ta) (Jqawk.callNative f ab tb) := by
  have hcnt := fun n => checkArgCount_rel ha n
  have harg0 := ha.getD 0
  induction f, tb using native_cases with
  | printf =>
    unfold Jqawk.callNative
    apply SimW.getHeap_bind
    intro hA hB hh hw2
    dsimp only
    obtain ⟨rfl, hal⟩ := ha
    rw [printfFormat_rel X.σ (prettyTop hA) (prettyTop hB) ab
      (fun v hv => prettyTop_rel hh ⟨rfl, hal v hv⟩ (Nat.le_trans hw0 hw2))]
    cases printfFormat (prettyTop hB) ab with
    | none => exact SimW.oof
    | some r =>
      cases r with
      | error m => exact retErr m
      | ok out => exact SimW.bind (SimW.emit out) (fun _ _ _ _ _ => retNone)
  | json =>
    unfold Jqawk.callNative
    apply SimW.getHeap_bind
    intro hA hB hh hw2
    dsimp only
    rw [hcnt 1]
    cases checkArgCount ab 1 with
    | error m => exact retErr m
    | ok u =>
      dsimp only
      rw [toJValTop_rel hh harg0 (Nat.le_trans hw0 hw2)]
      cases toJValTop hB (ab.getD 0 .unknown) with
      | oof => exact SimW.oof
      | error m => exact retErr _
      | ok j =>
        dsimp only
        split
        · exact retErr _
        · exact retScalar
  | num =>
    unfold Jqawk.callNative
    apply SimW.getHeap_bind
    intro hA hB hh hw2
    dsimp only
    rw [hcnt 1]
    cases checkArgCount ab 1 with
    | error m => exact retErr m
    | ok u =>
      dsimp only
      rw [harg0.1]
      cases ab.getD 0 .unknown with
      | num x => exact retScalar
      | str s sp =>
        simp only [renV_str]
        cases F64.parse s <;> exact retScalar
      | _ => exact retScalar
  | arrLength a =>
    obtain ⟨rfl, htl⟩ := ht.some_right
    unfold Jqawk.callNative
    apply SimW.getHeap_bind
    intro hA hB hh hw2
    simp only [renV_arr]
    rw [(hh.arrs a htl).size]
    exact retScalar
  | arrPush a =>
    obtain ⟨rfl, htl⟩ := ht.some_right
    rw [renV_arr, callNative_push_eq, callNative_push_eq, hcnt 1]
    cases checkArgCount ab 1 with
    | error m => exact retErr m
    | ok u =>
      dsimp only
      refine SimW.bind (SimW.newCell wf harg0 hw0) (fun w2 ca cb hw2 hc => ?_)
      refine SimW.bind (SimW.setArrM htl (fun w' xa xb hw' hx => hx.push (hc.mono hw')))
        (fun w3 _ _ hw3 _ => ?_)
      exact retVal (va := .arr a) (vb := .arr a) (w0 := w1) ⟨rfl, htl⟩
        (Nat.le_trans hw1 (Nat.le_trans hw2 hw3))
  | arrPop a =>
    obtain ⟨rfl, htl⟩ := ht.some_right
    rw [renV_arr, callNative_pop_eq, callNative_pop_eq, hcnt 0]
    cases checkArgCount ab 0 with
    | error m => exact retErr m
    | ok u =>
      dsimp only
      apply SimW.getHeap_bind
      intro hA hB hh hw2
      have har := hh.arrs a htl
      rw [har.size]
      by_cases hz : ((hB.arr a).size == 0) = true
      · simp only [hz]; exact retScalar
      · simp only [hz]
        have hpos : (hB.arr a).size - 1 < (hB.arr a).size := by
          have : (hB.arr a).size ≠ 0 := by simpa using hz
          omega
        have hv := hh.get (har.getD hpos) (Nat.le_refl _)
        refine SimW.bind (SimW.setArrM htl (fun w' xa xb hw' hx => hx.pop)) (fun w3 _ _ hw3 _ => ?_)
        exact retVal hv hw3
  | arrPopfirst a =>
    obtain ⟨rfl, htl⟩ := ht.some_right
    rw [renV_arr, callNative_popfirst_eq, callNative_popfirst_eq, hcnt 0]
    cases checkArgCount ab 0 with
    | error m => exact retErr m
    | ok u =>
      dsimp only
      apply SimW.getHeap_bind
      intro hA hB hh hw2
      have har := hh.arrs a htl
      rw [har.size]
      by_cases hz : ((hB.arr a).size == 0) = true
      · simp only [hz]; exact retScalar
      · simp only [hz]
        have hpos : 0 < (hB.arr a).size := by
          have : (hB.arr a).size ≠ 0 := by simpa using hz
          omega
        have hv := hh.get (har.getD hpos) (Nat.le_refl _)
        refine SimW.bind (SimW.setArrM htl (fun w' xa xb hw' hx => by
          rw [hx.size]; exact hx.extract _ _)) (fun w3 _ _ hw3 _ => ?_)
        exact retVal hv hw3
  | arrContains a =>
    obtain ⟨rfl, htl⟩ := ht.some_right
    unfold Jqawk.callNative
    apply SimW.getHeap_bind
    intro hA hB hh hw2
    simp only [renV_arr]
    rw [hcnt 1]
    cases checkArgCount ab 1 with
    | error m => exact retErr m
    | ok u =>
      dsimp only
      have har := hh.arrs a htl
      rw [har.1, Array.toList_map, harg0.1, containsLoop_rel hh _ _ har.2]
      rcases containsLoop_res hB (ab.getD 0 .unknown) (hB.arr a).toList with ⟨m, e⟩ | ⟨b, e⟩
      · rw [e]; exact retErr m
      · rw [e]; exact retScalar
  | arrSort a =>
    obtain ⟨rfl, htl⟩ := ht.some_right
    rw [renV_arr, callNative_sort_eq, callNative_sort_eq]
    apply SimW.getHeap_bind
    intro hA hB hh hw2
    have har := hh.arrs a htl
    have hitems : (hA.arr a).toList.map hA.get = ((hB.arr a).toList.map hB.get).map (renV X.σ) := by
      rw [har.1, Array.toList_map, List.map_map, List.map_map]
      apply List.map_congr_left
      intro c hc
      exact (hh.cells c (har.2 c hc)).1
    have hlive : ∀ v ∈ (hB.arr a).toList.map hB.get, LiveV X.toCtx hB.cells.size v := by
      intro v hv
      obtain ⟨c, hc, rfl⟩ := List.mem_map.mp hv
      exact (hh.cells c (har.2 c hc)).2
    have hall : (((hB.arr a).toList.map hB.get).map (renV X.σ)).all (fun v => v.kind == Kind.num) =
        ((hB.arr a).toList.map hB.get).all (fun v => v.kind == Kind.num) := by
      rw [List.all_map]; congr 1; funext v; simp only [Function.comp, kind_renV]
    dsimp only
    rw [hitems, hall, sortCopies_renV]
    have hok := sortCopies_ok hlive
    refine SimW.bind (SimW.newArrayOf wf (w0 := hB.cells.size) (listValR_self ?_) (Nat.le_refl _))
      (fun w3 va vb hw3 hv => retVal hv (Nat.le_refl _))
    intro x hx
    split at hx
    · exact hok x ((List.mergeSort_perm _ _).mem_iff.mp hx)
    · exact hok x ((List.mergeSort_perm _ _).mem_iff.mp hx)
  | objLength o =>
    obtain ⟨rfl, htl⟩ := ht.some_right
    unfold Jqawk.callNative
    apply SimW.getHeap_bind
    intro hA hB hh hw2
    simp only [renV_obj]
    rw [(hh.objs o htl).1, renM, List.length_map]
    exact retScalar
  | objPluck o =>
    obtain ⟨rfl, htl⟩ := ht.some_right
    rw [renV_obj, callNative_pluck_eq, callNative_pluck_eq]
    apply SimW.getHeap_bind
    intro hA hB hh hw2
    have hob := hh.objs o htl
    have hpc := pluckCollect_rel hh hob.2 ab
    rw [hob.1, ha.1]
    revert hpc
    generalize pluckCollect hA (renM X.σ (hB.obj o)) (ab.map (renV X.σ)) [] = ra
    generalize pluckCollect hB (hB.obj o) ab [] = rb
    intro hpc
    cases ra with
    | error m =>
      cases rb with
      | error m' => cases hpc; exact retErr m
      | ok _ => exact hpc.elim
    | ok ka =>
      cases rb with
      | error _ => exact hpc.elim
      | ok kb =>
        obtain ⟨hkeys, hvals⟩ := hpc
        dsimp only
        refine SimW.bind (SimW.allocCells wf hvals (Nat.le_refl _)) (fun w3 ca cb hw3 hc => ?_)
        rw [hkeys]
        refine SimW.bind (SimW.allocObjM (pluckMembers_rel _ hc (MemR.nil _)) (Nat.le_refl _))
          (fun w4 no no' hw4 hno => ?_)
        obtain ⟨rfl, hle⟩ := hno
        exact retVal (va := .obj no) (vb := .obj no) (w0 := w4) ⟨rfl, hle⟩ (Nat.le_refl _)
  | strLength s sp =>
    obtain ⟨rfl, htl⟩ := ht.some_right
    unfold Jqawk.callNative
    exact SimW.getHeap_bind (fun _ _ _ _ => retScalar)
  | strSplit s sp =>
    obtain ⟨rfl, htl⟩ := ht.some_right
    unfold Jqawk.callNative
    apply SimW.getHeap_bind
    intro hA hB hh hw2
    simp only [renV_str]
    obtain ⟨rfl, hal⟩ := ha
    rw [checkArg_map]
    cases checkArg ab 0 Kind.str with
    | error m => exact retErr m
    | ok sep =>
      simp only [str_renV]
      refine SimW.bind (SimW.newArrayOf wf (w0 := 0) (listValR_self ?_) (Nat.zero_le _))
        (fun w3 va vb hw3 hv => retVal hv (Nat.le_refl _))
      intro x hx
      obtain ⟨b, _, rfl⟩ := List.mem_map.mp hx
      exact ⟨rfl, trivial⟩
  | strLower s sp | strUpper s sp =>
    obtain ⟨rfl, htl⟩ := ht.some_right
    unfold Jqawk.callNative
    apply SimW.getHeap_bind
    intro hA hB hh hw2
    simp only [renV_str]
    split
    · exact retScalar
    · exact SimW.throwUnmodelled _
  | numFloor x | numCeil x | numRound x =>
    obtain ⟨rfl, htl⟩ := ht.some_right
    unfold Jqawk.callNative
    exact SimW.getHeap_bind (fun _ _ _ _ => retScalar)
  | off k hk hoff =>
    rw [callNative_offKind hk _ hoff, callNative_offKind hk _ (ht.kind_ne hoff)]
    exact SimW.getHeap_bind (fun _ _ _ _ => SimW.offKind wf f)

end Sel
end Jqawk
