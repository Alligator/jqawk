/-
  The parser only produces well-scoped ASTs: `break`/`continue` occur only inside loop bodies,
  `return` only inside function bodies (what the `inLoop` / `inFn` flags of the parser enforce).
  An instance of `Lemmas/ParserClosed.lean`.
-/
import Jqawk.Lemmas.ParserClosed
import Jqawk.Lemmas.DriverSignals

namespace Jqawk
open Parser

theorem canEs_eq_any (g : Sig) (l : List Expr) : canEs g l = l.any (canE g) := by
  induction l with
  | nil => simp [canEs]
  | cons e es ih => simp [canEs, ih]

theorem canSs_eq_any (g : Sig) (l : List Stmt) : canSs g l = l.any (canS g) := by
  induction l with
  | nil => simp [canSs]
  | cons e es ih => simp [canSs, ih]

theorem canKVs_eq_any (g : Sig) (l : List (Bytes × Expr)) : canKVs g l = l.any (fun kv => canE g kv.2) := by
  induction l with
  | nil => simp [canKVs]
  | cons e es ih => obtain ⟨k, v⟩ := e; simp [canKVs, ih]

theorem canCases_eq_any (g : Sig) (l : List MatchCase) :
    canCases g l = l.any (fun c => canEs g c.1 || canS g c.2) := by
  induction l with
  | nil => simp [canCases]
  | cons e es ih => obtain ⟨p, b⟩ := e; simp [canCases, ih]

def Sc (l f : Bool) (c : Sig → Bool) : Prop :=
  (l = false → c .brk = false ∧ c .cont = false) ∧ (f = false → c .ret = false)

def ScPost {α : Type} (c : Sig → α → Bool) (ps : PS) (r : α × PS) : Prop :=
  r.2.inLoop = ps.inLoop ∧ r.2.inFn = ps.inFn ∧ Sc ps.inLoop ps.inFn (fun g => c g r.1)

variable (R : Token → Prop)

structure AllScoped (tbl : RuleTable) (n : Nat) : Prop where
  statement : ∀ ps, PM.AllR R (ScPost canS ps) (statement tbl n ps)
  loopBody : ∀ ps, PM.AllR R (fun r => r.2.inLoop = ps.inLoop ∧ r.2.inFn = ps.inFn ∧
    Sc true ps.inFn (fun g => canS g r.1)) (loopBody tbl n ps)
  block : ∀ ps, PM.AllR R (ScPost canS ps) (block tbl n ps)
  blockLoop : ∀ acc ps, Sc ps.inLoop ps.inFn (fun g => canSs g acc) →
    PM.AllR R (ScPost canSs ps) (blockLoop tbl n acc ps)
  printStatement : ∀ ps, PM.AllR R (ScPost canS ps) (printStatement tbl n ps)
  printLoop : ∀ acc ps, Sc ps.inLoop ps.inFn (fun g => canEs g acc) →
    PM.AllR R (ScPost (fun g r => canEs g r.1) ps) (printLoop tbl n acc ps)
  expressionWithPrec : ∀ prec ps, PM.AllR R (ScPost canE ps) (expressionWithPrec tbl n prec ps)
  infixLoop : ∀ prec lhs ps, Sc ps.inLoop ps.inFn (fun g => canE g lhs) →
    PM.AllR R (ScPost canE ps) (infixLoop tbl n prec lhs ps)
  prefixFn : ∀ pk ps, PM.AllR R (ScPost canE ps) (prefixFn tbl n pk ps)
  exprList : ∀ endTag acc ps, Sc ps.inLoop ps.inFn (fun g => canEs g acc) →
    PM.AllR R (ScPost canEs ps) (exprList tbl n endTag acc ps)
  objectLoop : ∀ acc ps, Sc ps.inLoop ps.inFn (fun g => canKVs g acc) →
    PM.AllR R (ScPost canKVs ps) (objectLoop tbl n acc ps)
  matchCases : ∀ acc ps, Sc ps.inLoop ps.inFn (fun g => canCases g acc) →
    PM.AllR R (ScPost canCases ps) (matchCases tbl n acc ps)
  matchPats : ∀ acc ps, Sc ps.inLoop ps.inFn (fun g => canEs g acc) →
    PM.AllR R (ScPost canEs ps) (matchPats tbl n acc ps)
  infixFn : ∀ ik lhs ps, Sc ps.inLoop ps.inFn (fun g => canE g lhs) →
    PM.AllR R (ScPost canE ps) (infixFn tbl n ik lhs ps)

variable {R} {tbl : RuleTable}

theorem Sc_or {l f : Bool} {a b : Sig → Bool} :
    Sc l f (fun g => a g || b g) ↔ Sc l f a ∧ Sc l f b := by
  simp only [Sc, Bool.or_eq_false_iff]
  constructor
  · exact fun h => ⟨⟨fun hl => ⟨(h.1 hl).1.1, (h.1 hl).2.1⟩, fun hf => (h.2 hf).1⟩,
      ⟨fun hl => ⟨(h.1 hl).1.2, (h.1 hl).2.2⟩, fun hf => (h.2 hf).2⟩⟩
  · exact fun h => ⟨fun hl => ⟨⟨(h.1.1 hl).1, (h.2.1 hl).1⟩, (h.1.1 hl).2, (h.2.1 hl).2⟩,
      fun hf => ⟨h.1.2 hf, h.2.2 hf⟩⟩

theorem Sc_any {α : Type} {l f : Bool} {c : Sig → α → Bool} {xs : List α} :
    Sc l f (fun g => xs.any (c g)) ↔ ∀ x ∈ xs, Sc l f (fun g => c g x) := by
  induction xs with
  | nil => simp [Sc]
  | cons x xs ih => simp only [List.any_cons, Sc_or, ih, List.forall_mem_cons]

theorem Sc_canEs {l f : Bool} {xs : List Expr} :
    Sc l f (fun g => canEs g xs) ↔ ∀ e ∈ xs, Sc l f (fun g => canE g e) := by
  simp only [canEs_eq_any, Sc_any]

theorem Sc_canSs {l f : Bool} {xs : List Stmt} :
    Sc l f (fun g => canSs g xs) ↔ ∀ s ∈ xs, Sc l f (fun g => canS g s) := by
  simp only [canSs_eq_any, Sc_any]

theorem Sc_canKVs {l f : Bool} {xs : List (Bytes × Expr)} :
    Sc l f (fun g => canKVs g xs) ↔ ∀ kv ∈ xs, Sc l f (fun g => canE g kv.2) := by
  simp only [canKVs_eq_any, Sc_any]

theorem Sc_canCases {l f : Bool} {xs : List MatchCase} :
    Sc l f (fun g => canCases g xs) ↔
      ∀ c ∈ xs, (∀ p ∈ c.1, Sc l f (fun g => canE g p)) ∧ Sc l f (fun g => canS g c.2) := by
  simp only [canCases_eq_any, Sc_any, Sc_or, Sc_canEs]

theorem scoped_closed : ParseClosed R (fun _ _ => True) (fun _ _ => True)
    (fun l f e => Sc l f (fun g => canE g e)) (fun l f s => Sc l f (fun g => canS g s)) where
  lit _ := by simp [Sc, canE]
  regex _ := by simp [Sc, canE]
  ident _ := by simp [Sc, canE]
  arr _ h := by simpa only [canE] using Sc_canEs.mpr h
  obj _ h := by simpa only [canE] using Sc_canKVs.mpr h
  unary _ _ he := by simpa only [canE] using he
  match_ _ hv hc := by simpa only [canE] using Sc_or.mpr ⟨hv, Sc_canCases.mpr hc⟩
  index _ ha he := by simpa only [canE] using Sc_or.mpr ⟨ha, he⟩
  member _ _ ha := by simpa only [canE, Bool.or_false] using ha
  call ha hs := by simpa only [canE] using Sc_or.mpr ⟨ha, Sc_canEs.mpr hs⟩
  postfixOp _ _ ha := by simpa only [canE] using ha
  binary _ ha he := by simpa only [canE] using Sc_or.mpr ⟨ha, he⟩
  is _ _ ha := by simpa only [canE, Bool.or_false] using ha
  assign _ _ _ ha he := by simpa only [canE] using Sc_or.mpr ⟨ha, he⟩
  compound _ _ _ ha he := by
    simpa only [rewriteCompound, canE] using Sc_or.mpr ⟨ha, Sc_or.mpr ⟨ha, he⟩⟩
  print _ h := by simpa only [canS] using Sc_canEs.mpr h
  ret h := by simpa [Sc, canS] using h.1
  retNone := by simp [Sc, canS]
  if_ hc hb := by simpa only [canS] using Sc_or.mpr ⟨hc, hb⟩
  ifElse hc hb he := by simpa only [canS] using Sc_or.mpr ⟨Sc_or.mpr ⟨hc, hb⟩, he⟩
  while_ hc hb := by simp_all [Sc, canS, Sig.loopSig]
  forIn _ _ hi hb := by simp_all [Sc, canS, Sig.loopSig]
  for_ h1 h2 h3 hb := by simp_all [Sc, canS, Sig.loopSig]
  block _ h := by simpa only [canS] using Sc_canSs.mpr h
  brk _ := by simp [Sc, canS]
  cont _ := by simp [Sc, canS]
  next _ := by simp [Sc, canS]
  exit _ := by simp [Sc, canS]
  expr h := by simpa only [canS] using h

theorem allScoped (R : Token → Prop) (tbl : RuleTable) (n : Nat) : AllScoped R tbl n :=
  have h := allClosed (tbl := tbl) (fun _ _ _ => trivial) (fun _ _ _ => trivial)
    (scoped_closed (R := R)) n
  { statement := fun ps => h.statement ps rfl rfl
    loopBody := fun ps => h.loopBody ps rfl rfl
    block := fun ps => h.block ps rfl rfl
    blockLoop := fun acc ps ha => (h.blockLoop acc ps rfl rfl (Sc_canSs.mp ha)).mono
      fun _ hr => ⟨hr.1, hr.2.1, Sc_canSs.mpr hr.2.2⟩
    printStatement := fun ps => h.printStatement ps rfl rfl
    printLoop := fun acc ps ha => (h.printLoop acc ps rfl rfl (Sc_canEs.mp ha)).mono
      fun _ hr => ⟨hr.1, hr.2.1, Sc_canEs.mpr hr.2.2⟩
    expressionWithPrec := fun prec ps => h.expressionWithPrec prec ps rfl rfl
    infixLoop := fun prec lhs ps ha => h.infixLoop prec lhs ps rfl rfl ha
    prefixFn := fun pk ps => h.prefixFn pk ps rfl rfl trivial
    exprList := fun t acc ps ha => (h.exprList t acc ps rfl rfl (Sc_canEs.mp ha)).mono
      fun _ hr => ⟨hr.1, hr.2.1, Sc_canEs.mpr hr.2.2⟩
    objectLoop := fun acc ps ha => (h.objectLoop acc ps rfl rfl (Sc_canKVs.mp ha)).mono
      fun _ hr => ⟨hr.1, hr.2.1, Sc_canKVs.mpr hr.2.2⟩
    matchCases := fun acc ps ha => (h.matchCases acc ps rfl rfl (Sc_canCases.mp ha)).mono
      fun _ hr => ⟨hr.1, hr.2.1, Sc_canCases.mpr hr.2.2⟩
    matchPats := fun acc ps ha => (h.matchPats acc ps rfl rfl (Sc_canEs.mp ha)).mono
      fun _ hr => ⟨hr.1, hr.2.1, Sc_canEs.mpr hr.2.2⟩
    infixFn := fun ik lhs ps ha => h.infixFn ik lhs ps rfl rfl trivial ha }

def fnOK (f : FuncDef) : Bool := !canS .brk f.body && !canS .cont f.body
def ruleOK (r : Rule) : Bool := confinedSigs.all (fun g =>
    !canS g r.body && (match r.pattern with | none => true | some e => !canE g e))

theorem wellScopedB_mk (rules : List Rule) (fns : List FuncDef) :
    Program.wellScopedB ⟨rules, fns⟩ = (fns.all fnOK && rules.all ruleOK) := rfl

theorem wellScopedB_of_progIn {p : Program}
    (h : ProgIn (fun l f e => Sc l f (fun g => canE g e)) (fun l f s => Sc l f (fun g => canS g s)) p) :
    p.wellScopedB = true := by
  simp only [Program.wellScopedB, Bool.and_eq_true, List.all_eq_true]
  refine ⟨fun fn hfn => ?_, fun r hr => ?_⟩
  · simpa [Sc] using (h.2 fn hfn).1 rfl
  · obtain ⟨hb, hp⟩ := h.1 r hr
    cases hpat : r.pattern with
    | none => simp_all [Sc, confinedSigs]
    | some e => have := hp e hpat; simp_all [Sc, confinedSigs]

theorem statement_return_outside (tbl : RuleTable) (n : Nat) (ps : PS)
    (h1 : ps.cur.tag = .return_) (h2 : ps.inFn = false) :
    statement tbl (n + 1) ps = .fail ⟨ps.cur.pos, "can only return inside a function"⟩ := by
  unfold statement
  rw [P.bind_eq_of_pure (setDidEnd false) _ ps () { ps with didEnd := false } rfl]
  rw [P.bind_eq_of_pure get _ _ _ _ rfl]
  simp only [h1, h2]
  rfl

theorem statement_break_outside (tbl : RuleTable) (n : Nat) (ps : PS)
    (h1 : ps.cur.tag = .break_) (h2 : ps.inLoop = false) :
    statement tbl (n + 1) ps = .fail ⟨ps.cur.pos, "can only break inside a loop"⟩ := by
  unfold statement
  rw [P.bind_eq_of_pure (setDidEnd false) _ ps () { ps with didEnd := false } rfl]
  rw [P.bind_eq_of_pure get _ _ _ _ rfl]
  simp only [h1, h2]
  rfl

theorem statement_continue_outside (tbl : RuleTable) (n : Nat) (ps : PS)
    (h1 : ps.cur.tag = .continue_) (h2 : ps.inLoop = false) :
    statement tbl (n + 1) ps = .fail ⟨ps.cur.pos, "can only continue inside a loop"⟩ := by
  unfold statement
  rw [P.bind_eq_of_pure (setDidEnd false) _ ps () { ps with didEnd := false } rfl]
  rw [P.bind_eq_of_pure get _ _ _ _ rfl]
  simp only [h1, h2]
  rfl

theorem parseProgramSrc_wellScopedB (tbl : RuleTable) (src : Bytes) (prog : Program)
    (h : parseProgramSrc tbl src = .ok prog) : prog.wellScopedB = true :=
  wellScopedB_of_progIn (parseProgramSrc_closed (R := fun _ => True) (fun _ _ _ => trivial)
    (fun _ _ _ => trivial) scoped_closed (fun _ _ => trivial) h)

theorem parseExpressionSrc_scopedB (tbl : RuleTable) (src : Bytes) (e : Expr)
    (h : parseExpressionSrc tbl src = .ok e) : e.scopedB = true := by
  have := parseExpressionSrc_closed (R := fun _ => True) (fun _ _ _ => trivial)
    (fun _ _ _ => trivial) scoped_closed (fun _ _ => trivial) h
  simp_all [Expr.scopedB, confinedSigs, Sc]

end Jqawk
