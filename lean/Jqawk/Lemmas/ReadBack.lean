/-
  Read-after-write for assignments to paths (C09): after `l = r` succeeded, evaluating the path
  `l` again yields the cell that now holds the copy of the stored value — for every depth and
  every mix of existing and missing levels.

  In order: paths (`Expr.isPath`, `litKey`); `getMember` (inversion, heaps whose containers only
  grow: `ContExt`); `getMember` after `setMember`; chains of stand-in cells (`ChainW`); the
  postcondition `Linked` of `createSpeculative` (induction on fuel along the chain, as
  `createSpeculative_frame`); the effect of the whole assignment (`Eff`); one member step of a
  path (`memberRead_cases`); the states paths are evaluated in (`PathOK`); the first evaluation of
  a path, described on the heap (`PathAt`, `evalPath_trace`); the re-evaluation (`reeval`); the
  assembly (`assign_path_readback`).
-/
import Jqawk.Lemmas.AssignChain


namespace Jqawk

/-! ## paths -/

/-- the value a literal key of a path evaluates to: a member name / string index (`.name`,
    `["name"]`) or a number index that is not negative (the lexer never produces a signed
    number; `a[-1]` is a unary minus applied to a literal and is not a path) -/
def litKey (t : Token) : Option Val :=
  match t.tag with
  | .str | .ident =>
    match evalStringLit t.text with
    | .ok s => some (.str s none)
    | .error _ => none
  | .num =>
    match F64.parse t.text with
    | some x => if 0 ≤ x.toGoInt then some (.num x) else none
    | none => none
  | _ => none

/-- a path: an identifier or `$`, followed by literal member names and literal string / number
    indices -/
def Expr.isPath : Expr → Bool
  | .ident _ => true
  | .binary l (.lit t) op => (op.tag == .dot || op.tag == .lsquare) && (litKey t).isSome && l.isPath
  | _ => false

def Expr.pathFuel : Expr → Nat
  | .binary l _ _ => l.pathFuel + 2
  | _ => 1

/-- the values literal keys evaluate to -/
def IsKeyVal (kv : Val) : Prop := (∃ s, kv = .str s none) ∨ (∃ x, kv = .num x ∧ 0 ≤ x.toGoInt)

theorem litKey_isKeyVal {t : Token} {kv : Val} (h : litKey t = some kv) : IsKeyVal kv := by
  unfold litKey at h
  repeat' split at h
  all_goals first
    | (cases h; exact .inl ⟨_, rfl⟩)
    | (cases h; exact .inr ⟨_, rfl, by assumption⟩)
    | cases h

theorem keyOf_val {kv : Val} (h : IsKeyVal kv) : (keyOf kv).val = kv := by
  rcases h with ⟨s, rfl⟩ | ⟨x, rfl, _⟩ <;> rfl

def Val.isCont : Val → Bool
  | .arr _ => true
  | .obj _ => true
  | _ => false

/-- the container id of the value (if any) is allocated -/
def Val.contOK (h : Heap) : Val → Bool
  | .arr a => decide (a < h.arrs.size)
  | .obj o => decide (o < h.objs.size)
  | _ => true

/-! ## `getMember` -/

theorem getMember_congr (h h' : Heap) (v kv : Val)
    (ha : ∀ a, v = .arr a → h'.arr a = h.arr a) (ho : ∀ o, v = .obj o → h'.obj o = h.obj o) :
    getMember h' v kv = getMember h v kv := by
  cases v with
  | arr a => simp only [getMember, ha a rfl]
  | obj o => simp only [getMember, ho o rfl]
  | _ => rfl

theorem getMember_cell_inv (h : Heap) (v kv : Val) (c : CellId)
    (hg : getMember h v kv = .ok (.cell c)) :
    (∃ a x i, v = .arr a ∧ kv = .num x ∧ resolveIndex (h.arr a).size x.toGoInt = some i ∧
      i < (h.arr a).size ∧ c = (h.arr a).getD i 0) ∨
    (∃ o, v = .obj o ∧ objLookup (h.obj o) kv.str! = some c) := by
  cases v with
  | arr a =>
    cases kv with
    | num x =>
      simp only [getMember] at hg
      split at hg
      · cases hg
      · rename_i i hri
        by_cases hlt : i < (h.arr a).size
        · rw [if_pos hlt] at hg
          simp only [Except.ok.injEq, Member.cell.injEq] at hg
          exact .inl ⟨a, x, i, rfl, rfl, hri, hlt, hg.symm⟩
        · rw [if_neg hlt] at hg; cases hg
    | _ => simp only [getMember] at hg; exact absurd hg (protoGet_not_cell _ _ _)
  | obj o =>
    cases kv with
    | num x | str s sp =>
      simp only [getMember] at hg
      split at hg
      · rename_i c' hl; cases hg; exact .inr ⟨o, rfl, hl⟩
      · exact absurd hg (protoGet_not_cell _ _ _)
    | _ => simp only [getMember] at hg; cases hg
  | str s sp =>
    cases kv with
    | num x => simp only [getMember] at hg; split at hg <;> cases hg
    | _ => simp only [getMember] at hg; exact absurd hg (protoGet_not_cell _ _ _)
  | num x => simp only [getMember] at hg; exact absurd hg (protoGet_not_cell _ _ _)
  | _ => simp only [getMember] at hg; cases hg

theorem getMember_cell_cont (h : Heap) (v kv : Val) (c : CellId)
    (hg : getMember h v kv = .ok (.cell c)) : v.isCont = true ∧ v.contOK h = true := by
  rcases getMember_cell_inv h v kv c hg with ⟨a, x, i, rfl, _, _, hlt, _⟩ | ⟨o, rfl, hl⟩
  · refine ⟨rfl, decide_eq_true (Classical.byContradiction fun hna => ?_)⟩
    rw [Heap.arr_of_not_valid h a hna] at hlt
    exact Nat.not_lt_zero _ hlt
  · refine ⟨rfl, decide_eq_true (Classical.byContradiction fun hno => ?_)⟩
    rw [Heap.obj_of_not_valid h o hno] at hl
    cases hl

/-- the containers of `h'` extend those of `h`: every member of an object is still that member,
    every element of an array is still that element (arrays may have grown at the end, objects
    may have gained keys) -/
structure ContExt (h h' : Heap) : Prop where
  obj : ∀ o k x, objLookup (h.obj o) k = some x → objLookup (h'.obj o) k = some x
  arr : ∀ a i, i < (h.arr a).size → i < (h'.arr a).size ∧ (h'.arr a).getD i 0 = (h.arr a).getD i 0

theorem ContExt.refl (h : Heap) : ContExt h h := ⟨fun _ _ _ e => e, fun _ _ e => ⟨e, rfl⟩⟩

theorem ContExt.trans {a b c : Heap} (h1 : ContExt a b) (h2 : ContExt b c) : ContExt a c :=
  ⟨fun o k x e => h2.obj o k x (h1.obj o k x e),
   fun x i e => ⟨(h2.arr x i (h1.arr x i e).1).1, by rw [(h2.arr x i (h1.arr x i e).1).2, (h1.arr x i e).2]⟩⟩

theorem ContExt.of_eq {h h' : Heap} (ha : ∀ a, a < h.arrs.size → h'.arr a = h.arr a)
    (ho : ∀ o, o < h.objs.size → h'.obj o = h.obj o) : ContExt h h' := by
  constructor
  · intro o k x e
    by_cases hv : o < h.objs.size
    · rw [ho o hv]; exact e
    · rw [Heap.obj_of_not_valid h o hv] at e; cases e
  · intro a i e
    by_cases hv : a < h.arrs.size
    · rw [ha a hv]; exact ⟨e, rfl⟩
    · rw [Heap.arr_of_not_valid h a hv] at e; exact absurd e (Nat.not_lt_zero _)

theorem ContExt.of_preserved {h h' : Heap} (p : HeapPreserved h h') : ContExt h h' :=
  ContExt.of_eq p.arr p.obj

theorem ContExt.set (h : Heap) (c : CellId) (v : Val) : ContExt h (h.set c v) :=
  ⟨fun _ _ _ e => e, fun _ _ e => ⟨e, rfl⟩⟩

theorem getMember_cell_ext {h h' : Heap} (e : ContExt h h') (v kv : Val) (x : CellId)
    (hk : IsKeyVal kv) (hg : getMember h v kv = .ok (.cell x)) : getMember h' v kv = .ok (.cell x) := by
  rcases getMember_cell_inv h v kv x hg with ⟨a, y, i, rfl, rfl, hri, hlt, rfl⟩ | ⟨o, rfl, hl⟩
  · rcases hk with ⟨s, e'⟩ | ⟨_, e', hy⟩ <;> cases e'
    rw [resolveIndex_nonneg _ _ hy] at hri
    cases hri
    obtain ⟨h1, h2⟩ := e.arr a _ hlt
    simp only [getMember, resolveIndex_nonneg _ _ hy, if_pos h1, h2]
  · have hl' := e.obj o _ _ hl
    rcases hk with ⟨s, rfl⟩ | ⟨y, rfl, _⟩ <;> simp only [getMember, hl']

/-! ## `getMember` after `setMember` -/

/-- the shape of `Key.val` -/
def IsKeyShape (kv : Val) : Prop := (∃ s, kv = .str s none) ∨ (∃ x, kv = .num x)

theorem Key.val_shape (key : Key) : IsKeyShape key.val := by
  cases key with
  | str s => exact .inl ⟨s, rfl⟩
  | num x => exact .inr ⟨x, rfl⟩

/-- storing a NEW member (object: a key that is not there; array: an index at or past the end)
    and reading it back: the member is the cell `setMember` returned, that cell holds the value
    of the given cell, and every member that was there before still is -/
theorem setMember_getMember (h : Heap) (target kv : Val) (cell c : CellId) (h' : Heap)
    (hkv : IsKeyShape kv) (hc : cell < h.cells.size) (hok : target.contOK h = true)
    (hs : setMember h target kv cell = .ok (c, h'))
    (hidx : ∀ a x i, target = .arr a → kv = .num x →
      resolveIndex (h.arr a).size x.toGoInt = some i → (h.arr a).size ≤ i)
    (hmiss : ∀ o, target = .obj o → objLookup (h.obj o) kv.str! = none) :
    getMember h' target kv = .ok (.cell c) ∧ ContExt h h' ∧ h'.get c = h.get cell := by
  cases target with
  | obj o =>
    simp only [Val.contOK, decide_eq_true_eq] at hok
    simp only [setMember, Except.ok.injEq, Prod.mk.injEq] at hs
    obtain ⟨rfl, rfl⟩ := hs
    have hl : objLookup ((h.setObj o (objInsert (h.obj o) kv.str! cell)).obj o) kv.str! = some cell := by
      rw [Heap.obj_setObj_same _ _ _ hok, objLookup_objInsert]; simp
    refine ⟨?_, ⟨?_, fun _ _ e => ⟨e, rfl⟩⟩, rfl⟩
    · rcases hkv with ⟨s, rfl⟩ | ⟨x, rfl⟩ <;> simp only [getMember, hl]
    · intro o' k x e
      by_cases ho' : o' = o
      · subst ho'
        rw [Heap.obj_setObj_same _ _ _ hok, objLookup_objInsert]
        by_cases hk : kv.str! = k
        · subst hk; rw [hmiss o' rfl] at e; cases e
        · rw [if_neg hk]; exact e
      · rw [Heap.obj_setObj_other _ _ _ _ ho']; exact e
  | arr a =>
    simp only [Val.contOK, decide_eq_true_eq] at hok
    rcases hkv with ⟨s, rfl⟩ | ⟨x, rfl⟩
    · simp [setMember] at hs
    · cases hri : resolveIndex (h.arr a).size x.toGoInt with
      | none => simp [setMember, hri] at hs
      | some i =>
        have hge := hidx a x i rfl rfl hri
        by_cases hlim : i ≤ fillLimit
        · rw [setMember_arr_fill h a x cell i hri hge hlim hc] at hs
          simp only [Except.ok.injEq, Prod.mk.injEq] at hs
          obtain ⟨rfl, rfl⟩ := hs
          obtain ⟨p1, p2, p3, p4, p5, p6, _, p8⟩ := padHeap_spec h a i (h.get cell) hge
          have hx : 0 ≤ x.toGoInt ∧ i = x.toGoInt.toNat := by
            simp only [resolveIndex] at hri
            split at hri
            · split at hri
              · cases hri
              · simp only [Option.some.injEq] at hri; omega
            · simp only [Option.some.injEq] at hri; exact ⟨by omega, hri.symm⟩
          have harr := p6 hok
          have hsz : (h.arr a ++ (List.range' h.cells.size (i + 1 - (h.arr a).size)).toArray).size = i + 1 := by
            simp; omega
          have hidx' := getD_append_range' (h.arr a) h.cells.size _ i hge (Nat.sub_lt_sub_right hge (Nat.lt_succ_self i))
          refine ⟨?_, ⟨fun o k y e => by simpa [Heap.obj, p3] using e, ?_⟩, p8⟩
          · simp only [getMember, harr, hsz, resolveIndex_nonneg _ _ hx.1, ← hx.2, Nat.lt_succ_self,
              ↓reduceIte, hidx']
          · intro a' j e
            by_cases ha' : a' = a
            · subst ha'
              rw [harr]
              refine ⟨by rw [hsz]; omega, ?_⟩
              simp only [Array.getD_eq_getD_getElem?]
              rw [Array.getElem?_append_left e]
            · rw [p5 a' ha']; exact ⟨e, rfl⟩
        · have h1 : ¬ i < (h.arr a).size := Nat.not_lt.mpr hge
          have h2 : i > fillLimit := Nat.lt_of_not_le hlim
          simp [setMember, hri, h1, h2] at hs
  | _ => simp [setMember] at hs

/-! ## chains of stand-in cells -/

/-- `ChainV` plus: if the base holds an object, the object is allocated and the key stored on it
    is not there yet (that is why the member was missing) -/
inductive ChainW (h : Heap) (b : CellId) : Val → List CellId → Prop
  | base {v : Val} {key : Key} (hv : v.spec? = some ⟨b, key⟩) (hb : b < h.cells.size)
      (hns : ∀ sp, h.get b ≠ .nil (some sp))
      (harr : ∀ a, h.get b = .arr a → a < h.arrs.size ∧ ∀ x i, key = .num x →
        resolveIndex (h.arr a).size x.toGoInt = some i → (h.arr a).size ≤ i)
      (hobj : ∀ o, h.get b = .obj o → o < h.objs.size ∧ objLookup (h.obj o) key.val.str! = none) :
      ChainW h b v []
  | step {v : Val} {p : CellId} {key : Key} {sp : SpecRef} {cs : List CellId}
      (hv : v.spec? = some ⟨p, key⟩) (hp : h.get p = .nil (some sp))
      (hrec : ChainW h b (h.get p) cs) : ChainW h b v (p :: cs)

theorem ChainW.toV {h : Heap} {b : CellId} {v : Val} {cs : List CellId} (c : ChainW h b v cs) :
    ChainV h b v cs := by
  induction c with
  | base hv hb hns harr hobj => exact .base hv hb hns harr
  | step hv hp hrec ih => exact .step hv hp ih

theorem ChainW.lift {h h' : Heap} {b : CellId} {v : Val} {cs : List CellId} (c : ChainW h b v cs)
    (p : HeapPreserved h h') : ChainW h' b v cs := by
  induction c with
  | base hv hb hns harr hobj =>
    refine .base hv (Nat.lt_of_lt_of_le hb p.cells) (by rw [p.get b hb]; exact hns) ?_ ?_
    · intro a ha
      rw [p.get b hb] at ha
      obtain ⟨h1, h2⟩ := harr a ha
      refine ⟨Nat.lt_of_lt_of_le h1 p.arrs, ?_⟩
      rw [p.arr a h1]; exact h2
    · intro o ho
      rw [p.get b hb] at ho
      obtain ⟨h1, h2⟩ := hobj o ho
      refine ⟨Nat.lt_of_lt_of_le h1 p.objs, ?_⟩
      rw [p.obj o h1]; exact h2
  | step hv hp hrec ih =>
    rename_i v0 p0 key0 sp0 cs0
    have hlt : p0 < h.cells.size := Heap.lt_of_get_ne_unknown _ _ (by rw [hp]; simp)
    have e : h'.get p0 = h.get p0 := p.get p0 hlt
    exact .step hv (by rw [e]; exact hp) (by rw [e]; exact ih)

/-- the chain is determined by the parent the value remembers -/
theorem ChainW.det {h : Heap} {b : CellId} {v : Val} {cs : List CellId} (c : ChainW h b v cs) :
    ∀ {v' : Val} {cs' : List CellId}, ChainW h b v' cs' →
      (∀ sp sp', v.spec? = some sp → v'.spec? = some sp' → sp.parent = sp'.parent) → cs = cs' := by
  induction c with
  | base hv hb hns harr hobj =>
    intro v' cs' c' hpar
    cases c' with
    | base => rfl
    | step hv' hp' hrec' =>
      have := hpar _ _ hv hv'
      simp only at this
      subst this
      exact absurd hp' (hns _)
  | step hv hp hrec ih =>
    intro v' cs' c' hpar
    cases c' with
    | base hv' hb' hns' _ _ =>
      have := hpar _ _ hv hv'
      simp only at this
      subst this
      exact absurd hp (hns' _)
    | step hv' hp' hrec' =>
      have := hpar _ _ hv hv'
      simp only at this
      subst this
      rw [ih hrec' (fun sp sp' e1 e2 => by rw [e1] at e2; cases e2; rfl)]

theorem ChainW.split {h : Heap} {b : CellId} {v : Val} {cs : List CellId} (c : ChainW h b v cs)
    (z : CellId) (hz : z ∈ cs) : ∃ cs1 cs2, cs = cs1 ++ z :: cs2 ∧ ChainW h b (h.get z) cs2 := by
  induction c with
  | base => cases hz
  | step hv hp hrec ih =>
    rename_i v0 p0 key0 sp0 cs0
    rcases List.mem_cons.mp hz with e | e
    · subst e; exact ⟨[], cs0, rfl, hrec⟩
    · obtain ⟨cs1, cs2, e1, e2⟩ := ih e
      exact ⟨p0 :: cs1, cs2, by rw [e1]; rfl, e2⟩

theorem ChainW.acyclic {h : Heap} {b : CellId} {z : CellId} {cs : List CellId}
    (c : ChainW h b (h.get z) cs) : z ∉ cs := by
  intro hz
  obtain ⟨cs1, cs2, e1, e2⟩ := c.split z hz
  have := c.det e2 (fun sp sp' e1 e2 => by rw [e1] at e2; cases e2; rfl)
  rw [this] at e1
  have hl := congrArg List.length e1
  simp at hl
  omega

theorem ChainW.parent_mem {h : Heap} {b : CellId} {v : Val} {cs : List CellId} (c : ChainW h b v cs)
    (p : CellId) (key : Key) (hv : v.spec? = some ⟨p, key⟩) : (p = b ∧ cs = []) ∨ p ∈ cs := by
  cases c with
  | base hv' => rw [hv] at hv'; cases hv'; exact .inl ⟨rfl, rfl⟩
  | step hv' => rw [hv] at hv'; cases hv'; exact .inr List.mem_cons_self

theorem ChainW.parent_of_mem {h : Heap} {b : CellId} {v : Val} {cs : List CellId} (c : ChainW h b v cs)
    (z : CellId) (hz : z ∈ cs) (p : CellId) (key : Key) (hv : (h.get z).spec? = some ⟨p, key⟩) :
    p = b ∨ p ∈ cs := by
  obtain ⟨cs1, cs2, e1, e2⟩ := c.split z hz
  rcases e2.parent_mem p key hv with ⟨e, _⟩ | e
  · exact .inl e
  · right; rw [e1]; simp [e]

theorem ChainW.mem_nil {h : Heap} {b : CellId} {v : Val} {cs : List CellId} (c : ChainW h b v cs)
    (z : CellId) (hz : z ∈ cs) : ∃ sp, h.get z = .nil (some sp) := by
  induction c with
  | base => cases hz
  | step hv hp hrec ih =>
    rcases List.mem_cons.mp hz with e | e
    · subst e; exact ⟨_, hp⟩
    · exact ih e

theorem ChainW.base_lt {h : Heap} {b : CellId} {v : Val} {cs : List CellId} (c : ChainW h b v cs) :
    b < h.cells.size := c.toV.base_lt

theorem ChainW.base_ns {h : Heap} {b : CellId} {v : Val} {cs : List CellId} (c : ChainW h b v cs) :
    ∀ sp, h.get b ≠ .nil (some sp) := by
  induction c with
  | base _ _ hns _ _ => exact hns
  | step _ _ _ ih => exact ih

/-! ## the postcondition of `createSpeculative` -/

/-- what a successful run of `createSpeculative` on the stand-in cell `sc` (chain `cs`, base `b`)
    has built, `h` before, `h'` after, `c` the member cell it returned:
    * `self`: `c` is the member `key` of the value the parent cell `p` now holds;
    * `chain`: every stand-in parent `z` of the chain (it stood for the member `key` of `p`) now
      holds a fresh container, and a fresh member cell `np` of the value `p` now holds refers to
      the same container;
    * `val`: `c` holds what the stand-in held; `ext`: no member or element that existed was
      replaced; `base`/`baseCont`: the base held a container or was unset, and holds one now;
      `scKeep`: the stand-in cell itself still holds its stand-in value (the copy comes later). -/
structure Linked (h h' : Heap) (sc b : CellId) (cs : List CellId) (c : CellId) : Prop where
  ext : ContExt h h'
  val : h'.get c = h.get sc
  self : ∀ p key, (h.get sc).spec? = some ⟨p, key⟩ → getMember h' (h'.get p) key.val = .ok (.cell c)
  chain : ∀ z, z ∈ cs → ∀ p key, h.get z = .nil (some ⟨p, key⟩) →
    ∃ np, h.cells.size ≤ np ∧ np < h'.cells.size ∧
      getMember h' (h'.get p) key.val = .ok (.cell np) ∧ h'.get np = h'.get z ∧ (h'.get z).isCont = true
  base : (h.get b).isCont = true ∨ h.get b = .unknown
  baseCont : (h'.get b).isCont = true
  scKeep : h'.get sc = h.get sc

theorem createTarget_unknown (h : Heap) (b : CellId) (key : Key) (hu : h.get b = .unknown)
    (hb : b < h.cells.size) :
    (createTarget h b key).1.get b = (createTarget h b key).2 ∧
    (createTarget h b key).2.contOK (createTarget h b key).1 = true ∧
    (createTarget h b key).2.isCont = true ∧
    (∀ a, (createTarget h b key).2 = .arr a → (createTarget h b key).1.arr a = #[]) ∧
    (∀ o, (createTarget h b key).2 = .obj o → (createTarget h b key).1.obj o = []) := by
  unfold createTarget
  rw [hu]
  cases key with
  | num x =>
    refine ⟨Heap.get_set_same' _ _ _ hb, by simp [Val.contOK, Heap.set, Heap.allocArr], rfl, ?_, ?_⟩
    · intro a e; cases e
      simp [Heap.set, Heap.allocArr, Heap.arr, Array.getD_eq_getD_getElem?]
    · intro o e; cases e
  | str k =>
    refine ⟨Heap.get_set_same' _ _ _ hb, by simp [Val.contOK, Heap.set, Heap.allocObj], rfl, ?_, ?_⟩
    · intro a e; cases e
    · intro o e; cases e
      simp [Heap.set, Heap.allocObj, Heap.obj, Array.getD_eq_getD_getElem?]

theorem ContExt.of_frame {C : CellId → Prop} {h h' : Heap}
    (f : HeapFrame C (fun _ => False) (fun _ => False) h h') : ContExt h h' :=
  ContExt.of_eq (fun a ha => f.arr a ha (fun x => x)) (fun o ho => f.obj o ho (fun x => x))

theorem storeBase_linked (h : Heap) (sc b : CellId) (key : Key) (c : CellId) (h' : Heap)
    (hv : (h.get sc).spec? = some ⟨b, key⟩) (hb : b < h.cells.size)
    (harr : ∀ a, h.get b = .arr a → a < h.arrs.size ∧ ∀ x i, key = .num x →
      resolveIndex (h.arr a).size x.toGoInt = some i → (h.arr a).size ≤ i)
    (hobj : ∀ o, h.get b = .obj o → o < h.objs.size ∧ objLookup (h.obj o) key.val.str! = none)
    (hs : setMember (createTarget h b key).1 (createTarget h b key).2 key.val sc = .ok (c, h')) :
    Linked h h' sc b [] c := by
  have hsc : sc < h.cells.size := Heap.lt_of_get_ne_unknown _ _ (by
    intro e; rw [e] at hv; cases hv)
  have F0 := createTarget_frame h b key
  have hsc0 : sc < (createTarget h b key).1.cells.size := Nat.lt_of_lt_of_le hsc F0.cells
  have hb0 : b < (createTarget h b key).1.cells.size := Nat.lt_of_lt_of_le hb F0.cells
  have hscb : h.get b = .unknown → sc ≠ b := by
    intro hu e; rw [e, hu] at hv; cases hv
  have hget0 : (createTarget h b key).1.get sc = h.get sc :=
    F0.get sc hsc (fun hc => hscb hc.2 hc.1)
  have T : (createTarget h b key).1.get b = (createTarget h b key).2 ∧
      (createTarget h b key).2.contOK (createTarget h b key).1 = true ∧
      (∀ a x i, (createTarget h b key).2 = .arr a → key.val = .num x →
        resolveIndex ((createTarget h b key).1.arr a).size x.toGoInt = some i →
        ((createTarget h b key).1.arr a).size ≤ i) ∧
      (∀ o, (createTarget h b key).2 = .obj o →
        objLookup ((createTarget h b key).1.obj o) key.val.str! = none) ∧
      ((h.get b).isCont = true ∨ h.get b = .unknown) := by
    by_cases hu : h.get b = .unknown
    · obtain ⟨t1, t2, t3, t4, t5⟩ := createTarget_unknown h b key hu hb
      refine ⟨t1, t2, ?_, ?_, .inr hu⟩
      · intro a x i e _ _; rw [t4 a e]; exact Nat.zero_le _
      · intro o e; rw [t5 o e]; rfl
    · have hct : createTarget h b key = (h, h.get b) := createTarget_set rfl hu key
      rw [hct]
      cases hvb : h.get b with
      | arr a =>
        obtain ⟨h1, h2⟩ := harr a hvb
        refine ⟨rfl, by simp [Val.contOK, h1], ?_, (fun o e => by cases e), .inl rfl⟩
        intro a' x i e hk hri
        cases e
        have : key = .num x := by cases key <;> simp_all [Key.val]
        exact h2 x i this hri
      | obj o =>
        obtain ⟨h1, h2⟩ := hobj o hvb
        refine ⟨rfl, by simp [Val.contOK, h1], (fun a x i e => by cases e), ?_, .inl rfl⟩
        intro o' e; cases e; exact h2
      | _ => rw [hct, hvb] at hs; simp [setMember] at hs
  obtain ⟨t1, t2, t3, t4, t5⟩ := T
  obtain ⟨g1, g2, g3⟩ := setMember_getMember _ _ _ sc c h' key.val_shape hsc0 t2 hs t3 t4
  obtain ⟨F1, _, _⟩ := setMember_frame _ _ _ sc c h' hsc0 hs t3
  have hgb : h'.get b = (createTarget h b key).2 := by
    rw [F1.get b hb0 (fun x => x), t1]
  refine ⟨(ContExt.of_frame F0).trans g2, by rw [g3, hget0], ?_, (fun z hz => by cases hz), t5, ?_, ?_⟩
  · intro p key' e
    rw [hv] at e; cases e
    rw [hgb]; exact g1
  · rw [hgb]
    exact (getMember_cell_cont _ _ _ _ g1).1
  · rw [F1.get sc hsc0 (fun x => x), hget0]

theorem freshCont_get (h : Heap) (key : Key) (x : CellId) : (freshCont h key).2.get x = h.get x := by
  cases key <;> rfl

theorem freshCont_cells (h : Heap) (key : Key) : (freshCont h key).2.cells.size = h.cells.size := by
  cases key <;> rfl

theorem linkParent_get_other (h : Heap) (key : Key) (np p x : CellId) (h1 : x ≠ np) (h2 : x ≠ p) :
    (linkParent h key np p).get x = h.get x := by
  unfold linkParent
  rw [Heap.get_set_ne' _ _ _ _ h2, Heap.get_set_ne' _ _ _ _ h1, freshCont_get]

theorem linkParent_get_p (h : Heap) (key : Key) (np p : CellId) (hp : p < h.cells.size) :
    (linkParent h key np p).get p = (freshCont h key).1 := by
  unfold linkParent
  apply Heap.get_set_same'
  rw [Heap.size_set, freshCont_cells]; exact hp

theorem linkParent_get_np (h : Heap) (key : Key) (np p : CellId) (hnp : np < h.cells.size) (hne : np ≠ p) :
    (linkParent h key np p).get np = (freshCont h key).1 := by
  unfold linkParent
  rw [Heap.get_set_ne' _ _ _ _ hne]
  apply Heap.get_set_same'
  rw [freshCont_cells]; exact hnp

theorem linkParent_arr (h : Heap) (key : Key) (np p : CellId) (a : ArrId) (ha : a < h.arrs.size) :
    (linkParent h key np p).arr a = h.arr a := by
  show (freshCont h key).2.arr a = h.arr a
  exact (freshCont_preserved h key).arr a ha

theorem linkParent_obj (h : Heap) (key : Key) (np p : CellId) (o : ObjId) (ho : o < h.objs.size) :
    (linkParent h key np p).obj o = h.obj o := by
  show (freshCont h key).2.obj o = h.obj o
  exact (freshCont_preserved h key).obj o ho

theorem linkParent_arrs (h : Heap) (key : Key) (np p : CellId) :
    h.arrs.size ≤ (linkParent h key np p).arrs.size := (freshCont_preserved h key).arrs

theorem linkParent_objs (h : Heap) (key : Key) (np p : CellId) :
    h.objs.size ≤ (linkParent h key np p).objs.size := (freshCont_preserved h key).objs

theorem freshCont_spec (h : Heap) (key : Key) (np p : CellId) :
    (freshCont h key).1.isCont = true ∧ (freshCont h key).1.contOK (linkParent h key np p) = true ∧
    (freshCont h key).1.contOK h = false ∧
    (∀ a, (freshCont h key).1 = .arr a → (linkParent h key np p).arr a = #[]) ∧
    (∀ o, (freshCont h key).1 = .obj o → (linkParent h key np p).obj o = []) := by
  cases key with
  | str k =>
    refine ⟨rfl, ?_, by simp [freshCont, Val.contOK], (fun a e => by cases e), ?_⟩
    · simp [freshCont, Val.contOK, linkParent, Heap.set, Heap.allocObj]
    · intro o e
      simp only [freshCont, Val.obj.injEq] at e
      subst e
      simp [linkParent, freshCont, Heap.set, Heap.allocObj, Heap.obj, Array.getD_eq_getD_getElem?]
  | num x =>
    refine ⟨rfl, ?_, by simp [freshCont, Val.contOK], ?_, fun o e => by cases e⟩
    · simp [freshCont, Val.contOK, linkParent, Heap.set, Heap.allocArr]
    · intro a e
      exact (freshCont_arr h (.num x) np p a e).2

theorem contOK_ne_fresh (h : Heap) (key : Key) (V : Val) (hV : V.contOK h = true) :
    V ≠ (freshCont h key).1 := by
  intro e
  have := (freshCont_spec h key 0 0).2.2.1
  rw [← e, hV] at this
  cases this

/-- what a run of `createSpeculative` guarantees when it succeeds: `Linked`, the frame
    (`SpecFrame`, from `createSpeculative_frame`), and nothing but the heap changes -/
def LinkRes (s : St) (sc b : CellId) (cs : List CellId) : Res (Except String CellId) → Prop
  | .ok (.ok c) s' =>
    Linked s.heap s'.heap sc b cs c ∧ (c = sc ∨ s.heap.cells.size ≤ c) ∧ c < s'.heap.cells.size ∧
    SpecFrame s.heap sc b cs s'.heap ∧ s' = { s with heap := s'.heap }
  | _ => True

/-- **the postcondition of `createSpeculativeObjects`, any number of missing levels** -/
theorem createSpeculative_linked : ∀ (n : Nat) (sc : CellId) (s : St) (b : CellId) (cs : List CellId),
    ChainW s.heap b (s.heap.get sc) cs → LinkRes s sc b cs (createSpeculative n sc s)
  | 0, sc, s, b, cs, _ => by unfold createSpeculative; trivial
  | n + 1, sc, s, b, cs, hc => by
    -- `hfr` is rewritten in step with the goal (same equations, same case splits), so that in the
    -- success case it already is the frame and the bounds on the returned cell that `LinkRes` asks for
    have hfr := createSpeculative_frame (n + 1) sc s b cs hc.toV
    have hacyc : sc ∉ cs := hc.acyclic
    cases hc with
    | base hv hb hns harr hobj =>
      rename_i key
      rw [createSpeculative_base n sc b key s hv hns] at hfr ⊢
      split
      · trivial
      · rename_i hnn
        rw [if_neg hnn] at hfr
        cases hs : setMember (createTarget s.heap b key).1 (createTarget s.heap b key).2 key.val sc with
        | error m => trivial
        | ok res =>
          obtain ⟨c, h'⟩ := res
          rw [hs] at hfr
          obtain ⟨f, hcc⟩ := hfr
          exact ⟨storeBase_linked s.heap sc b key c h' hv hb harr hobj hs, (hcc c rfl).1, (hcc c rfl).2, f, rfl⟩
    | step hv hp hrec =>
      rename_i p key sp cs'
      have hsc : sc < s.heap.cells.size := lt_of_spec hv
      rw [createSpeculative_step n sc p key sp s hv hp] at hfr ⊢
      have hplt : p < s.heap.cells.size := Heap.lt_of_get_ne_unknown _ _ (by rw [hp]; simp)
      have hpc : (s.heap.alloc (.nil (some sp))).2.get s.heap.cells.size = s.heap.get p := by
        rw [Heap.get_alloc_new, hp]
      have hal := HeapPreserved.alloc s.heap (.nil (some sp))
      have chain1 : ChainW (s.heap.alloc (.nil (some sp))).2 b
          ((s.heap.alloc (.nil (some sp))).2.get s.heap.cells.size) cs' := by
        rw [hpc]; exact hrec.lift hal
      have ih := createSpeculative_linked n s.heap.cells.size
        { s with heap := (s.heap.alloc (.nil (some sp))).2 } b cs' chain1
      have hblt : b < s.heap.cells.size := hrec.base_lt
      have hpcs : p ∉ cs' := hrec.acyclic
      have hpb : p ≠ b := fun e => hrec.base_ns sp (e ▸ hp)
      have hscp : sc ≠ p := fun e => hacyc (e ▸ List.mem_cons_self)
      have hsccs : sc ∉ cs' := fun e => hacyc (List.mem_cons_of_mem _ e)
      have hsz1 : (s.heap.alloc (.nil (some sp))).2.cells.size = s.heap.cells.size + 1 := Heap.size_alloc _ _
      cases hr : createSpeculative n s.heap.cells.size
          { s with heap := (s.heap.alloc (.nil (some sp))).2 } with
      | oof => trivial
      | err e s' => trivial
      | ok r s2 =>
        rw [hr] at ih hfr
        cases r with
        | error m => trivial
        | ok np =>
          obtain ⟨L, hnp1, hnp2, f2, hst⟩ := ih
          dsimp only at L hnp1 hnp2 f2 hst hfr ⊢
          cases hs : setMember (linkParent s2.heap key np p) (freshCont s2.heap key).1 key.val sc with
          | error m => trivial
          | ok res =>
            obtain ⟨c, h'⟩ := res
            rw [hs] at hfr
            obtain ⟨fAll, hcc⟩ := hfr
            have hle12 : s.heap.cells.size + 1 ≤ s2.heap.cells.size := by rw [← hsz1]; exact f2.cells
            have hnpge : s.heap.cells.size ≤ np := by
              rcases hnp1 with e | e
              · rw [e]; exact Nat.le_refl _
              · rw [hsz1] at e; exact Nat.le_of_succ_le e
            have hnpp : np ≠ p := fun e => Nat.lt_irrefl _ (Nat.lt_of_lt_of_le (e ▸ hplt) hnpge)
            have hold : ∀ d, d < s.heap.cells.size → d ∉ cs' → ¬ (d = b ∧ s.heap.get b = .unknown) →
                s2.heap.get d = s.heap.get d := by
              intro d hd h1 h2
              rw [f2.get d (by rw [hsz1]; exact Nat.lt_succ_of_lt hd) ?_, hal.get d hd]
              rintro (e | e | ⟨e1, e2⟩)
              · exact Nat.lt_irrefl _ (e ▸ hd)
              · exact h1 e
              · exact h2 ⟨e1, by rw [← hal.get b hblt]; exact e2⟩
            have h2sc : s2.heap.get sc = s.heap.get sc := by
              refine hold sc hsc hsccs ?_
              rintro ⟨e1, e2⟩
              rw [e1, e2] at hv; cases hv
            have h2p : s2.heap.get p = .nil (some sp) := by
              rw [hold p hplt hpcs (fun e => hpb e.1), hp]
            have h2np : s2.heap.get np = .nil (some sp) := by
              rw [L.val]; exact Heap.get_alloc_new _ _
            have hsz3 : (linkParent s2.heap key np p).cells.size = s2.heap.cells.size := linkParent_size _ _ _ _
            have hsc3 : sc < (linkParent s2.heap key np p).cells.size := by
              rw [hsz3]; exact Nat.lt_of_lt_of_le (Nat.lt_succ_of_lt hsc) hle12
            obtain ⟨c1, c2, c3, c4, c5⟩ := freshCont_spec s2.heap key np p
            obtain ⟨g1, g2, g3⟩ := setMember_getMember _ _ _ sc c h' key.val_shape hsc3 c2 hs
              (fun a x i e _ _ => by rw [c4 a e]; exact Nat.zero_le _)
              (fun o e => by rw [c5 o e]; rfl)
            obtain ⟨F, _, hclt⟩ := setMember_frame _ _ _ sc c h' hsc3 hs
              (fun a x i e _ _ => by rw [c4 a e]; exact Nat.zero_le _)
            have keepCell : ∀ x, (s2.heap.get x).isCont = true → h'.get x = s2.heap.get x := by
              intro x hx
              have hxlt : x < s2.heap.cells.size := Heap.lt_of_get_ne_unknown _ _ (by
                intro e; rw [e] at hx; cases hx)
              have hxp : x ≠ p := by intro e; rw [e, h2p] at hx; cases hx
              have hxnp : x ≠ np := by intro e; rw [e, h2np] at hx; cases hx
              rw [F.get x (by rw [hsz3]; exact hxlt) (fun y => y), linkParent_get_other _ _ _ _ _ hxnp hxp]
            have keepMem : ∀ V kv, V.contOK s2.heap = true →
                getMember h' V kv = getMember s2.heap V kv := by
              intro V kv hV
              have hne := contOK_ne_fresh s2.heap key V hV
              apply getMember_congr
              · intro a e
                subst e
                simp only [Val.contOK, decide_eq_true_eq] at hV
                rw [F.arr a (Nat.lt_of_lt_of_le hV (linkParent_arrs _ _ _ _)) (fun y => hne y.symm),
                  linkParent_arr _ _ _ _ _ hV]
              · intro o e
                subst e
                simp only [Val.contOK, decide_eq_true_eq] at hV
                rw [F.obj o (Nat.lt_of_lt_of_le hV (linkParent_objs _ _ _ _)) (fun y => hne y.symm),
                  linkParent_obj _ _ _ _ _ hV]
            have hp3 : h'.get p = (freshCont s2.heap key).1 := by
              rw [F.get p (by rw [hsz3]; exact Nat.lt_of_lt_of_le (Nat.lt_succ_of_lt hplt) hle12) (fun y => y)]
              exact linkParent_get_p _ _ _ _ (Nat.lt_of_lt_of_le (Nat.lt_succ_of_lt hplt) hle12)
            have hnp3 : h'.get np = (freshCont s2.heap key).1 := by
              rw [F.get np (by rw [hsz3]; exact hnp2) (fun y => y)]
              exact linkParent_get_np _ _ _ _ hnp2 hnpp
            have e23 : ContExt s2.heap (linkParent s2.heap key np p) :=
              ContExt.of_eq (fun a ha => linkParent_arr _ _ _ _ a ha) (fun o ho => linkParent_obj _ _ _ _ o ho)
            have carry : ∀ pz kz nz, getMember s2.heap (s2.heap.get pz) kz = .ok (.cell nz) →
                getMember h' (h'.get pz) kz = .ok (.cell nz) := by
              intro pz kz nz hg
              obtain ⟨v1, v2⟩ := getMember_cell_cont _ _ _ _ hg
              rw [keepCell pz v1, keepMem _ _ v2]; exact hg
            have hscnp : sc ≠ np := fun e => Nat.lt_irrefl _ (Nat.lt_of_lt_of_le hsc (e ▸ hnpge))
            have h3sc : (linkParent s2.heap key np p).get sc = s.heap.get sc := by
              rw [linkParent_get_other _ _ _ _ _ hscnp hscp, h2sc]
            refine ⟨⟨((ContExt.of_preserved hal).trans L.ext).trans (e23.trans g2), ?_, ?_, ?_, ?_, ?_,
              by rw [F.get sc hsc3 (fun y => y), h3sc]⟩,
              (hcc c rfl).1, (hcc c rfl).2, fAll, ?_⟩
            · -- val
              rw [g3, h3sc]
            · -- self
              intro p' key' e
              rw [hv] at e; cases e
              rw [hp3]; exact g1
            · -- chain
              intro z hz pz kz hzv
              rcases List.mem_cons.mp hz with e | e
              · subst e
                rw [hp] at hzv
                simp only [Val.nil.injEq, Option.some.injEq] at hzv
                subst hzv
                have hself := L.self pz kz (by rw [Heap.get_alloc_new]; rfl)
                refine ⟨np, hnpge, Nat.lt_of_lt_of_le hnp2 (by rw [← hsz3]; exact F.cells),
                  carry _ _ _ hself, by rw [hnp3, hp3], by rw [hp3]; exact c1⟩
              · have hzlt : z < s.heap.cells.size := Heap.lt_of_get_ne_unknown _ _ (by rw [hzv]; simp)
                obtain ⟨nz, n1, n2, n3, n4, n5⟩ := L.chain z e pz kz (by rw [hal.get z hzlt]; exact hzv)
                refine ⟨nz, ?_, Nat.lt_of_lt_of_le n2 (by rw [← hsz3]; exact F.cells), carry _ _ _ n3, ?_, ?_⟩
                · rw [hsz1] at n1; exact Nat.le_of_succ_le n1
                · rw [keepCell nz (by rw [n4]; exact n5), keepCell z n5]; exact n4
                · rw [keepCell z n5]; exact n5
            · -- base
              have := L.base
              rw [hal.get b hblt] at this
              exact this
            · -- baseCont
              rw [keepCell b L.baseCont]; exact L.baseCont
            · rw [hst]

/-! ## the effect of the whole assignment -/

theorem getMember_set (h : Heap) (c : CellId) (w v kv : Val) :
    getMember (h.set c w) v kv = getMember h v kv :=
  getMember_congr _ _ _ _ (fun _ _ => rfl) (fun _ _ => rfl)

/-- what the re-evaluation of the target path needs to know about the store `H → H'`
    (`lc`: the cell the target evaluated to, `c`: the cell the assignment returned, `S`: the
    stand-in cells the store turned into containers / members): containers only grew (`ext`);
    other cells kept their values, except that an unset cell may hold a container now (`keep`);
    every stand-in is linked (`link`: the value its parent cell holds now has the member, and
    that member cell is `c` for the target, else holds the container the stand-in holds) -/
structure Eff (H H' : Heap) (lc c : CellId) (S : CellId → Prop) : Prop where
  cells : H.cells.size ≤ H'.cells.size
  arrs : H.arrs.size ≤ H'.arrs.size
  objs : H.objs.size ≤ H'.objs.size
  ext : ContExt H H'
  keep : ∀ x, x < H.cells.size → ¬ S x → x ≠ c →
    H'.get x = H.get x ∨ (H.get x = .unknown ∧ (H'.get x).isCont = true)
  spec : ∀ z, S z → ∃ sp, H.get z = .nil (some sp)
  link : ∀ z, S z → ∀ p key, H.get z = .nil (some ⟨p, key⟩) →
    (S p ∨ (H.get p).spec? = none) ∧ p ≠ lc ∧
    ∃ np, np < H'.cells.size ∧ getMember H' (H'.get p) key.val = .ok (.cell np) ∧
      (z = lc → np = c) ∧ (z ≠ lc → H'.get np = H'.get z ∧ (H'.get z).isCont = true)
  tgt : c = lc ∨ H.cells.size ≤ c
  tgtLt : c < H'.cells.size
  tgtVal : ∀ f b sp, H'.get c ≠ .native f b sp
  plain : ¬ S lc → c = lc

theorem evalAssignment_plain_eff (pos : Nat) (lc rc : CellId) (s s' : St) (c : CellId)
    (hns : (s.heap.get lc).speculative = false) (hlt : lc < s.heap.cells.size)
    (h : evalAssignment pos lc rc s = .ok c s') :
    ∃ w, copyVal (s.heap.get rc) = .ok w ∧ c = lc ∧ s' = { s with heap := s.heap.set lc w } ∧
      s'.heap.get c = w ∧ Eff s.heap s'.heap lc c (fun _ => False) := by
  rw [evalAssignment_plain pos lc rc s hns] at h
  cases hw : copyVal (s.heap.get rc) with
  | error m => rw [hw] at h; simp [Jqawk.throwRt] at h
  | ok w =>
    rw [hw] at h
    simp only [Res.ok.injEq] at h
    obtain ⟨rfl, rfl⟩ := h
    have hg : (s.heap.set lc w).get lc = w := Heap.get_set_same' _ _ _ hlt
    refine ⟨w, rfl, rfl, rfl, hg, ?_⟩
    refine ⟨by rw [Heap.size_set]; exact Nat.le_refl _, Nat.le_refl _, Nat.le_refl _, ContExt.set _ _ _,
      ?_, fun z hz => hz.elim, fun z hz => hz.elim, .inl rfl, by rw [Heap.size_set]; exact hlt, ?_,
      fun _ => rfl⟩
    · intro x _ _ hx
      exact .inl (Heap.get_set_ne' _ _ _ _ hx)
    · intro f b sp e
      have e' : (s.heap.set lc w).get lc = .native f b sp := e
      rw [hg] at e'
      exact (copyVal_ok hw).1 f b sp e'

theorem isCont_spec_none {v : Val} (h : v.isCont = true ∨ v = .unknown) : v.spec? = none := by
  rcases h with h | h
  · cases v <;> first | rfl | cases h
  · subst h; rfl

theorem evalAssignment_chain_eff (pos : Nat) (lc rc b : CellId) (cs : List CellId) (sp : SpecRef)
    (s s' : St) (c : CellId)
    (hsp : s.heap.get lc = .nil (some sp)) (hc : ChainW s.heap b (s.heap.get lc) cs)
    (h : evalAssignment pos lc rc s = .ok c s') :
    ∃ h3 w, Linked s.heap h3 lc b cs c ∧ SpecFrame s.heap lc b cs h3 ∧ copyVal (h3.get rc) = .ok w ∧
      s' = { s with heap := h3.set c w } ∧ s'.heap.get c = w ∧
      Eff s.heap s'.heap lc c (fun z => z = lc ∨ z ∈ cs) := by
  rw [evalAssignment_spec_eq pos lc rc s sp (by rw [hsp]; rfl)] at h
  have hl := createSpeculative_linked (s.heap.cells.size + 2) lc s b cs hc
  cases hr : createSpeculative (s.heap.cells.size + 2) lc s with
  | oof => rw [hr] at h; cases h
  | err e s3 => rw [hr] at h; cases h
  | ok r s3 =>
    rw [hr] at h hl
    cases r with
    | error m => simp [Jqawk.throwRt] at h
    | ok c0 =>
      obtain ⟨L, hcc, hclt, f, hst⟩ := hl
      dsimp only at h
      cases hw : copyVal (s3.heap.get rc) with
      | error m => rw [hw] at h; simp [Jqawk.throwRt] at h
      | ok w =>
        rw [hw] at h
        simp only [Res.ok.injEq] at h
        obtain ⟨rfl, rfl⟩ := h
        have hg : (s3.heap.set c0 w).get c0 = w := Heap.get_set_same' _ _ _ hclt
        refine ⟨s3.heap, w, L, f, hw, by rw [hst], hg, ?_⟩
        have hlcacyc : lc ∉ cs := hc.acyclic
        have hc0v : s3.heap.get c0 = .nil (some sp) := by rw [L.val, hsp]
        have ne_c0 : ∀ x, (s3.heap.get x).isCont = true → x ≠ c0 := by
          intro x hx e; rw [e, hc0v] at hx; cases hx
        have carry : ∀ pz kz nz, getMember s3.heap (s3.heap.get pz) kz = .ok (.cell nz) →
            getMember (s3.heap.set c0 w) ((s3.heap.set c0 w).get pz) kz = .ok (.cell nz) := by
          intro pz kz nz hg'
          rw [getMember_set, Heap.get_set_ne' _ _ _ _ (ne_c0 pz (getMember_cell_cont _ _ _ _ hg').1)]
          exact hg'
        have hbspec : (s.heap.get b).spec? = none := isCont_spec_none L.base
        refine ⟨by rw [Heap.size_set]; exact f.cells, f.arrs, f.objs, L.ext.trans (ContExt.set _ _ _),
          ?_, ?_, ?_, hcc, by rw [Heap.size_set]; exact hclt, ?_, fun hn => (hn (.inl rfl)).elim⟩
        · -- keep
          intro x hx hS hxc
          show (s3.heap.set c0 w).get x = _ ∨ _ ∧ ((s3.heap.set c0 w).get x).isCont = true
          rw [Heap.get_set_ne' _ _ _ _ hxc]
          by_cases hb : x = b ∧ s.heap.get b = .unknown
          · right
            obtain ⟨rfl, hu⟩ := hb
            exact ⟨hu, L.baseCont⟩
          · left
            apply f.get x hx
            rintro (e | e | e)
            · exact hS (.inl e)
            · exact hS (.inr e)
            · exact hb e
        · -- spec
          rintro z (rfl | hz)
          · exact ⟨sp, hsp⟩
          · exact hc.mem_nil z hz
        · -- link
          intro z hz p key hzv
          have hpar : p = b ∨ p ∈ cs := by
            rcases hz with rfl | hz
            · rcases hc.parent_mem p key (by rw [hzv]; rfl) with ⟨e, _⟩ | e
              · exact .inl e
              · exact .inr e
            · exact hc.parent_of_mem z hz p key (by rw [hzv]; rfl)
          refine ⟨?_, ?_, ?_⟩
          · rcases hpar with rfl | e
            · exact .inr hbspec
            · exact .inl (.inr e)
          · rcases hpar with rfl | e
            · intro e; rw [e, hsp] at hbspec; cases hbspec
            · intro e'; exact hlcacyc (e' ▸ e)
          · rcases hz with rfl | hz
            · refine ⟨c0, by rw [Heap.size_set]; exact hclt,
                carry _ _ _ (L.self p key (by rw [hzv]; rfl)), fun _ => rfl, fun hne => (hne rfl).elim⟩
            · obtain ⟨nz, n1, n2, n3, n4, n5⟩ := L.chain z hz p key hzv
              refine ⟨nz, by rw [Heap.size_set]; exact n2, carry _ _ _ n3,
                fun e => (hlcacyc (e ▸ hz)).elim, fun _ => ?_⟩
              show (s3.heap.set c0 w).get nz = (s3.heap.set c0 w).get z ∧ ((s3.heap.set c0 w).get z).isCont = true
              rw [Heap.get_set_ne' _ _ _ _ (ne_c0 nz (by rw [n4]; exact n5)),
                Heap.get_set_ne' _ _ _ _ (ne_c0 z n5)]
              exact ⟨n4, n5⟩
        · intro f' b' sp' e
          have e' : (s3.heap.set c0 w).get c0 = .native f' b' sp' := e
          rw [hg] at e'
          exact (copyVal_ok hw).1 f' b' sp' e'

/-! ## one step of a path: equations -/

theorem evalExpr_member_eq (prog : Program) (n : Nat) (l : Expr) (t : Token) (op : Token) (s : St)
    (hop : op.tag = .dot ∨ op.tag = .lsquare) :
    evalExpr prog (n + 2) (.binary l (.lit t) op) s =
      (evalExpr prog n l >>= fun left => evalExpr prog n (.lit t) >>= fun right =>
        memberStep l.token.pos left right) s := by
  conv => lhs; unfold evalExpr
  dsimp only
  conv => lhs; unfold evalBinary
  rcases hop with h | h <;> simp only [bind, EM.bind, h]

theorem evalExpr_lit_litKey (prog : Program) (n : Nat) (t : Token) (kv : Val) (s : St)
    (hk : litKey t = some kv) : evalExpr prog (n + 1) (.lit t) s = Jqawk.newCell kv s := by
  unfold evalExpr
  dsimp only
  unfold litKey at hk
  repeat' split at hk
  all_goals first
    | (cases hk; done)
    | (cases hk; simp only [*])

def MissingRaw (h : Heap) (v kv : Val) : Prop :=
  (∀ o, v = .obj o → objLookup (h.obj o) kv.str! = none) ∧
  (∀ a, v = .arr a → ∀ x i, kv = .num x →
    resolveIndex (h.arr a).size x.toGoInt = some i → (h.arr a).size ≤ i)

theorem getMember_missing_raw (h : Heap) (v kv : Val) (hk : IsKeyShape kv)
    (hg : getMember h v kv = .ok .missing) : MissingRaw h v kv := by
  constructor
  · intro o e
    subst e
    rcases hk with ⟨s, rfl⟩ | ⟨x, rfl⟩
    · simp only [getMember] at hg
      split at hg
      · cases hg
      · assumption
    · simp only [getMember] at hg
      split at hg
      · cases hg
      · assumption
  · intro a e x i ek hri
    subst e; subst ek
    simp only [getMember, hri] at hg
    by_cases hlt : i < (h.arr a).size
    · rw [if_pos hlt] at hg; cases hg
    · exact Nat.le_of_not_lt hlt

theorem protoGet_not_char (tbl : Bytes → Option Native) (kv : Val) (ch : Option Bytes) (x : F64) :
    protoGet tbl kv ≠ .ok (.char ch x) := by
  unfold protoGet
  intro h
  repeat' split at h
  all_goals cases h

theorem getMember_char (h : Heap) (v kv : Val) (ch : Option Bytes) (x : F64)
    (hg : getMember h v kv = .ok (.char ch x)) :
    (∃ s sp, v = .str s sp) ∧ ∃ y, kv = .num y ∧ x = F64.ofInt y.toGoInt := by
  cases v with
  | str s sp =>
    refine ⟨⟨s, sp, rfl⟩, ?_⟩
    cases kv with
    | num y =>
      simp only [getMember] at hg
      split at hg <;> (simp only [Except.ok.injEq, Member.char.injEq] at hg; exact ⟨y, rfl, hg.2.symm⟩)
    | _ => simp only [getMember] at hg; exact absurd hg (protoGet_not_char _ _ _ _)
  | arr a =>
    cases kv with
    | num y =>
      simp only [getMember] at hg
      repeat' split at hg
      all_goals cases hg
    | _ => simp only [getMember] at hg; exact absurd hg (protoGet_not_char _ _ _ _)
  | obj o =>
    cases kv with
    | num y =>
      simp only [getMember] at hg
      split at hg
      · cases hg
      · exact absurd hg (protoGet_not_char _ _ _ _)
    | str s sp =>
      simp only [getMember] at hg
      split at hg
      · cases hg
      · exact absurd hg (protoGet_not_char _ _ _ _)
    | _ => simp only [getMember] at hg; cases hg
  | num y => simp only [getMember] at hg; exact absurd hg (protoGet_not_char _ _ _ _)
  | _ => simp only [getMember] at hg; cases hg

theorem memberRead_cases (pos : Nat) (left : CellId) (kv : Val) (s : St) (q2 : CellId) (s1 : St)
    (hk : IsKeyShape kv) (h : memberRead pos left kv s = .ok q2 s1) :
    (getMember s.heap (s.heap.get left) kv = .ok (.cell q2) ∧
      (∀ f b sp, s.heap.get q2 ≠ .native f b sp) ∧ s1 = s) ∨
    (∃ v, q2 = s.heap.cells.size ∧ s1 = { s with heap := (s.heap.alloc v).2 } ∧
      ((∃ k, v = .nil (some ⟨left, k⟩) ∧
          (k = keyOf kv ∨ ∃ s0 sp0, s.heap.get left = .str s0 sp0) ∧
          MissingRaw s.heap (s.heap.get left) kv) ∨
       (∃ f b sp, v = .native f b (some sp)) ∨ (∃ ch sp, v = .str ch (some sp)))) := by
  unfold memberRead at h
  simp only [bind, EM.bind, readCell, getHeap] at h
  have fresh : ∀ v, Jqawk.newCell v s = .ok q2 s1 →
      q2 = s.heap.cells.size ∧ s1 = { s with heap := (s.heap.alloc v).2 } := by
    intro v hn
    simp only [Jqawk.newCell, Res.ok.injEq] at hn
    exact ⟨hn.1.symm, hn.2.symm⟩
  cases hg : getMember s.heap (s.heap.get left) kv with
  | error m => rw [hg] at h; simp [Jqawk.throwRt] at h
  | ok mem =>
    rw [hg] at h
    cases mem with
    | missing =>
      obtain ⟨e1, e2⟩ := fresh _ h
      refine .inr ⟨_, e1, e2, .inl ⟨keyOf kv, ?_, .inl rfl, getMember_missing_raw _ _ _ hk hg⟩⟩
      rcases hk with ⟨s0, rfl⟩ | ⟨x, rfl⟩ <;> rfl
    | method f =>
      obtain ⟨e1, e2⟩ := fresh _ h
      exact .inr ⟨_, e1, e2, .inr (.inl ⟨_, _, _, rfl⟩)⟩
    | char ch x =>
      cases ch with
      | none =>
        obtain ⟨e1, e2⟩ := fresh _ h
        obtain ⟨⟨s0, sp0, e⟩, _⟩ := getMember_char _ _ _ _ _ hg
        refine .inr ⟨_, e1, e2, .inl ⟨.num x, rfl, .inr ⟨s0, sp0, e⟩, ?_⟩⟩
        rw [e]
        exact ⟨(fun o e' => by cases e'), (fun a e' => by cases e')⟩
      | some c0 =>
        obtain ⟨e1, e2⟩ := fresh _ h
        exact .inr ⟨_, e1, e2, .inr (.inr ⟨_, _, rfl⟩)⟩
    | cell c0 =>
      dsimp only at h
      cases hv : s.heap.get c0 with
      | native f b0 sp0 =>
        rw [hv] at h
        obtain ⟨e1, e2⟩ := fresh _ h
        exact .inr ⟨_, e1, e2, .inr (.inl ⟨_, _, _, rfl⟩)⟩
      | _ =>
        rw [hv] at h
        simp only [pure, EM.pure, Res.ok.injEq] at h
        obtain ⟨rfl, rfl⟩ := h
        exact .inl ⟨rfl, (fun f b sp e => by rw [hv] at e; cases e), rfl⟩


/-! ## the states paths are evaluated in -/

def CellFine (h : Heap) (c : CellId) : Prop := c < h.cells.size ∧ (h.get c).spec? = none

instance (h : Heap) (c : CellId) : Decidable (CellFine h c) := by unfold CellFine; infer_instance

/-- well-formedness of a state, as far as the evaluation of a path looks at it: every cell that
    holds an array / object refers to an allocated one; every array element, object member,
    variable binding and `$` is an allocated cell that is not a stand-in for a missing member
    (stand-ins are created by reads of missing members and become members only by an assignment,
    which overwrites them; a `match` binding can name a stand-in cell, so inside a match body
    this can fail).  All quantifiers are bounded: `decide` can check it for a concrete state. -/
def PathOK (s : St) : Prop :=
  (∀ c, c < s.heap.cells.size → (s.heap.get c).contOK s.heap = true) ∧
  (∀ a, a < s.heap.arrs.size → ∀ c ∈ (s.heap.arr a).toList, CellFine s.heap c) ∧
  (∀ o, o < s.heap.objs.size → ∀ kc ∈ s.heap.obj o, CellFine s.heap kc.2) ∧
  (∀ f ∈ s.frames, ∀ kc ∈ f.locals, CellFine s.heap kc.2) ∧
  (∀ c, s.ruleRoot = some c → CellFine s.heap c)

instance (s : St) : Decidable (PathOK s) := by unfold PathOK; infer_instance

theorem lookupFrames_mem {fs : List Frame} {name : Bytes} {c : CellId}
    (h : lookupFrames fs name = some c) : ∃ f ∈ fs, ∃ kc ∈ f.locals, kc.2 = c := by
  induction fs with
  | nil => cases h
  | cons f rest ih =>
    simp only [lookupFrames] at h
    split at h
    · rename_i c' hl
      cases h
      exact ⟨f, List.mem_cons_self, _, objLookup_mem hl, rfl⟩
    · obtain ⟨f', hf', r⟩ := ih h
      exact ⟨f', List.mem_cons_of_mem _ hf', r⟩

theorem PathOK.member {s : St} (ok : PathOK s) {o : ObjId} {k : Bytes} {c : CellId}
    (h : objLookup (s.heap.obj o) k = some c) : CellFine s.heap c := by
  by_cases ho : o < s.heap.objs.size
  · exact ok.2.2.1 o ho _ (objLookup_mem h)
  · rw [Heap.obj_of_not_valid _ _ ho] at h; cases h

theorem PathOK.elem {s : St} (ok : PathOK s) {a : ArrId} {i : Nat} (h : i < (s.heap.arr a).size) :
    CellFine s.heap ((s.heap.arr a).getD i 0) := by
  by_cases ha : a < s.heap.arrs.size
  · apply ok.2.1 a ha
    simp only [Array.getD_eq_getD_getElem?, Array.getElem?_eq_getElem h, Option.getD_some]
    exact Array.getElem_mem_toList h
  · rw [Heap.arr_of_not_valid _ _ ha] at h; exact absurd h (Nat.not_lt_zero _)

theorem PathOK.local {s : St} (ok : PathOK s) {name : Bytes} {c : CellId}
    (h : lookupFrames s.frames name = some c) : CellFine s.heap c := by
  obtain ⟨f, hf, kc, hkc, rfl⟩ := lookupFrames_mem h
  exact ok.2.2.2.1 f hf kc hkc

theorem CellFine.lift {h h' : Heap} {c : CellId} (f : CellFine h c) (p : HeapPreserved h h') :
    CellFine h' c := ⟨Nat.lt_of_lt_of_le f.1 p.cells, by rw [p.get c f.1]; exact f.2⟩

theorem CellFine.alloc_new (h : Heap) (v : Val) (hv : v.spec? = none) :
    CellFine (h.alloc v).2 h.cells.size :=
  ⟨by rw [Heap.size_alloc]; exact Nat.lt_succ_self _, by rw [Heap.get_alloc_new]; exact hv⟩

theorem contOK_mono {h h' : Heap} {v : Val} (hv : v.contOK h = true) (ha : h.arrs.size ≤ h'.arrs.size)
    (ho : h.objs.size ≤ h'.objs.size) : v.contOK h' = true := by
  cases v <;> simp only [Val.contOK, decide_eq_true_eq] at hv ⊢
  · exact Nat.lt_of_lt_of_le hv ha
  · exact Nat.lt_of_lt_of_le hv ho

theorem PathOK.alloc {s : St} (ok : PathOK s) (v : Val) (hv : v.isCont = false) :
    PathOK { s with heap := (s.heap.alloc v).2 } := by
  have hal := HeapPreserved.alloc s.heap v
  obtain ⟨o1, o2, o3, o4, o5⟩ := ok
  refine ⟨?_, ?_, ?_, ?_, ?_⟩
  · intro c hc
    show ((s.heap.alloc v).2.get c).contOK (s.heap.alloc v).2 = true
    rw [Heap.size_alloc] at hc
    by_cases hlt : c < s.heap.cells.size
    · rw [hal.get c hlt]
      exact contOK_mono (o1 c hlt) hal.arrs hal.objs
    · have : c = s.heap.cells.size := Nat.le_antisymm (Nat.le_of_lt_succ hc) (Nat.le_of_not_lt hlt)
      subst this
      rw [Heap.get_alloc_new]
      cases v <;> first | rfl | cases hv
  · intro a ha c hc
    exact (o2 a ha c hc).lift hal
  · intro o ho kc hkc
    exact (o3 o ho kc hkc).lift hal
  · intro f hf kc hkc
    exact (o4 f hf kc hkc).lift hal
  · intro c hc
    exact (o5 c hc).lift hal

theorem PathOK.newVar {s : St} (ok : PathOK s) (name : Bytes) (f : Frame) (fs : List Frame)
    (hf : s.frames = f :: fs) :
    PathOK { s with heap := (s.heap.alloc .unknown).2,
                    frames := { f with locals := objInsert f.locals name s.heap.cells.size } :: fs } := by
  have ok1 := ok.alloc .unknown rfl
  obtain ⟨o1, o2, o3, o4, o5⟩ := ok1
  refine ⟨o1, o2, o3, ?_, o5⟩
  intro f' hf' kc hkc
  rcases List.mem_cons.mp hf' with e | e
  · subst e
    rcases mem_objInsert hkc with e' | e'
    · exact o4 f (by show f ∈ s.frames; rw [hf]; exact List.mem_cons_self) kc e'
    · rw [e']
      exact CellFine.alloc_new s.heap .unknown rfl
  · exact o4 f' (by show f' ∈ s.frames; rw [hf]; exact List.mem_cons_of_mem _ e) kc hkc

theorem PathOK.found {s : St} (ok : PathOK s) {v kv : Val} {c : CellId}
    (hg : getMember s.heap v kv = .ok (.cell c)) : CellFine s.heap c := by
  rcases getMember_cell_inv _ _ _ _ hg with ⟨a, _, i, _, _, _, hi, rfl⟩ | ⟨o, _, hl⟩
  · exact ok.elem hi
  · exact ok.member hl


/-! ## the first evaluation of a path, described on the heap -/

/-- why the member `kv` of the value in cell `q` was missing: an object does not have the key, an
    array is too short (both allocated) — nothing to say about other values -/
def MissingIn (h : Heap) (q : CellId) (kv : Val) : Prop :=
  (∀ o, h.get q = .obj o → o < h.objs.size ∧ objLookup (h.obj o) kv.str! = none) ∧
  (∀ a, h.get q = .arr a → a < h.arrs.size ∧ ∀ x i, kv = .num x →
    resolveIndex (h.arr a).size x.toGoInt = some i → (h.arr a).size ≤ i)

/-- `PathAt h fs rr x l q`: in the heap `h`, with the variable bindings `fs` and the rule root
    `rr`, the path `l` denotes the cell `q`, level by level: the base is bound; an existing member
    is found (`found`); a missing member is a stand-in cell remembering the cell of the level
    above and the key (`fresh`); a method name / a character of a string is a stand-in of another
    kind (`other`).  No cell a proper prefix denotes is the cell `x` (if given). -/
inductive PathAt (h : Heap) (fs : List Frame) (rr : Option CellId) (x : Option CellId) : Expr → CellId → Prop
  | dollar {t : Token} {q : CellId} (ht : (t.tag == Tag.dollar) = true) (hr : rr = some q)
      (hq : CellFine h q) : PathAt h fs rr x (.ident t) q
  | var {t : Token} {q : CellId} (ht : (t.tag == Tag.dollar) = false)
      (hl : lookupFrames fs t.text = some q) (hq : CellFine h q) : PathAt h fs rr x (.ident t) q
  | found {l : Expr} {t op : Token} {q : CellId} {kv : Val} {q2 : CellId}
      (hp : PathAt h fs rr x l q) (hx : x ≠ some q) (hop : op.tag = .dot ∨ op.tag = .lsquare)
      (hk : litKey t = some kv) (hg : getMember h (h.get q) kv = .ok (.cell q2))
      (hq2 : CellFine h q2) (hnn : ∀ f b sp, h.get q2 ≠ .native f b sp) :
      PathAt h fs rr x (.binary l (.lit t) op) q2
  | fresh {l : Expr} {t op : Token} {q : CellId} {kv : Val} {q2 : CellId} {k : Key}
      (hp : PathAt h fs rr x l q) (hx : x ≠ some q) (hop : op.tag = .dot ∨ op.tag = .lsquare)
      (hk : litKey t = some kv) (hv : h.get q2 = .nil (some ⟨q, k⟩))
      (hkey : k = keyOf kv ∨ ∃ s0 sp0, h.get q = .str s0 sp0)
      (hm : MissingIn h q kv) : PathAt h fs rr x (.binary l (.lit t) op) q2
  | other {l : Expr} {t op : Token} {q : CellId} {kv : Val} {q2 : CellId}
      (hp : PathAt h fs rr x l q) (hx : x ≠ some q) (hop : op.tag = .dot ∨ op.tag = .lsquare)
      (hk : litKey t = some kv)
      (hv : (∃ f b sp, h.get q2 = .native f b (some sp)) ∨ (∃ ch sp, h.get q2 = .str ch (some sp))) :
      PathAt h fs rr x (.binary l (.lit t) op) q2

theorem PathAt.lt {h : Heap} {fs : List Frame} {rr x : Option CellId} {l : Expr} {q : CellId}
    (p : PathAt h fs rr x l q) : q < h.cells.size := by
  cases p with
  | dollar _ _ hq => exact hq.1
  | var _ _ hq => exact hq.1
  | found _ _ _ _ _ hq2 _ => exact hq2.1
  | fresh _ _ _ _ hv _ _ => exact Heap.lt_of_get_ne_unknown _ _ (by rw [hv]; simp)
  | other _ _ _ _ hv =>
    apply Heap.lt_of_get_ne_unknown
    rcases hv with ⟨f, b, sp, e⟩ | ⟨ch, sp, e⟩ <;> rw [e] <;> simp

theorem MissingIn.lift {h h' : Heap} {q : CellId} {kv : Val} (m : MissingIn h q kv)
    (hq : q < h.cells.size) (p : HeapPreserved h h') : MissingIn h' q kv := by
  constructor
  · intro o e
    rw [p.get q hq] at e
    obtain ⟨h1, h2⟩ := m.1 o e
    exact ⟨Nat.lt_of_lt_of_le h1 p.objs, by rw [p.obj o h1]; exact h2⟩
  · intro a e
    rw [p.get q hq] at e
    obtain ⟨h1, h2⟩ := m.2 a e
    exact ⟨Nat.lt_of_lt_of_le h1 p.arrs, by rw [p.arr a h1]; exact h2⟩

theorem getMember_preserved {h h' : Heap} (p : HeapPreserved h h') (v kv : Val)
    (hv : v.contOK h = true) : getMember h' v kv = getMember h v kv := by
  apply getMember_congr
  · intro a e; subst e
    simp only [Val.contOK, decide_eq_true_eq] at hv
    exact p.arr a hv
  · intro o e; subst e
    simp only [Val.contOK, decide_eq_true_eq] at hv
    exact p.obj o hv

theorem PathAt.lift {h : Heap} {fs : List Frame} {rr x : Option CellId} {l : Expr} {q : CellId}
    (pa : PathAt h fs rr x l q) {h' : Heap} {fs' : List Frame} (p : HeapPreserved h h')
    (pf : FramesPreserved fs fs') : PathAt h' fs' rr x l q := by
  induction pa with
  | dollar ht hr hq => exact .dollar ht hr (hq.lift p)
  | var ht hl hq => exact .var ht (pf _ _ hl) (hq.lift p)
  | found hp hx hop hk hg hq2 hnn ih =>
    have hq := hp.lt
    refine .found ih hx hop hk ?_ (hq2.lift p) (by rw [p.get _ hq2.1]; exact hnn)
    rw [p.get _ hq, getMember_preserved p _ _ (getMember_cell_cont _ _ _ _ hg).2]
    exact hg
  | fresh hp hx hop hk hv hkey hm ih =>
    have hq2 := (PathAt.fresh hp hx hop hk hv hkey hm).lt
    exact .fresh ih hx hop hk (by rw [p.get _ hq2]; exact hv) (by rw [p.get _ hp.lt]; exact hkey)
      (hm.lift hp.lt p)
  | other hp hx hop hk hv ih =>
    have hq2 := (PathAt.other hp hx hop hk hv).lt
    exact .other ih hx hop hk (by rw [p.get _ hq2]; exact hv)

/-- the cells the proper prefixes of a path evaluate to (the path evaluated with fuel `n`) -/
def pathCells (prog : Program) : Nat → Expr → St → List CellId
  | n + 2, .binary l _ _, s =>
    match evalExpr prog n l s with
    | .ok q _ => q :: pathCells prog n l s
    | _ => []
  | _, _, _ => []

theorem evalExpr_ident_cases (prog : Program) (n : Nat) (t : Token) (s : St) (q : CellId) (s1 : St)
    (h : evalExpr prog n (.ident t) s = .ok q s1) :
    ((t.tag == Tag.dollar) = true ∧ s.ruleRoot = some q ∧ s1 = s) ∨
    ((t.tag == Tag.dollar) = false ∧ lookupFrames s.frames t.text = some q ∧ s1 = s) ∨
    ((t.tag == Tag.dollar) = false ∧ lookupFrames s.frames t.text = none ∧ q = s.heap.cells.size ∧
      ∃ f fs, s.frames = f :: fs ∧
        s1 = { s with heap := (s.heap.alloc .unknown).2,
                      frames := { f with locals := objInsert f.locals t.text s.heap.cells.size } :: fs }) := by
  cases n with
  | zero => unfold evalExpr at h; cases h
  | succ n =>
    unfold evalExpr at h
    dsimp only at h
    unfold getIdentifier at h
    by_cases hd : (t.tag == Tag.dollar) = true
    · simp only [hd, ↓reduceIte, bind, EM.bind, Jqawk.getSt] at h
      cases hr : s.ruleRoot with
      | none => rw [hr] at h; simp [Jqawk.throwRt] at h
      | some c =>
        rw [hr] at h
        simp only [pure, EM.pure, Res.ok.injEq] at h
        obtain ⟨rfl, rfl⟩ := h
        exact .inl ⟨hd, rfl, rfl⟩
    · have hd' : (t.tag == Tag.dollar) = false := by simpa using hd
      simp only [hd', Bool.false_eq_true, ↓reduceIte] at h
      right
      cases hl : lookupFrames s.frames t.text with
      | some c =>
        simp only [bind, EM.bind, Jqawk.getVariable, Jqawk.getSt, hl, pure, EM.pure, Res.ok.injEq] at h
        obtain ⟨rfl, rfl⟩ := h
        exact .inl ⟨hd', rfl, rfl⟩
      | none =>
        right
        by_cases hdol : (t.text.head? == some 36) = true
        · simp [bind, EM.bind, Jqawk.getVariable, Jqawk.getSt, hl, pure, EM.pure, hdol, Jqawk.throwRt] at h
        · have hdol' : (t.text.head? == some 36) = false := by simpa using hdol
          simp only [bind, EM.bind, Jqawk.getVariable, Jqawk.getSt, hl, hdol', Bool.false_eq_true, ↓reduceIte,
            Jqawk.newCell, Jqawk.setLocal, Heap.alloc] at h
          cases hf : s.frames with
          | nil => rw [hf] at h; simp at h
          | cons f fs =>
            rw [hf] at h
            simp only [pure, EM.pure, Res.ok.injEq] at h
            obtain ⟨rfl, rfl⟩ := h
            exact ⟨hd', rfl, rfl, f, fs, rfl, rfl⟩

theorem IsKeyVal.shape {kv : Val} (h : IsKeyVal kv) : IsKeyShape kv := by
  rcases h with ⟨s, rfl⟩ | ⟨x, rfl, _⟩
  · exact .inl ⟨s, rfl⟩
  · exact .inr ⟨x, rfl⟩

theorem IsKeyVal.notCont {kv : Val} (h : IsKeyVal kv) : kv.isCont = false := by
  rcases h with ⟨s, rfl⟩ | ⟨x, rfl, _⟩ <;> rfl

/-- **the first evaluation of a path**: it only allocates (and may bind a new variable); the
    state stays well-formed; the result is described by `PathAt` in the final heap; the fuel
    was enough -/
theorem evalPath_trace (prog : Program) (x : Option CellId) : ∀ (n : Nat) (l : Expr) (s : St)
    (q : CellId) (s1 : St), l.isPath = true → evalExpr prog n l s = .ok q s1 → PathOK s →
    (∀ y, x = some y → y ∉ pathCells prog n l s) →
    Rel true s s1 ∧ PathOK s1 ∧ PathAt s1.heap s1.frames s1.ruleRoot x l q ∧ l.pathFuel ≤ n := by
  intro n
  induction n using Nat.strongRecOn with
  | _ n ih =>
  intro l s q s1 hpath hev hok hx
  cases l with
  | ident t =>
    have hn : 1 ≤ n := by
      cases n with
      | zero => unfold evalExpr at hev; cases hev
      | succ m => exact Nat.succ_le_succ (Nat.zero_le _)
    rcases evalExpr_ident_cases prog n t s q s1 hev with
      ⟨hd, hr, rfl⟩ | ⟨hd, hl, rfl⟩ | ⟨hd, hl, rfl, f, fs, hf, rfl⟩
    · exact ⟨Rel.refl true _, hok, .dollar hd hr (hok.2.2.2.2 q hr), hn⟩
    · exact ⟨Rel.refl true _, hok, .var hd hl (hok.local hl), hn⟩
    · refine ⟨⟨HeapPreserved.alloc _ _, ?_, rfl, rfl⟩, hok.newVar t.text f fs hf, .var hd ?_ ?_, hn⟩
      · intro _ name c hc
        show lookupFrames ({ f with locals := objInsert f.locals t.text s.heap.cells.size } :: fs) name = some c
        rw [lookupFrames_setLocal]
        split
        · rename_i e; subst e; rw [hl] at hc; cases hc
        · rw [hf] at hc; exact hc
      · show lookupFrames ({ f with locals := objInsert f.locals t.text s.heap.cells.size } :: fs) t.text = _
        rw [lookupFrames_setLocal]; simp
      · exact CellFine.alloc_new s.heap .unknown rfl
  | binary l' r op =>
    cases r with
    | lit t =>
      simp only [Expr.isPath, Bool.and_eq_true, Bool.or_eq_true, beq_iff_eq] at hpath
      obtain ⟨⟨hop, hkey⟩, hl'⟩ := hpath
      obtain ⟨kv, hkv⟩ := Option.isSome_iff_exists.mp hkey
      have hkval := litKey_isKeyVal hkv
      cases n with
      | zero => unfold evalExpr at hev; cases hev
      | succ n1 =>
      cases n1 with
      | zero => unfold evalExpr at hev; dsimp only at hev; unfold evalBinary at hev; cases hev
      | succ m =>
      rw [evalExpr_member_eq prog m l' t op s hop] at hev
      simp only [bind, EM.bind] at hev
      cases h1 : evalExpr prog m l' s with
      | oof => rw [h1] at hev; cases hev
      | err e sE => rw [h1] at hev; cases hev
      | ok q0 sA =>
        rw [h1] at hev
        dsimp only at hev
        have hxs : pathCells prog (m + 2) (.binary l' (.lit t) op) s = q0 :: pathCells prog m l' s := by
          simp only [pathCells, h1]
        obtain ⟨rA, okA, pA, fuelA⟩ := ih m (by omega) l' s q0 sA hl' h1 hok
          (fun y hy hmem => hx y hy (by rw [hxs]; exact List.mem_cons_of_mem _ hmem))
        have hxq : x ≠ some q0 := fun e => hx q0 e (by rw [hxs]; exact List.mem_cons_self)
        cases m with
        | zero => unfold evalExpr at h1; cases h1
        | succ m' =>
        rw [evalExpr_lit_litKey prog m' t kv sA hkv, newCell_eq] at hev
        dsimp only at hev
        rw [memberStep_eq] at hev
        have hB : ({ sA with heap := (sA.heap.alloc kv).2 } : St).heap.get sA.heap.cells.size = kv :=
          Heap.get_alloc_new _ _
        rw [hB] at hev
        have okB : PathOK { sA with heap := (sA.heap.alloc kv).2 } := okA.alloc kv hkval.notCont
        have halB : HeapPreserved sA.heap (sA.heap.alloc kv).2 := HeapPreserved.alloc _ _
        have hq0 : q0 < sA.heap.cells.size := pA.lt
        have hgetq0 : (sA.heap.alloc kv).2.get q0 = sA.heap.get q0 := halB.get q0 hq0
        have pB : PathAt (sA.heap.alloc kv).2 sA.frames sA.ruleRoot x l' q0 := pA.lift halB (fun _ _ h => h)
        have relB : Rel true s { sA with heap := (sA.heap.alloc kv).2 } := rA.trans (Rel.heapOnly sA _ halB)
        have hfuel : (Expr.binary l' (.lit t) op).pathFuel ≤ m' + 1 + 2 := by
          simp only [Expr.pathFuel]; omega
        have freshCase : ∀ v : Val, v.isCont = false →
            (PathAt ((sA.heap.alloc kv).2.alloc v).2 sA.frames sA.ruleRoot x l' q0 →
              PathAt ((sA.heap.alloc kv).2.alloc v).2 sA.frames sA.ruleRoot x (.binary l' (.lit t) op)
                (sA.heap.alloc kv).2.cells.size) →
            Rel true s { sA with heap := ((sA.heap.alloc kv).2.alloc v).2 } ∧
            PathOK { sA with heap := ((sA.heap.alloc kv).2.alloc v).2 } ∧
            PathAt ((sA.heap.alloc kv).2.alloc v).2 sA.frames sA.ruleRoot x (.binary l' (.lit t) op)
              (sA.heap.alloc kv).2.cells.size ∧
            (Expr.binary l' (.lit t) op).pathFuel ≤ m' + 1 + 2 := by
          intro v hv hmk
          have hal2 := HeapPreserved.alloc (sA.heap.alloc kv).2 v
          exact ⟨relB.trans (Rel.heapOnly _ _ hal2), okB.alloc v hv, hmk (pB.lift hal2 (fun _ _ h => h)), hfuel⟩
        by_cases hu : (sA.heap.alloc kv).2.get q0 = .unknown
        · rw [if_pos hu, newCell_eq] at hev
          simp only [Res.ok.injEq] at hev
          obtain ⟨rfl, rfl⟩ := hev
          refine freshCase _ rfl (fun pC => .fresh pC hxq hop hkv (Heap.get_alloc_new _ _)
            (.inl rfl) ?_)
          have hu2 : ((sA.heap.alloc kv).2.alloc (.nil (some ⟨q0, keyOf kv⟩))).2.get q0 = .unknown := by
            rw [Heap.get_alloc_old _ _ _ (Nat.lt_of_lt_of_le hq0 halB.cells)]; exact hu
          exact ⟨(fun o e => by rw [hu2] at e; cases e), (fun a e => by rw [hu2] at e; cases e)⟩
        · rw [if_neg hu] at hev
          rcases memberRead_cases _ _ _ _ _ _ hkval.shape hev with ⟨hg, hnn, rfl⟩ | ⟨v, rfl, rfl, hv⟩
          · exact ⟨relB, okB, .found pB hxq hop hkv hg (okB.found hg) hnn, hfuel⟩
          · rcases hv with ⟨k0, rfl, hk0, hmr⟩ | ⟨f, b, sp, rfl⟩ | ⟨ch, sp, rfl⟩
            · have hq0B' : q0 < (sA.heap.alloc kv).2.cells.size := Nat.lt_of_lt_of_le hq0 halB.cells
              refine freshCase _ rfl (fun pC => .fresh pC hxq hop hkv (Heap.get_alloc_new _ _)
                (by rw [Heap.get_alloc_old _ _ _ hq0B']; exact hk0) ?_)
              have hq0B : q0 < (sA.heap.alloc kv).2.cells.size := Nat.lt_of_lt_of_le hq0 halB.cells
              have hcont := okB.1 q0 hq0B
              have hal2 := HeapPreserved.alloc (sA.heap.alloc kv).2 (.nil (some ⟨q0, k0⟩))
              have hm0 : MissingIn (sA.heap.alloc kv).2 q0 kv := by
                constructor
                · intro o e
                  change ((sA.heap.alloc kv).2.get q0).contOK (sA.heap.alloc kv).2 = true at hcont
                  rw [e] at hcont
                  exact ⟨by simpa [Val.contOK] using hcont, hmr.1 o e⟩
                · intro a e
                  change ((sA.heap.alloc kv).2.get q0).contOK (sA.heap.alloc kv).2 = true at hcont
                  rw [e] at hcont
                  exact ⟨by simpa [Val.contOK] using hcont, hmr.2 a e⟩
              exact hm0.lift hq0B hal2
            · exact freshCase _ rfl (fun pC => .other pC hxq hop hkv
                (.inl ⟨f, b, sp, Heap.get_alloc_new _ _⟩))
            · exact freshCase _ rfl (fun pC => .other pC hxq hop hkv
                (.inr ⟨ch, sp, Heap.get_alloc_new _ _⟩))
    | _ => simp [Expr.isPath] at hpath
  | _ => simp [Expr.isPath] at hpath


/-! ## the re-evaluation of the path after the store -/

theorem memberRead_found (pos : Nat) (left : CellId) (kv : Val) (s : St) (c0 : CellId)
    (hg : getMember s.heap (s.heap.get left) kv = .ok (.cell c0))
    (hnn : ∀ f b sp, s.heap.get c0 ≠ .native f b sp) : memberRead pos left kv s = .ok c0 s := by
  unfold memberRead
  simp only [bind, EM.bind, readCell, getHeap, hg]
  cases hv : s.heap.get c0 with
  | native f b sp => exact absurd hv (hnn f b sp)
  | _ => rfl

theorem pathFuel_pos (l : Expr) : 1 ≤ l.pathFuel := by
  cases l <;> simp [Expr.pathFuel]

theorem isCont_not_native {v : Val} (h : v.isCont = true) : ∀ f b sp, v ≠ .native f b sp := by
  intro f b sp e; subst e; cases h

theorem isCont_ne_unknown {v : Val} (h : v.isCont = true) : v ≠ .unknown := by
  intro e; subst e; cases h

theorem evalMember_forward (prog : Program) (m : Nat) (l : Expr) (t op : Token) (kv : Val) (s sA : St)
    (q' np : CellId) (hop : op.tag = .dot ∨ op.tag = .lsquare) (hk : litKey t = some kv)
    (h1 : evalExpr prog (m + 1) l s = .ok q' sA) (hq' : q' < sA.heap.cells.size)
    (hnp : np < sA.heap.cells.size)
    (hcont : (sA.heap.get q').isCont = true)
    (hg : getMember sA.heap (sA.heap.get q') kv = .ok (.cell np))
    (hnn : ∀ f b sp, sA.heap.get np ≠ .native f b sp) :
    evalExpr prog (m + 1 + 2) (.binary l (.lit t) op) s =
      .ok np { sA with heap := (sA.heap.alloc kv).2 } := by
  rw [evalExpr_member_eq prog (m + 1) l t op s hop]
  simp only [bind, EM.bind, h1]
  rw [evalExpr_lit_litKey prog m t kv sA hk, newCell_eq]
  dsimp only
  rw [memberStep_eq]
  have hal := HeapPreserved.alloc sA.heap kv
  have e1 : (sA.heap.alloc kv).2.get q' = sA.heap.get q' := hal.get q' hq'
  have e2 : (sA.heap.alloc kv).2.get sA.heap.cells.size = kv := Heap.get_alloc_new _ _
  have hne : ({ sA with heap := (sA.heap.alloc kv).2 } : St).heap.get q' ≠ .unknown := by
    show (sA.heap.alloc kv).2.get q' ≠ _
    rw [e1]; exact isCont_ne_unknown hcont
  rw [if_neg hne]
  show memberRead _ q' ((sA.heap.alloc kv).2.get sA.heap.cells.size) _ = _
  rw [e2]
  apply memberRead_found
  · show getMember (sA.heap.alloc kv).2 ((sA.heap.alloc kv).2.get q') kv = _
    rw [e1, getMember_preserved hal _ _ (getMember_cell_cont _ _ _ _ hg).2]
    exact hg
  · show ∀ f b sp, (sA.heap.alloc kv).2.get np ≠ _
    rw [hal.get np hnp]; exact hnn

theorem Eff.not_S {H H' : Heap} {lc c : CellId} {S : CellId → Prop} (eff : Eff H H' lc c S) {q : CellId}
    (hq : CellFine H q) : ¬ S q := by
  intro hs
  obtain ⟨sp, e⟩ := eff.spec _ hs
  have := hq.2
  rw [e] at this; cases this

/-- **the re-evaluation**: in any state `t` that extends the heap `H'` after the store (same
    bindings, same `$`), every prefix of the path evaluates again — to a cell that holds, in
    `H'`, what the cell of the first evaluation holds in `H'` (the same cell for levels that
    existed; the new member cell for levels that were missing), and the whole path to `c` -/
theorem reeval (prog : Program) (H H' : Heap) (lc c : CellId) (S : CellId → Prop)
    (eff : Eff H H' lc c S) (fs : List Frame) (rr x : Option CellId) (hxlc : ¬ S lc → x = some lc) :
    ∀ (l : Expr) (q : CellId), PathAt H fs rr x l q → (S q ∨ (H.get q).spec? = none) →
    ∀ (n : Nat) (t : St), l.pathFuel ≤ n → HeapPreserved H' t.heap → FramesPreserved fs t.frames →
      t.ruleRoot = rr →
      ∃ q' t', evalExpr prog n l t = .ok q' t' ∧ HeapPreserved t.heap t'.heap ∧ t'.frames = t.frames ∧
        t'.ruleRoot = t.ruleRoot ∧ q' < H'.cells.size ∧ (q ≠ lc → H'.get q' = H'.get q) ∧
        (q = lc → q' = c) := by
  intro l q pa
  induction pa with
  | dollar ht hr hq =>
    rename_i t0 q0
    intro hS n t hn hp hf hrr
    obtain ⟨n', rfl⟩ : ∃ n', n = n' + 1 := ⟨n - 1, by simp only [Expr.pathFuel] at hn; omega⟩
    refine ⟨q0, t, evalExpr_ident_dollar prog n' t0 t q0 ht (by rw [hrr, hr]), HeapPreserved.refl _, rfl, rfl,
      Nat.lt_of_lt_of_le hq.1 eff.cells, fun _ => rfl, fun e => by subst e; exact (eff.plain (eff.not_S hq)).symm⟩
  | var ht hl hq =>
    rename_i t0 q0
    intro hS n t hn hp hf hrr
    obtain ⟨n', rfl⟩ : ∃ n', n = n' + 1 := ⟨n - 1, by simp only [Expr.pathFuel] at hn; omega⟩
    refine ⟨q0, t, evalExpr_ident_bound prog n' t0 t q0 ht (hf _ _ hl), HeapPreserved.refl _, rfl, rfl,
      Nat.lt_of_lt_of_le hq.1 eff.cells, fun _ => rfl, fun e => by subst e; exact (eff.plain (eff.not_S hq)).symm⟩
  | found hp0 hx hop hk hg hq2 hnn ih =>
    rename_i l0 t0 op0 q0 kv q2
    intro hS n t hn hp hf hrr
    have hkval := litKey_isKeyVal hk
    obtain ⟨vc1, vc2⟩ := getMember_cell_cont _ _ _ _ hg
    have hq0lt : q0 < H.cells.size := hp0.lt
    have hq0S : ¬ S q0 := by
      intro hs
      obtain ⟨sp, e⟩ := eff.spec _ hs
      rw [e] at vc1; cases vc1
    have hq0lc : q0 ≠ lc := by
      by_cases hs : S lc
      · intro e; exact hq0S (e ▸ hs)
      · intro e; exact hx (by rw [hxlc hs, e])
    have hq0c : q0 ≠ c := by
      rcases eff.tgt with e | e
      · rw [e]; exact hq0lc
      · exact fun e' => Nat.lt_irrefl _ (Nat.lt_of_lt_of_le (e' ▸ hq0lt) e)
    have hkeep : H'.get q0 = H.get q0 := by
      rcases eff.keep q0 hq0lt hq0S hq0c with e | ⟨e, _⟩
      · exact e
      · rw [e] at vc1; cases vc1
    have hpf := pathFuel_pos l0
    obtain ⟨m, rfl⟩ : ∃ m, n = m + 1 + 2 := ⟨n - 3, by simp only [Expr.pathFuel] at hn; omega⟩
    obtain ⟨q', tA, e1, hpA, hfA, hrA, hq'lt, hsame, _⟩ := ih (.inr (by
      cases hv : H.get q0 <;> rw [hv] at vc1 <;> first | rfl | cases vc1)) (m + 1) t
      (by simp only [Expr.pathFuel] at hn; omega) hp hf hrr
    have hpHA : HeapPreserved H' tA.heap := hp.trans hpA
    have hvA : tA.heap.get q' = H.get q0 := by
      rw [hpHA.get q' hq'lt, hsame hq0lc, hkeep]
    have hq2lt' : q2 < H'.cells.size := Nat.lt_of_lt_of_le hq2.1 eff.cells
    have hq2S : ¬ S q2 := eff.not_S hq2
    have hcontOK' : (H.get q0).contOK H' = true := contOK_mono vc2 eff.arrs eff.objs
    have hfw := evalMember_forward prog m l0 t0 op0 kv t tA q' q2 hop hk e1
      (Nat.lt_of_lt_of_le hq'lt hpHA.cells) (Nat.lt_of_lt_of_le hq2lt' hpHA.cells)
      (by rw [hvA]; exact vc1)
      (by rw [hvA, getMember_preserved hpHA _ _ hcontOK']
          exact getMember_cell_ext eff.ext _ _ _ hkval hg)
      (by
        rw [hpHA.get q2 hq2lt']
        by_cases hc : q2 = c
        · rw [hc]; exact eff.tgtVal
        · rcases eff.keep q2 hq2.1 hq2S hc with e | ⟨_, e⟩
          · rw [e]; exact hnn
          · exact isCont_not_native e)
    refine ⟨q2, _, hfw, hpA.trans (HeapPreserved.alloc _ _), hfA, hrA, hq2lt', fun _ => rfl, ?_⟩
    intro e
    subst e
    exact (eff.plain hq2S).symm
  | fresh hp0 hx hop hk hv hkey hm ih =>
    rename_i l0 t0 op0 q0 kv q2 k0
    intro hS n t hn hp hf hrr
    have hkval := litKey_isKeyVal hk
    have hS2 : S q2 := by
      rcases hS with h | h
      · exact h
      · rw [hv] at h; cases h
    obtain ⟨hSq0, hq0lc, np, hnplt, hgnp, hnp1, hnp2⟩ := eff.link q2 hS2 q0 k0 hv
    -- a string base cannot have received a member: the stand-in key is the literal key
    have hk0 : k0 = keyOf kv := by
      rcases hkey with e | ⟨s0, sp0, e⟩
      · exact e
      · exfalso
        have hq0lt : q0 < H.cells.size := hp0.lt
        have hnS : ¬ S q0 := by
          intro hs
          obtain ⟨sp, e'⟩ := eff.spec q0 hs
          rw [e] at e'; cases e'
        have hq0c : q0 ≠ c := by
          intro ec
          rcases eff.tgt with e' | e'
          · exact hq0lc (ec.trans e')
          · rw [← ec] at e'; exact absurd hq0lt (Nat.not_lt.mpr e')
        have hcont := (getMember_cell_cont _ _ _ _ hgnp).1
        rcases eff.keep q0 hq0lt hnS hq0c with e' | ⟨e', _⟩
        · rw [e', e] at hcont; cases hcont
        · rw [e] at e'; cases e'
    subst hk0
    rw [keyOf_val hkval] at hgnp
    obtain ⟨vc1, vc2⟩ := getMember_cell_cont _ _ _ _ hgnp
    have hpf := pathFuel_pos l0
    obtain ⟨m, rfl⟩ : ∃ m, n = m + 1 + 2 := ⟨n - 3, by simp only [Expr.pathFuel] at hn; omega⟩
    obtain ⟨q', tA, e1, hpA, hfA, hrA, hq'lt, hsame, _⟩ := ih hSq0 (m + 1) t
      (by simp only [Expr.pathFuel] at hn; omega) hp hf hrr
    have hpHA : HeapPreserved H' tA.heap := hp.trans hpA
    have hvA : tA.heap.get q' = H'.get q0 := by
      rw [hpHA.get q' hq'lt, hsame hq0lc]
    have hfw := evalMember_forward prog m l0 t0 op0 kv t tA q' np hop hk e1
      (Nat.lt_of_lt_of_le hq'lt hpHA.cells) (Nat.lt_of_lt_of_le hnplt hpHA.cells)
      (by rw [hvA]; exact vc1)
      (by rw [hvA, getMember_preserved hpHA _ _ vc2]; exact hgnp)
      (by
        rw [hpHA.get np hnplt]
        by_cases hc : q2 = lc
        · rw [hnp1 hc]; exact eff.tgtVal
        · rw [(hnp2 hc).1]; exact isCont_not_native (hnp2 hc).2)
    exact ⟨np, _, hfw, hpA.trans (HeapPreserved.alloc _ _), hfA, hrA, hnplt,
      fun hne => (hnp2 hne).1, hnp1⟩
  | other hp0 hx hop hk hv ih =>
    rename_i l0 t0 op0 q0 kv q2
    intro hS
    exfalso
    rcases hS with h | h
    · obtain ⟨sp, e⟩ := eff.spec _ h
      rcases hv with ⟨f, b, sp', e'⟩ | ⟨ch, sp', e'⟩ <;> rw [e] at e' <;> cases e'
    · rcases hv with ⟨f, b, sp', e'⟩ | ⟨ch, sp', e'⟩ <;> rw [e'] at h <;> cases h


/-! ## assembling: read-after-write for paths -/

theorem keyOf_num {kv : Val} {x : F64} (h : keyOf kv = .num x) : kv = .num x := by
  cases kv <;> simp only [keyOf, Key.num.injEq, reduceCtorEq] at h
  rw [h]

theorem PathAt.chainW {h : Heap} {fs : List Frame} {rr x : Option CellId} {l : Expr} {q : CellId}
    (pa : PathAt h fs rr x l q) : ∀ sp, h.get q = .nil (some sp) → ∃ b cs, ChainW h b (h.get q) cs := by
  induction pa with
  | dollar ht hr hq => intro sp e; have := hq.2; rw [e] at this; cases this
  | var ht hl hq => intro sp e; have := hq.2; rw [e] at this; cases this
  | found hp hx hop hk hg hq2 hnn ih => intro sp e; have := hq2.2; rw [e] at this; cases this
  | fresh hp hx hop hk hv hkey hm ih =>
    rename_i l0 t0 op0 q0 kv q2 k0
    intro sp _
    have hkval := litKey_isKeyVal hk
    have hspec : (h.get q2).spec? = some ⟨q0, k0⟩ := by rw [hv]; rfl
    by_cases hst : ∃ sp', h.get q0 = .nil (some sp')
    · obtain ⟨sp', e'⟩ := hst
      obtain ⟨b, cs, hc⟩ := ih sp' e'
      exact ⟨b, q0 :: cs, .step hspec e' hc⟩
    · refine ⟨q0, [], .base hspec hp.lt (fun sp' e' => hst ⟨sp', e'⟩) ?_ ?_⟩
      · intro a e
        have hk0 : k0 = keyOf kv := by
          rcases hkey with e' | ⟨s0, sp0, e'⟩
          · exact e'
          · rw [e] at e'; cases e'
        subst hk0
        obtain ⟨h1, h2⟩ := hm.2 a e
        exact ⟨h1, fun y i ey => h2 y i (keyOf_num ey)⟩
      · intro o e
        have hk0 : k0 = keyOf kv := by
          rcases hkey with e' | ⟨s0, sp0, e'⟩
          · exact e'
          · rw [e] at e'; cases e'
        subst hk0
        rw [keyOf_val hkval]
        exact hm.1 o e
  | other hp hx hop hk hv ih =>
    intro sp e
    rcases hv with ⟨f, b, sp', e'⟩ | ⟨ch, sp', e'⟩ <;> rw [e] at e' <;> cases e'

theorem PathOK.objsInRange {s : St} (ok : PathOK s) : ObjsInRange s.heap :=
  fun _ _ _ hl => (ok.member hl).1

/-- **read-after-write for paths** (any depth, any mix of existing and missing levels).
    `l` a path, `r` read-only, the state well-formed (`PathOK`), `l = r` succeeded and returned
    the cell `c`.  Excluded: a target that is a method name or a character of a string
    (`hkind`); a target cell that exists already and is also the cell of a proper prefix of the
    path (`hna`: a cyclic structure, `o.self.self = 5` where `o.self` is `o`).
    Then evaluating `l` again, in the state after the assignment and with the same fuel, yields
    the same cell `c`, changing nothing; `c` holds a copy (never a method, never a stand-in); it
    is the copy of the value `r` evaluated to — provided the target existed, or that value was
    not unset and not itself a stand-in, or the cell `r` evaluated to was allocated by the
    evaluation of `r` (else see the examples in Props/C09). -/
theorem assign_path_readback (prog : Program) (k : Bool) (n : Nat) (l r : Expr) (op : Token)
    (s s1 s2 s' : St) (lc rc c : CellId)
    (hk : k = true → prog.FnsRO) (hl : l.isPath = true) (hr : Expr.readOnly k r = true)
    (hop : op.tag = .equal) (hok : PathOK s)
    (h1 : evalExpr prog n l s = .ok lc s1) (h2 : evalExpr prog n r s1 = .ok rc s2)
    (hev : evalExpr prog (n + 2) (.binary l r op) s = .ok c s')
    (hkind : (∀ f b sp, s2.heap.get lc ≠ .native f b (some sp)) ∧ (∀ ch sp, s2.heap.get lc ≠ .str ch (some sp)))
    (hna : (s2.heap.get lc).spec? = none → lc ∉ pathCells prog n l s) :
    ∃ s'', evalExpr prog n l s' = .ok c s'' ∧ HeapPreserved s'.heap s''.heap ∧
      s''.frames = s'.frames ∧ s''.ruleRoot = s'.ruleRoot ∧
      (∀ f b sp, s'.heap.get c ≠ .native f b sp) ∧
      (((s2.heap.get lc).spec? = none ∨
          (s2.heap.get rc ≠ .unknown ∧ ∀ sp, s2.heap.get rc ≠ .nil (some sp)) ∨
          (s1.heap.cells.size ≤ rc ∧ rc < s2.heap.cells.size)) →
        copyVal (s2.heap.get rc) = .ok (s'.heap.get c)) := by
  rw [assign_unfold prog n l r op s s1 s2 lc rc hop h1 h2] at hev
  obtain ⟨_, ok1, pa1, hfuel⟩ := evalPath_trace prog
    (if (s2.heap.get lc).spec? = none then some lc else none) n l s lc s1 hl h1 hok (by
      intro y hy
      split at hy
      · rename_i hsn; cases hy; exact hna hsn
      · cases hy)
  obtain ⟨rel2, _⟩ := readonly_ok prog k n r s1 s2 rc hk (fun _ => ok1.objsInRange) hr h2
  have pa2 := pa1.lift rel2.heap (rel2.frames rfl)
  rw [← rel2.ruleRoot] at pa2
  have hlclt : lc < s2.heap.cells.size := pa2.lt
  by_cases hsn : (s2.heap.get lc).spec? = none
  · -- the target exists
    rw [if_pos hsn] at pa2
    obtain ⟨w, hw, _, hs', hgw, eff⟩ := evalAssignment_plain_eff _ lc rc s2 s' c
      (spec_none_speculative hsn) hlclt hev
    subst hs'
    obtain ⟨q', t', e1, hp, hf, hrr, _, _, hq'⟩ := reeval prog _ _ lc c _ eff s2.frames s2.ruleRoot
      (some lc) (fun _ => rfl) l lc pa2 (.inr hsn) n { s2 with heap := s2.heap.set lc w } hfuel
      (HeapPreserved.refl _) (fun _ _ h => h) rfl
    rw [hq' rfl] at e1
    exact ⟨t', e1, hp, hf, hrr, eff.tgtVal, fun _ => by rw [hgw]; exact hw⟩
  · -- the target is a stand-in
    rw [if_neg hsn] at pa2
    obtain ⟨sp, hsp⟩ : ∃ sp, s2.heap.get lc = .nil (some sp) := by
      cases hv : s2.heap.get lc with
      | nil o =>
        cases o with
        | none => rw [hv] at hsn; exact absurd rfl hsn
        | some sp => exact ⟨sp, rfl⟩
      | native f b o =>
        cases o with
        | none => rw [hv] at hsn; exact absurd rfl hsn
        | some sp => exact absurd hv (hkind.1 f b sp)
      | str ch o =>
        cases o with
        | none => rw [hv] at hsn; exact absurd rfl hsn
        | some sp => exact absurd hv (hkind.2 ch sp)
      | _ => rw [hv] at hsn; exact absurd rfl hsn
    have hlc1 : lc < s1.heap.cells.size := pa1.lt
    have e12 : s2.heap.get lc = s1.heap.get lc := rel2.heap.get lc hlc1
    obtain ⟨b, cs, hc1⟩ := pa1.chainW sp (by rw [← e12]; exact hsp)
    have hc : ChainW s2.heap b (s2.heap.get lc) cs := by rw [e12]; exact hc1.lift rel2.heap
    obtain ⟨h3, w, L, fr, hw, rfl, hgw, eff⟩ := evalAssignment_chain_eff _ lc rc b cs sp s2 s' c hsp hc hev
    obtain ⟨q', t', e1, hp, hf, hrr, _, _, hq'⟩ := reeval prog _ _ lc c _ eff s2.frames s2.ruleRoot
      none (fun hn => (hn (.inl rfl)).elim) l lc pa2 (.inl (.inl rfl)) n { s2 with heap := h3.set c w } hfuel
      (HeapPreserved.refl _) (fun _ _ h => h) rfl
    rw [hq' rfl] at e1
    refine ⟨t', e1, hp, hf, hrr, eff.tgtVal, fun hcond => ?_⟩
    have : h3.get rc = s2.heap.get rc := by
      rcases hcond with hsn' | ⟨hu, hns⟩ | ⟨hge, hrclt⟩
      · exact absurd hsn' hsn
      · have hrclt : rc < s2.heap.cells.size := Heap.lt_of_get_ne_unknown _ _ hu
        apply fr.get rc hrclt
        rintro (e | e | ⟨e0, e⟩)
        · rw [e, hsp] at hns; exact hns sp rfl
        · obtain ⟨sp', e'⟩ := hc.mem_nil rc e
          exact hns sp' e'
        · rw [e0] at hu; exact hu e
      · apply fr.get rc hrclt
        rintro (e | e | ⟨e0, _⟩)
        · exact Nat.lt_irrefl _ (Nat.lt_of_lt_of_le (e ▸ hlc1) hge)
        · obtain ⟨sp', e'⟩ := hc1.mem_nil rc e
          have : rc < s1.heap.cells.size := Heap.lt_of_get_ne_unknown _ _ (by rw [e']; simp)
          exact Nat.lt_irrefl _ (Nat.lt_of_lt_of_le this hge)
        · exact Nat.lt_irrefl _ (Nat.lt_of_lt_of_le (e0 ▸ hc1.base_lt) hge)
    rw [hgw, ← this]; exact hw

/-- the stand-in of a method name (`o.length`) or of a character of a string (`s[0]`) -/
def Val.methodOrChar : Val → Bool
  | .native _ _ (some _) => true
  | .str _ (some _) => true
  | _ => false

theorem methodOrChar_false {v : Val} (h : v.methodOrChar = false) :
    (∀ f b sp, v ≠ .native f b (some sp)) ∧ (∀ ch sp, v ≠ .str ch (some sp)) := by
  constructor
  · intro f b sp e; subst e; cases h
  · intro ch sp e; subst e; cases h

theorem assign_ok_decompose (prog : Program) (n : Nat) (l r : Expr) (op : Token) (s s' : St) (c : CellId)
    (hop : op.tag = .equal) (hev : evalExpr prog (n + 2) (.binary l r op) s = .ok c s') :
    ∃ lc s1 rc s2, evalExpr prog n l s = .ok lc s1 ∧ evalExpr prog n r s1 = .ok rc s2 := by
  conv at hev => lhs; unfold evalExpr
  dsimp only at hev
  conv at hev => lhs; unfold evalBinary
  simp only [bind, EM.bind, hop] at hev
  cases h1 : evalExpr prog n l s with
  | oof => rw [h1] at hev; cases hev
  | err e s1 => rw [h1] at hev; cases hev
  | ok lc s1 =>
    rw [h1] at hev
    dsimp only at hev
    cases h2 : evalExpr prog n r s1 with
    | oof => rw [h2] at hev; cases hev
    | err e s2 => rw [h2] at hev; cases hev
    | ok rc s2 => exact ⟨lc, s1, rc, s2, rfl, h2⟩


theorem isPath_readOnly (k : Bool) : ∀ (l : Expr), l.isPath = true → Expr.readOnly k l = true
  | .ident _, _ => by simp [Expr.readOnly]
  | .binary l r op, h => by
    cases r with
    | lit t =>
      simp only [Expr.isPath, Bool.and_eq_true, Bool.or_eq_true, beq_iff_eq] at h
      have ih := isPath_readOnly k l h.2
      have hne : (op.tag == Tag.equal) = false := by rcases h.1.1 with e | e <;> rw [e] <;> rfl
      simp [Expr.readOnly, ih, hne]
    | _ => simp [Expr.isPath] at h
  | .lit _, h => by simp [Expr.isPath] at h
  | .arr _ _, h => by simp [Expr.isPath] at h
  | .obj _ _, h => by simp [Expr.isPath] at h
  | .unary _ _ _, h => by simp [Expr.isPath] at h
  | .call _ _, h => by simp [Expr.isPath] at h
  | .match_ _ _ _, h => by simp [Expr.isPath] at h

end Jqawk
