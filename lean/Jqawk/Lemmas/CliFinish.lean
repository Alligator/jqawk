/-
  `Cli.finish` reads of the interpreter's run only the class of its outcome, its output and —
  after success — the JSON of the root: two runs that agree on these finish alike (C14).
-/
import Jqawk.Model.Cli
import Jqawk.Lemmas.SelectorRun

namespace Jqawk.Cli
open Jqawk Sel

theorem finish_congr (fs : List Entry) (o : Opts) (n : Nat) {rA rB : RunResult} {sel src : Bytes}
    (h1 : OutcomeRel sel src rA.outcome rB.outcome) (h2 : rA.out = rB.out)
    (h3 : rA.outcome = .ok → rA.st.bind getRootJson = rB.st.bind getRootJson) :
    finish fs o n rA = finish fs o n rB := by
  unfold finish
  cases hoA : rA.outcome <;> cases hoB : rB.outcome <;> rw [hoA, hoB] at h1 <;>
    first
      | exact h1.elim
      | (simp only [h2]; done)
      | (simp only [h2, h3 hoA]; done)
      | rfl

end Jqawk.Cli
