/-
  Fuel monotonicity of the evaluator (C07 infrastructure): more fuel never changes a result
  that was not "out of fuel".  Order on computations: `m ⊑ m'` iff from every state `m` either
  runs out of fuel or ends exactly like `m'`.  `allMono`: every evaluator function at fuel `n`
  is `⊑` itself at fuel `n + 1`; hence the fuel-free reading "the result at any sufficient
  fuel" is well defined (`evalStmt_le` in `Lemmas/LoopsEval.lean`, with `EMLe.eq_of_ne_oof`).
-/
import Jqawk.Lemmas.EvalRuleAttr
import Jqawk.Lemmas.EvalNodes

set_option linter.unusedVariables false

namespace Jqawk

def EMLe {α : Type} (m m' : EM α) : Prop := ∀ s, m s = .oof ∨ m s = m' s

namespace EMLe

theorem refl {α : Type} (m : EM α) : EMLe m m := fun _ => .inr rfl

theorem oofL {α : Type} (m : EM α) : EMLe (Jqawk.oof : EM α) m := fun _ => .inl rfl

theorem trans {α : Type} {a b c : EM α} (h1 : EMLe a b) (h2 : EMLe b c) : EMLe a c := by
  intro s
  rcases h1 s with h | h
  · exact .inl h
  · rcases h2 s with h' | h'
    · exact .inl (h.trans h')
    · exact .inr (h.trans h')

theorem bind {α β : Type} {m m' : EM α} {f f' : α → EM β} (hm : EMLe m m')
    (hf : ∀ a, EMLe (f a) (f' a)) : EMLe (m >>= f) (m' >>= f') := by
  intro s
  show EM.bind m f s = .oof ∨ EM.bind m f s = EM.bind m' f' s
  unfold EM.bind
  rcases hm s with h | h
  · left; rw [h]
  · rw [← h]
    cases m s with
    | ok a s1 => exact hf a s1
    | err e s1 => right; rfl
    | oof => left; rfl

theorem withFrames {α : Type} (saved : List Frame) {m m' : EM α} (hm : EMLe m m') :
    EMLe (Jqawk.withFrames saved m) (Jqawk.withFrames saved m') := by
  intro s
  unfold Jqawk.withFrames
  rcases hm s with h | h
  · left; rw [h]
  · right; rw [h]

theorem loopIter {body body' k k' : EM Unit} (hb : EMLe body body') (hk : EMLe k k') :
    EMLe (Jqawk.loopIter body k) (Jqawk.loopIter body' k') := by
  intro s
  unfold Jqawk.loopIter
  rcases hb s with h | h
  · left; rw [h]
  · rw [← h]
    cases body s with
    | ok a s1 => exact hk s1
    | err e s1 =>
      cases e with
      | sig g => cases g <;> first | exact hk s1 | (right; rfl)
      | _ => right; rfl
    | oof => left; rfl

theorem catchReturn {body body' : EM Unit} (hb : EMLe body body') :
    EMLe (Jqawk.catchReturn body) (Jqawk.catchReturn body') := by
  intro s
  unfold Jqawk.catchReturn
  rcases hb s with h | h
  · left; rw [h]
  · right; rw [h]

theorem eq_of_ne_oof {α : Type} {m m' : EM α} (h : EMLe m m') {s : St} (hne : m s ≠ .oof) :
    m' s = m s := by
  rcases h s with h | h
  · exact absurd h hne
  · exact h.symm

end EMLe

/-- one decomposition step for goals `EMLe (…) (…)` whose two sides have the same shape (the
    counterpart of `em_step` for a relation: equal sides are done, the others are taken apart) -/
macro "mono_step" : tactic => `(tactic| with_reducible_and_instances first
  | intro _
  | exact .refl _
  | refine .bind ?_ ?_
  | split
  | refine .withFrames _ ?_
  | refine .catchReturn ?_
  | refine .loopIter ?_ ?_)

structure AllMono (prog : Program) (n : Nat) : Prop where
  expr : ∀ e, EMLe (evalExpr prog n e) (evalExpr prog (n + 1) e)
  objItems : ∀ pos items acc, EMLe (evalObjItems prog n pos items acc) (evalObjItems prog (n + 1) pos items acc)
  exprList : ∀ es c, EMLe (evalExprList prog n es c) (evalExprList prog (n + 1) es c)
  matchCases : ∀ pos v cs, EMLe (evalMatchCases prog n pos v cs) (evalMatchCases prog (n + 1) pos v cs)
  caseMatch : ∀ v ps, EMLe (evalCaseMatch prog n v ps) (evalCaseMatch prog (n + 1) v ps)
  arrayCaseMatch : ∀ v ps, EMLe (evalArrayCaseMatch prog n v ps) (evalArrayCaseMatch prog (n + 1) v ps)
  matchElems : ∀ cs ps acc, EMLe (Jqawk.matchElems prog n cs ps acc) (Jqawk.matchElems prog (n + 1) cs ps acc)
  call : ∀ pos f args, EMLe (callFunction prog n pos f args) (callFunction prog (n + 1) pos f args)
  unary : ∀ e op p, EMLe (evalUnary prog n e op p) (evalUnary prog (n + 1) e op p)
  binary : ∀ l r op, EMLe (evalBinary prog n l r op) (evalBinary prog (n + 1) l r op)
  stmt : ∀ st, EMLe (evalStmt prog n st) (evalStmt prog (n + 1) st)
  block : ∀ sts, EMLe (evalBlock prog n sts) (evalBlock prog (n + 1) sts)
  whileL : ∀ c b, EMLe (whileLoop prog n c b) (whileLoop prog (n + 1) c b)
  forL : ∀ c p b, EMLe (forLoop prog n c p b) (forLoop prog (n + 1) c p b)
  forInL : ∀ l il b items, EMLe (forInLoop prog n l il b items) (forInLoop prog (n + 1) l il b items)

macro "mono_ind" ih:term : tactic => `(tactic| repeat' (first | mono_step | em_ih $ih))

theorem allMono_zero (prog : Program) : AllMono prog 0 := by
  constructor <;> intros <;> unfold_eval <;> exact .oofL _

theorem allMono_succ (prog : Program) (n : Nat) (ih : AllMono prog n) : AllMono prog (n + 1) := by
  constructor
  · intro e
    unfold evalExpr
    cases e <;> dsimp only <;> mono_ind ih
  · intro pos items acc
    cases items with
    | nil => unfold evalObjItems; exact EMLe.refl _
    | cons kv rest => obtain ⟨k, e⟩ := kv; unfold evalObjItems; mono_ind ih
  · intro es c
    cases es with
    | nil => unfold evalExprList; exact EMLe.refl _
    | cons e rest => unfold evalExprList; mono_ind ih
  · intro pos v cs
    cases cs with
    | nil => unfold evalMatchCases; exact EMLe.refl _
    | cons c rest => obtain ⟨pats, body⟩ := c; unfold evalMatchCases; mono_ind ih
  · intro v ps
    cases ps with
    | nil => unfold evalCaseMatch; exact EMLe.refl _
    | cons p rest => unfold evalCaseMatch; cases p <;> dsimp only <;> mono_ind ih
  · intro v ps
    unfold evalArrayCaseMatch; dsimp only; mono_ind ih
  · intro cs ps acc
    cases cs with
    | nil => unfold Jqawk.matchElems; exact EMLe.refl _
    | cons c cs =>
      cases ps with
      | nil => unfold Jqawk.matchElems; exact EMLe.refl _
      | cons p ps => unfold Jqawk.matchElems; mono_ind ih
  · intro pos f args
    unfold callFunction; dsimp only; mono_ind ih
  · intro e op p
    unfold evalUnary; dsimp only; mono_ind ih
  · intro l r op
    unfold evalBinary; mono_ind ih
  · intro st
    unfold evalStmt
    rcases st with _ | _ | _ | ⟨_ | _⟩ | _ | _ | _ | _ | _ | _ | _ | _ <;> dsimp only <;> mono_ind ih
  · intro sts
    cases sts with
    | nil => unfold evalBlock; exact EMLe.refl _
    | cons st rest => unfold evalBlock; mono_ind ih
  · intro c b
    unfold whileLoop; mono_ind ih
  · intro c p b
    unfold forLoop; mono_ind ih
  · intro l il b items
    cases items with
    | nil => unfold forInLoop; exact EMLe.refl _
    | cons it rest =>
      rw [Spec.forInLoop_succ_cons, Spec.forInLoop_succ_cons]
      exact .bind (.refl _) fun _ => .loopIter (ih.stmt _) (ih.forInL _ _ _ _)

/-- **Fuel monotonicity**: every evaluator function at fuel `n` is below itself at `n + 1`. -/
theorem allMono (prog : Program) : ∀ n, AllMono prog n
  | 0 => allMono_zero prog
  | n + 1 => allMono_succ prog n (allMono prog n)

end Jqawk
