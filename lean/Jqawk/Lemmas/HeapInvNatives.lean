/-
  The natives keep the heap invariant (C15).
-/
import Jqawk.Lemmas.HeapInvCore


namespace Jqawk.HeapInv
open Jqawk Jqawk.IndexWrite

theorem Good.run {α : Type} {m : EM α} (g : Good m) (s : St) (i : Inv s.heap) :
    Post (fun _ _ => True) s.heap (m s) := g s i trivial

theorem Good.withHeap {α : Type} {f : Heap → EM α}
    (hf : ∀ s, Inv s.heap → Post (fun _ _ => True) s.heap (f s.heap s)) :
    Good (Jqawk.getHeap >>= f) :=
  fun s i _ => hf s i

theorem inv_allocMany {h : Heap} (i : Inv h) (vs : List Val) : Inv (h.allocMany vs) :=
  ⟨⟨fun a c hc => by
      have : @LT.lt Nat _ c h.cells.size := i.wf.arrs a c hc
      show @LT.lt Nat _ c (h.allocMany vs).cells.size
      rw [Heap.size_allocMany]; omega,
    fun o k c hc => by
      have : @LT.lt Nat _ c h.cells.size := i.wf.objs o k c hc
      show @LT.lt Nat _ c (h.allocMany vs).cells.size
      rw [Heap.size_allocMany]; omega⟩,
   i.un,
   fun a c hc => by
     rw [Heap.get_allocMany_old h vs c (i.wf.arrs a c hc)]; exact i.ep a c hc,
   fun o k c hc => by
     rw [Heap.get_allocMany_old h vs c (i.wf.objs o k c hc)]; exact i.mp o k c hc⟩

theorem trans_allocMany (h : Heap) (vs : List Val) : Trans h (h.allocMany vs) :=
  ⟨by rw [Heap.size_allocMany]; omega,
   fun c hc p => by rw [Heap.get_allocMany_old h vs c hc]; exact p,
   fun b c hc _ => ⟨b, hc⟩⟩

theorem Good.allocCells (vs : List Val) : Good (Jqawk.allocCells vs) := by
  intro s i _
  rw [allocCells_eq]
  exact ⟨inv_allocMany i vs, trans_allocMany _ vs, trivial⟩

theorem fresh_cell (h : Heap) (vs : List Val) (hvs : ∀ v ∈ vs, Plain v) (c : Nat)
    (hc : c ∈ List.range' h.cells.size vs.length) :
    c < (h.allocMany vs).cells.size ∧ Plain ((h.allocMany vs).get c) ∧ h.cells.size ≤ c := by
  obtain ⟨h1, h2⟩ := List.mem_range'_1.mp hc
  refine ⟨by rw [Heap.size_allocMany]; exact h2, ?_, h1⟩
  obtain ⟨j, rfl⟩ := Nat.exists_eq_add_of_le h1
  rw [Heap.get_allocMany_new h vs j (by omega)]
  exact hvs _ (List.getElem_mem _)

theorem Good.newArrayOf (vs : List Val) (hvs : ∀ v ∈ vs, Plain v) : Good (Jqawk.newArrayOf vs) := by
  intro s i _
  rw [newArrayOf_eq]
  have i1 := inv_allocMany i vs
  have t1 := trans_allocMany s.heap vs
  refine ⟨inv_allocArr i1 (List.range' s.heap.cells.size vs.length) List.nodup_range' ?_,
    trans_allocArr t1 _ ?_, trivial⟩
  · intro c hc
    obtain ⟨h1, h2, h3⟩ := fresh_cell s.heap vs hvs c hc
    refine ⟨h1, h2, ?_⟩
    intro b hb
    have : @LT.lt Nat _ c s.heap.cells.size := i.wf.arrs b c hb
    omega
  · intro c hc
    exact (fresh_cell s.heap vs hvs c hc).2.2

theorem get_pushHeap_old (h : Heap) (a : ArrId) (v : Val) (c : Nat) (hc : c < h.cells.size) :
    (pushHeap h a v).get c = h.get c := by
  rw [pushHeap_eq, Heap.get_setArr]; exact Heap.get_push_old h v c hc

theorem setArr_oob (h : Heap) (a : ArrId) (x : Array CellId) (ha : h.arrs.size ≤ a) :
    h.setArr a x = h := by
  have : ¬ a < h.arrs.size := Nat.not_lt.mpr ha
  simp [Heap.setArr, Array.setIfInBounds, this]

theorem pushHeap_oob (h : Heap) (a : ArrId) (v : Val) (ha : h.arrs.size ≤ a) :
    pushHeap h a v = (h.alloc v).2 := by
  rw [pushHeap_eq, setArr_oob ({ h with cells := h.cells.push v }) a _ ha]; rfl

theorem inv_pushHeap {h : Heap} (i : Inv h) (a : ArrId) (v : Val) (hv : Plain v) :
    Inv (pushHeap h a v) := by
  by_cases ha : a < h.arrs.size
  · exact ⟨i.wf.pushHeap a v, unshared_pushHeap h i.wf i.un a ha v,
      elemsPlain_pushHeap h i.wf i.ep a ha v hv,
      fun o k c hc => by
        rw [get_pushHeap_old h a v c (i.wf.objs o k c hc)]; exact i.mp o k c hc⟩
  · rw [pushHeap_oob h a v (Nat.le_of_not_lt ha)]; exact inv_alloc i v

theorem trans_pushHeap (h : Heap) (a : ArrId) (v : Val) : Trans h (pushHeap h a v) := by
  by_cases ha : a < h.arrs.size
  · refine ⟨by simp [pushHeap], fun c hc p => by rw [get_pushHeap_old h a v c hc]; exact p, ?_⟩
    intro b c hc hlt
    by_cases hb : b = a
    · subst hb
      rw [pushHeap_eq, Heap.arr_setArr_same _ _ _ (by simpa using ha)] at hc
      simp only [Array.toList_push, List.mem_append, List.mem_singleton] at hc
      rcases hc with hc | rfl
      · exact ⟨b, hc⟩
      · exact absurd hlt (Nat.lt_irrefl _)
    · rw [pushHeap_eq, Heap.arr_setArr_other _ _ _ _ hb] at hc
      exact ⟨b, hc⟩
  · rw [pushHeap_oob h a v (Nat.le_of_not_lt ha)]; exact trans_alloc h v

theorem Good.pushSeq {α : Type} (a : ArrId) (v : Val) (hv : Plain v) (r : α) :
    Good (do
      let c ← Jqawk.newCell v
      let h ← Jqawk.getHeap
      Jqawk.setHeap (h.setArr a ((h.arr a).push c))
      return r) := by
  intro s i _
  show Post _ _ (Res.ok r { s with heap := pushHeap s.heap a v })
  exact ⟨inv_pushHeap i a v hv, trans_pushHeap _ a v, trivial⟩

theorem plain_getD (args : List Val) (hargs : ∀ v ∈ args, Plain v) (n : Nat) :
    Plain (args.getD n .unknown) := by
  rw [List.getD_eq_getElem?_getD]
  cases h : args[n]? with
  | none => exact plain_unknown
  | some v => exact hargs v (List.mem_of_getElem? h)

theorem inv_setArr_of {h : Heap} (i : Inv h) (a : ArrId) (sub : Array CellId)
    (wf : (h.setArr a sub).WF) (un : a < h.arrs.size → Unshared (h.setArr a sub))
    (ep : a < h.arrs.size → ElemsPlain (h.setArr a sub)) : Inv (h.setArr a sub) := by
  by_cases ha : a < h.arrs.size
  · exact ⟨wf, un ha, ep ha, fun o k c hc => i.mp o k c hc⟩
  · rw [setArr_oob h a sub (Nat.le_of_not_lt ha)]; exact i

theorem trans_setArr_sub (h : Heap) (a : ArrId) (sub : Array CellId)
    (hsub : ∀ c ∈ sub.toList, c ∈ (h.arr a).toList) : Trans h (h.setArr a sub) := by
  refine ⟨Nat.le_refl _, fun _ _ p => p, ?_⟩
  intro b c hc _
  by_cases hb : b = a
  · subst hb
    by_cases ha : b < h.arrs.size
    · rw [Heap.arr_setArr_same h b sub ha] at hc; exact ⟨b, hsub c hc⟩
    · rw [setArr_oob h b sub (Nat.le_of_not_lt ha)] at hc; exact ⟨b, hc⟩
  · rw [Heap.arr_setArr_other h a b sub hb] at hc; exact ⟨b, hc⟩

theorem pop_sub (h : Heap) (a : ArrId) : ∀ c ∈ (h.arr a).pop.toList, c ∈ (h.arr a).toList :=
  fun c hc => by rw [Array.toList_pop] at hc; exact List.dropLast_subset _ hc

theorem popfirst_sub (h : Heap) (a : ArrId) :
    ∀ c ∈ ((h.arr a).extract 1 (h.arr a).size).toList, c ∈ (h.arr a).toList :=
  fun c hc => by
    rw [Array.toList_extract] at hc
    simp only [List.extract] at hc
    exact List.mem_of_mem_drop (List.mem_of_mem_take hc)

theorem Good.callNative_arrPop (args : List Val) (this : Option Val) :
    Good (Jqawk.callNative .arrPop args this) := by
  unfold Jqawk.callNative
  apply Good.withHeap
  intro s i
  dsimp only
  split
  · rename_i a
    cases checkArgCount args 0 <;> dsimp only
    all_goals repeat' split
    all_goals first
      | exact Good.run (Good.pure _) s i
      | (show Post _ _ (Res.ok _ { s with heap := _ })
         exact ⟨inv_setArr_of i a _ (i.wf.pop a) (unshared_pop _ i.un a) (elemsPlain_pop _ i.ep a),
          trans_setArr_sub _ a _ (pop_sub _ a), trivial⟩)
  · exact Good.run (Good.pure _) s i

theorem Good.callNative_arrPopfirst (args : List Val) (this : Option Val) :
    Good (Jqawk.callNative .arrPopfirst args this) := by
  unfold Jqawk.callNative
  apply Good.withHeap
  intro s i
  dsimp only
  split
  · rename_i a
    cases checkArgCount args 0 <;> dsimp only
    all_goals repeat' split
    all_goals first
      | exact Good.run (Good.pure _) s i
      | (show Post _ _ (Res.ok _ { s with heap := _ })
         exact ⟨inv_setArr_of i a _ (i.wf.popfirst a) (unshared_popfirst _ i.un a)
            (elemsPlain_popfirst _ i.ep a),
          trans_setArr_sub _ a _ (popfirst_sub _ a), trivial⟩)
  · exact Good.run (Good.pure _) s i

theorem plain_pluckVal {h : Heap} (i : Inv h) (o : ObjId) (key : Bytes) :
    Plain (pluckVal h (h.obj o) key) := by
  unfold pluckVal
  split
  · rename_i c hc
    exact i.mp o key c (objLookup_mem hc)
  · exact plain_nilNone

theorem Good.callNative_objPluck (args : List Val) (this : Option Val) :
    Good (Jqawk.callNative .objPluck args this) := by
  intro s i _
  rcases this with _ | v
  · exact ⟨i, Trans.refl _, trivial⟩
  · cases v
    case obj o =>
      rw [Jqawk.callNative_objPluck]
      cases hp : pluckCollect s.heap (s.heap.obj o) args [] with
      | error m => exact ⟨i, Trans.refl _, trivial⟩
      | ok kvs =>
        dsimp only
        have hvs : ∀ v ∈ kvs.map (·.2), Plain v := by
          rw [pluckCollect_eq] at hp
          split at hp
          · cases hp
            intro v hv
            simp only [List.reverse_nil, List.nil_append, List.map_map, List.mem_map,
              Function.comp] at hv
            obtain ⟨k, _, rfl⟩ := hv
            exact plain_pluckVal i o _
          · cases hp
        have i1 := inv_allocMany i (kvs.map (·.2))
        have t1 := trans_allocMany s.heap (kvs.map (·.2))
        refine ⟨inv_allocObj i1 _ ?_, t1.trans (trans_allocObj _ _), trivial⟩
        intro kc hkc
        rcases mem_pluckMembers hkc with h | ⟨kc', h1, h2⟩
        · cases h
        · have hm : kc'.2 ∈ List.range' s.heap.cells.size (kvs.map (·.2)).length := by
            obtain ⟨k', c'⟩ := kc'
            simpa using (List.of_mem_zip h1).2
          have := fresh_cell s.heap _ hvs _ hm
          rw [h2]
          exact ⟨this.1, this.2.1⟩
    all_goals exact ⟨i, Trans.refl _, trivial⟩

theorem Good.callNative (f : Native) (args : List Val) (this : Option Val)
    (hargs : ∀ v ∈ args, Plain v) : Good (Jqawk.callNative f args this) := by
  by_cases hf : f = .arrPop ∨ f = .arrPopfirst ∨ f = .objPluck
  · rcases hf with rfl | rfl | rfl
    · exact Good.callNative_arrPop args this
    · exact Good.callNative_arrPopfirst args this
    · exact Good.callNative_objPluck args this
  unfold Jqawk.callNative
  apply Good.bind Good.getHeap
  intro h
  -- `split`, not `cases f`: that would simplify the whole match once more in each of the 18 cases
  split
  -- `h_k`: the k-th alternative of `callNative`'s `match`, in the order of `Native`'s constructors
  case h_6 | h_7 | h_11 => simp at hf -- pop, popfirst, pluck
  case h_5 => -- push
    split
    · split
      · exact Good.pure _
      · exact Good.pushSeq _ _ (plain_getD args hargs 0) _
    · exact Good.pure _
  case h_9 => -- sort
    split
    · rename_i a
      refine Good.bind (Good.newArrayOf _ ?_) (fun _ => Good.pure _)
      have hc : ∀ v ∈ (List.map h.get (h.arr a).toList).map
          (fun v => match copyVal v with | .ok w => w | .error _ => Val.str [] none), Plain v := by
        intro v hv
        obtain ⟨w, _, rfl⟩ := List.mem_map.mp hv
        cases hcv : copyVal w with
        | ok x => exact plain_of_copyVal hcv
        | error m => exact plain_strNone _
      intro v hv
      split at hv
      · exact hc v (List.mem_mergeSort.mp hv)
      · exact hc v (List.mem_mergeSort.mp hv)
    · exact Good.pure _
  case h_13 => -- split
    split
    · split
      · exact Good.pure _
      · refine Good.bind (Good.newArrayOf _ ?_) (fun _ => Good.pure _)
        intro v hv
        obtain ⟨w, _, rfl⟩ := List.mem_map.mp hv
        exact plain_strNone _
    · exact Good.bind (Good.newArrayOf _ (fun _ h => by cases h)) (fun _ => Good.pure _)
  -- the remaining natives compute a scalar (`printf` writes output)
  all_goals repeat' first
    | split
    | exact Good.pure _
    | exact Good.oof
    | exact Good.throwUnmodelled _
    | exact Good.bind (Good.emit _) (fun _ => Good.pure _)

end Jqawk.HeapInv
