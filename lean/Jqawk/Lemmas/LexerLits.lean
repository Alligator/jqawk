/-
  Literals: `Lexer.next` on a text that begins with a digit or a quote, the converse of
  `number_spec`, and the equations of `evalStringLit` (escape processing of string literals).
-/
import Jqawk.Lemmas.Lexer
import Jqawk.Model.Eval

namespace Jqawk

namespace Lexer

theorem next_digit (c : UInt8) (cs : Bytes) (p ts : Nat) (hc : isDigitB c = true) :
    next ⟨c :: cs, p, ts⟩ = .ok (number p (c :: cs)) := by
  have hne : ∀ d : UInt8, isDigitB d = false → (c == d) = false := fun d hd =>
    beq_false_of_ne fun e => by rw [e, hd] at hc; cases hc
  rw [next_eq]
  dsimp only
  rw [skipWs_succ_cons]
  unfold lexAt
  simp only [isBlankB, hne 32 rfl, hne 13 rfl, hne 9 rfl, hne 35 rfl, hne 10 rfl, hne 36 rfl, hc,
    Bool.or_self, Bool.false_eq_true, ↓reduceIte]

theorem number_int (p : Nat) (ds rest : Bytes) (hds : ∀ d ∈ ds, isDigitB d = true)
    (hrest : ∀ d, rest.head? = some d → isDigitB d = false)
    (hnd : ∀ d r, rest = 46 :: d :: r → isDigitB d = false) :
    number p (ds ++ rest) = (⟨.num, p, ds⟩, ⟨rest, p + ds.length, p⟩) := by
  rw [number_eq, spanB_spec isDigitB ds rest hds hrest]
  dsimp only
  split
  · rw [if_neg (by rw [hnd _ _ rfl]; decide)]
  · rfl

theorem number_frac (p : Nat) (ds fs rest : Bytes) (hds : ∀ d ∈ ds, isDigitB d = true)
    (hfs : ∀ d ∈ fs, isDigitB d = true) (hne : fs ≠ [])
    (hrest : ∀ d, rest.head? = some d → isDigitB d = false) :
    number p (ds ++ 46 :: fs ++ rest)
      = (⟨.num, p, ds ++ 46 :: fs⟩, ⟨rest, p + (ds ++ 46 :: fs).length, p⟩) := by
  obtain ⟨f0, fr, rfl⟩ := List.exists_cons_of_ne_nil hne
  rw [number_eq, List.append_assoc, spanB_spec isDigitB ds _ hds (by rintro _ ⟨⟩; rfl)]
  simp only [List.cons_append, hfs f0 List.mem_cons_self, ↓reduceIte]
  rw [← List.cons_append, spanB_spec isDigitB _ rest hfs hrest]

theorem next_quote (q : UInt8) (hq : q = 39 ∨ q = 34) (cs : Bytes) (p ts : Nat) :
    next ⟨q :: cs, p, ts⟩ = string q p cs := by
  rcases hq with rfl | rfl <;> with_unfolding_all rfl

end Lexer

theorem Except.map_eq_ok {ε α β : Type} {f : α → β} {x : Except ε α} {b : β} :
    x.map f = .ok b ↔ ∃ a, x = .ok a ∧ b = f a := by
  cases x <;> simp [Except.map, eq_comm]

theorem Except.map_eq_error {ε α β : Type} {f : α → β} {x : Except ε α} {e : ε} :
    x.map f = .error e ↔ x = .error e := by
  cases x <;> simp [Except.map]

/-- the `out` of `evalStringLit`: the byte that `\c` stands for -/
def escOf (c : UInt8) : Option UInt8 :=
  if c == 110 then some 10 else if c == 92 then some 92 else if c == 116 then some 9 else none

theorem escOf_eq_some {c b : UInt8} :
    escOf c = some b ↔ c = 110 ∧ b = 10 ∨ c = 92 ∧ b = 92 ∨ c = 116 ∧ b = 9 := by
  unfold escOf
  by_cases h1 : c = 110
  · simp [h1, eq_comm]
  by_cases h2 : c = 92
  · simp [h2, eq_comm]
  by_cases h3 : c = 116
  · simp [h3, eq_comm]
  simp [h1, h2, h3]

theorem escOf_eq_none {c : UInt8} : escOf c = none ↔ c ≠ 110 ∧ c ≠ 116 ∧ c ≠ 92 := by
  unfold escOf
  by_cases h1 : c = 110
  · simp [h1]
  by_cases h2 : c = 92
  · simp [h2]
  by_cases h3 : c = 116
  · simp [h3]
  simp [h1, h2, h3]

theorem evalStringLit_esc (c : UInt8) (s : Bytes) :
    evalStringLit (92 :: c :: s) = match escOf c with
      | some b => (evalStringLit s).map (b :: ·)
      | none => .error "unknown escape char" := by
  rw [evalStringLit]
  show (match escOf c with | none => _ | some b => _) = _
  cases escOf c with
  | none => rfl
  | some b => cases evalStringLit s <;> rfl

theorem evalStringLit_plain {c : UInt8} (hc : c ≠ 92) (s : Bytes) :
    evalStringLit (c :: s) = (evalStringLit s).map (c :: ·) := by
  rw [evalStringLit]
  · cases evalStringLit s <;> rfl
  · intro h; exact absurd h hc
  · intro c' rest h; exact absurd h hc

theorem evalStringLit_esc_ok {c : UInt8} {s r : Bytes} :
    evalStringLit (92 :: c :: s) = .ok r ↔
      ∃ b r', escOf c = some b ∧ evalStringLit s = .ok r' ∧ r = b :: r' := by
  rw [evalStringLit_esc]
  cases escOf c <;> simp [Except.map_eq_ok]

/-- induction over a byte string read as `evalStringLit` reads it -/
theorem esc_induct {P : Bytes → Prop} (nil : P []) (lone : P [92])
    (esc : ∀ c s, P s → P (92 :: c :: s)) (plain : ∀ c s, c ≠ 92 → P s → P (c :: s)) :
    ∀ s, P s := by
  have : ∀ s, P s ∧ ∀ c, P (c :: s) := by
    intro s
    induction s with
    | nil => exact ⟨nil, fun c => if h : c = 92 then h ▸ lone else plain c [] h nil⟩
    | cons d s ih =>
      exact ⟨ih.2 d, fun c => if h : c = 92 then h ▸ esc d s ih.1 else plain c _ h (ih.2 d)⟩
  exact fun s => (this s).1

theorem evalStringLit_append {pre pre' : Bytes} (h : evalStringLit pre = .ok pre') (tail : Bytes) :
    evalStringLit (pre ++ tail) = (evalStringLit tail).map (pre' ++ ·) := by
  induction pre using esc_induct generalizing pre' with
  | nil => cases h; rw [List.nil_append]; cases evalStringLit tail <;> rfl
  | lone => cases h
  | esc c s ih =>
    obtain ⟨b, r, hb, hr, rfl⟩ := evalStringLit_esc_ok.mp h
    rw [List.cons_append, List.cons_append, evalStringLit_esc, hb, ih hr]
    cases evalStringLit tail <;> rfl
  | plain c s hc ih =>
    rw [evalStringLit_plain hc] at h
    obtain ⟨r, hr, rfl⟩ := Except.map_eq_ok.mp h
    rw [List.cons_append, evalStringLit_plain hc, ih hr]
    cases evalStringLit tail <;> rfl

theorem evalStringLit_error_iff (s : Bytes) :
    (∃ m, evalStringLit s = .error m) ↔
      ∃ pre pre', evalStringLit pre = .ok pre' ∧
        (s = pre ++ [92] ∨ ∃ c rest, s = pre ++ 92 :: c :: rest ∧ escOf c = none) := by
  constructor
  · induction s using esc_induct with
    | nil => rintro ⟨m, h⟩; cases h
    | lone => exact fun _ => ⟨[], [], rfl, .inl rfl⟩
    | esc c s ih =>
      rintro ⟨m, h⟩
      rw [evalStringLit_esc] at h
      cases hb : escOf c with
      | none => exact ⟨[], [], rfl, .inr ⟨c, s, rfl, hb⟩⟩
      | some b =>
        rw [hb] at h
        obtain ⟨pre, pre', hp, hbad⟩ := ih ⟨m, Except.map_eq_error.mp h⟩
        refine ⟨92 :: c :: pre, b :: pre', by rw [evalStringLit_esc, hb, hp]; rfl, ?_⟩
        rcases hbad with rfl | ⟨d, rest, rfl, hd⟩
        · exact .inl rfl
        · exact .inr ⟨d, rest, rfl, hd⟩
    | plain c s hc ih =>
      rintro ⟨m, h⟩
      rw [evalStringLit_plain hc] at h
      obtain ⟨pre, pre', hp, hbad⟩ := ih ⟨m, Except.map_eq_error.mp h⟩
      refine ⟨c :: pre, c :: pre', by rw [evalStringLit_plain hc, hp]; rfl, ?_⟩
      rcases hbad with rfl | ⟨d, rest, rfl, hd⟩
      · exact .inl rfl
      · exact .inr ⟨d, rest, rfl, hd⟩
  · rintro ⟨pre, pre', hp, rfl | ⟨c, rest, rfl, hc⟩⟩
    · exact ⟨_, by rw [evalStringLit_append hp]; rfl⟩
    · exact ⟨"unknown escape char", by rw [evalStringLit_append hp, evalStringLit_esc, hc]; rfl⟩

end Jqawk
