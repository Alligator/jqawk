import Jqawk.Lemmas.JsonPrefix
/-!
  Number literals.  `numGrammar` is the JSON number grammar as an automaton over the scanner's
  number states; `NumLit f lit` (the hypothesis of the byte-level round trip on a number leaf) says
  that the decoder reads `lit`, given as a whole document, back as itself.  `numLit_iff`: that is
  `numGrammar lit` and `f lit`.  On a grammatical literal the scanner follows a path of the number
  automaton (`steps_num`, `steps_numLit`).
-/
namespace Jqawk.JsonBytes
open Jqawk Jqawk.Json

def numDelim (c : UInt8) : Bool :=
  !(isDigit c || c == 0x2E || c == 0x65 || c == 0x45 || c == 0x2B || c == 0x2D)

theorem numNext_numDelim (st : Step) (c : UInt8) (h : numDelim c = true) : numNext st c = none := by
  simp only [numDelim, Bool.not_eq_true', Bool.or_eq_false_iff] at h
  obtain ⟨⟨⟨⟨⟨h1, h2⟩, h3⟩, h4⟩, h5⟩, h6⟩ := h
  exact numNext_none h1 h2 (by rw [h3, h4]; rfl) (.inr (by rw [h5, h6]; rfl))

theorem endNumber_top (f : Bytes → Bool) (st : Step) (acc : Bytes) (c : UInt8) :
    endNumber f ⟨st, [], 0, acc, false⟩ c = .done (.num acc.reverse) (!f acc.reverse) false := by
  simp [endNumber, deliver, afterValue]

theorem endNumber_nested (f : Bytes → Bool) (st : Step) (fr : Frame) (fs : List Frame) (dp : Nat)
    (acc : Bytes) (bad : Bool) (c : UInt8) :
    endNumber f ⟨st, fr :: fs, dp, acc, bad⟩ c
      = step f ⟨.endValue, deliverStk (fr :: fs) (.num acc.reverse), dp, [], bad || !f acc.reverse⟩ c := by
  simp [endNumber, deliver_eq, afterValue, step]

/-- HYPOTHESIS on a number literal, in the model's own terms: it starts like a number (`-` or a
    digit) and the decoder, given exactly this literal as a whole document, reads it back as this
    literal (the scanner accepts all of it and `numOk` = strconv.ParseFloat has no range error). -/
def NumLit (f : Bytes → Bool) (lit : Bytes) : Prop :=
  (lit.head?.any fun c => c == 0x2D || isDigit c) = true ∧ decodeOne f lit .eof = .value (.num lit) []

def firstNum (b : UInt8) : Step := if b == 0x2D then .neg else if b == 0x30 then .s0 else .s1

theorem isNum_firstNum (b : UInt8) : isNum (firstNum b) = true := by
  unfold firstNum; split; rfl; split <;> rfl

theorem numHead_facts : ∀ b : UInt8, (b == 0x2D || isDigit b) = true →
    isSpace b = false ∧ (b == 0x7B) = false ∧ (b == 0x5B) = false ∧ (b == 0x22) = false ∧
      (b == 0x5D) = false ∧ (b == 0x74) = false ∧ (b == 0x66) = false ∧ (b == 0x6E) = false := by
  apply forall_u8
  decide +kernel

theorem step_numHead (f : Bytes → Bool) (b : UInt8) (hb : (b == 0x2D || isDigit b) = true) (st : Step)
    (hst : st = .beginValue ∨ st = .beginValueOrEmpty) (stk : List Frame) (dp : Nat) (lit : Bytes) (bad : Bool) :
    step f ⟨st, stk, dp, lit, bad⟩ b = .cont ⟨firstNum b, stk, dp, [b], bad⟩ := by
  obtain ⟨h1, h2, h3, h4, h5, h6, h7, h8⟩ := numHead_facts b hb
  rcases hst with rfl | rfl <;> simp only [step, beginValue, h1, h2, h3, h4, h5, h6, h7, h8, firstNum] <;>
    by_cases e1 : b = 0x2D <;> by_cases e2 : b = 0x30 <;> simp_all

/-- the JSON number grammar as an automaton over the scanner's number states -/
def numAccepts : Step → Bytes → Bool
  | st, [] => canEnd st
  | st, c :: cs => match numNext st c with | some st' => numAccepts st' cs | none => false

/-- `-`? then `0` or a non-zero digit and digits, an optional fraction, an optional exponent -/
def numGrammar (lit : Bytes) : Bool :=
  match lit with
  | [] => false
  | b :: ds => (b == 0x2D || isDigit b) && numAccepts (firstNum b) ds

theorem numAccepts_of_run (f : Bytes → Bool) : ∀ (ds : Bytes) (st : Step) (acc L : Bytes), isNum st = true →
    run f ⟨st, [], 0, acc, false⟩ ds .eof = .value (.num L) [] →
    numAccepts st ds = true ∧ f (acc.reverse ++ ds) = true := by
  intro ds
  induction ds with
  | nil =>
    intro st acc L hn h
    simp only [run, step_num f st hn, numNext_numDelim st 0x20 rfl] at h
    cases hce : canEnd st with
    | false => simp [hce] at h
    | true =>
      simp only [hce, if_true, endNumber_top] at h
      cases hf : f acc.reverse with
      | false => simp [hf] at h
      | true => simp [numAccepts, hce, hf]
  | cons b bs ih =>
    intro st acc L hn h
    simp only [run, step_num f st hn] at h
    cases hnx : numNext st b with
    | none =>
      simp only [hnx] at h
      cases hce : canEnd st with
      | false => simp [hce] at h
      | true =>
        simp only [hce, if_true, endNumber_top] at h
        cases hf : f acc.reverse <;> simp [hf] at h
    | some st' =>
      simp only [hnx] at h
      have := ih st' (b :: acc) L (numNext_isNum hnx) h
      simpa [numAccepts, hnx] using this

theorem numAccepts_iff_path : ∀ (ds : Bytes) (st : Step), numAccepts st ds = true ↔
    ∃ st', path numNext st ds = some st' ∧ canEnd st' = true
  | [], st => ⟨fun h => ⟨st, rfl, h⟩, fun ⟨_, h1, h2⟩ => by cases h1; exact h2⟩
  | x :: xs, st => by
    simp only [numAccepts, path]
    cases numNext st x with
    | none => simp
    | some sn => exact numAccepts_iff_path xs sn

theorem steps_num (f : Bytes → Bool) (stk : List Frame) (dp : Nat) (bad : Bool) :
    ∀ (ds : Bytes) (st st' : Step) (acc : Bytes), isNum st = true → path numNext st ds = some st' →
      isNum st' = true ∧ steps f ⟨st, stk, dp, acc, bad⟩ ds = some ⟨st', stk, dp, ds.reverse ++ acc, bad⟩
  | [], st, st', acc, hn, h => by cases h; exact ⟨hn, rfl⟩
  | x :: xs, st, st', acc, hn, h => by
    simp only [path] at h
    cases hx : numNext st x with
    | none => rw [hx] at h; cases h
    | some sn =>
      rw [hx] at h
      have := steps_num f stk dp bad xs sn st' (x :: acc) (numNext_isNum hx) h
      simp only [steps, step_num f st hn, hx, List.reverse_cons, List.append_assoc, List.singleton_append]
      exact this

theorem steps_numLit (f : Bytes → Bool) {st : Step} (hst : st = .beginValue ∨ st = .beginValueOrEmpty)
    (stk : List Frame) (dp : Nat) (lit0 : Bytes) (bad : Bool) {lit : Bytes} (hg : numGrammar lit = true) :
    ∃ st', isNum st' = true ∧ canEnd st' = true ∧
      steps f ⟨st, stk, dp, lit0, bad⟩ lit = some ⟨st', stk, dp, lit.reverse, bad⟩ := by
  cases lit with
  | nil => cases hg
  | cons b ds =>
    simp only [numGrammar, Bool.and_eq_true] at hg
    obtain ⟨st', hp, hce⟩ := (numAccepts_iff_path ds _).1 hg.2
    have h0 := step_numHead f b hg.1 st hst stk dp lit0 bad
    have hn := isNum_firstNum b
    obtain ⟨hn', hs⟩ := steps_num f stk dp bad ds _ st' [b] hn hp
    exact ⟨st', hn', hce, by simp only [steps, h0]; simpa using hs⟩

theorem numLit_iff (f : Bytes → Bool) (lit : Bytes) : NumLit f lit ↔ (numGrammar lit = true ∧ f lit = true) := by
  cases lit with
  | nil => simp [NumLit, numGrammar]
  | cons b ds =>
    simp only [NumLit, List.head?_cons, Option.any_some]
    constructor
    · rintro ⟨hhead, hdec⟩
      rw [← List.nil_append (b :: ds), decodeOne_ws f (w := []) nofun b ds (numHead_facts b hhead).1] at hdec
      have h0 := step_numHead f b hhead .beginValue (Or.inl rfl) [] 0 [] false
      have hn := isNum_firstNum b
      simp only [run, h0] at hdec
      have := numAccepts_of_run f ds (firstNum b) [b] (b :: ds) hn hdec
      exact ⟨by simp only [numGrammar, hhead, this.1, Bool.and_self], by simpa using this.2⟩
    · rintro ⟨hg, hf⟩
      have hhead : (b == 0x2D || isDigit b) = true := by
        simp only [numGrammar, Bool.and_eq_true] at hg; exact hg.1
      refine ⟨hhead, ?_⟩
      obtain ⟨st', hn, hce, hs⟩ := steps_numLit f (Or.inl rfl) [] 0 [] false hg
      rw [← List.nil_append (b :: ds), decodeOne_ws f (w := []) nofun b ds (numHead_facts b hhead).1]
      have := run_steps f .eof _ [] _ _ hs
      rw [List.append_nil] at this
      refine this.trans ?_
      rw [run, step_numEnd f _ hn hce (numNext_numDelim st' 0x20 rfl), endNumber_top, List.reverse_reverse, hf]
      rfl

theorem numAccepts_digits : ∀ (ds : Bytes), (∀ x ∈ ds, isDigit x = true) → numAccepts .s1 ds = true
  | [], _ => rfl
  | x :: xs, h => by
    simp only [numAccepts, numNext, h x (List.mem_cons_self ..), if_true]
    exact numAccepts_digits xs fun y hy => h y (List.mem_cons_of_mem _ hy)

theorem numLit_of_digits (f : Bytes → Bool) (b : UInt8) (ds : Bytes) (hb : isDigit b = true) (hb0 : b ≠ 0x30)
    (hd : ∀ x ∈ ds, isDigit x = true) (hf : f (b :: ds) = true) : NumLit f (b :: ds) := by
  have h2D : b ≠ 0x2D := by rintro rfl; exact absurd hb (by decide)
  refine (numLit_iff f _).2 ⟨?_, hf⟩
  simp only [numGrammar, hb, Bool.or_true, Bool.true_and, firstNum, beq_iff_eq, h2D, hb0, if_false]
  exact numAccepts_digits ds hd

end Jqawk.JsonBytes
