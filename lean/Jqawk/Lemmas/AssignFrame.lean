/-
  Equations for one assignment `l = r` (C09): `evalAssignment_eq` (a stand-in target is first made
  a member, then the value is copied into the target cell) with its two branches, `assign_unfold`
  (evaluate `l`, evaluate `r`, `evalAssignment`), the member step (`memberStep_eq`), identifiers;
  `Val.speculative` / `Val.spec?` (a value that stands for a missing member) and
  `HeapPreservedExcept` (all but one cell kept).
-/
import Jqawk.Lemmas.ReadOnly
import Jqawk.Lemmas.CreateSpec


namespace Jqawk

/-- the value stands for a missing member (or a method, or a character of a string): assigning
    to its cell goes through `createSpeculativeObjects` -/
def Val.speculative : Val → Bool
  | .nil (some _) => true
  | .native _ _ (some _) => true
  | .str _ (some _) => true
  | _ => false

/-- what a value remembers about where it would be stored (`ParentObj` + key) -/
def Val.spec? : Val → Option SpecRef
  | .nil s => s
  | .native _ _ s => s
  | .str _ s => s
  | _ => none

theorem specOf_eq (v : Val) : specOf v = v.spec? := by cases v <;> rfl

theorem speculative_of_spec {v : Val} {sp : SpecRef} (h : v.spec? = some sp) : v.speculative = true := by
  cases v <;> simp only [Val.spec?, reduceCtorEq] at h <;> subst h <;> rfl

theorem spec_none_speculative {v : Val} (h : v.spec? = none) : v.speculative = false := by
  cases v <;> simp only [Val.spec?] at h <;> first | rfl | (subst h; rfl)

theorem copyVal_ok {v w : Val} (h : copyVal v = .ok w) :
    (∀ f b sp, w ≠ .native f b sp) ∧ w.spec? = none := by
  cases v <;> simp only [copyVal, Except.ok.injEq, reduceCtorEq] at h <;> subst h <;>
    exact ⟨(fun _ _ _ e => by cases e), rfl⟩

/-- `evalAssignment`: a cell that stands for a missing member is first made a real member
    (`createSpeculativeObjects`); then `copyValue` into the target cell, nothing else -/
theorem evalAssignment_eq (pos : Nat) (left right : CellId) (s : St) :
    evalAssignment pos left right s =
      if (s.heap.get left).speculative then
        match createSpeculative (s.heap.cells.size + 2) left s with
        | .oof => .oof
        | .err e s' => .err e s'
        | .ok (.error m) s' => Jqawk.throwRt pos m s'
        | .ok (.ok c) s' =>
          match copyVal (s'.heap.get right) with
          | .ok w => .ok c { s' with heap := s'.heap.set c w }
          | .error m => Jqawk.throwRt pos m s'
      else
        match copyVal (s.heap.get right) with
        | .ok w => .ok left { s with heap := s.heap.set left w }
        | .error m => Jqawk.throwRt pos m s := by
  unfold evalAssignment
  simp only [bind, EM.bind, readCell]
  generalize s.heap.get left = lv
  cases lv with
  | nil sp | native _ _ sp | str _ sp =>
    cases sp with
    | none =>
      simp only [Val.speculative, Bool.false_eq_true, ↓reduceIte, pure, EM.pure, copyValue, bind, EM.bind,
        readCell]
      cases copyVal (s.heap.get right) <;> rfl
    | some _ =>
      simp only [Val.speculative, ↓reduceIte, EM.bind, getHeap]
      cases createSpeculative (s.heap.cells.size + 2) left s with
      | oof => rfl
      | err e s' => rfl
      | ok r s' =>
        cases r with
        | error m => rfl
        | ok c =>
          simp only [pure, EM.pure, copyValue, bind, EM.bind, readCell]
          cases copyVal (s'.heap.get right) <;> rfl
  | _ =>
    simp only [Val.speculative, Bool.false_eq_true, ↓reduceIte, pure, EM.pure, copyValue, bind, EM.bind,
      readCell]
    cases copyVal (s.heap.get right) <;> rfl

theorem evalAssignment_plain (pos : Nat) (left right : CellId) (s : St)
    (h : (s.heap.get left).speculative = false) :
    evalAssignment pos left right s =
      match copyVal (s.heap.get right) with
      | .ok w => .ok left { s with heap := s.heap.set left w }
      | .error m => Jqawk.throwRt pos m s := by
  rw [evalAssignment_eq, h]
  rfl

theorem evalAssignment_spec_eq (pos : Nat) (left right : CellId) (s : St) (sp : SpecRef)
    (hsp : (s.heap.get left).spec? = some sp) :
    evalAssignment pos left right s =
      match createSpeculative (s.heap.cells.size + 2) left s with
      | .oof => .oof
      | .err e s' => .err e s'
      | .ok (.error m) s' => Jqawk.throwRt pos m s'
      | .ok (.ok c) s' =>
        match copyVal (s'.heap.get right) with
        | .ok w => .ok c { s' with heap := s'.heap.set c w }
        | .error m => Jqawk.throwRt pos m s' := by
  rw [evalAssignment_eq, speculative_of_spec hsp]
  rfl

structure HeapPreservedExcept (c : CellId) (h h' : Heap) : Prop where
  cells : h.cells.size ≤ h'.cells.size
  arrs : h.arrs.size ≤ h'.arrs.size
  objs : h.objs.size ≤ h'.objs.size
  get : ∀ d, d ≠ c → d < h.cells.size → h'.get d = h.get d
  arr : ∀ a, a < h.arrs.size → h'.arr a = h.arr a
  obj : ∀ o, o < h.objs.size → h'.obj o = h.obj o

theorem HeapPreserved.set_except {h h1 : Heap} (p : HeapPreserved h h1) (c : CellId) (w : Val) :
    HeapPreservedExcept c h (h1.set c w) := by
  refine ⟨by rw [Heap.size_set]; exact p.cells, p.arrs, p.objs, ?_, p.arr, p.obj⟩
  intro d hd hlt
  rw [Heap.get_set_ne' _ _ _ _ hd]; exact p.get d hlt

theorem newCell_eq (v : Val) (s : St) :
    Jqawk.newCell v s = .ok s.heap.cells.size { s with heap := (s.heap.alloc v).2 } := rfl

/-- the key a member step remembers in a stand-in for a missing member -/
def keyOf (rv : Val) : Key :=
  match rv with
  | .num x => .num x
  | _ => .str rv.str!

theorem memberStep_eq (pos : Nat) (left right : CellId) (s : St) :
    memberStep pos left right s =
      if s.heap.get left = .unknown then
        Jqawk.newCell (.nil (some ⟨left, keyOf (s.heap.get right)⟩)) s
      else memberRead pos left (s.heap.get right) s := by
  unfold memberStep memberRead
  by_cases hu : s.heap.get left = .unknown
  · simp only [bind, EM.bind, readCell, hu, Val.kind, ↓reduceIte, beq_self_eq_true, keyOf]
    generalize s.heap.get right = rv
    cases rv <;> rfl
  · have hk : ((s.heap.get left).kind == Kind.unknown) = false := by
      cases hv : s.heap.get left <;> simp_all [Val.kind]
    simp only [bind, EM.bind, readCell, hu, hk, getHeap, ↓reduceIte, Bool.false_eq_true, pure]
    rfl

/-- a read-only expression that yields a value has only allocated (and kept the side invariant) -/
theorem readonly_ok (prog : Program) (k : Bool) (n : Nat) (e : Expr) (s s' : St) (c : CellId)
    (hfn : k = true → prog.FnsRO) (hi : Inv k s.heap) (he : Expr.readOnly k e = true)
    (h : evalExpr prog n e s = .ok c s') : Rel true s s' ∧ Inv k s'.heap := by
  have q := (allRO prog k hfn n).expr true e he s
  rw [h] at q
  exact q hi

theorem assign_unfold (prog : Program) (n : Nat) (l r : Expr) (op : Token) (s s1 s2 : St)
    (lc rc : CellId) (hop : op.tag = .equal)
    (h1 : evalExpr prog n l s = .ok lc s1) (h2 : evalExpr prog n r s1 = .ok rc s2) :
    evalExpr prog (n + 2) (.binary l r op) s = evalAssignment l.token.pos lc rc s2 := by
  conv => lhs; unfold evalExpr
  dsimp only
  conv => lhs; unfold evalBinary
  simp only [bind, EM.bind, h1, hop, h2]

theorem assign_existing_eq (prog : Program) (n : Nat) (l r : Expr) (op : Token) (s s1 s2 : St)
    (lc rc : CellId) (hop : op.tag = .equal)
    (h1 : evalExpr prog n l s = .ok lc s1) (h2 : evalExpr prog n r s1 = .ok rc s2)
    (hns : (s2.heap.get lc).speculative = false) :
    evalExpr prog (n + 2) (.binary l r op) s =
      match copyVal (s2.heap.get rc) with
      | .ok w => .ok lc { s2 with heap := s2.heap.set lc w }
      | .error m => Jqawk.throwRt l.token.pos m s2 := by
  rw [assign_unfold prog n l r op s s1 s2 lc rc hop h1 h2]
  exact evalAssignment_plain _ _ _ _ hns

theorem evalExpr_ident_bound (prog : Program) (n : Nat) (t : Token) (s : St) (c : CellId)
    (ht : (t.tag == Tag.dollar) = false) (hl : lookupFrames s.frames t.text = some c) :
    evalExpr prog (n + 1) (.ident t) s = .ok c s := by
  unfold evalExpr
  dsimp only
  unfold getIdentifier
  simp only [ht, Bool.false_eq_true, ↓reduceIte, bind, EM.bind, Jqawk.getVariable, Jqawk.getSt, hl,
    pure, EM.pure]

theorem evalExpr_ident_dollar (prog : Program) (n : Nat) (t : Token) (s : St) (c : CellId)
    (ht : (t.tag == Tag.dollar) = true) (hr : s.ruleRoot = some c) :
    evalExpr prog (n + 1) (.ident t) s = .ok c s := by
  unfold evalExpr
  dsimp only
  unfold getIdentifier
  simp only [ht, ↓reduceIte, bind, EM.bind, Jqawk.getSt, hr, pure, EM.pure]

end Jqawk
