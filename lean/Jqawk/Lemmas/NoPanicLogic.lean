/-
  Panic freedom (C01), part 2: the program logic.  `NP P K m R` says: started in a state that
  satisfies the invariant, `m` never ends in `Err.panic`; however else it ends the invariant holds
  again, and a normal result satisfies `R`.  All postconditions are state-independent (they are
  lower bounds on ids, see `NoPanicHeap.lean`), so `bind` composes them without a frame rule.

  `K` is the condition on `ruleRoot`: `KSet P` (bound, inside the region) while rule or selector
  code runs, `KAny` in the driver between rules.
-/
import Jqawk.Lemmas.NoPanicHeap
import Jqawk.Lemmas.EvalSteps


namespace Jqawk

def KAny : Option CellId → Prop := fun _ => True
def KSet (P : Region) : Option CellId → Prop := fun r => ∃ c, r = some c ∧ P.N ≤ c

structure InvK (P : Region) (K : Option CellId → Prop) (s : St) : Prop extends Inv0 P s where
  rr : K s.ruleRoot

def NPres (P : Region) (K : Option CellId → Prop) {α : Type} (R : α → Prop) : Res α → Prop
  | .ok a s' => InvK P K s' ∧ R a
  | .err (.runtime _ _) s' => InvK P K s'
  | .err (.sig _) s' => InvK P K s'
  | .err (.panic _) _ => False
  | .err (.unmodelled _) s' => InvK P K s'
  | .oof => True

/-- `NP` at one state.  Used directly where a precondition speaks of the current heap (as
    `HasSpec (s.heap.get c)` in `createSpeculative_np`), which the state-independent postconditions
    of `NP` cannot carry from one step to the next. -/
def NPat (P : Region) (K : Option CellId → Prop) {α : Type} (m : EM α) (R : α → Prop) (s : St) : Prop :=
  NPres P K R (m s)

def NP (P : Region) (K : Option CellId → Prop) {α : Type} (m : EM α) (R : α → Prop) : Prop :=
  ∀ s, InvK P K s → NPat P K m R s

variable {P : Region} {K : Option CellId → Prop}

def InR (P : Region) (c : CellId) : Prop := P.N ≤ c
def InA (P : Region) (a : ArrId) : Prop := P.A ≤ a
def InO (P : Region) (o : ObjId) : Prop := P.O ≤ o
def Tr {α : Type} (_ : α) : Prop := True
def ExReg (P : Region) : Except String CellId → Prop
  | .ok c => P.N ≤ c
  | .error _ => True
def OptRegM (P : Region) : Option (List (Bytes × CellId)) → Prop
  | some m => RegM P m
  | none => True
def NatResOK (P : Region) : Except String (Option Val) → Prop
  | .ok (some v) => GoodV P v
  | _ => True

theorem NPres.conseq {α : Type} {R R' : α → Prop} {r : Res α} (h : NPres P K R r)
    (hr : ∀ a, R a → R' a) : NPres P K R' r := by
  cases r with
  | ok a s' => exact ⟨h.1, hr a h.2⟩
  | err e s' => cases e <;> exact h
  | oof => trivial

theorem NPres.err_cast {α β : Type} {R : α → Prop} {R' : β → Prop} {e : Err} {s' : St}
    (h : NPres P K R (.err e s' : Res α)) : NPres P K R' (.err e s' : Res β) := by
  cases e <;> exact h

namespace NP

theorem conseq {α : Type} {m : EM α} {R R' : α → Prop} (hm : NP P K m R) (hr : ∀ a, R a → R' a) :
    NP P K m R' := fun s hs => (hm s hs).conseq hr

theorem pure {α : Type} {R : α → Prop} {a : α} (h : R a) : NP P K (Pure.pure a : EM α) R :=
  fun _ hs => ⟨hs, h⟩

theorem bindAt {α β : Type} {m : EM α} {f : α → EM β} {R1 : α → Prop} {R : β → Prop} {s : St}
    (hm : NPat P K m R1 s) (hf : ∀ a, R1 a → NP P K (f a) R) : NPat P K (m >>= f) R s := by
  show NPres P K R (EM.bind m f s)
  unfold EM.bind
  unfold NPat at hm
  cases hr : m s with
  | ok a s1 => rw [hr] at hm; exact hf a hm.2 s1 hm.1
  | err e s1 => rw [hr] at hm; exact hm.err_cast
  | oof => trivial

theorem bind {α β : Type} {m : EM α} {f : α → EM β} {R1 : α → Prop} {R : β → Prop}
    (hm : NP P K m R1) (hf : ∀ a, R1 a → NP P K (f a) R) : NP P K (m >>= f) R :=
  fun s hs => bindAt (hm s hs) hf

theorem oof {α : Type} {R : α → Prop} : NP P K (Jqawk.oof : EM α) R := fun _ _ => trivial

theorem getSt : NP P K Jqawk.getSt (InvK P K) := fun _ hs => ⟨hs, hs⟩
theorem getHeap : NP P K Jqawk.getHeap (HeapOK P) := fun _ hs => ⟨hs, hs.heap⟩
theorem readCell {c : CellId} (hc : P.N ≤ c) : NP P K (Jqawk.readCell c) (GoodV P) :=
  fun _ hs => ⟨hs, hs.heap.cells c hc⟩
theorem readCellAny (c : CellId) : NP P K (Jqawk.readCell c) Tr := fun _ hs => ⟨hs, trivial⟩
theorem throwSig {α : Type} {R : α → Prop} (g : Sig) : NP P K (Jqawk.throwSig g : EM α) R :=
  fun _ hs => hs
theorem throwUnmodelled {α : Type} {R : α → Prop} (w : String) :
    NP P K (Jqawk.throwUnmodelled w : EM α) R := fun _ hs => hs
theorem throwRt {α : Type} {R : α → Prop} (p : Nat) (m : String) :
    NP P K (Jqawk.throwRt p m : EM α) R :=
  fun _ hs => ⟨⟨hs.heap, hs.frames, hs.ret⟩, hs.rr⟩

theorem newCell {v : Val} (hv : GoodV P v) : NP P K (Jqawk.newCell v) (InR P) := by
  intro s hs
  have h := hs.heap.alloc hv
  exact ⟨⟨⟨h.1, hs.frames, hs.ret⟩, hs.rr⟩, h.2⟩

theorem writeCell (c : CellId) {v : Val} (hv : GoodV P v) : NP P K (Jqawk.writeCell c v) Tr :=
  fun _ hs => ⟨⟨⟨hs.heap.set c hv, hs.frames, hs.ret⟩, hs.rr⟩, trivial⟩

theorem setHeap {h : Heap} (ok : HeapOK P h) : NP P K (Jqawk.setHeap h) Tr :=
  fun _ hs => ⟨⟨⟨ok, hs.frames, hs.ret⟩, hs.rr⟩, trivial⟩

theorem allocArrM {items : Array CellId} (hi : RegL P items.toList) :
    NP P K (Jqawk.allocArrM items) (InA P) := by
  intro s hs
  have h := hs.heap.allocArr hi
  exact ⟨⟨⟨h.1, hs.frames, hs.ret⟩, hs.rr⟩, h.2⟩

theorem allocObjM {m : List (Bytes × CellId)} (hm : RegM P m) :
    NP P K (Jqawk.allocObjM m) (InO P) := by
  intro s hs
  have h := hs.heap.allocObj hm
  exact ⟨⟨⟨h.1, hs.frames, hs.ret⟩, hs.rr⟩, h.2⟩

theorem emit (b : Bytes) : NP P K (Jqawk.emit b) Tr :=
  fun _ hs => ⟨⟨⟨hs.heap, hs.frames, hs.ret⟩, hs.rr⟩, trivial⟩

theorem setReturnVal {c : Option CellId} (hc : OptReg P c) :
    NP P K (Jqawk.modifySt fun s => { s with returnVal := c }) Tr :=
  fun _ hs => ⟨⟨⟨hs.heap, hs.frames, hc⟩, hs.rr⟩, trivial⟩

/-- `setLocal` never panics: the frame stack is never empty -/
theorem setLocal (name : Bytes) {c : CellId} (hc : P.N ≤ c) : NP P K (Jqawk.setLocal name c) Tr := by
  intro s hs
  unfold NPat Jqawk.setLocal
  have hf := hs.frames
  cases hfr : s.frames with
  | nil => exact absurd hfr hf.1
  | cons f fs =>
    rw [hfr] at hf
    refine ⟨⟨⟨hs.heap, ⟨by simp, ?_⟩, hs.ret⟩, hs.rr⟩, trivial⟩
    intro g hg
    rcases List.mem_cons.mp hg with hg | hg
    · subst hg
      exact (hf.2 f (List.mem_cons_self ..)).objInsert _ hc
    · exact hf.2 g (List.mem_cons_of_mem _ hg)

theorem getVariable (name : Bytes) : NP P K (Jqawk.getVariable name) (ExReg P) := by
  unfold Jqawk.getVariable
  refine bind getSt (fun s hs => ?_)
  split
  · rename_i c hc
    exact pure (lookupFrames_reg hs.frames.2 hc)
  · split
    · exact pure trivial
    · exact bind (newCell trivial) (fun c hc => bind (setLocal _ hc) (fun _ _ => pure hc))

theorem copyValue {a : CellId} (ha : P.N ≤ a) {b : CellId} (hb : P.N ≤ b) :
    NP P K (Jqawk.copyValue a b) (ExReg P) := by
  unfold Jqawk.copyValue
  refine bind (readCell ha) (fun v hv => ?_)
  split
  · rename_i w hw
    exact bind (writeCell _ (copyVal_good hw hv)) (fun _ _ => pure hb)
  · exact pure trivial

theorem bindAll {l : List (Bytes × CellId)} (hl : RegM P l) : NP P K (Jqawk.bindAll l) Tr := by
  induction l with
  | nil => exact pure trivial
  | cons kv rest ih =>
    obtain ⟨k, c⟩ := kv
    exact bind (setLocal k (hl (k, c) (List.mem_cons_self ..)))
      (fun _ _ => ih (fun x hx => hl x (List.mem_cons_of_mem _ hx)))

theorem bindParams (ps : List Bytes) {as : List Val} (has : GoodVs P as) :
    NP P K (Jqawk.bindParams ps as) Tr := by
  induction ps generalizing as with
  | nil => exact pure trivial
  | cons p ps ih =>
    cases as with
    | nil =>
      exact bind (newCell trivial) (fun c hc => bind (setLocal _ hc) (fun _ _ => ih has))
    | cons a as =>
      exact bind (newCell (has a (List.mem_cons_self ..))) (fun c hc => bind (setLocal _ hc)
        (fun _ _ => ih (fun x hx => has x (List.mem_cons_of_mem _ hx))))

theorem allocCells {vs : List Val} (hvs : GoodVs P vs) : NP P K (Jqawk.allocCells vs) (RegL P) := by
  induction vs with
  | nil => exact pure (by intro c hc; cases hc)
  | cons v vs ih =>
    refine bind (newCell (hvs v (List.mem_cons_self ..))) (fun c hc =>
      bind (ih (fun x hx => hvs x (List.mem_cons_of_mem _ hx))) (fun cs hcs => pure ?_))
    intro d hd
    rcases List.mem_cons.mp hd with hd | hd
    · subst hd; exact hc
    · exact hcs d hd

theorem newArrayOf {vs : List Val} (hvs : GoodVs P vs) : NP P K (Jqawk.newArrayOf vs) (GoodV P) := by
  unfold Jqawk.newArrayOf
  refine bind (allocCells hvs) (fun cells hcells => bind getHeap (fun h hh => ?_))
  have ha := hh.allocArr (items := cells.toArray) (by simpa using hcells)
  exact bind (setHeap ha.1) (fun _ _ => pure ha.2)

theorem handle {α β : Type} {m : EM α} {onOk : α → EM β} {onSig : Sig → Option (EM β)}
    {R1 : α → Prop} {R : β → Prop} (hm : NP P K m R1) (hok : ∀ a, R1 a → NP P K (onOk a) R)
    (hsig : ∀ g k, onSig g = some k → NP P K k R) : NP P K (Jqawk.handle m onOk onSig) R := by
  intro s hs
  have h := hm s hs
  unfold NPat at h ⊢
  unfold Jqawk.handle
  cases hr : m s with
  | ok a s1 => rw [hr] at h; exact hok a h.2 s1 h.1
  | err e s1 =>
    rw [hr] at h
    cases e with
    | sig g =>
      dsimp only
      cases hg : onSig g with
      | some k => exact hsig g k hg s1 h
      | none => exact h
    | runtime p m => exact h
    | panic m => exact h
    | unmodelled m => exact h
  | oof => trivial

theorem loopIter {body k : EM Unit} {R : Unit → Prop} (hb : NP P K body Tr) (hk : NP P K k R)
    (hR : R ()) : NP P K (Jqawk.loopIter body k) R := by
  rw [loopIter_eq_handle]
  refine handle hb (fun _ _ => hk) (fun g k' hg => ?_)
  cases g <;> cases hg <;> first | exact pure hR | exact hk

theorem catchReturn {body : EM Unit} (hb : NP P K body Tr) :
    NP P K (Jqawk.catchReturn body) (GoodV P) := by
  rw [catchReturn_eq_handle]
  refine handle hb (fun _ _ => pure trivial) (fun g k hg => ?_)
  cases g <;> cases hg
  intro s hs
  refine ⟨hs, ?_⟩
  have hret := hs.ret
  cases hrv : s.returnVal with
  | none => trivial
  | some c => rw [hrv] at hret; exact hs.heap.cells c hret

theorem catchSig {α : Type} {m : EM α} {R : α → Prop} (g : Sig) {d : α} (hd : R d)
    (hm : NP P K m R) : NP P K (Jqawk.catchSig g d m) R := by
  rw [catchSig_eq_handle]
  refine handle hm (fun _ h => pure h) (fun g' k hg => ?_)
  split at hg <;> cases hg
  exact pure hd

theorem framed {α : Type} {R : α → Prop} (name : Bytes) (pos : Nat) (body : EM α)
    (hb : NP P K body R) : NP P K (Jqawk.framed name pos body) R := by
  intro s hs
  unfold NPat
  rw [framed_eq]
  split
  · exact throwRt pos _ s hs
  · have h := hb { s with frames := ⟨name, []⟩ :: s.frames,
                          maxDepth := max s.maxDepth (s.frames.length + 1) }
      ⟨⟨hs.heap, ⟨by simp, fun g hg => (List.mem_cons.mp hg).elim (fun e => e ▸ RegM.nil) (hs.frames.2 g)⟩,
        hs.ret⟩, hs.rr⟩
    unfold NPat at h
    have fix : ∀ s1 : St, InvK P K s1 → InvK P K { s1 with frames := s.frames } :=
      fun s1 h1 => ⟨⟨h1.heap, hs.frames, h1.ret⟩, h1.rr⟩
    unfold Jqawk.withFrames
    split
    · rename_i hr; rw [hr] at h; exact ⟨fix _ h.1, h.2⟩
    · rename_i e s1 hr
      rw [hr] at h
      cases e with
      | panic m => exact h
      | _ => exact fix s1 h
    · trivial

end NP

end Jqawk
