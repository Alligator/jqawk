/-
  C19: the evaluator's `match` is the specification `Spec/Match.lean`, fuel-free.

  * layer lemmas: `evalCaseMatch` vs `firstAlt`, `evalArrayCaseMatch` / `matchElems` vs the array
    clause of `patMatches` / `elemsMatch`, `evalMatchCases` vs `selectAndRun`, each in both
    directions of the order `⊑` ("out of fuel, or the same result and state");
  * `evalMatch_sound`: the evaluator at fuel `n + 1` is below the specification with the
    evaluator at any fuel `m ≥ n` as primitive;
  * `evalMatch_complete`: a result of the specification (primitives at fuel `m`) that is not
    "out of fuel" is the evaluator's result at every fuel `≥ m + matchFuel cases + 1`.
-/
import Jqawk.Spec.Match
import Jqawk.Lemmas.LoopsEval
import Jqawk.Lemmas.EvalNodes


namespace Jqawk.MatchSpec
open Jqawk Jqawk.Spec

variable (prog : Program)


theorem bind_option_eta {β : Type} (m : EM (Option β)) :
    (do match (← m) with
        | some b => pure (some b)
        | none => pure none) = m := by
  funext s
  simp only [bind, EM.bind, pure]
  cases m s with
  | ok a s1 => cases a <;> rfl
  | err e s1 => rfl
  | oof => rfl

theorem evalExpr_lit_fuel (k k' : Nat) (t : Token) :
    evalExpr prog (k + 1) (.lit t) = evalExpr prog (k' + 1) (.lit t) := by
  simp only [evalExpr]

theorem evalLit_le (m k : Nat) (t : Token) :
    EMLe (evalExpr prog m (.lit t)) (evalExpr prog (k + 1) (.lit t)) := by
  cases m with
  | zero => rw [evalExpr_zero]; exact EMLe.oofL _
  | succ m => rw [evalExpr_lit_fuel prog m k]; exact EMLe.refl _


theorem firstAlt_nil (ev : Expr → EM CellId) (c : CellId) : firstAlt ev c [] = pure none := rfl

theorem firstAlt_cons (ev : Expr → EM CellId) (c : CellId) (p : Expr) (rest : List Expr) :
    firstAlt ev c (p :: rest) = (do
      match (← patMatches ev p c) with
      | some b => pure (some b)
      | none => firstAlt ev c rest) := rfl

theorem firstAlt_singleton (ev : Expr → EM CellId) (c : CellId) (p : Expr) :
    firstAlt ev c [p] = patMatches ev p c := by
  funext s
  simp only [firstAlt, bind, EM.bind, pure]
  cases patMatches ev p c s with
  | ok a s1 => cases a <;> rfl
  | err e s1 => rfl
  | oof => rfl

theorem elemsMatch_cons (ev : Expr → EM CellId) (p : Expr) (ps : List Expr) (c : CellId)
    (cs : List CellId) (acc : Bindings) :
    elemsMatch ev (p :: ps) (c :: cs) acc = (do
      match (← patMatches ev p c) with
      | none => pure none
      | some nb => elemsMatch ev ps cs (mergeBindings acc nb)) := by
  rw [elemsMatch]; rfl

theorem elemsMatch_nil_left (ev : Expr → EM CellId) (cs : List CellId) (acc : Bindings) :
    elemsMatch ev [] cs acc = pure (some acc) := by
  rw [elemsMatch]; intros; contradiction

theorem elemsMatch_nil_right (ev : Expr → EM CellId) (ps : List Expr) (acc : Bindings) :
    elemsMatch ev ps [] acc = pure (some acc) := by
  rw [elemsMatch]; intros; contradiction

theorem patMatches_lit (ev : Expr → EM CellId) (t : Token) (c : CellId) :
    patMatches ev (.lit t) c = (do
      let lc ← ev (.lit t)
      match litMatches (← readCell c) (← readCell lc) with
      | .error m => throwRt t.pos m
      | .ok true => pure (some [])
      | .ok false => pure none) := by
  rw [patMatches]; rfl

theorem patMatches_ident (ev : Expr → EM CellId) (t : Token) (c : CellId) :
    patMatches ev (.ident t) c = pure (some [(t.text, c)]) := by
  rw [patMatches]

theorem patMatches_arr (ev : Expr → EM CellId) (t : Token) (items : List Expr) (c : CellId) :
    patMatches ev (.arr t items) c = (do
      match (← readCell c) with
      | .arr a =>
        let cells := ((← getHeap).arr a).toList
        if cells.length != items.length then pure none
        else elemsMatch ev items cells []
      | _ => pure none) := by
  rw [patMatches]; rfl

theorem patMatches_unsupported (ev : Expr → EM CellId) (p : Expr) (c : CellId)
    (h1 : ∀ t, p ≠ .lit t) (h2 : ∀ t, p ≠ .ident t) (h3 : ∀ t items, p ≠ .arr t items) :
    patMatches ev p c = throwRt p.token.pos "not supported in match expressions" := by
  rw [patMatches]
  · intro t h; exact h1 t h
  · intro t h; exact h2 t h
  · intro t items h; exact h3 t items h

theorem firstMatch_nil (ev : Expr → EM CellId) (c : CellId) : firstMatch ev c [] = pure none := rfl

theorem firstMatch_cons (ev : Expr → EM CellId) (c : CellId) (pats : List Expr) (body : Stmt)
    (rest : List MatchCase) :
    firstMatch ev c (.mk pats body :: rest) = (do
      match (← firstAlt ev c pats) with
      | some b => pure (some (body, b))
      | none => firstMatch ev c rest) := rfl

theorem selectAndRun_nil (evE : Expr → EM CellId) (evS : Stmt → EM Unit) (pos : Nat) (c : CellId) :
    selectAndRun evE evS pos c [] = newCell (.nil none) := rfl

theorem selectAndRun_cons (evE : Expr → EM CellId) (evS : Stmt → EM Unit) (pos : Nat) (c : CellId)
    (pats : List Expr) (body : Stmt) (rest : List MatchCase) :
    selectAndRun evE evS pos c (.mk pats body :: rest) = (do
      match (← firstAlt evE c pats) with
      | some b => runCase evE evS pos body b
      | none => selectAndRun evE evS pos c rest) := by
  funext s
  simp only [selectAndRun, firstMatch_cons, bind, EM.bind, pure]
  cases firstAlt evE c pats s with
  | ok a s1 => cases a <;> rfl
  | err e s1 => rfl
  | oof => rfl


/-- one pattern at fuel `k`, as `evalCaseMatch` inlines it -/
def patAt (k : Nat) (p : Expr) (c : CellId) : EM (Option Bindings) :=
  match p with
  | .arr _ items => evalArrayCaseMatch prog k c items
  | p => patMatches (evalExpr prog k) p c

theorem evalCaseMatch_nil (k : Nat) (c : CellId) : evalCaseMatch prog (k + 1) c [] = pure none := by
  rw [evalCaseMatch]

theorem evalCaseMatch_cons (k : Nat) (c : CellId) (p : Expr) (rest : List Expr) :
    evalCaseMatch prog (k + 1) c (p :: rest) = (do
      match (← patAt prog k p c) with
      | some b => pure (some b)
      | none => evalCaseMatch prog k c rest) := by
  cases p with
  | lit t =>
    funext s
    simp only [evalCaseMatch, patAt, patMatches_lit, litMatches, bind, EM.bind, pure,
      readCell, Expr.token]
    cases evalExpr prog k (.lit t) s with
    | ok lc s1 =>
      dsimp only
      by_cases hu : (s1.heap.get c).kind == Kind.unknown
      · simp only [hu, ↓reduceIte]; rfl
      · simp only [hu, Bool.false_eq_true, ↓reduceIte]
        cases (s1.heap.get c).compare (s1.heap.get lc) with
        | error m => rfl
        | ok x =>
          dsimp only
          by_cases hx : x == 0
          · simp only [hx, ↓reduceIte]; rfl
          · simp only [hx, Bool.false_eq_true, ↓reduceIte]; rfl
    | err e s1 => rfl
    | oof => rfl
  | ident t =>
    funext s
    simp only [evalCaseMatch, patAt, patMatches_ident, bind, EM.bind, pure, EM.pure]
  | arr t items =>
    funext s
    simp only [evalCaseMatch, patAt, bind, EM.bind, pure]
    cases evalArrayCaseMatch prog k c items s with
    | ok a s1 => cases a <;> rfl
    | err e s1 => rfl
    | oof => rfl
  | _ =>
    funext s
    simp only [evalCaseMatch, patAt, bind, EM.bind, pure]
    rw [patMatches_unsupported _ _ _ (by simp) (by simp) (by simp)]; rfl

theorem evalArrayCaseMatch_succ (k : Nat) (c : CellId) (items : List Expr) :
    evalArrayCaseMatch prog (k + 1) c items = (do
      match (← readCell c) with
      | .arr a =>
        let cells := ((← getHeap).arr a).toList
        if cells.length != items.length then pure none
        else matchElems prog k cells items []
      | _ => pure none) := by
  rw [evalArrayCaseMatch]; rfl

theorem matchElems_cons (k : Nat) (c : CellId) (cs : List CellId) (p : Expr) (ps : List Expr)
    (acc : Bindings) :
    matchElems prog (k + 1) (c :: cs) (p :: ps) acc = (do
      match (← evalCaseMatch prog k c [p]) with
      | none => pure none
      | some nb => matchElems prog k cs ps (mergeBindings acc nb)) := by
  rw [matchElems]; rfl

theorem matchElems_nil_left (k : Nat) (ps : List Expr) (acc : Bindings) :
    matchElems prog (k + 1) [] ps acc = pure (some acc) := by
  rw [matchElems]

theorem matchElems_nil_right (k : Nat) (cs : List CellId) (acc : Bindings) :
    matchElems prog (k + 1) cs [] acc = pure (some acc) := by
  cases cs <;> rw [matchElems]

theorem evalCaseMatch_zero (c : CellId) (ps : List Expr) : evalCaseMatch prog 0 c ps = oof := by
  unfold evalCaseMatch; rfl
theorem evalArrayCaseMatch_zero (c : CellId) (ps : List Expr) :
    evalArrayCaseMatch prog 0 c ps = oof := by
  unfold evalArrayCaseMatch; rfl
theorem matchElems_zero (cs : List CellId) (ps : List Expr) (acc : Bindings) :
    matchElems prog 0 cs ps acc = oof := by
  unfold matchElems; rfl
theorem evalMatchCases_zero (pos : Nat) (c : CellId) (cs : List MatchCase) :
    evalMatchCases prog 0 pos c cs = oof := by
  unfold evalMatchCases; rfl

/-! ### the size of a pattern; the matcher is monotone in its literal evaluator

`Expr` is a nested inductive type (array patterns hold lists of patterns), so statements about
`patMatches` / `elemsMatch` are proved together by induction on a bound `k` of the size
`patFuel` / `elemsFuel` — the same numbers later serve as the fuel that suffices for the
evaluator's matcher. -/

mutual
/-- fuel that suffices to match against a pattern (its size, roughly) -/
def patFuel : Expr → Nat
  | .arr _ items => elemsFuel items + 2
  | _ => 1
def elemsFuel : List Expr → Nat
  | [] => 1
  | p :: ps => patFuel p + elemsFuel ps + 2
end

def altsFuel : List Expr → Nat
  | [] => 1
  | p :: ps => patFuel p + altsFuel ps + 1

/-- fuel that suffices to select among the cases: their number plus the sizes of all patterns
    (the bodies come on top: `evalMatch_complete`) -/
def matchFuel : List MatchCase → Nat
  | [] => 1
  | .mk pats _ :: rest => altsFuel pats + matchFuel rest + 1

theorem patFuel_pos (p : Expr) : 1 ≤ patFuel p := by cases p <;> simp [patFuel]
theorem elemsFuel_pos (ps : List Expr) : 1 ≤ elemsFuel ps := by cases ps <;> simp [elemsFuel]
theorem altsFuel_pos (ps : List Expr) : 1 ≤ altsFuel ps := by cases ps <;> simp [altsFuel]
theorem matchFuel_pos (cs : List MatchCase) : 1 ≤ matchFuel cs := by
  cases cs with
  | nil => simp [matchFuel]
  | cons c cs => cases c; simp [matchFuel]

theorem patMatches_mono_aux {ev ev' : Expr → EM CellId} (h : ∀ t, EMLe (ev (.lit t)) (ev' (.lit t))) :
    ∀ k, (∀ p c, patFuel p ≤ k → EMLe (patMatches ev p c) (patMatches ev' p c)) ∧
      (∀ ps cs acc, elemsFuel ps ≤ k → EMLe (elemsMatch ev ps cs acc) (elemsMatch ev' ps cs acc))
  | 0 => ⟨fun p c hk => by have := patFuel_pos p; omega,
          fun ps cs acc hk => by have := elemsFuel_pos ps; omega⟩
  | k + 1 => by
    obtain ⟨ihp, ihe⟩ := patMatches_mono_aux h k
    constructor
    · intro p c hk
      cases p with
      | lit t =>
        simp only [patMatches_lit]
        exact EMLe.bind (h t) (fun _ => EMLe.refl _)
      | ident t => simp only [patMatches_ident]; exact EMLe.refl _
      | arr t items =>
        simp only [patFuel] at hk
        rw [patMatches_arr, patMatches_arr]
        refine EMLe.bind (EMLe.refl _) (fun v => ?_)
        cases v <;> try exact EMLe.refl _
        refine EMLe.bind (EMLe.refl _) (fun hp => ?_)
        dsimp only
        split
        · exact EMLe.refl _
        · exact ihe _ _ _ (by omega)
      | _ =>
        rw [patMatches_unsupported _ _ _ (by simp) (by simp) (by simp),
          patMatches_unsupported _ _ _ (by simp) (by simp) (by simp)]
        exact EMLe.refl _
    · intro ps cs acc hk
      cases ps with
      | nil => rw [elemsMatch_nil_left, elemsMatch_nil_left]; exact EMLe.refl _
      | cons p ps =>
        cases cs with
        | nil => rw [elemsMatch_nil_right, elemsMatch_nil_right]; exact EMLe.refl _
        | cons c cs =>
          simp only [elemsFuel] at hk
          rw [elemsMatch_cons, elemsMatch_cons]
          refine EMLe.bind (ihp p c (by omega)) (fun r => ?_)
          cases r with
          | none => exact EMLe.refl _
          | some nb => exact ihe _ _ _ (by omega)

theorem patMatches_mono {ev ev' : Expr → EM CellId} (h : ∀ t, EMLe (ev (.lit t)) (ev' (.lit t)))
    (p : Expr) (c : CellId) : EMLe (patMatches ev p c) (patMatches ev' p c) :=
  (patMatches_mono_aux h (patFuel p)).1 p c (Nat.le_refl _)

/-! ### soundness of the pattern layers: evaluator ⊑ specification -/

structure PatSound (m k : Nat) : Prop where
  alts : ∀ c pats, EMLe (evalCaseMatch prog k c pats) (firstAlt (evalExpr prog m) c pats)
  arr : ∀ c t items, EMLe (evalArrayCaseMatch prog k c items)
    (patMatches (evalExpr prog m) (.arr t items) c)
  elems : ∀ cs ps acc, EMLe (matchElems prog k cs ps acc) (elemsMatch (evalExpr prog m) ps cs acc)

theorem patAt_sound (m k : Nat) (hk : k ≤ m) (ih : PatSound prog m k) (p : Expr) (c : CellId) :
    EMLe (patAt prog k p c) (patMatches (evalExpr prog m) p c) := by
  cases p with
  | arr t items => exact ih.arr c t items
  | _ => exact patMatches_mono (fun t => evalExpr_le prog _ hk) _ c

theorem patSound (m : Nat) : ∀ k, k ≤ m → PatSound prog m k
  | 0, _ => by
    constructor <;> intros
    · rw [evalCaseMatch_zero]; exact EMLe.oofL _
    · rw [evalArrayCaseMatch_zero]; exact EMLe.oofL _
    · rw [matchElems_zero]; exact EMLe.oofL _
  | k + 1, hk => by
    have ih := patSound m k (by omega)
    constructor
    · intro c pats
      cases pats with
      | nil => rw [evalCaseMatch_nil, firstAlt_nil]; exact EMLe.refl _
      | cons p rest =>
        rw [evalCaseMatch_cons, firstAlt_cons]
        refine EMLe.bind (patAt_sound prog m k (by omega) ih p c) (fun r => ?_)
        cases r with
        | none => exact ih.alts c rest
        | some b => exact EMLe.refl _
    · intro c t items
      rw [evalArrayCaseMatch_succ, patMatches_arr]
      refine EMLe.bind (EMLe.refl _) (fun v => ?_)
      cases v <;> try exact EMLe.refl _
      refine EMLe.bind (EMLe.refl _) (fun h => ?_)
      dsimp only
      split
      · exact EMLe.refl _
      · exact ih.elems _ _ _
    · intro cs ps acc
      cases cs with
      | nil => rw [matchElems_nil_left, elemsMatch_nil_right]; exact EMLe.refl _
      | cons c cs =>
        cases ps with
        | nil => rw [matchElems_nil_right, elemsMatch_nil_left]; exact EMLe.refl _
        | cons p ps =>
          rw [matchElems_cons, elemsMatch_cons]
          refine EMLe.bind ?_ (fun r => ?_)
          · rw [← firstAlt_singleton]; exact ih.alts c [p]
          · cases r with
            | none => exact EMLe.refl _
            | some nb => exact ih.elems _ _ _

theorem evalCaseMatch_le_spec {k m : Nat} (hk : k ≤ m) (c : CellId) (pats : List Expr) :
    EMLe (evalCaseMatch prog k c pats) (firstAlt (evalExpr prog m) c pats) :=
  (patSound prog m k hk).alts c pats

theorem evalArrayCaseMatch_le_spec {k m : Nat} (hk : k ≤ m) (c : CellId) (t : Token)
    (items : List Expr) :
    EMLe (evalArrayCaseMatch prog k c items) (patMatches (evalExpr prog m) (.arr t items) c) :=
  (patSound prog m k hk).arr c t items

theorem matchElems_le_spec {k m : Nat} (hk : k ≤ m) (cs : List CellId) (ps : List Expr)
    (acc : Bindings) :
    EMLe (matchElems prog k cs ps acc) (elemsMatch (evalExpr prog m) ps cs acc) :=
  (patSound prog m k hk).elems cs ps acc

/-! ### completeness of the pattern layers: specification ⊑ evaluator at sufficient fuel -/

structure PatComplete (m k : Nat) : Prop where
  alts : ∀ c pats, altsFuel pats ≤ k →
    EMLe (firstAlt (evalExpr prog m) c pats) (evalCaseMatch prog k c pats)
  arr : ∀ c t items, elemsFuel items + 1 ≤ k →
    EMLe (patMatches (evalExpr prog m) (.arr t items) c) (evalArrayCaseMatch prog k c items)
  elems : ∀ cs ps acc, elemsFuel ps ≤ k →
    EMLe (elemsMatch (evalExpr prog m) ps cs acc) (matchElems prog k cs ps acc)

theorem patAt_complete (m k : Nat) (ih : PatComplete prog m k) (p : Expr) (c : CellId)
    (hk : patFuel p ≤ k) :
    EMLe (patMatches (evalExpr prog m) p c) (patAt prog k p c) := by
  cases p with
  | arr t items => exact ih.arr c t items (by simp only [patFuel] at hk; omega)
  | _ =>
    obtain ⟨k', rfl⟩ : ∃ k', k = k' + 1 := ⟨k - 1, by simp only [patFuel] at hk; omega⟩
    exact patMatches_mono (fun t => evalLit_le prog m k' t) _ c

theorem patComplete (m : Nat) : ∀ k, PatComplete prog m k
  | 0 => by
    constructor
    · intro c pats h; have := altsFuel_pos pats; omega
    · intro c t items h; omega
    · intro cs ps acc h; have := elemsFuel_pos ps; omega
  | k + 1 => by
    have ih := patComplete m k
    constructor
    · intro c pats h
      cases pats with
      | nil => rw [evalCaseMatch_nil, firstAlt_nil]; exact EMLe.refl _
      | cons p rest =>
        simp only [altsFuel] at h
        have h1 := altsFuel_pos rest
        have h2 := patFuel_pos p
        rw [evalCaseMatch_cons, firstAlt_cons]
        refine EMLe.bind (patAt_complete prog m k ih p c (by omega)) (fun r => ?_)
        cases r with
        | none => exact ih.alts c rest (by omega)
        | some b => exact EMLe.refl _
    · intro c t items h
      rw [evalArrayCaseMatch_succ, patMatches_arr]
      refine EMLe.bind (EMLe.refl _) (fun v => ?_)
      cases v <;> try exact EMLe.refl _
      refine EMLe.bind (EMLe.refl _) (fun hp => ?_)
      dsimp only
      split
      · exact EMLe.refl _
      · exact ih.elems _ _ _ (by omega)
    · intro cs ps acc h
      cases cs with
      | nil => rw [matchElems_nil_left, elemsMatch_nil_right]; exact EMLe.refl _
      | cons c cs =>
        cases ps with
        | nil => rw [matchElems_nil_right, elemsMatch_nil_left]; exact EMLe.refl _
        | cons p ps =>
          simp only [elemsFuel] at h
          have h1 := elemsFuel_pos ps
          have h2 := patFuel_pos p
          rw [matchElems_cons, elemsMatch_cons]
          refine EMLe.bind ?_ (fun r => ?_)
          · rw [← firstAlt_singleton]
            exact ih.alts c [p] (by simp only [altsFuel]; omega)
          · cases r with
            | none => exact EMLe.refl _
            | some nb => exact ih.elems _ _ _ (by omega)

theorem spec_le_evalCaseMatch (m : Nat) {k : Nat} (c : CellId) (pats : List Expr)
    (hk : altsFuel pats ≤ k) :
    EMLe (firstAlt (evalExpr prog m) c pats) (evalCaseMatch prog k c pats) :=
  (patComplete prog m k).alts c pats hk

theorem spec_le_evalArrayCaseMatch (m : Nat) {k : Nat} (c : CellId) (t : Token) (items : List Expr)
    (hk : elemsFuel items + 1 ≤ k) :
    EMLe (patMatches (evalExpr prog m) (.arr t items) c) (evalArrayCaseMatch prog k c items) :=
  (patComplete prog m k).arr c t items hk

theorem spec_le_matchElems (m : Nat) {k : Nat} (cs : List CellId) (ps : List Expr) (acc : Bindings)
    (hk : elemsFuel ps ≤ k) :
    EMLe (elemsMatch (evalExpr prog m) ps cs acc) (matchElems prog k cs ps acc) :=
  (patComplete prog m k).elems cs ps acc hk

/-! ### the case loop -/

theorem evalMatchCases_nil (k pos : Nat) (c : CellId) :
    evalMatchCases prog (k + 1) pos c [] = newCell (.nil none) := by
  rw [evalMatchCases]

theorem evalMatchCases_cons (k pos : Nat) (c : CellId) (pats : List Expr) (body : Stmt)
    (rest : List MatchCase) :
    evalMatchCases prog (k + 1) pos c (.mk pats body :: rest) = (do
      match (← evalCaseMatch prog k c pats) with
      | some b => runCase (evalExpr prog k) (evalStmt prog k) pos body b
      | none => evalMatchCases prog k pos c rest) := by
  funext s
  cases body <;>
  · rw [evalMatchCases]
    · simp only [bind, EM.bind]
      cases evalCaseMatch prog k c pats s with
      | ok a s1 => cases a <;> rfl
      | err e s1 => rfl
      | oof => rfl
    all_goals (intro be hbe; cases hbe)

theorem runCase_mono {evE evE' : Expr → EM CellId} {evS evS' : Stmt → EM Unit}
    (hE : ∀ e, EMLe (evE e) (evE' e)) (hS : ∀ st, EMLe (evS st) (evS' st)) (pos : Nat) (body : Stmt)
    (b : Bindings) : EMLe (runCase evE evS pos body b) (runCase evE' evS' pos body b) := by
  unfold runCase
  refine EMLe.bind (EMLe.refl _) (fun s0 => EMLe.bind (EMLe.refl _) (fun r => ?_))
  cases r with
  | error msg => exact EMLe.refl _
  | ok u =>
    refine EMLe.withFrames _ (EMLe.bind (EMLe.refl _) (fun _ => ?_))
    cases body <;> first
      | exact hE _
      | exact EMLe.bind (hS _) (fun _ => EMLe.refl _)

theorem evalMatchCases_le_spec {m : Nat} (pos : Nat) (c : CellId) :
    ∀ (k : Nat) (cases : List MatchCase), k ≤ m →
      EMLe (evalMatchCases prog k pos c cases)
        (selectAndRun (evalExpr prog m) (evalStmt prog m) pos c cases)
  | 0, cases, _ => by rw [evalMatchCases_zero]; exact EMLe.oofL _
  | k + 1, [], _ => by rw [evalMatchCases_nil, selectAndRun_nil]; exact EMLe.refl _
  | k + 1, .mk pats body :: rest, hk => by
    rw [evalMatchCases_cons, selectAndRun_cons]
    refine EMLe.bind (evalCaseMatch_le_spec prog (by omega) c pats) (fun r => ?_)
    cases r with
    | none => exact evalMatchCases_le_spec pos c k rest (by omega)
    | some b =>
      exact runCase_mono (fun e => evalExpr_le prog e (by omega))
        (fun st => evalStmt_le prog st (by omega)) pos body b

theorem spec_le_evalMatchCases (m pos : Nat) (c : CellId) :
    ∀ (cases : List MatchCase) (k : Nat), m + matchFuel cases ≤ k →
      EMLe (selectAndRun (evalExpr prog m) (evalStmt prog m) pos c cases)
        (evalMatchCases prog k pos c cases)
  | [], k, hk => by
    obtain ⟨k', rfl⟩ : ∃ k', k = k' + 1 := ⟨k - 1, by simp only [matchFuel] at hk; omega⟩
    rw [evalMatchCases_nil, selectAndRun_nil]; exact EMLe.refl _
  | .mk pats body :: rest, k, hk => by
    simp only [matchFuel] at hk
    obtain ⟨k', rfl⟩ : ∃ k', k = k' + 1 := ⟨k - 1, by omega⟩
    have h1 := matchFuel_pos rest
    have h2 := altsFuel_pos pats
    rw [evalMatchCases_cons, selectAndRun_cons]
    refine EMLe.bind (spec_le_evalCaseMatch prog m c pats (by omega)) (fun r => ?_)
    cases r with
    | none => exact spec_le_evalMatchCases m pos c rest k' (by omega)
    | some b =>
      exact runCase_mono (fun e => evalExpr_le prog e (by omega))
        (fun st => evalStmt_le prog st (by omega)) pos body b

/-! ### the whole expression -/

theorem evalMatch_sound {n m : Nat} (h : n ≤ m) (t : Token) (v : Expr) (cases : List MatchCase) :
    EMLe (evalExpr prog (n + 1) (.match_ t v cases))
      (matchSpec (evalExpr prog m) (evalStmt prog m) t v cases) := by
  rw [evalExpr_match]
  unfold matchSpec
  exact EMLe.bind (evalExpr_le prog v h) (fun c => evalMatchCases_le_spec prog t.pos c n cases h)

theorem evalMatch_sound_eq {n m : Nat} (h : n ≤ m) (t : Token) (v : Expr) (cases : List MatchCase)
    (s : St) (r : Res CellId) (he : evalExpr prog (n + 1) (.match_ t v cases) s = r)
    (hr : r ≠ .oof) : matchSpec (evalExpr prog m) (evalStmt prog m) t v cases s = r := by
  rw [(evalMatch_sound prog h t v cases).eq_of_ne_oof (by rw [he]; exact hr), he]

theorem spec_le_evalMatch (m : Nat) (t : Token) (v : Expr) (cases : List MatchCase) {N : Nat}
    (hN : m + matchFuel cases + 1 ≤ N) :
    EMLe (matchSpec (evalExpr prog m) (evalStmt prog m) t v cases)
      (evalExpr prog N (.match_ t v cases)) := by
  obtain ⟨n, rfl⟩ : ∃ n, N = n + 1 := ⟨N - 1, by omega⟩
  rw [evalExpr_match]
  unfold matchSpec
  exact EMLe.bind (evalExpr_le prog v (by omega))
    (fun c => spec_le_evalMatchCases prog m t.pos c cases n (by omega))

theorem evalMatch_complete (m : Nat) (t : Token) (v : Expr) (cases : List MatchCase) (s : St)
    (r : Res CellId) (h : matchSpec (evalExpr prog m) (evalStmt prog m) t v cases s = r)
    (hr : r ≠ .oof) {N : Nat} (hN : m + matchFuel cases + 1 ≤ N) :
    evalExpr prog N (.match_ t v cases) s = r := by
  rw [(spec_le_evalMatch prog m t v cases hN).eq_of_ne_oof (by rw [h]; exact hr), h]


theorem firstAlt_mono {ev ev' : Expr → EM CellId} (h : ∀ t, EMLe (ev (.lit t)) (ev' (.lit t)))
    (c : CellId) : ∀ pats, EMLe (firstAlt ev c pats) (firstAlt ev' c pats)
  | [] => EMLe.refl _
  | p :: rest => by
    rw [firstAlt_cons, firstAlt_cons]
    refine EMLe.bind (patMatches_mono h p c) (fun r => ?_)
    cases r with
    | none => exact firstAlt_mono h c rest
    | some b => exact EMLe.refl _

theorem selectAndRun_mono {evE evE' : Expr → EM CellId} {evS evS' : Stmt → EM Unit}
    (hE : ∀ e, EMLe (evE e) (evE' e)) (hS : ∀ st, EMLe (evS st) (evS' st)) (pos : Nat) (c : CellId) :
    ∀ cases, EMLe (selectAndRun evE evS pos c cases) (selectAndRun evE' evS' pos c cases)
  | [] => EMLe.refl _
  | .mk pats body :: rest => by
    rw [selectAndRun_cons, selectAndRun_cons]
    refine EMLe.bind (firstAlt_mono (fun t => hE _) c pats) (fun r => ?_)
    cases r with
    | none => exact selectAndRun_mono hE hS pos c rest
    | some b => exact runCase_mono hE hS pos body b

theorem matchSpec_mono {evE evE' : Expr → EM CellId} {evS evS' : Stmt → EM Unit}
    (hE : ∀ e, EMLe (evE e) (evE' e)) (hS : ∀ st, EMLe (evS st) (evS' st)) (t : Token) (v : Expr)
    (cases : List MatchCase) : EMLe (matchSpec evE evS t v cases) (matchSpec evE' evS' t v cases) := by
  unfold matchSpec
  exact EMLe.bind (hE v) (fun c => selectAndRun_mono hE hS t.pos c cases)

theorem matchSpec_fuel_irrelevant {m m' : Nat} (hm : m ≤ m') (t : Token) (v : Expr)
    (cases : List MatchCase) :
    EMLe (matchSpec (evalExpr prog m) (evalStmt prog m) t v cases)
      (matchSpec (evalExpr prog m') (evalStmt prog m') t v cases) :=
  matchSpec_mono (fun e => evalExpr_le prog e hm) (fun st => evalStmt_le prog st hm) t v cases

/-! ### order: what precedes decides -/

theorem firstAlt_append (ev : Expr → EM CellId) (c : CellId) (pre post : List Expr) (s : St) :
    firstAlt ev c (pre ++ post) s =
      (match firstAlt ev c pre s with
       | .ok none s1 => firstAlt ev c post s1
       | .ok (some b) s1 => .ok (some b) s1
       | .err e s1 => .err e s1
       | .oof => .oof) := by
  induction pre generalizing s with
  | nil => rfl
  | cons p pre ih =>
    simp only [List.cons_append, firstAlt_cons, bind, EM.bind]
    cases patMatches ev p c s with
    | ok a s1 =>
      cases a with
      | none => exact ih s1
      | some b => rfl
    | err e s1 => rfl
    | oof => rfl

theorem firstMatch_append (ev : Expr → EM CellId) (c : CellId) (pre post : List MatchCase) (s : St) :
    firstMatch ev c (pre ++ post) s =
      (match firstMatch ev c pre s with
       | .ok none s1 => firstMatch ev c post s1
       | .ok (some sel) s1 => .ok (some sel) s1
       | .err e s1 => .err e s1
       | .oof => .oof) := by
  induction pre generalizing s with
  | nil => rfl
  | cons cs pre ih =>
    obtain ⟨pats, body⟩ := cs
    simp only [List.cons_append, firstMatch_cons, bind, EM.bind]
    cases firstAlt ev c pats s with
    | ok a s1 =>
      cases a with
      | none => exact ih s1
      | some b => rfl
    | err e s1 => rfl
    | oof => rfl

theorem selectAndRun_apply (evE : Expr → EM CellId) (evS : Stmt → EM Unit) (pos : Nat) (c : CellId)
    (cases : List MatchCase) (s : St) :
    selectAndRun evE evS pos c cases s =
      (match firstMatch evE c cases s with
       | .ok none s1 => newCell (.nil none) s1
       | .ok (some sel) s1 => runCase evE evS pos sel.1 sel.2 s1
       | .err e s1 => .err e s1
       | .oof => .oof) := by
  simp only [selectAndRun, bind, EM.bind]
  cases firstMatch evE c cases s with
  | ok a s1 =>
    cases a with
    | none => rfl
    | some sel => rfl
  | err e s1 => rfl
  | oof => rfl

theorem selectAndRun_append (evE : Expr → EM CellId) (evS : Stmt → EM Unit) (pos : Nat) (c : CellId)
    (pre post : List MatchCase) (s : St) :
    selectAndRun evE evS pos c (pre ++ post) s =
      (match firstMatch evE c pre s with
       | .ok none s1 => selectAndRun evE evS pos c post s1
       | .ok (some sel) s1 => runCase evE evS pos sel.1 sel.2 s1
       | .err e s1 => .err e s1
       | .oof => .oof) := by
  rw [selectAndRun_apply, firstMatch_append]
  cases firstMatch evE c pre s with
  | ok a s1 =>
    cases a with
    | none => exact (selectAndRun_apply evE evS pos c post s1).symm
    | some sel => rfl
  | err e s1 => rfl
  | oof => rfl

/-! ### the body frame -/

theorem runCase_apply (evE : Expr → EM CellId) (evS : Stmt → EM Unit) (pos : Nat) (body : Stmt)
    (b : Bindings) (s : St) (hd : s.frames.length ≤ callDepthLimit) :
    runCase evE evS pos body b s =
      withFrames s.frames (do
        bindAll b
        match body with
        | .expr be => evE be
        | _ => do evS body; newCell (.nil none))
        { s with frames := ⟨b!"<match>", []⟩ :: s.frames,
                 maxDepth := max s.maxDepth (s.frames.length + 1) } := by
  have hd' : ¬ s.frames.length > callDepthLimit := by omega
  simp only [runCase, bind, EM.bind, getSt, pushFrame, hd', ↓reduceIte]
  rfl

theorem runCase_too_deep (evE : Expr → EM CellId) (evS : Stmt → EM Unit) (pos : Nat) (body : Stmt)
    (b : Bindings) (s : St) (hd : s.frames.length > callDepthLimit) :
    runCase evE evS pos body b s = throwRt pos "call depth limit exceeded" s := by
  simp only [runCase, bind, EM.bind, getSt, pushFrame, hd, ↓reduceIte]

def endState {α : Type} : Res α → Option St
  | .ok _ s => some s
  | .err _ s => some s
  | .oof => none

theorem withFrames_frames {α : Type} (saved : List Frame) (m : EM α) (s0 s' : St)
    (h : endState (withFrames saved m s0) = some s') : s'.frames = saved := by
  unfold withFrames at h
  cases hm : m s0 <;> rw [hm] at h <;> simp [endState] at h <;> subst h <;> rfl

theorem runCase_frames (evE : Expr → EM CellId) (evS : Stmt → EM Unit) (pos : Nat) (body : Stmt)
    (b : Bindings) (s s' : St) (h : endState (runCase evE evS pos body b s) = some s') :
    s'.frames = s.frames := by
  by_cases hd : s.frames.length > callDepthLimit
  · rw [runCase_too_deep _ _ _ _ _ _ hd] at h
    simp [throwRt, endState] at h
    subst h; rfl
  · rw [runCase_apply _ _ _ _ _ _ (by omega)] at h
    exact withFrames_frames _ _ _ _ h

theorem bindAll_eq (b : Bindings) (s : St) (f : Frame) (fs : List Frame) (hf : s.frames = f :: fs) :
    bindAll b s = .ok () { s with frames := { f with locals := mergeBindings f.locals b } :: fs } := by
  induction b generalizing s f with
  | nil =>
    simp only [bindAll, mergeBindings, List.foldl_nil, pure, EM.pure]
    rw [← hf]
  | cons kv rest ih =>
    obtain ⟨k, c⟩ := kv
    simp only [bindAll, bind, EM.bind, setLocal, hf]
    rw [ih _ { f with locals := objInsert f.locals k c } rfl]
    rfl

theorem runCase_body_state (evE : Expr → EM CellId) (evS : Stmt → EM Unit) (pos : Nat) (body : Stmt)
    (b : Bindings) (s : St) (hd : s.frames.length ≤ callDepthLimit) :
    runCase evE evS pos body b s =
      withFrames s.frames
        (match body with
         | .expr be => evE be
         | _ => do evS body; newCell (.nil none))
        { s with frames := ⟨b!"<match>", mergeBindings [] b⟩ :: s.frames,
                 maxDepth := max s.maxDepth (s.frames.length + 1) } := by
  rw [runCase_apply evE evS pos body b s hd]
  simp only [withFrames, bind, EM.bind]
  rw [bindAll_eq b _ ⟨b!"<match>", []⟩ s.frames rfl]

end Jqawk.MatchSpec
