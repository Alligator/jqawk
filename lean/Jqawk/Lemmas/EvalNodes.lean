/-
  One step of each kind of node.  `evalUnary`, `evalBinary`, `evalExprList`, `evalObjItems` and
  `callFunction` are written here once as "the sub-evaluations, in order, then a finish function
  applied to their results".
  A finish function (`applyUnary`, `binaryTail`, `applyBinary`, `copyFresh`, `callBody`,
  `nativeResult`) is a plain, non-recursive `EM` program; where the step needs the evaluator again
  (the right operand of `&&`, the body of a function) the evaluator at lower fuel is an ARGUMENT of
  type `EM _`.  A statement about a node is read off its equation with `EM.bind_ok` /
  `EM.bind_err` and the case lemmas of the finish function, without unfolding the mutual block.
  (The literal node is `MatchSpec.evalExpr_lit_eq`, match cases and alternatives are
  `MatchSpec.evalMatchCases_cons` / `evalCaseMatch_cons`, the header of for-in is
  `Spec.evalStmt_forIn`, `print` is `C17.evalStmt_print`.)

  Also here: the one case analysis of `binaryOp` that every invariant of the values needs; which
  operator tags `evalBinary` and `evalUnary` have a case for (`BlameSites.isBinaryTag`,
  `isTableOp`, `isUnaryTag`: the parser side needs them without the evaluator's equations); the
  step of `forInLoop` as an equation (`Spec.bindRaw`, `Spec.forInLoop_succ_cons`).
-/
import Jqawk.Model.Eval
import Jqawk.Spec.Loops
import Jqawk.Lemmas.EvalSteps
import Jqawk.Lemmas.HeapOps

namespace Jqawk.BlameSites
open Jqawk

/-- the tags `evalBinary` hands to `binaryOp` -/
def isTableOp (t : Tag) : Bool :=
  isCompareOp t || isArithOp t || t == .tilde || t == .bangTilde

/-- every tag for which `evalBinary` has a case of its own -/
def isBinaryTag (t : Tag) : Bool :=
  t == .ampAmp || t == .pipePipe || t == .is || t == .lsquare || t == .dot || t == .equal ||
    isTableOp t

/-- the tags `evalUnary` has a case for -/
def isUnaryTag (t : Tag) : Bool :=
  t == .bang || t == .plus || t == .minus || t == .plusPlus || t == .minusMinus

/-- the value `evalUnary` computes for `!`, unary `+`, unary `-` -/
def unaryOp (op : Tag) (v : Val) : Val :=
  match op with
  | .bang => .bool (!v.truthy)
  | .plus => .num v.asNum
  | _ => .num (F64.neg v.asNum)

/-- the new value of the operand of `++` / `--` -/
def stepOp (op : Tag) (v : Val) : F64 :=
  if op == .plusPlus then F64.add v.asNum F64.one else F64.sub v.asNum F64.one

/-- the value kinds with a speculative reference: what `evalAssignment` creates first -/
def needsCreate : Val → Bool
  | .nil (some _) => true
  | .native _ _ (some _) => true
  | .str _ (some _) => true
  | _ => false

/-- the state after an element's value `w` has been stored in a fresh cell (what `evalExprList`
    does for arguments and array elements) -/
def afterCopy (s1 : St) (init w : Val) : St :=
  { s1 with heap := ((s1.heap.alloc init).2).set s1.heap.cells.size w }

end Jqawk.BlameSites

namespace Jqawk
open BlameSites (isTableOp isBinaryTag isUnaryTag unaryOp stepOp afterCopy)

/-! ### feeding the known results of sub-evaluations into `>>=` -/

theorem EM.bind_ok {α β : Type} {m : EM α} {s s1 : St} {a : α} (h : m s = .ok a s1) (k : α → EM β) :
    (m >>= k) s = k a s1 := by
  show EM.bind m k s = _
  rw [EM.bind, h]

theorem EM.bind_err {α β : Type} {m : EM α} {s s1 : St} {e : Err} (h : m s = .err e s1)
    (k : α → EM β) : (m >>= k) s = .err e s1 := by
  show EM.bind m k s = _
  rw [EM.bind, h]

/-- `EM.bind_err` for a hypothesis that names the raising primitive (unifying `throwRt … s1` with
    `.err e s'` would leave the unfolded state in the goal) -/
theorem EM.bind_rt {α β : Type} {m : EM α} {s s1 : St} {pos : Nat} {msg : String}
    (h : m s = throwRt pos msg s1) (k : α → EM β) : (m >>= k) s = throwRt pos msg s1 :=
  EM.bind_err h k

theorem readCell_bind {α : Type} (c : CellId) (k : Val → EM α) (s : St) :
    (readCell c >>= k) s = k (s.heap.get c) s := rfl

theorem getHeap_bind {α : Type} (k : Heap → EM α) (s : St) : (getHeap >>= k) s = k s.heap s := rfl

theorem getSt_bind {α : Type} (k : St → EM α) (s : St) : (getSt >>= k) s = k s s := rfl

variable (prog : Program)

/-! ### the node dispatch of `evalExpr` -/

theorem evalExpr_zero (e : Expr) : evalExpr prog 0 e = oof := by unfold evalExpr; rfl

theorem evalExpr_binary (n : Nat) (l r : Expr) (op : Token) :
    evalExpr prog (n + 1) (.binary l r op) = evalBinary prog n l r op := by
  simp [evalExpr]

theorem evalExpr_unary (n : Nat) (e : Expr) (op : Token) (p : Bool) :
    evalExpr prog (n + 1) (.unary e op p) = evalUnary prog n e op p := by
  simp [evalExpr]

theorem evalExpr_ident (n : Nat) (t : Token) :
    evalExpr prog (n + 1) (.ident t) = getIdentifier prog t := by
  simp [evalExpr]

theorem evalExpr_obj (n : Nat) (t : Token) (items : List (Bytes × Expr)) :
    evalExpr prog (n + 1) (.obj t items) =
      (do let members ← evalObjItems prog n t.pos items []
          let o ← allocObjM members
          newCell (.obj o) : EM CellId) := by
  unfold evalExpr; rfl

theorem evalExpr_arr (n : Nat) (t : Token) (items : List Expr) :
    evalExpr prog (n + 1) (.arr t items) =
      (do let cells ← evalExprList prog n items true
          let a ← allocArrM cells.toArray
          newCell (.arr a) : EM CellId) := by
  unfold evalExpr; rfl

theorem evalExpr_call (n : Nat) (f : Expr) (args : List Expr) :
    evalExpr prog (n + 1) (.call f args) =
      (do let fnCell ← evalExpr prog n f
          let argCells ← evalExprList prog n args true
          callFunction prog n f.token.pos fnCell argCells : EM CellId) := by
  conv => lhs; unfold evalExpr

theorem evalExpr_match (n : Nat) (t : Token) (v : Expr) (cases : List MatchCase) :
    evalExpr prog (n + 1) (.match_ t v cases) =
      (do let value ← evalExpr prog n v
          evalMatchCases prog n t.pos value cases : EM CellId) := by
  conv => lhs; unfold evalExpr

/-! ### unary nodes -/

/-- what `evalUnary` does with the operand's cell -/
def applyUnary (op : Token) (isPost : Bool) (val : CellId) : EM CellId := do
  let v ← readCell val
  match op.tag with
  | .bang => newCell (.bool (!v.truthy))
  | .plus => newCell (.num v.asNum)
  | .minus => newCell (.num (F64.neg v.asNum))
  | .plusPlus | .minusMinus =>
    let x := v.asNum
    let nv := if op.tag == .plusPlus then F64.add x F64.one else F64.sub x F64.one
    let nc ← newCell (.num nv)
    let assigned ← evalAssignment op.pos val nc
    if isPost then newCell (.num x)
    else newCell (← readCell assigned)
  | _ => throwRt op.pos "unknown operator"

theorem evalUnary_eq (n : Nat) (e : Expr) (op : Token) (p : Bool) :
    evalUnary prog (n + 1) e op p = evalExpr prog n e >>= applyUnary op p := by
  unfold evalUnary applyUnary
  rfl

theorem applyUnary_value {op : Token} (hop : op.tag = .bang ∨ op.tag = .plus ∨ op.tag = .minus)
    (p : Bool) (c : CellId) (s : St) :
    applyUnary op p c s = newCell (unaryOp op.tag (s.heap.get c)) s := by
  rw [applyUnary, readCell_bind]
  rcases hop with h | h | h <;> simp only [h, unaryOp]

theorem applyUnary_step {op : Token} (hop : op.tag = .plusPlus ∨ op.tag = .minusMinus) (p : Bool)
    (c : CellId) (s : St) :
    applyUnary op p c s =
      (do let nc ← newCell (.num (stepOp op.tag (s.heap.get c)))
          let assigned ← evalAssignment op.pos c nc
          if p then newCell (.num (s.heap.get c).asNum)
          else newCell (← readCell assigned) : EM CellId) s := by
  rw [applyUnary, readCell_bind]
  rcases hop with h | h <;> simp only [h, stepOp] <;> rfl

theorem applyUnary_unknown {op : Token} (hop : isUnaryTag op.tag = false) (p : Bool) (c : CellId)
    (s : St) : applyUnary op p c s = throwRt op.pos "unknown operator" s := by
  rw [applyUnary, readCell_bind]
  generalize op.tag = t at hop
  split <;> first | cases hop | rfl

/-! ### binary nodes -/

/-- what `evalBinary` does with the two operand cells, for the operators that evaluate both
    operands first (all but `&&`, `||`, `is`): the inner `match` of `evalBinary` -/
def applyBinary (l r : Expr) (op : Token) (left right : CellId) : EM CellId :=
  match op.tag with
  | .lsquare | .dot => memberStep l.token.pos left right
  | .equal => evalAssignment l.token.pos left right
  | t =>
    if isTableOp t then do
      match binaryOp t (← readCell left) (← readCell right) with
      | .val v => newCell v
      | .err atRight m =>
        throwRt (if atRight then r.token.pos
                 else if isCompareOp t then l.token.pos else op.pos) m
      | .unmodelled why => throwUnmodelled why
    else throwRt op.pos "unknown operator"

/-- what `evalBinary` does once the LEFT operand is evaluated; `evR` evaluates the right one.
    The last arm repeats the text of `evalBinary` (and not `evR >>= applyBinary …`, which it
    equals: `binaryTail_eager`) so that `evalBinary_eq` holds by unfolding. -/
def binaryTail (evR : EM CellId) (l r : Expr) (op : Token) (left : CellId) : EM CellId :=
  match op.tag with
  | .ampAmp => do
    if (← readCell left).truthy then
      let right ← evR
      newCell (.bool (← readCell right).truthy)
    else newCell (.bool false)
  | .pipePipe => do
    if (← readCell left).truthy then newCell (.bool true)
    else
      let right ← evR
      newCell (.bool (← readCell right).truthy)
  | .is =>
    match r with
    | .ident t => do newCell (.bool (isType (← readCell left) t))
    | _ => throwRt r.token.pos "expected a type name"
  | _ => do
    let right ← evR
    match op.tag with
    | .lsquare | .dot => memberStep l.token.pos left right
    | .equal => evalAssignment l.token.pos left right
    | t =>
      if isCompareOp t || isArithOp t || t == .tilde || t == .bangTilde then
        match binaryOp t (← readCell left) (← readCell right) with
        | .val v => newCell v
        | .err atRight m =>
          throwRt (if atRight then r.token.pos
                   else if isCompareOp t then l.token.pos else op.pos) m
        | .unmodelled why => throwUnmodelled why
      else throwRt op.pos "unknown operator"

theorem evalBinary_eq (n : Nat) (l r : Expr) (op : Token) :
    evalBinary prog (n + 1) l r op =
      evalExpr prog n l >>= binaryTail (evalExpr prog n r) l r op := by
  unfold evalBinary binaryTail
  rfl

theorem binaryTail_eager {op : Token} (hop : op.tag ≠ .ampAmp ∧ op.tag ≠ .pipePipe ∧ op.tag ≠ .is)
    (evR : EM CellId) (l r : Expr) (left : CellId) :
    binaryTail evR l r op left = evR >>= applyBinary l r op left := by
  unfold binaryTail applyBinary
  -- `op.tag` occurs in the arms of the outer `match` as well: `split` needs a variable there
  generalize op.tag = t at hop
  split
  · exact absurd rfl hop.1
  · exact absurd rfl hop.2.1
  · exact absurd rfl hop.2.2
  · rfl

/-- every operator but `&&`, `||`, `is`: left operand, right operand, `applyBinary` -/
theorem evalBinary_eager (n : Nat) (l r : Expr) (op : Token)
    (hop : op.tag ≠ .ampAmp ∧ op.tag ≠ .pipePipe ∧ op.tag ≠ .is) :
    evalBinary prog (n + 1) l r op = (do
      let left ← evalExpr prog n l
      let right ← evalExpr prog n r
      applyBinary l r op left right) := by
  rw [evalBinary_eq]
  exact congrArg _ (funext fun left => binaryTail_eager hop ..)

theorem evalBinary_both (n : Nat) (l r : Expr) (op : Token)
    (hop : op.tag ≠ .ampAmp ∧ op.tag ≠ .pipePipe ∧ op.tag ≠ .is) {s s1 s2 : St} {cl cr : CellId}
    (hl : evalExpr prog n l s = .ok cl s1) (hr : evalExpr prog n r s1 = .ok cr s2) :
    evalBinary prog (n + 1) l r op s = applyBinary l r op cl cr s2 := by
  rw [evalBinary_eager prog n l r op hop, EM.bind_ok hl, EM.bind_ok hr]

/-! the four cases of `applyBinary`; each class of operators reaches it -/

theorem applyBinary_member {op : Token} (hop : op.tag = .dot ∨ op.tag = .lsquare) (l r : Expr) :
    applyBinary l r op = memberStep l.token.pos := by
  funext cl cr
  rcases hop with h | h <;> simp only [applyBinary, h]

theorem applyBinary_assign {op : Token} (hop : op.tag = .equal) (l r : Expr) :
    applyBinary l r op = evalAssignment l.token.pos := by
  funext cl cr
  simp only [applyBinary, hop]

theorem applyBinary_table {op : Token} (hop : isTableOp op.tag = true) (l r : Expr)
    (cl cr : CellId) (s : St) :
    applyBinary l r op cl cr s =
      (match binaryOp op.tag (s.heap.get cl) (s.heap.get cr) with
       | .val v => newCell v s
       | .err atRight m =>
         throwRt (if atRight then r.token.pos
                  else if isCompareOp op.tag then l.token.pos else op.pos) m s
       | .unmodelled why => throwUnmodelled why s) := by
  unfold applyBinary
  generalize op.tag = t at hop
  split
  · cases hop
  · cases hop
  · cases hop
  · rw [if_pos hop, readCell_bind, readCell_bind]
    cases binaryOp t (s.heap.get cl) (s.heap.get cr) <;> rfl

theorem applyBinary_unknown {op : Token} (hop : isBinaryTag op.tag = false) (l r : Expr)
    (cl cr : CellId) : applyBinary l r op cl cr = throwRt op.pos "unknown operator" := by
  unfold applyBinary
  generalize op.tag = t at hop
  split
  · cases hop
  · cases hop
  · cases hop
  · rw [if_neg (by rw [(Bool.or_eq_false_iff.mp hop).2]; exact Bool.false_ne_true)]

theorem eager_of_table {t : Tag} (h : isTableOp t = true) :
    t ≠ .ampAmp ∧ t ≠ .pipePipe ∧ t ≠ .is := by
  refine ⟨?_, ?_, ?_⟩ <;> (rintro rfl; cases h)

theorem eager_of_unknown {t : Tag} (h : isBinaryTag t = false) :
    t ≠ .ampAmp ∧ t ≠ .pipePipe ∧ t ≠ .is := by
  refine ⟨?_, ?_, ?_⟩ <;> (rintro rfl; cases h)

theorem eager_of_member {t : Tag} (h : t = .dot ∨ t = .lsquare) :
    t ≠ .ampAmp ∧ t ≠ .pipePipe ∧ t ≠ .is := by
  rcases h with rfl | rfl <;> decide

theorem eager_of_assign {t : Tag} (h : t = .equal) : t ≠ .ampAmp ∧ t ≠ .pipePipe ∧ t ≠ .is := by
  subst h; decide

theorem memberStep_err (pos : Nat) {cl cr : CellId} {s : St} {m : String}
    (hk : (s.heap.get cl).kind ≠ .unknown)
    (hg : getMember s.heap (s.heap.get cl) (s.heap.get cr) = .error m) :
    memberStep pos cl cr s = throwRt pos m s := by
  unfold memberStep
  have : ((s.heap.get cl).kind == Kind.unknown) = false := by simpa using hk
  simp only [bind, EM.bind, readCell, this, Bool.false_eq_true, ↓reduceIte, getHeap, hg]

/-! ### a value copied into a fresh cell (array elements, arguments, object members, `-r`) -/

/-- allocate a cell holding `init`, copy the value of `v` into it; a value that cannot be copied
    is a runtime error at `pos` -/
def copyFresh (init : Val) (pos : Nat) (v : CellId) : EM CellId := do
  let fresh ← newCell init
  match (← copyValue v fresh) with
  | .error m => throwRt pos m
  | .ok c => pure c

theorem copyFresh_eq (init : Val) (pos : Nat) (v : CellId) (s : St) :
    copyFresh init pos v s =
      match copyVal ((s.heap.alloc init).2.get v) with
      | .ok w => .ok s.heap.cells.size (afterCopy s init w)
      | .error m => throwRt pos m { s with heap := (s.heap.alloc init).2 } := by
  simp only [copyFresh, bind, EM.bind, newCell, copyValue, readCell]
  cases copyVal ((s.heap.alloc init).2.get v) <;> rfl

/-- a cell whose value cannot be copied is allocated (a cell out of range reads as unset, which
    copies), so a fresh cell does not disturb it -/
theorem get_alloc_of_copy_err (h : Heap) (v : Val) (c : CellId) (m : String)
    (hc : copyVal (h.get c) = .error m) : (h.alloc v).2.get c = h.get c := by
  by_cases hlt : c < h.cells.size
  · exact Heap.get_alloc_old h v c hlt
  · rw [Heap.get_of_not_valid h c hlt] at hc; cases hc

theorem copyFresh_err (init : Val) (pos : Nat) {v : CellId} {s : St} {m : String}
    (hc : copyVal (s.heap.get v) = .error m) :
    copyFresh init pos v s = throwRt pos m { s with heap := (s.heap.alloc init).2 } := by
  rw [copyFresh_eq, get_alloc_of_copy_err _ _ _ m hc, hc]

theorem copyFresh_ok (init : Val) (pos : Nat) {v : CellId} {s : St} {w : Val}
    (hlt : v < s.heap.cells.size) (hc : copyVal (s.heap.get v) = .ok w) :
    copyFresh init pos v s = .ok s.heap.cells.size (afterCopy s init w) := by
  rw [copyFresh_eq, Heap.get_alloc_old _ _ _ hlt, hc]

theorem evalExprList_succ_cons (n : Nat) (e : Expr) (rest : List Expr) :
    evalExprList prog (n + 1) (e :: rest) true = (do
      let v ← evalExpr prog n e
      let c ← copyFresh (.str [] none) e.token.pos v
      let cs ← evalExprList prog n rest true
      pure (c :: cs)) := by
  conv => lhs; unfold evalExprList
  rfl

theorem evalObjItems_succ_cons (n pos : Nat) (k : Bytes) (e : Expr) (rest : List (Bytes × Expr))
    (acc : List (Bytes × CellId)) :
    evalObjItems prog (n + 1) pos ((k, e) :: rest) acc = (do
      let v ← evalExpr prog n e
      let c ← copyFresh .unknown pos v
      evalObjItems prog n pos rest (objInsert acc k c)) := by
  conv => lhs; unfold evalObjItems
  funext s
  simp only [bind, EM.bind]
  cases evalExpr prog n e s with
  | ok v s1 =>
    dsimp only
    rw [copyFresh_eq]
    simp only [newCell, copyValue, bind, EM.bind, readCell]
    cases copyVal ((s1.heap.alloc .unknown).2.get v) <;> rfl
  | err e s1 => rfl
  | oof => rfl

/-! ### calls -/

/-- the body of a user function in its frame: bind the parameters, run, wrap the result -/
def callBody (evBody : EM Unit) (params : List Bytes) (args : List Val) : EM CellId := do
  bindParams params args
  let rv ← catchReturn evBody
  newCell rv

/-- what a call does with the result of a native -/
def nativeResult (pos : Nat) (r : NativeRes) : EM CellId :=
  match r with
  | .error m => throwRt pos m
  | .ok (some v) => newCell v
  | .ok none => newCell (.nil none)

theorem callFunction_eq (n pos : Nat) (fc : CellId) (argCells : List CellId) (s : St) :
    callFunction prog (n + 1) pos fc argCells s =
      match s.heap.get fc with
      | .native f binding _ =>
        (callNative f (argCells.map s.heap.get) (binding.map s.heap.get) >>= nativeResult pos) s
      | .fn i =>
        match prog.functions[i]? with
        | none => throwPanic "dangling function" s
        | some f =>
          framed f.ident.text pos
            (callBody (evalStmt prog n f.body) f.args (argCells.map s.heap.get)) s
      | _ => throwRt pos "attempted to call a non-function" s := by
  unfold callFunction
  simp only [bind, EM.bind, readCell, getHeap]
  cases s.heap.get fc with
  | native f b sp => rfl
  | fn i => dsimp only; cases prog.functions[i]? <;> rfl
  | _ => rfl

theorem callFunction_fn (n pos : Nat) (fc : CellId) (argCells : List CellId) (s : St) {i : Nat}
    {f : FuncDef} (hv : s.heap.get fc = .fn i) (hf : prog.functions[i]? = some f) :
    callFunction prog (n + 1) pos fc argCells s =
      framed f.ident.text pos
        (callBody (evalStmt prog n f.body) f.args (argCells.map s.heap.get)) s := by
  rw [callFunction_eq, hv]; dsimp only; rw [hf]

/-! ### identifiers -/

theorem getVariable_err (name : Bytes) (s : St) (hl : lookupFrames s.frames name = none)
    (hd : name.head? = some 36) : getVariable name s = .ok (.error "unknown variable") s := by
  unfold getVariable
  simp only [bind, EM.bind, getSt, hl, hd, beq_self_eq_true, ↓reduceIte, pure, EM.pure]

theorem loopVar_ok (pos : Nat) {name : Bytes} {s s1 : St} {c : CellId}
    (h : getVariable name s = .ok (.ok c) s1) : Spec.loopVar pos name s = .ok c s1 := by
  rw [Spec.loopVar, EM.bind_ok h]; rfl

theorem loopVar_err (pos : Nat) {name : Bytes} {s : St} (hl : lookupFrames s.frames name = none)
    (hd : name.head? = some 36) : Spec.loopVar pos name s = throwRt pos "unknown variable" s := by
  rw [Spec.loopVar, EM.bind_ok (getVariable_err name s hl hd)]

theorem getIdentifier_dollar_eq {t : Token} (ht : t.tag = .dollar) (s : St) :
    getIdentifier prog t s =
      match s.ruleRoot with
      | some c => .ok c s
      | none => throwRt t.pos "unknown variable $" s := by
  unfold getIdentifier
  simp only [ht, beq_self_eq_true, ↓reduceIte, getSt_bind]
  cases s.ruleRoot <;> rfl

theorem getIdentifier_var {t : Token} (ht : t.tag ≠ .dollar) :
    getIdentifier prog t = Spec.loopVar t.pos t.text := by
  unfold getIdentifier Spec.loopVar
  rw [if_neg (by simpa using ht)]
  rfl

/-! ### the values `binaryOp` yields -/

theorem binaryOp_val {op : Tag} {l r v : Val} (h : binaryOp op l r = .val v) :
    (∃ b, v = .bool b) ∨ (∃ x, v = .num x) ∨ ∃ s, v = .str s none := by
  unfold binaryOp at h
  split at h
  · split at h
    · cases h; exact .inl ⟨_, rfl⟩
    · split at h
      · cases h
      · cases h; exact .inl ⟨_, rfl⟩
  · split at h
    · split at h
      · cases h; exact .inr (.inr ⟨_, rfl⟩)
      · dsimp only at h
        split at h
        · cases h; exact .inr (.inl ⟨_, rfl⟩)
        · cases h; exact .inr (.inl ⟨_, rfl⟩)
        · cases h; exact .inr (.inl ⟨_, rfl⟩)
        · split at h
          · cases h
          · cases h; exact .inr (.inl ⟨_, rfl⟩)
        · split at h
          · cases h
          · cases h; exact .inr (.inl ⟨_, rfl⟩)
    · dsimp only at h
      split at h
      · cases h
      · split at h
        · cases h
        · cases h
        · cases h; exact .inl ⟨_, rfl⟩

end Jqawk

namespace Jqawk.Spec
open Jqawk

variable (prog : Program)

/-- the item type of the model's `forInLoop` -/
abbrev RawItem := Option Val × (CellId ⊕ (Val × Option CellId))

/-- what `forInLoop` does with an item before it runs the body -/
def bindRaw (loc : CellId) (il : Option CellId) (it : RawItem) : EM Unit := do
  match il with
  | none => pure ()
  | some ic =>
    match it.1, it.2 with
    | some iv, _ => writeCell ic iv
    | none, .inr (_, some mc) => writeCell ic (← readCell mc)
    | none, _ => pure ()
  match it.2 with
  | .inl c => writeCell loc (← readCell c)
  | .inr (v, _) => writeCell loc v

theorem forInLoop_succ_cons (n : Nat) (loc : CellId) (il : Option CellId) (body : Stmt)
    (it : RawItem) (rest : List RawItem) :
    forInLoop prog (n + 1) loc il body (it :: rest) = (do
      bindRaw loc il it
      loopIter (evalStmt prog n body) (forInLoop prog n loc il body rest)) := by
  obtain ⟨iv, item⟩ := it
  conv => lhs; unfold forInLoop
  unfold bindRaw
  funext s
  cases il with
  | none => cases item <;> rfl
  | some ic =>
    cases iv with
    | some v => cases item <;> rfl
    | none =>
      cases item with
      | inl c => rfl
      | inr p => obtain ⟨v, mc⟩ := p; cases mc <;> rfl

end Jqawk.Spec
