/-
  Selector expressions that allocate no container (C14): built from `$`, literals, member / index
  steps, unary and binary operators other than assignment and `++`/`--`, and `match` whose case
  bodies are expressions of the same kind.  Evaluating such an expression only allocates cells:
  every existing cell, array and object is unchanged and no array or object is created (`NA`).

  The rules for the primitives (`NA.newCell … NA.memberStep`, `NA.framed`) are what
  Lemmas/SelectorPlain.lean uses, for the same operators inside the larger class `selX`; of the
  induction `allNA` it uses the literals only.  `allNA` stands as a statement of its own: it
  holds for every program and every heap, whereas the facts of SelectorPlain need the region
  invariant of the nested evaluator.
-/
import Jqawk.Lemmas.SelectorForms
import Jqawk.Lemmas.ReadOnly
import Jqawk.Lemmas.EvalSteps


namespace Jqawk
namespace Sel

mutual
def selE : Expr → Bool
  | .lit _ => true
  | .ident t => t.tag == .dollar
  | .unary e op _ => !(op.tag == .plusPlus) && !(op.tag == .minusMinus) && selE e
  | .binary l r op => !(op.tag == .equal) && selE l && (op.tag == .is || selE r)
  | .match_ _ v cases => selE v && selCases cases
  | .arr _ _ => false
  | .obj _ _ => false
  | .call _ _ => false
def selCases : List MatchCase → Bool
  | [] => true
  | (.mk _ body) :: cs => selBody body && selCases cs
def selBody : Stmt → Bool
  | .expr be => selE be
  | _ => false
end

structure NAR (s s' : St) : Prop where
  heap : HeapPreserved s.heap s'.heap
  arrs : s'.heap.arrs = s.heap.arrs
  objs : s'.heap.objs = s.heap.objs

theorem NAR.refl (s : St) : NAR s s := ⟨HeapPreserved.refl _, rfl, rfl⟩
theorem NAR.trans {a b c : St} (h1 : NAR a b) (h2 : NAR b c) : NAR a c :=
  ⟨h1.heap.trans h2.heap, h2.arrs.trans h1.arrs, h2.objs.trans h1.objs⟩

def NAres {α : Type} (s : St) : Res α → Prop
  | .ok _ s' => NAR s s'
  | .err e s' => NAR s s' ∧ ∀ g, e ≠ .sig g
  | .oof => True

def NA {α : Type} (m : EM α) : Prop := ∀ s, NAres s (m s)

theorem NAres.trans {α : Type} {s s1 : St} {r : Res α} (h1 : NAR s s1) (h : NAres s1 r) : NAres s r := by
  cases r with
  | ok a s' => exact h1.trans h
  | err e s' => exact ⟨h1.trans h.1, h.2⟩
  | oof => trivial

namespace NA

theorem pure {α : Type} (a : α) : NA (Pure.pure a : EM α) := fun s => NAR.refl s

theorem bind {α β : Type} {m : EM α} {f : α → EM β} (hm : NA m) (hf : ∀ a, NA (f a)) : NA (m >>= f) := by
  intro s
  show NAres s (EM.bind m f s)
  unfold EM.bind
  have h := hm s
  cases hr : m s with
  | ok a s1 => rw [hr] at h; exact NAres.trans h (hf a s1)
  | err e s1 => rw [hr] at h; exact h
  | oof => trivial

theorem oof {α : Type} : NA (Jqawk.oof : EM α) := fun _ => trivial
theorem getSt : NA Jqawk.getSt := fun s => NAR.refl s
theorem getHeap : NA Jqawk.getHeap := fun s => NAR.refl s
theorem readCell (c : CellId) : NA (Jqawk.readCell c) := fun s => NAR.refl s
theorem throwRt {α : Type} (p : Nat) (m : String) : NA (Jqawk.throwRt p m : EM α) :=
  fun s => ⟨⟨HeapPreserved.refl _, rfl, rfl⟩, fun g h => by cases h⟩
theorem throwPanic {α : Type} (m : String) : NA (Jqawk.throwPanic m : EM α) :=
  fun s => ⟨NAR.refl s, fun g h => by cases h⟩
theorem throwUnmodelled {α : Type} (m : String) : NA (Jqawk.throwUnmodelled m : EM α) :=
  fun s => ⟨NAR.refl s, fun g h => by cases h⟩
theorem newCell (v : Val) : NA (Jqawk.newCell v) := fun s => ⟨HeapPreserved.alloc s.heap v, rfl, rfl⟩

theorem setLocal (name : Bytes) (c : CellId) : NA (Jqawk.setLocal name c) := by
  intro s
  unfold Jqawk.setLocal
  cases s.frames with
  | nil => exact ⟨NAR.refl s, fun g h => by cases h⟩
  | cons f fs => exact ⟨HeapPreserved.refl _, rfl, rfl⟩

theorem bindAll (l : List (Bytes × CellId)) : NA (Jqawk.bindAll l) := by
  induction l with
  | nil => exact pure ()
  | cons kv rest ih =>
    obtain ⟨key, c⟩ := kv
    exact bind (setLocal key c) (fun _ => ih)

theorem getVariable (name : Bytes) : NA (Jqawk.getVariable name) := by
  unfold Jqawk.getVariable
  refine bind getSt (fun s => ?_)
  split
  · exact pure _
  · split
    · exact pure _
    · exact bind (newCell _) (fun c => bind (setLocal _ _) (fun _ => pure _))

theorem getIdentifier (prog : Program) (t : Token) : NA (Jqawk.getIdentifier prog t) := by
  unfold Jqawk.getIdentifier
  split
  · refine bind getSt (fun s => ?_)
    split
    · exact pure _
    · exact throwRt _ _
  · refine bind (getVariable _) (fun r => ?_)
    split
    · exact pure _
    · exact throwRt _ _

theorem memberStep (pos : Nat) (l r : CellId) : NA (Jqawk.memberStep pos l r) := by
  rw [memberStep_eq]
  refine bind (readCell _) (fun rv => bind (readCell _) (fun lv => ?_))
  split
  · exact newCell _
  · refine bind getHeap (fun h => ?_)
    split
    · exact throwRt _ _
    · rename_i mem _
      cases mem with
      | cell c =>
        simp only [memberFound]
        split
        · exact newCell _
        · exact pure _
      | char c x => cases c <;> exact newCell _
      | method f => exact newCell _
      | missing => exact newCell _

theorem framed {α : Type} (name : Bytes) (pos : Nat) (body : EM α) (hb : NA body) :
    NA (Jqawk.framed name pos body) := by
  intro s
  rw [framed_eq]
  split
  · exact throwRt pos _ s
  · unfold Jqawk.withFrames
    have h := hb { s with frames := ⟨name, []⟩ :: s.frames, maxDepth := max s.maxDepth (s.frames.length + 1) }
    revert h
    generalize body _ = r
    intro h
    cases r with
    | ok a s1 => exact ⟨h.heap, h.arrs, h.objs⟩
    | err e s1 => exact ⟨⟨h.1.heap, h.1.arrs, h.1.objs⟩, h.2⟩
    | oof => trivial

end NA

structure AllNA (prog : Program) (n : Nat) : Prop where
  expr : ∀ e, selE e = true → NA (evalExpr prog n e)
  matchCases : ∀ pos v cs, selCases cs = true → NA (evalMatchCases prog n pos v cs)
  caseMatch : ∀ v ps, NA (evalCaseMatch prog n v ps)
  arrayCaseMatch : ∀ v ps, NA (evalArrayCaseMatch prog n v ps)
  matchElems : ∀ cs ps acc, NA (Jqawk.matchElems prog n cs ps acc)
  unary : ∀ e op p, (op.tag == Tag.plusPlus) = false → (op.tag == Tag.minusMinus) = false → selE e = true →
    NA (evalUnary prog n e op p)
  binary : ∀ l r op, (op.tag == Tag.equal) = false → selE l = true → (op.tag == Tag.is || selE r) = true →
    NA (evalBinary prog n l r op)

theorem allNA_zero (prog : Program) : AllNA prog 0 :=
  ⟨by intros; unfold evalExpr; exact NA.oof,
   by intros; unfold evalMatchCases; exact NA.oof,
   by intros; unfold evalCaseMatch; exact NA.oof,
   by intros; unfold evalArrayCaseMatch; exact NA.oof,
   by intros; unfold Jqawk.matchElems; exact NA.oof,
   by intros; unfold evalUnary; exact NA.oof,
   by intros; unfold evalBinary; exact NA.oof⟩

theorem allNA_succ (prog : Program) (n : Nat) (ih : AllNA prog n) : AllNA prog (n + 1) := by
  constructor
  · -- expr
    intro e he
    unfold evalExpr
    cases e with
    | lit t =>
      dsimp only
      split
      all_goals first
        | exact NA.newCell _
        | exact NA.throwPanic _
        | (split <;> first | exact NA.throwRt _ _ | exact NA.newCell _)
    | ident t => exact NA.getIdentifier prog t
    | unary inner op p =>
      simp only [selE, Bool.and_eq_true, Bool.not_eq_true'] at he
      exact ih.unary inner op p he.1.1 he.1.2 he.2
    | binary l r op =>
      simp only [selE, Bool.and_eq_true, Bool.not_eq_true'] at he
      exact ih.binary l r op he.1.1 he.1.2 he.2
    | match_ t v cases =>
      simp only [selE, Bool.and_eq_true] at he
      dsimp only
      exact NA.bind (ih.expr v he.1) (fun value => ih.matchCases _ value cases he.2)
    | arr _ _ => simp [selE] at he
    | obj _ _ => simp [selE] at he
    | call _ _ => simp [selE] at he
  · -- matchCases
    intro pos v cs h
    cases cs with
    | nil => unfold evalMatchCases; exact NA.newCell _
    | cons c rest =>
      obtain ⟨pats, body⟩ := c
      simp only [selCases, Bool.and_eq_true] at h
      unfold evalMatchCases
      refine NA.bind (ih.caseMatch v pats) (fun r => ?_)
      cases r with
      | none => exact ih.matchCases pos v rest h.2
      | some bindings =>
        dsimp only
        apply NA.framed
        refine NA.bind (NA.bindAll _) (fun _ => ?_)
        cases body with
        | expr be => exact ih.expr be (by simpa [selBody] using h.1)
        | _ => simp [selBody] at h
  · -- caseMatch
    intro v ps
    cases ps with
    | nil => unfold evalCaseMatch; exact NA.pure _
    | cons p rest =>
      unfold evalCaseMatch
      cases p with
      | lit t =>
        dsimp only
        refine NA.bind (ih.expr (.lit t) rfl) (fun cv => NA.bind (NA.readCell _) (fun a => NA.bind (NA.readCell _) (fun b => ?_)))
        split
        · exact ih.caseMatch v rest
        · split
          · exact NA.throwRt _ _
          · split
            · exact NA.pure _
            · exact ih.caseMatch v rest
      | arr t items =>
        dsimp only
        refine NA.bind (ih.arrayCaseMatch v items) (fun r => ?_)
        split
        · exact NA.pure _
        · exact ih.caseMatch v rest
      | ident t => exact NA.pure _
      | _ => exact NA.throwRt _ _
  · -- arrayCaseMatch
    intro v ps
    unfold evalArrayCaseMatch
    refine NA.bind (NA.readCell _) (fun rv => ?_)
    split
    · refine NA.bind NA.getHeap (fun h => ?_)
      dsimp only
      split
      · exact NA.pure _
      · exact ih.matchElems _ _ _
    · exact NA.pure _
  · -- matchElems
    intro cs ps acc
    cases cs with
    | nil => unfold Jqawk.matchElems; exact NA.pure _
    | cons c cs =>
      cases ps with
      | nil => unfold Jqawk.matchElems; exact NA.pure _
      | cons p ps =>
        unfold Jqawk.matchElems
        refine NA.bind (ih.caseMatch c [p]) (fun r => ?_)
        split
        · exact NA.pure _
        · exact ih.matchElems _ _ _
  · -- unary
    intro e op p h1 h2 h3
    unfold evalUnary
    refine NA.bind (ih.expr e h3) (fun val => NA.bind (NA.readCell _) (fun v => ?_))
    split
    · exact NA.newCell _
    · exact NA.newCell _
    · exact NA.newCell _
    · rename_i heq; rw [heq] at h1; cases h1
    · rename_i heq; rw [heq] at h2; cases h2
    · exact NA.throwRt _ _
  · -- binary
    intro l r op h1 h2 h3
    unfold evalBinary
    refine NA.bind (ih.expr l h2) (fun left => ?_)
    have truthyCell : ∀ c : CellId, NA (do newCell (.bool (← Jqawk.readCell c).truthy)) :=
      fun c => NA.bind (NA.readCell c) (fun v => NA.newCell _)
    split
    · rename_i htag
      have hr' : selE r = true := by simpa [htag] using h3
      refine NA.bind (NA.readCell _) (fun v => ?_)
      split
      · exact NA.bind (ih.expr r hr') (fun right => truthyCell right)
      · exact NA.newCell _
    · rename_i htag
      have hr' : selE r = true := by simpa [htag] using h3
      refine NA.bind (NA.readCell _) (fun v => ?_)
      split
      · exact NA.newCell _
      · exact NA.bind (ih.expr r hr') (fun right => truthyCell right)
    · split
      · exact NA.bind (NA.readCell _) (fun v => NA.newCell _)
      · exact NA.throwRt _ _
    · rename_i hn1 hn2 hn3
      have hr' : selE r = true := by
        cases hb : (op.tag == Tag.is) with
        | true => exact absurd (by simpa using hb) hn3
        | false => simpa [hb] using h3
      refine NA.bind (ih.expr r hr') (fun right => ?_)
      split
      · exact NA.memberStep _ _ _
      · exact NA.memberStep _ _ _
      · rename_i heq; rw [heq] at h1; cases h1
      · split
        · refine NA.bind (NA.readCell _) (fun a => NA.bind (NA.readCell _) (fun b => ?_))
          split
          · exact NA.newCell _
          · exact NA.throwRt _ _
          · exact NA.throwUnmodelled _
        · exact NA.throwRt _ _

/-- **evaluating a container-free selector expression only allocates cells** -/
theorem allNA (prog : Program) : ∀ n, AllNA prog n
  | 0 => allNA_zero prog
  | n + 1 => allNA_succ prog n (allNA prog n)

end Sel
end Jqawk
