/-
  The search step `em_step` for the helpers of the evaluator that only sequence state primitives
  (`Shaped.callNative`, `Shaped.createSpeculative`, …) with the attribute of the rules it looks up,
  and what the inductions over the 15 evaluator functions share: `em_ih`, `unfold_eval`.
-/
import Lean.Meta.Tactic.Simp.RegisterCommand
import Jqawk.Model.Eval

/-- rules `P m` without hypotheses, for a single action `m` of the evaluation monad and one of the
    predicates on computations (`Shaped D G S`, `Safe`): what `em_step` closes a goal about a single
    action with, and what the readings of `Shaped` close their primitive cases with -/
register_simp_attr eval_rule

namespace Jqawk

/-- One step of the syntax-directed proof of `P m`, where `P` is a predicate on computations whose
    rules are theorems `P.foo`: it takes a sequence or a `match`/`if` apart, or closes a goal about
    a single action by its rule (`simp` finds the right one by indexing, which a list of
    alternatives cannot).  A rule with a hypothesis that is not about a sub-computation (a position
    for `throwRt`, say) is left to the caller. -/
macro "em_step" : tactic => `(tactic| first
  | (with_reducible_and_instances first
      | intro _
      | refine .bind ?_ ?_
      | split)
  | (simp only [eval_rule]; done))

/-- `em_step` as often as possible; `dsimp only` inlines a `let` that stands in the way -/
macro "em_auto" : tactic => `(tactic| repeat' (first | em_step | dsimp only))

/-- close a goal about one of the mutually recursive evaluator functions by the matching field of
    the induction hypothesis `ih` (an `AllXxx … n`), its side conditions by `assumption` -/
macro "em_ih" ih:term : tactic => `(tactic| with_reducible_and_instances first
  | (refine' ($ih).expr .. <;> assumption)
  | (refine' ($ih).stmt .. <;> assumption)
  | (refine' ($ih).exprList .. <;> assumption)
  | (refine' ($ih).call .. <;> assumption)
  | (refine' ($ih).binary .. <;> assumption)
  | (refine' ($ih).unary .. <;> assumption)
  | (refine' ($ih).objItems .. <;> assumption)
  | (refine' ($ih).matchCases .. <;> assumption)
  | (refine' ($ih).caseMatch .. <;> assumption)
  | (refine' ($ih).arrayCaseMatch .. <;> assumption)
  | (refine' ($ih).matchElems .. <;> assumption)
  | (refine' ($ih).block .. <;> assumption)
  | (refine' ($ih).whileL .. <;> assumption)
  | (refine' ($ih).forL .. <;> assumption)
  | (refine' ($ih).forInL .. <;> assumption))

/-- unfold the evaluator function the goal is about -/
macro "unfold_eval" : tactic => `(tactic| first
  | unfold evalExpr | unfold evalObjItems | unfold evalExprList | unfold evalMatchCases
  | unfold evalCaseMatch | unfold evalArrayCaseMatch | unfold matchElems | unfold callFunction
  | unfold evalUnary | unfold evalBinary | unfold evalStmt | unfold evalBlock | unfold whileLoop
  | unfold forLoop | unfold forInLoop)

end Jqawk
