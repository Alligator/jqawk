/-
  C13, `;` for a newline: the parser functions satisfy the specifications of Lemmas/NewlineSemiSim.lean.
  First the erasure facts (`Er`: entered with `t₀` as current token, the function requests a
  token or fails before looking at `prev`/`didEnd`), then `X` for the mutual block by induction
  on the fuel.  Every proof follows the program text, one lemma of the kit per action.
-/
import Jqawk.Lemmas.NewlineSemiSim


namespace Jqawk
namespace Semi
open Parser

variable {t₀ semi : Token} {tbl : RuleTable}

theorem Hyp.beq_eof (H : Hyp t₀ semi) : (t₀.tag == .eof) = false := beq_false_of_ne H.ne_eof
theorem Hyp.beq_rcurly (H : Hyp t₀ semi) : (t₀.tag == .rcurly) = false := beq_false_of_ne H.ne_rcurly
theorem Hyp.beq_rparen (H : Hyp t₀ semi) : (t₀.tag == .rparen) = false := beq_false_of_ne H.ne_rparen
theorem Hyp.beq_semi (H : Hyp t₀ semi) : (t₀.tag == .semiColon) = false := beq_false_of_ne H.ne_semi

theorem er_prefixFn : ∀ (n : Nat) (pk : PrefixKind), Er t₀ (prefixFn tbl n pk)
  | 0, _ => Er.oof
  | n + 1, pk => by
    unfold prefixFn
    split
    · exact .bind .advance _
    · exact .regexPrefix
    · exact .bind_get fun _ _ => .ite (.bind .advance _) .fail
    · exact .bind (.consume _) _
    · exact .bind (.consume _) _
    · exact .bind (.consume _) _
    · exact .bind .advance _
    · exact .bind (.consume _) _

theorem er_infixFn : ∀ (n : Nat) (ik : InfixKind) (left : Expr), Er t₀ (infixFn tbl n ik left)
  | 0, _, _ => Er.oof
  | n + 1, ik, left => by
    unfold infixFn
    split
    · exact .bind_get fun _ _ => .bind (.consume _) _
    · exact .bind (.consume _) _
    · exact .bind (.consume _) _
    · exact .ite .fail (.bind .advance _)
    · exact .bind .advance _
    · exact .bind (.consume _) _
    · exact .ite .fail (.bind .advance _)

theorem er_expressionWithPrec : ∀ (n prec : Nat), Er t₀ (expressionWithPrec tbl n prec)
  | 0, _ => Er.oof
  | n + 1, prec => by
    unfold expressionWithPrec
    refine .bind_get fun _ _ => ?_
    split
    · exact .fail
    · exact .bind (er_prefixFn _ _) _

theorem er_printStatement : ∀ n : Nat, Er t₀ (printStatement tbl n)
  | 0 => Er.oof
  | n + 1 => by unfold printStatement; exact .bind (.consume _) _

theorem er_block : ∀ n : Nat, Er t₀ (block tbl n)
  | 0 => Er.oof
  | n + 1 => by unfold block; exact .bind (.consume _) _

theorem er_statement : ∀ n : Nat, Er t₀ (statement tbl n)
  | 0 => Er.oof
  | n + 1 => by
    unfold statement
    refine .bind_setDidEnd _ (.bind_get fun _ _ => ?_)
    split
    · exact er_printStatement _
    · exact .ite .fail (.bind (.consume _) _)
    · exact .bind (.consume _) _
    · exact .bind (.consume _) _
    · exact .bind (.consume _) _
    · exact er_block _
    · exact .ite .fail (.bind (.consume _) _)
    · exact .ite .fail (.bind (.consume _) _)
    · exact .bind (.consume _) _
    · exact .bind (.consume _) _
    · exact .bind (er_expressionWithPrec _ _) _

theorem er_loopBody (n : Nat) : Er t₀ (loopBody tbl n) := by
  cases n with
  | zero => exact Er.oof
  | succ n =>
    unfold loopBody
    exact .bind_get fun _ _ =>
      .bind_modify (.bind (er_statement _) _)

theorem er_blockLoop (H : Hyp t₀ semi) : ∀ (n : Nat) (acc : List Stmt), Er t₀ (blockLoop tbl n acc)
  | 0, _ => Er.oof
  | n + 1, acc => by
    unfold blockLoop
    refine .bind_curTag ?_
    simp only [H.beq_eof, H.beq_rcurly, Bool.or_false, Bool.false_eq_true, ↓reduceIte]
    exact .bind (er_statement _) _

theorem er_objectLoop (H : Hyp t₀ semi) : ∀ (n : Nat) (acc : List (Bytes × Expr)),
    Er t₀ (objectLoop tbl n acc)
  | 0, _ => Er.oof
  | n + 1, acc => by
    unfold objectLoop
    refine .bind_curTag ?_
    simp only [H.beq_eof, H.beq_rcurly, Bool.or_false, Bool.false_eq_true, ↓reduceIte]
    exact .bind (.consumeOf _) _

theorem er_matchPats (H : Hyp t₀ semi) : ∀ (n : Nat) (acc : List Expr), Er t₀ (matchPats tbl n acc)
  | 0, _ => Er.oof
  | n + 1, acc => by
    unfold matchPats
    refine .bind_atEnd ?_
    simp only [H.beq_eof, Bool.false_eq_true, ↓reduceIte]
    exact .bind (er_expressionWithPrec _ _) _

theorem er_matchCases (H : Hyp t₀ semi) : ∀ (n : Nat) (acc : List MatchCase),
    Er t₀ (matchCases tbl n acc)
  | 0, _ => Er.oof
  | n + 1, acc => by
    unfold matchCases
    refine .bind_curTag ?_
    simp only [H.beq_eof, H.beq_rcurly, Bool.or_false, Bool.false_eq_true, ↓reduceIte]
    exact .bind (er_matchPats H _ _) _

theorem er_funcArgs (H : Hyp t₀ semi) : ∀ (n : Nat) (acc : List Bytes), Er t₀ (funcArgs n acc)
  | 0, _ => Er.oof
  | n + 1, acc => by
    unfold funcArgs
    refine .bind_curTag ?_
    simp only [H.beq_eof, H.beq_rparen, Bool.or_false, Bool.false_eq_true, ↓reduceIte]
    exact .bind (.consume _) _

theorem er_parseFunction (n : Nat) : Er t₀ (parseFunction tbl n) := by
  unfold parseFunction
  exact .bind_get fun _ _ =>
    .bind_modify (.bind (.consume _) _)

theorem er_parseRule (n : Nat) : Er t₀ (parseRule tbl n) := by
  unfold parseRule
  refine .bind_curTag (.bind_or ?_)
  by_cases hl : t₀.tag = .lcurly
  · refine .inr ⟨(RuleKind.pattern, none), fun s hc => by rw [hl]; rfl, .bind_curTag ?_⟩
    simp only [hl, beq_self_eq_true, ↓reduceIte]
    exact .bind (er_block _) _
  · left
    split
    · exact .bind (.consume _) _
    · exact .bind (.consume _) _
    · exact .bind (.consume _) _
    · exact .bind (.consume _) _
    · exact absurd ‹_› hl
    · exact .bind (er_expressionWithPrec _ _) _

theorem er_parseTop (H : Hyp t₀ semi) (n : Nat) (rules : List Rule) (fns : List FuncDef) :
    Er t₀ (parseTop tbl n rules fns) := by
  cases n with
  | zero => exact Er.oof
  | succ n =>
    unfold parseTop
    refine .bind_atEnd ?_
    simp only [H.beq_eof, Bool.false_eq_true, ↓reduceIte]
    exact .bind_curTag (.ite (.bind (er_parseFunction _) _) (.bind (er_parseRule _) _))

/-- postcondition of the `print` argument loop: if it ended because the statement ended, `didEnd`
    may differ between L and R (L used the flag, R consumed the `;`) -/
def QPL (t₀ : Token) (x : List Expr × Bool) (s s' : PS) : Prop :=
  s.cur = t₀ ∧ s' = { s with prev := s'.prev, didEnd := s'.didEnd } ∧
    (s'.didEnd = s.didEnd ∨ (x.2 = true ∧ s.didEnd = true))

structure AllX (t₀ semi : Token) (tbl : RuleTable) (n : Nat) : Prop where
  statement : X t₀ semi (statement tbl n)
  loopBody : X t₀ semi (loopBody tbl n)
  block : X t₀ semi (block tbl n)
  blockLoop : ∀ acc, X t₀ semi (blockLoop tbl n acc)
  printStatement : X t₀ semi (printStatement tbl n)
  printLoop : ∀ acc, X' t₀ semi (Eq0 t₀) (QPL t₀) (printLoop tbl n acc)
  expressionWithPrec : ∀ prec, X t₀ semi (expressionWithPrec tbl n prec)
  infixLoop : ∀ prec lhs, X t₀ semi (infixLoop tbl n prec lhs)
  prefixFn : ∀ pk, X t₀ semi (prefixFn tbl n pk)
  exprList : ∀ endTag acc, X t₀ semi (exprList tbl n endTag acc)
  objectLoop : ∀ acc, X t₀ semi (objectLoop tbl n acc)
  matchCases : ∀ acc, X t₀ semi (matchCases tbl n acc)
  matchPats : ∀ acc, X t₀ semi (matchPats tbl n acc)
  infixFn : ∀ ik left, X t₀ semi (infixFn tbl n ik left)

variable {n : Nat}

/-- the end of `printStatement`, entered after the argument loop: `atStatementEnd` once more,
    then `didEnd` is set if it or the loop said that the statement ended -/
theorem printTail_x (H : Hyp t₀ semi) (start : Token) (args : List Expr) (ended : Bool) :
    X' t₀ semi (QPL t₀ (args, ended)) (QE t₀) (do
      let atEnd ← atStatementEnd
      if atEnd || ended then setDidEnd true
      return Stmt.print start args : P Stmt) := by
  -- both states get `didEnd := true`, which removes their difference
  have hfin : ∀ x x' : PS, x.cur = t₀ → x' = { x with prev := x'.prev, didEnd := x'.didEnd } →
      A2 (QE t₀) (PM.pure (Stmt.print start args, { x with didEnd := true }))
        (PM.pure (Stmt.print start args, { x' with didEnd := true })) := by
    intro x x' hx hx'
    refine .inr (.inr ⟨_, _, _, rfl, rfl, hx, ?_⟩)
    show ({ x' with didEnd := true } : PS) = _
    rw [hx']
  have hG : ∀ atEnd : Bool, X' t₀ semi (Qase t₀ atEnd) (QE t₀) (do
      if atEnd || ended then setDidEnd true
      return Stmt.print start args : P Stmt) := by
    intro atEnd
    have h0 : X t₀ semi (do
        if atEnd || ended then setDidEnd true
        return Stmt.print start args : P Stmt) := by
      dsimp only
      split
      · exact X.bind' (X.setDidEnd _) fun _ => X.pure' _
      · exact X.pure' _
    refine ⟨h0.b, h0.t, fun s s' ⟨hc, he, hd⟩ => ?_⟩
    rcases hd with hd | ⟨rfl, hd⟩
    · exact h0.a s s' ⟨hc, by rw [he, hd]⟩
    · exact hfin s s' hc he
  have h1 := X'.bind (ase_x H) hG
  refine ⟨h1.b, h1.t, fun s s' ⟨hc, he, hd⟩ => ?_⟩
  rcases hd with hd | ⟨hen, hd⟩
  · exact h1.a s s' ⟨hc, by rw [he, hd]⟩
  · dsimp only at hen
    subst hen
    -- L: `didEnd` is set: the answer is `true`
    show A2 _ (((atStatementEnd s).bind _)) (((atStatementEnd s').bind _))
    rw [Nl.ase_eval s, Nl.ase_eval s', if_pos hd]
    have hc' : s'.cur = t₀ := by rw [he]; exact hc
    split
    · exact hfin s s' hc he
    · rw [if_neg (by rw [hc']; exact H.ne_rcurly), if_neg (by rw [hc']; exact H.ne_semi)]
      exact hfin s s' hc he

theorem er_consumeIgnore_in {α : Type} (hin : t₀.tag = .in_) (K : Unit → P α) :
    Er t₀ (consumeIgnore .in_ >>= K) := by
  refine Er.bind ?_ K
  unfold consumeIgnore
  refine Er.bind_get fun x hx => ?_
  rw [hx, hin]
  exact Er.advance

theorem allX (H : Hyp t₀ semi) (hprec : (lookupRule tbl .semiColon).prec = 0) :
    ∀ n, AllX t₀ semi tbl n
  | 0 => by constructor <;> intros <;> exact X.oof
  | n + 1 => by
    have ih := allX H hprec n
    exact {
      statement := by
        -- `( cond ) …` of `if` and `while`, entered directly after the keyword
        have cond : ∀ {K : Expr → P Stmt}, (∀ c, X' t₀ semi F (QE t₀) (K c)) →
            X' t₀ semi F (QE t₀) (do
            consume .lparen
            let c ← expressionWithPrec tbl n Prec.assign
            consume .rparen
            K c) := fun hK =>
          X.consume_bind _ (X.bind' (ih.expressionWithPrec _).toF fun c => X.consume_bind _ (hK c))
        refine X'.of_er ?_ (er_statement _) eq0_shape
        unfold statement
        refine .bind_setDidEnd _ (.bind_get fun x => ?_)
        split
        · exact ih.printStatement.b
        · split
          · exact .fail
          · refine (X.consume_bind _ (X'.bind (ase_x H).toF fun b => ?_)).b
            cases b with
            | true => exact setDidEnd_pure_qase true _
            | false =>
              simp only [Bool.not_false, ↓reduceIte]
              refine X'.of_er (X'.b (pre := F) ?_) (.bind (er_expressionWithPrec _ _) _)
                (qase_shape false)
              exact X.bind' (ih.expressionWithPrec _).toF fun e => X.pure' _
        · refine (X.consume_bind _ (cond fun c => X.bind' ih.statement.toF fun body => ?_)).b
          refine X.bind_curTag (fun t => ?_) fun s hd hc =>
            X.t3_ite_pure _ (.bind (.consume _) _) (by simp [H.semi]) s hd hc
          split
          · exact X.consume_bind _ (X.bind' ih.statement.toF fun els => X.pure' _)
          · exact X.pure' _
        · exact (X.consume_bind _ (cond fun c => X.bind' ih.loopBody.toF fun body => X.pure' _)).b
        · refine (X.consume_bind _ (X.consume_bind _ ?_)).b
          have rest : ∀ {K : Stmt → Stmt}, X t₀ semi (do
              consume .rparen
              let body ← loopBody tbl n
              return K body) :=
            X.consume_bind _ (X.bind' ih.loopBody.toF fun body => X.pure' _)
          refine X.bind' (ih.expressionWithPrec _).toF fun pre =>
            X.bind_curTag (fun t => ?_) fun s hd hc => ?_
          · split
            · refine X.bind' ?_ fun idx => X.bind' (X.consumeIgnore H _ (by decide)) fun _ =>
                X.bind' (ih.expressionWithPrec _) fun iter => rest
              split
              · exact X.consume_bind _ (X.consume_bind _ (X.bind_get_c fun _ => X.pure' _))
              · exact X.pure' _
            · exact X.consume_bind _ (X.bind' (ih.expressionWithPrec _).toF fun c =>
                X.consume_bind _ (X.bind' (ih.expressionWithPrec _).toF fun post => rest))
          · -- `t₀` is the token after the first expression: L and Z are the same tree
            refine X.t3_of_er ?_ s hc
            split
            · rename_i id hflag
              refine .bind_or ?_
              by_cases hcm : (t₀.tag == .comma) = true
              · exact .inl (by rw [if_pos hcm]; exact .bind (.consume _) _)
              · refine .inr ⟨none, fun s _ => by rw [if_neg hcm]; rfl, ?_⟩
                have hin : t₀.tag = .in_ := by
                  simp only [Bool.or_eq_true, beq_iff_eq] at hflag hcm
                  exact hflag.resolve_right hcm
                exact er_consumeIgnore_in hin _
            · exact .bind (.consume _) _
        · exact ih.block.b
        · split
          · exact .fail
          · exact (X.consume_bind _ (X.bind_get_c fun _ => X.pure' _)).b
        · split
          · exact .fail
          · exact (X.consume_bind _ (X.bind_get_c fun _ => X.pure' _)).b
        · exact (X.consume_bind _ (X.bind_get_c fun _ => X.pure' _)).b
        · exact (X.consume_bind _ (X.bind_get_c fun _ => X.pure' _)).b
        · exact (X.bind' (ih.expressionWithPrec _) fun e => X.pure' _).b
      loopBody := by
        refine X'.of_er ?_ (er_loopBody _) eq0_shape
        unfold loopBody
        refine .bind_get fun x => X'.b (pre := Eq0 t₀) ?_
        refine X.bind' (X.setInLoop _) fun _ => X.bind' ih.statement fun body => ?_
        exact X.bind' (X.setInLoop _) fun _ => X.pure' _
      block := by
        unfold block
        refine X.consume_bind _ ?_
        refine X.bind_get_c fun x => ?_
        refine X.bind' (ih.blockLoop _).toF fun body => X.consume_bind _ ?_
        exact X.bind' (X.setDidEnd _) fun _ => X.pure' _
      blockLoop := fun acc => by
        unfold blockLoop
        refine X.bind_curTag_er (fun t => ?_) ?er
        case er =>
          simp only [H.beq_eof, H.beq_rcurly, Bool.or_false, Bool.false_eq_true, ↓reduceIte]
          exact .bind (er_statement _) _
        split
        · exact X.pure' _
        · refine X.bind' ih.statement fun st => X'.bind (ase_x H) fun b => ?_
          refine X'.of_er (X'.b (pre := F) ?_)
            (.ite (.bind_get fun _ _ => .fail) (er_blockLoop H _ _))
            (qase_shape b)
          split
          · exact X.bind_get_er (fun _ => X.fail) fun _ _ => .fail
          · exact (ih.blockLoop _).toF
      printStatement := by
        unfold printStatement
        refine X.consume_bind _ (X.bind_get_c fun x => X'.bind (ih.printLoop _).toF fun r => ?_)
        exact printTail_x H x.prev r.1 r.2
      printLoop := fun acc => by
        unfold printLoop
        refine X'.bind (ase_x H) fun b => ?_
        cases b with
        | true => exact X.pureQ _ fun s s' h => h
        | false =>
          simp only [Bool.false_eq_true, ↓reduceIte]
          refine X'.of_er (X'.b (pre := F) ?_) (.bind (er_expressionWithPrec _ _) _)
            (qase_shape false)
          refine X.bind' (ih.expressionWithPrec _).toF fun e => ?_
          refine X.bind_curTag (fun t => ?_) fun s hd hc =>
            X.t3_ite_pure _ (.bind (.consume _) _) (by simp [H.semi]) s hd hc
          split
          · exact X.consume_bind _ (ih.printLoop _).toF
          · exact X.pureQ _ fun s s' h => ⟨h.1, by rw [h.2], .inl (by rw [h.2])⟩
      expressionWithPrec := fun prec => by
        refine X'.of_er ?_ (er_expressionWithPrec _ _) eq0_shape
        unfold expressionWithPrec
        refine .bind_get fun x => ?_
        split
        · exact .fail
        · exact (X.bind' (ih.prefixFn _) fun lhs => ih.infixLoop _ _).b
      infixLoop := fun prec lhs => by
        unfold infixLoop
        refine X.bind_get (fun x => ?_) fun s hd hc => ?_
        · dsimp only
          split
          · split
            · exact X.fail
            · exact X.bind' (ih.infixFn _ _) fun lhs' => ih.infixLoop _ _
          · exact X.pure' _
        · dsimp only
          have hs : ({ s with cur := semi, didEnd := false } : PS).cur.tag = .semiColon := H.semi
          rw [hs, hprec]
          subst hc
          by_cases h : prec ≤ (lookupRule tbl s.cur.tag).prec
          · -- L and Z go on with an operator: the same tree
            rw [if_pos h]
            refine X.t3_of_er ?_ s rfl
            split
            · exact .fail
            · exact .bind (er_infixFn _ _ _) _
          · -- all three return `lhs`: `;` has the lowest precedence
            rw [if_neg h, if_neg (by omega)]
            exact X.t3_pure lhs s hd rfl
      prefixFn := fun pk => by
        unfold prefixFn
        split
        · exact X.advance_bind (X.bind_get_c fun _ => X.pure' _)
        · exact X.regexPrefix
        · refine X.bind_get_er (fun x => ?_) fun x hx =>
            .ite (.bind .advance _) .fail
          split
          · exact X.advance_bind (X.bind_get_c fun _ => X.pure' _)
          · exact X.fail
        · refine X.consume_bind _ ?_
          refine X.bind_get_c fun s => ?_
          exact X.bind' (ih.exprList _ _).toF fun items => X.pure' _
        · refine X.consume_bind _ ?_
          refine X.bind_get_c fun s => ?_
          refine X.bind' (ih.objectLoop _).toF fun items => ?_
          exact X.consume_bind _ (X.pure' _)
        · refine X.consume_bind _ (X.bind' (ih.expressionWithPrec _).toF fun e => ?_)
          exact X.consume_bind _ (X.pure' _)
        · refine X.advance_bind ?_
          refine X.bind_get_c fun s => ?_
          refine X.bind' (ih.expressionWithPrec _).toF fun e => ?_
          split
          · exact X.fail
          · exact X.pure' _
        · refine X.consume_bind _ ?_
          refine X.bind_get_c fun s => X.consume_bind _ ?_
          refine X.bind' (ih.expressionWithPrec _).toF fun v => ?_
          refine X.consume_bind _ (X.consume_bind _ ?_)
          refine X.bind' (ih.matchCases _).toF fun cases => X.consume_bind _ ?_
          exact X.bind' (X.setDidEnd _) fun _ => X.pure' _
      exprList := fun endTag acc => by
        unfold exprList
        refine X.bind_curTag_er (fun t => ?_)
          (.ite (.bind (.consume _) _) (.bind (er_expressionWithPrec _ _) _))
        split
        · exact X.consume_bind _ (X.pure' _)
        · refine X.bind' (ih.expressionWithPrec _) fun e => X.bind_curTag_er (fun t => ?_)
            (.ite (.bind (.consume _) _) (.bind (.consume _) _))
          split
          · exact X.consume_bind _ (ih.exprList _ _).toF
          · exact X.consume_bind _ (X.pure' _)
      objectLoop := fun acc => by
        unfold objectLoop
        refine X.bind_curTag_er (fun t => ?_) ?er
        case er =>
          simp only [H.beq_eof, H.beq_rcurly, Bool.or_false, Bool.false_eq_true, ↓reduceIte]
          exact .bind (.consumeOf _) _
        split
        · exact X.pure' _
        · refine X.consumeOf_bind _ ?_
          refine X.bind_get_c fun s => X.consume_bind _ ?_
          refine X.bind' (ih.expressionWithPrec _).toF fun v => ?_
          refine X.bind_curTag_er (fun t => ?_) (.ite (.bind (.consume _) _) (er_objectLoop H _ _))
          split
          · exact X.consume_bind _ (ih.objectLoop _).toF
          · exact ih.objectLoop _
      matchCases := fun acc => by
        unfold matchCases
        refine X.bind_curTag_er (fun t => ?_) ?er
        case er =>
          simp only [H.beq_eof, H.beq_rcurly, Bool.or_false, Bool.false_eq_true, ↓reduceIte]
          exact .bind (er_matchPats H _ _) _
        split
        · exact X.pure' _
        · refine X.bind' (ih.matchPats _) fun pats => X.consume_bind _ ?_
          refine X.bind_curTag_er (fun t => X.bind' ?_ fun body => ?_)
            (.bind (.ite (er_statement _) (.bind (er_expressionWithPrec _ _) _)) _)
          · split
            · exact ih.statement.toF
            · exact X.bind' (ih.expressionWithPrec _).toF fun e => X.pure' _
          · refine X.bind_curTag_er (fun t => ?_) (.ite (.bind .advance _) (er_matchCases H _ _))
            split
            · exact X.advance_bind (ih.matchCases _).toF
            · exact ih.matchCases _
      matchPats := fun acc => by
        unfold matchPats
        refine X.bind_atEnd_er (fun b => ?_) ?er
        case er =>
          simp only [H.beq_eof, Bool.false_eq_true, ↓reduceIte]
          exact .bind (er_expressionWithPrec _ _) _
        split
        · exact X.pure' _
        · refine X.bind' (ih.expressionWithPrec _) fun e => ?_
          refine X.bind_curTag (fun t => ?_) fun s hd hc =>
            X.t3_pure_ite _ (.bind (.consume _) _) (by simp [H.semi]) s hd hc
          split
          · exact X.pure' _
          · exact X.consume_bind _ (ih.matchPats _).toF
      infixFn := fun ik left => by
        unfold infixFn
        split
        · refine X.bind_get_er (fun x => ?_) fun x hx =>
            .bind (.consume _) _
          refine X.consume_bind _ (X.bind' (ih.expressionWithPrec _).toF fun e => ?_)
          exact X.consume_bind _ (X.pure' _)
        · refine X.consume_bind _ ?_
          refine X.bind_get_c fun s => ?_
          exact X.consume_bind _ (X.bind_get_c fun _ => X.pure' _)
        · refine X.consume_bind _ ?_
          exact X.bind' (ih.exprList _ _).toF fun args => X.pure' _
        · split
          · exact X.fail
          · exact X.advance_bind (X.bind_get_c fun _ => X.pure' _)
        · refine X.advance_bind ?_
          refine X.bind_get_c fun s => ?_
          exact X.bind' (ih.expressionWithPrec _).toF fun e => X.pure' _
        · refine X.consume_bind _ ?_
          refine X.bind_get_c fun s => ?_
          exact X.consumeOf_bind _ (X.bind_get_c fun _ => X.pure' _)
        · split
          · exact X.fail
          · refine X.advance_bind ?_
            refine X.bind_get_c fun s => ?_
            refine X.bind' (ih.expressionWithPrec _).toF fun e => ?_
            split
            · exact X.pure' _
            · exact X.pure' _ }

theorem funcArgs_x (H : Hyp t₀ semi) : ∀ (n : Nat) (acc : List Bytes), X t₀ semi (funcArgs n acc)
  | 0, _ => X.oof
  | n + 1, acc => by
    unfold funcArgs
    refine X.bind_curTag_er (fun t => ?_) ?er
    case er =>
      simp only [H.beq_eof, H.beq_rparen, Bool.or_false, Bool.false_eq_true, ↓reduceIte]
      exact .bind (.consume _) _
    split
    · exact X.pure' _
    · refine X.consume_bind _ (X.bind_get_c fun s => ?_)
      refine X.bind_curTag_er (fun t => ?_) (.ite (.bind (.consume _) _) (er_funcArgs H _ _))
      split
      · exact X.consume_bind _ (funcArgs_x H n _).toF
      · exact (funcArgs_x H n _).toF

theorem parseFunction_x (H : Hyp t₀ semi) (ih : AllX t₀ semi tbl n) :
    X t₀ semi (parseFunction tbl n) := by
  refine X'.of_er ?_ (er_parseFunction _) eq0_shape
  unfold parseFunction
  refine .bind_get fun x => X'.b (pre := Eq0 t₀) ?_
  refine X.bind' (X.setInFn _) fun _ => X.consume_bind _ (X.consume_bind _ ?_)
  refine X.bind_get_c fun s => X.consume_bind _ (X.bind' (funcArgs_x H n _).toF fun args => ?_)
  refine X.consume_bind _ (X.bind' ih.block.toF fun body => ?_)
  exact X.bind' (X.setInFn _) fun _ => X.pure' _

theorem parseRule_x (H : Hyp t₀ semi) (ih : AllX t₀ semi tbl n) :
    X t₀ semi (parseRule tbl n) := by
  refine X'.of_er ?_ (er_parseRule n) eq0_shape
  unfold parseRule
  refine BP.bind_curTag fun t => BP.bind (Q₁ := QE t₀) ?_ fun a => ?_
  · split
    · exact X'.b (pre := F) (X.consume_bind _ (X.pure' _))
    · exact X'.b (pre := F) (X.consume_bind _ (X.pure' _))
    · exact X'.b (pre := F) (X.consume_bind _ (X.pure' _))
    · exact X'.b (pre := F) (X.consume_bind _ (X.pure' _))
    · exact fun _ => trivial
    · exact (X.bind' (ih.expressionWithPrec _) fun _ => X.pure' _).b
  · refine X.bind_curTag (fun t => ?_) fun s hd hc =>
      X.t3_ite_pure _ (.bind (er_block _) _) (by simp [H.semi]) s hd hc
    split
    · exact X.bind' ih.block fun body => X.pure' _
    · exact X.pure' _

theorem parseTop_x (H : Hyp t₀ semi) (hprec : (lookupRule tbl .semiColon).prec = 0) :
    ∀ (n : Nat) (rules : List Rule) (fns : List FuncDef), X t₀ semi (parseTop tbl n rules fns)
  | 0, _, _ => X.oof
  | n + 1, rules, fns => by
    refine X'.of_er ?_ (er_parseTop H _ _ _) eq0_shape
    unfold parseTop
    refine .bind_atEnd fun b => ?_
    split
    · exact X'.b (pre := F) (X.pure' _)
    · have ih := allX H hprec n
      refine .bind_curTag fun t => ?_
      split
      · exact (X.bind' (parseFunction_x H ih) fun f => parseTop_x H hprec n _ _).b
      · exact (X.bind' (parseRule_x H ih) fun r => parseTop_x H hprec n _ _).b

theorem parseProgram_btree (H : Hyp t₀ semi) (hprec : (lookupRule tbl .semiColon).prec = 0)
    (n : Nat) (s : PS) : BTree t₀ semi (QE t₀) (parseProgram tbl n s) := by
  unfold parseProgram
  exact (X.advance_bind (pre := Eq0 t₀) (parseTop_x H hprec n [] []).toF).b s

end Semi
end Jqawk
