/-
  The fault-counter discipline lifted to the rule driver and the whole run (C11): a run that
  ends successfully never raised a runtime fault; a run that ends in a runtime error raised
  exactly one, and printed nothing after it.  `SafeD` (what `Safe` says of output and fault counter)
  holds of every `Shaped` computation, the driver's writes included (`SafeD.of_shaped`); the statements
  about the rule loops are readings of the walk in `Lemmas/ShapedDriver.lean`.
-/
import Jqawk.Lemmas.Invariant
import Jqawk.Lemmas.DriverRun
import Jqawk.Lemmas.ShapedDriver


namespace Jqawk

def OutExt (s s' : St) : Prop := ∃ c, s'.out = c ++ s.out

theorem OutExt.refl (s : St) : OutExt s s := ⟨[], rfl⟩
theorem OutExt.trans {a b c : St} (h1 : OutExt a b) (h2 : OutExt b c) : OutExt a c := by
  obtain ⟨c1, o1⟩ := h1; obtain ⟨c2, o2⟩ := h2
  exact ⟨c2 ++ c1, by rw [o2, o1, List.append_assoc]⟩

/-- the driver-level invariant on a result (the driver legitimately changes `root`/`ruleRoot`) -/
def QD {α : Type} (s : St) : Res α → Prop
  | .ok _ s' => OutExt s s' ∧ s'.faults = s.faults
  | .err (.runtime _ _) s' => OutExt s s' ∧ s'.faults = s.faults + 1 ∧ s'.faultOut = s'.out.length
  | .err (.sig _) s' => OutExt s s' ∧ s'.faults = s.faults
  | .err (.panic _) s' => OutExt s s'
  | .err (.unmodelled _) s' => OutExt s s'
  | .oof => True

theorem QD_of_Q {α : Type} {s : St} {r : Res α} (h : Q s r) : QD s r := by
  cases r with
  | ok a s' => exact ⟨h.1.out, h.2⟩
  | err e s' =>
    cases e with
    | runtime p m => exact ⟨h.1.out, h.2.1, h.2.2⟩
    | sig g => exact ⟨h.1.out, h.2⟩
    | panic m => exact h.out
    | unmodelled w => exact h.out
  | oof => trivial

theorem QD.trans {α : Type} {s s1 : St} {r : Res α} (ho : OutExt s s1) (hf : s1.faults = s.faults)
    (h : QD s1 r) : QD s r := by
  cases r with
  | ok a s' => exact ⟨ho.trans h.1, h.2.trans hf⟩
  | err e s' =>
    cases e with
    | runtime p m => exact ⟨ho.trans h.1, by rw [h.2.1, hf], h.2.2⟩
    | sig g => exact ⟨ho.trans h.1, h.2.trans hf⟩
    | panic m => exact ho.trans h
    | unmodelled w => exact ho.trans h
  | oof => trivial

def SafeD {α : Type} (m : EM α) : Prop := ∀ s, QD s (m s)

theorem SafeD.of_safe {α : Type} {m : EM α} (h : Safe m) : SafeD m := fun s => QD_of_Q (h s)

theorem SafeD.pure {α : Type} (a : α) : SafeD (Pure.pure a : EM α) :=
  fun s => ⟨OutExt.refl s, rfl⟩

/-- the one rule for the control combinators (`Lemmas/EvalSteps.lean`) -/
theorem SafeD.handle {α β : Type} {m : EM α} {onOk : α → EM β} {onSig : Sig → Option (EM β)}
    (hm : SafeD m) (hok : ∀ a, SafeD (onOk a)) (hsig : ∀ g k, onSig g = some k → SafeD k) :
    SafeD (Jqawk.handle m onOk onSig) := by
  intro s
  have h := hm s
  unfold Jqawk.handle
  split <;> simp only [*] at h
  · exact QD.trans h.1 h.2 (hok _ _)
  · split
    · exact QD.trans h.1 h.2 (hsig _ _ ‹_› _)
    · exact h
  · rename_i e _ _ _; cases e <;> exact h
  · trivial

theorem SafeD.bind {α β : Type} {m : EM α} {f : α → EM β} (hm : SafeD m) (hf : ∀ a, SafeD (f a)) :
    SafeD (m >>= f) :=
  bind_eq_handle m f ▸ handle hm hf (fun _ _ h => nomatch h)

theorem SafeD.modifySt (f : St → St) (hout : ∀ s, (f s).out = s.out) (hf : ∀ s, (f s).faults = s.faults) :
    SafeD (Jqawk.modifySt f) :=
  fun s => ⟨⟨[], by simp [hout]⟩, hf s⟩

theorem SafeD.catchSig {α : Type} {m : EM α} (g : Sig) (d : α) (hm : SafeD m) :
    SafeD (Jqawk.catchSig g d m) :=
  catchSig_eq_handle g d m ▸ handle hm pure (by intro g' k h; split at h <;> cases h; exact pure _)

theorem SafeD.ruleFlow {m : EM Unit} (hm : SafeD m) : SafeD (Jqawk.ruleFlow m) :=
  ruleFlow_eq_handle m ▸ handle hm (fun _ => pure _) (by
    intro g k h; cases g <;> cases h <;> exact pure _)

theorem SafeD.framed {α : Type} (name : Bytes) (pos : Nat) {body : EM α} (hb : SafeD body) :
    SafeD (Jqawk.framed name pos body) := by
  intro s
  rw [framed_eq]
  split
  · exact SafeD.of_safe (Safe.throwRt pos _) s
  · have h := hb { s with frames := ⟨name, []⟩ :: s.frames, maxDepth := max s.maxDepth (s.frames.length + 1) }
    unfold Jqawk.withFrames
    split <;> simp only [*] at h
    · exact h
    · rename_i e _ _; cases e <;> exact h
    · trivial

/-- the driver's own writes keep output and fault counter too -/
theorem SafeD.of_shaped {D : Prop} {G : Nat → Prop} {S : Sig → Prop} {α : Type} {m : EM α}
    (h : Shaped D G S m) : SafeD m := by
  induction h with
  | handle _ _ _ _ ihm ihok ihsig => exact handle ihm ihok ihsig
  | framed name _ _ ih => exact framed name _ ih
  | setRoots d f hf => exact modifySt f (fun s => by rw [hf s]) (fun s => by rw [hf s])
  | setGlobal d name c => exact fun s => ⟨OutExt.refl _, rfl⟩
  | _ => exact of_safe (by simp only [eval_rule])

/-- the reading of a `Shaped` fact about the driver that has no hypothesis left -/
theorem SafeD.of_shaped_top {α : Type} {m : EM α} (h : Shaped True (fun _ => True) (fun _ => True) m) :
    SafeD m := .of_shaped h

variable (prog : Program)

theorem SafeD.evalRules (rules : List Rule) : SafeD (Jqawk.evalRules prog rules) :=
  .of_shaped_top (.evalRules prog.fnTok_top (.all fun _ => .inr trivial) rules fun r _ => .all (fun _ => .inr trivial) r)

theorem SafeD.evalElems (rules : List Rule) (items : List CellId) (i : Nat) :
    SafeD (Jqawk.evalElems prog rules items i) :=
  .of_shaped_top (.evalElems prog.fnTok_top (.all fun _ => .inr trivial) trivial rules
    (fun r _ => .all (fun _ => .inr trivial) r) items i)

theorem SafeD.evalPatternRules (rules : List Rule) : SafeD (Jqawk.evalPatternRules prog rules) :=
  .of_shaped_top (.evalPatternRules prog.fnTok_top (.all fun _ => .inr trivial) trivial rules
    fun r _ => .all (fun _ => .inr trivial) r)

/-- (for any `mkRoot`, which `Shaped.evalSpecialRules` does not cover) -/
theorem SafeD.evalSpecialRules (mkRoot : EM CellId) (hmk : SafeD mkRoot) (rules : List Rule) :
    SafeD (Jqawk.evalSpecialRules prog mkRoot rules) := by
  induction rules with
  | nil => exact SafeD.pure _
  | cons rule rest ih =>
    unfold Jqawk.evalSpecialRules
    refine SafeD.bind hmk (fun c => SafeD.bind (SafeD.modifySt _ (fun _ => rfl) (fun _ => rfl)) (fun _ =>
      SafeD.bind (SafeD.ruleFlow (SafeD.of_safe ((allSafe prog evalFuel).stmt _))) (fun fl => ?_)))
    split
    · exact SafeD.pure _
    · exact ih

theorem SafeD.processRoot (c : CellId) : SafeD (Jqawk.processRoot prog c) :=
  .of_shaped_top (.processRoot prog.fnTok_top trivial (.all fun _ => .inr (.inr trivial))
    (fun r _ => .all (fun _ => .inr (.inr trivial)) r) c)

theorem SafeD.newValueJson : ∀ j, SafeD (Jqawk.newValueJson j) := fun j => .of_shaped_top (.newValueJson j)
theorem SafeD.newValueItems : ∀ js, SafeD (Jqawk.newValueItems js) := fun js => .of_shaped_top (.newValueItems js)
theorem SafeD.newValueMembers : ∀ ms, SafeD (Jqawk.newValueMembers ms) :=
  fun ms => .of_shaped_top (.newValueMembers ms)

/-- the fault discipline on what a file / the input loop reports, relative to the start state -/
def faultsOK (s : St) (o : Outcome) (s' : St) : Prop :=
  match o with
  | .runtimeErr _ _ _ => s'.faults = s.faults + 1 ∧ s'.faultOut = s'.out.length
  | .ok | .jsonErr _ | .syntaxErr _ _ | .sentinel _ => s'.faults = s.faults
  | _ => True

def GoodStep (s : St) : StepRes → Prop
  | .done s' => OutExt s s' ∧ s'.faults = s.faults
  | .finished o s' => OutExt s s' ∧ faultsOK s o s'

theorem faultsOK_errOutcome (src : Bytes) {s s' : St} {e : Err} {α : Type}
    (h : QD s (.err e s' : Res α)) : OutExt s s' ∧ faultsOK s (errOutcome src e) s' := by
  cases e with
  | runtime p m => exact ⟨h.1, h.2.1, h.2.2⟩
  | sig g => exact ⟨h.1, h.2⟩
  | panic m => exact ⟨h, trivial⟩
  | unmodelled w => exact ⟨h, trivial⟩

theorem faultsOK_trans {s s1 s2 : St} {o : Outcome} (hf : s1.faults = s.faults)
    (h : faultsOK s1 o s2) : faultsOK s o s2 := by
  cases o <;> simp_all [faultsOK]

/-- what a whole run guarantees about the ghost fault counter, relative to state `s` -/
def GoodRun (s : St) (r : RunResult) : Prop :=
  ∀ st, r.st = some st → OutExt s st ∧ faultsOK s r.outcome st

/-- "output only appended and no new fault since `s0`" is kept by every step of the driver; a step
    that fails reports an outcome that obeys the fault discipline relative to `s0` -/
theorem SafeD.keeps (s0 : St) (src : Bytes) {α : Type} {m : EM α} (hm : SafeD m) :
    Run.Keeps (fun s => OutExt s0 s ∧ s.faults = s0.faults)
      (fun o s => OutExt s0 s ∧ faultsOK s0 o s) src m := by
  intro s hs
  have h := hm s
  split <;> simp only [*] at h
  · exact ⟨hs.1.trans h.1, h.2.trans hs.2⟩
  · have := faultsOK_errOutcome src h
    exact ⟨hs.1.trans this.1, faultsOK_trans hs.2 this.2⟩
  · trivial

theorem runInv_good (s0 : St) (src : Bytes) (tbl : RuleTable) (sels : List Bytes) :
    Run.Invariant prog tbl src sels (fun s => OutExt s0 s ∧ s.faults = s0.faults)
      (fun o s => OutExt s0 s ∧ faultsOK s0 o s) :=
  .of_shaped (G := fun _ => True) (S := fun _ => True) (fun h => SafeD.keeps s0 src (.of_shaped h))
    prog.fnTok_top (.all fun _ => .inr (.inr trivial)) (fun r _ => .all (fun _ => .inr (.inr trivial)) r)
    (fun sel _ v s hs => Run.selector_of_run sel v s (fun _ _ => hs) ⟨hs.1, trivial⟩ fun expr _ => by
      -- the nested evaluator starts with the output and the fault counter of `s` and hands both back
      have h0 := SafeD.keeps s0 sel (.of_shaped_top (.selectorRun (expr := expr) trivial v .top fun _ _ => trivial))
        (newEvaluator Program.empty s.heap s.out s.faults) hs
      split <;> (rename_i hr; rw [hr] at h0)
      · exact h0
      · split
        · rename_i h; rcases h with rfl | rfl <;> exact h0
        · exact h0
      · trivial)
    fun _ hs => ⟨hs, ⟨hs.1, trivial⟩, fun _ => hs⟩

theorem processFile_good (src : Bytes) (tbl : RuleTable) (sels : List Bytes) (file : InputFile) :
    ∀ (fuel : Nat) (data : Bytes) (s : St), GoodStep s (processFile prog src tbl sels file fuel data s) := by
  intro fuel data s
  have h := (runInv_good prog s src tbl sels).processFile file fuel data s ⟨OutExt.refl s, rfl⟩
  cases hr : processFile prog src tbl sels file fuel data s <;> rw [hr] at h <;> exact h

theorem processFiles_good (src : Bytes) (tbl : RuleTable) (sels : List Bytes) :
    ∀ (files : List InputFile) (s : St), GoodStep s (processFiles prog src tbl sels files s) := by
  intro files s
  have h := (runInv_good prog s src tbl sels).processFiles files s ⟨OutExt.refl s, rfl⟩
  cases hr : processFiles prog src tbl sels files s <;> rw [hr] at h <;> exact h

theorem runProgram_good (src : Bytes) (tbl : RuleTable) (sels : List Bytes) (files : List InputFile) :
    GoodRun (newEvaluator prog Heap.empty [] 0) (runProgram prog src tbl sels files) := by
  intro st hst
  have h := (runInv_good prog (newEvaluator prog Heap.empty [] 0) src tbl sels).runProgram files
    ⟨OutExt.refl _, rfl⟩
  unfold Run.OK at h
  rw [hst] at h
  exact h

end Jqawk
