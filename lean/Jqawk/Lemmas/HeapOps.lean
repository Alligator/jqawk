/-
  What the heap operations of `Model/Value.lean` do to the three stores (cells, arrays, objects).
  Each store is an array read with a default, so every operation has one equation in `if` form
  (`getD_push`, `getD_setIfInBounds`); the special cases that callers rewrite with follow from it.
  (The projections an operation leaves alone hold by `rfl`; they are in `Lemmas/Heap.lean`.)
-/
import Jqawk.Model.Value

namespace Jqawk

theorem getD_push {α : Type} (xs : Array α) (v d : α) (i : Nat) :
    (xs.push v).getD i d = if i = xs.size then v else xs.getD i d := by
  simp only [Array.getD_eq_getD_getElem?, Array.getElem?_push]
  split <;> rfl

theorem getD_setIfInBounds {α : Type} (xs : Array α) (j : Nat) (v d : α) (i : Nat) :
    (xs.setIfInBounds j v).getD i d = if i = j ∧ j < xs.size then v else xs.getD i d := by
  simp only [Array.getD_eq_getD_getElem?, Array.getElem?_setIfInBounds]
  by_cases e : j = i
  · subst e
    by_cases hd : j < xs.size
    · simp [hd]
    · simp [hd]
  · have e' : ¬ i = j := fun x => e x.symm
    simp [e, e']

theorem getD_of_not_lt {α : Type} (xs : Array α) (d : α) (k : Nat) (hk : ¬ k < xs.size) :
    xs.getD k d = d := by
  simp only [Array.getD, dif_neg hk]

namespace Heap

theorem get_of_not_valid (h : Heap) (c : CellId) (hv : ¬ c < h.cells.size) : h.get c = .unknown :=
  getD_of_not_lt _ _ _ hv

theorem get_set (h : Heap) (d : CellId) (v : Val) (c : CellId) :
    (h.set d v).get c = if c = d ∧ d < h.cells.size then v else h.get c := by
  simp only [Heap.get, Heap.set, getD_setIfInBounds]

theorem get_set_ne' (h : Heap) (c d : CellId) (v : Val) (hne : c ≠ d) :
    (h.set d v).get c = h.get c := by
  rw [get_set, if_neg fun e => hne e.1]

theorem get_set_same' (h : Heap) (d : CellId) (v : Val) (hd : d < h.cells.size) :
    (h.set d v).get d = v := by
  rw [get_set, if_pos ⟨rfl, hd⟩]

theorem get_set_cases (h : Heap) (c d : CellId) (v : Val) :
    (h.set c v).get d = h.get d ∨ (h.set c v).get d = v := by
  rw [get_set]; split
  · exact .inr rfl
  · exact .inl rfl

theorem size_set (h : Heap) (d : CellId) (v : Val) : (h.set d v).cells.size = h.cells.size :=
  Array.size_setIfInBounds

theorem get_alloc (h : Heap) (v : Val) (c : CellId) :
    (h.alloc v).2.get c = if c = h.cells.size then v else h.get c := by
  simp only [Heap.get, Heap.alloc, getD_push]

theorem get_alloc_new (h : Heap) (v : Val) : (h.alloc v).2.get h.cells.size = v := by
  rw [get_alloc, if_pos rfl]

theorem get_alloc_old (h : Heap) (v : Val) (c : CellId) (hc : c < h.cells.size) :
    (h.alloc v).2.get c = h.get c := by
  rw [get_alloc, if_neg (Nat.ne_of_lt hc)]

theorem get_alloc_cases (h : Heap) (d : CellId) (v : Val) :
    (h.alloc v).2.get d = h.get d ∨ (h.alloc v).2.get d = v := by
  rw [get_alloc]; split
  · exact .inr rfl
  · exact .inl rfl

/-- `get_alloc_old`, `get_alloc_new` for a goal in which `alloc` has been unfolded -/
theorem get_push_old (h : Heap) (v : Val) (c : CellId) (hc : c < h.cells.size) :
    ({ h with cells := h.cells.push v } : Heap).get c = h.get c := get_alloc_old h v c hc

theorem get_push_new (h : Heap) (v : Val) :
    ({ h with cells := h.cells.push v } : Heap).get h.cells.size = v := get_alloc_new h v

theorem size_alloc (h : Heap) (v : Val) : (h.alloc v).2.cells.size = h.cells.size + 1 := Array.size_push ..

theorem arr_of_not_valid (h : Heap) (a : ArrId) (hv : ¬ a < h.arrs.size) : h.arr a = #[] :=
  getD_of_not_lt _ _ _ hv

theorem arr_setArr (h : Heap) (a : ArrId) (items : Array CellId) (b : ArrId) :
    (h.setArr a items).arr b = if b = a ∧ a < h.arrs.size then items else h.arr b := by
  simp only [Heap.arr, Heap.setArr, getD_setIfInBounds]

theorem arr_setArr_same (h : Heap) (a : ArrId) (items : Array CellId) (ha : a < h.arrs.size) :
    (h.setArr a items).arr a = items := by
  rw [arr_setArr, if_pos ⟨rfl, ha⟩]

theorem arr_setArr_other (h : Heap) (a b : ArrId) (items : Array CellId) (hb : b ≠ a) :
    (h.setArr a items).arr b = h.arr b := by
  rw [arr_setArr, if_neg fun e => hb e.1]

theorem arr_setArr_cases (h : Heap) (a b : ArrId) (items : Array CellId) :
    (h.setArr a items).arr b = h.arr b ∨ (b = a ∧ (h.setArr a items).arr b = items) := by
  rw [arr_setArr]; split
  · exact .inr ⟨‹_ ∧ _›.1, rfl⟩
  · exact .inl rfl

theorem size_arrs_setArr (h : Heap) (a : ArrId) (items : Array CellId) :
    (h.setArr a items).arrs.size = h.arrs.size := Array.size_setIfInBounds

theorem arr_allocArr (h : Heap) (items : Array CellId) (b : ArrId) :
    (h.allocArr items).2.arr b = if b = h.arrs.size then items else h.arr b := by
  simp only [Heap.arr, Heap.allocArr, getD_push]

theorem arr_allocArr_new (h : Heap) (items : Array CellId) :
    (h.allocArr items).2.arr h.arrs.size = items := by
  rw [arr_allocArr, if_pos rfl]

theorem arr_allocArr_old (h : Heap) (items : Array CellId) (b : ArrId) (hb : b ≠ h.arrs.size) :
    (h.allocArr items).2.arr b = h.arr b := by
  rw [arr_allocArr, if_neg hb]

theorem arr_allocArr_cases (h : Heap) (b : ArrId) (items : Array CellId) :
    (h.allocArr items).2.arr b = h.arr b ∨ (b = h.arrs.size ∧ (h.allocArr items).2.arr b = items) := by
  rw [arr_allocArr]; split
  · exact .inr ⟨‹_›, rfl⟩
  · exact .inl rfl

theorem obj_of_not_valid (h : Heap) (o : ObjId) (hv : ¬ o < h.objs.size) : h.obj o = [] :=
  getD_of_not_lt _ _ _ hv

theorem obj_setObj (h : Heap) (o : ObjId) (m : List (Bytes × CellId)) (p : ObjId) :
    (h.setObj o m).obj p = if p = o ∧ o < h.objs.size then m else h.obj p := by
  simp only [Heap.obj, Heap.setObj, getD_setIfInBounds]

theorem obj_setObj_same (h : Heap) (o : ObjId) (m : List (Bytes × CellId)) (ho : o < h.objs.size) :
    (h.setObj o m).obj o = m := by
  rw [obj_setObj, if_pos ⟨rfl, ho⟩]

theorem obj_setObj_other (h : Heap) (o p : ObjId) (m : List (Bytes × CellId)) (hp : p ≠ o) :
    (h.setObj o m).obj p = h.obj p := by
  rw [obj_setObj, if_neg fun e => hp e.1]

theorem obj_setObj_cases (h : Heap) (a b : ObjId) (m : List (Bytes × CellId)) :
    (h.setObj a m).obj b = h.obj b ∨ (b = a ∧ (h.setObj a m).obj b = m) := by
  rw [obj_setObj]; split
  · exact .inr ⟨‹_ ∧ _›.1, rfl⟩
  · exact .inl rfl

theorem obj_allocObj (h : Heap) (m : List (Bytes × CellId)) (o : ObjId) :
    (h.allocObj m).2.obj o = if o = h.objs.size then m else h.obj o := by
  simp only [Heap.obj, Heap.allocObj, getD_push]

theorem obj_allocObj_new (h : Heap) (m : List (Bytes × CellId)) :
    (h.allocObj m).2.obj h.objs.size = m := by
  rw [obj_allocObj, if_pos rfl]

theorem obj_allocObj_old (h : Heap) (m : List (Bytes × CellId)) (o : ObjId) (ho : o ≠ h.objs.size) :
    (h.allocObj m).2.obj o = h.obj o := by
  rw [obj_allocObj, if_neg ho]

theorem obj_allocObj_cases (h : Heap) (b : ObjId) (m : List (Bytes × CellId)) :
    (h.allocObj m).2.obj b = h.obj b ∨ (b = h.objs.size ∧ (h.allocObj m).2.obj b = m) := by
  rw [obj_allocObj]; split
  · exact .inr ⟨‹_›, rfl⟩
  · exact .inl rfl

end Heap
end Jqawk
