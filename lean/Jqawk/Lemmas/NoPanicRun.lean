/-
  Panic freedom (C01), part 6: selectors and the whole run.

  A selector runs a nested evaluator with `Program.empty` on the shared heap.  Its region `Psel` is
  "everything allocated since it started" (fresh builtins, a fresh conversion of the JSON value),
  which contains no function value (`F = 0`), so `callFunction` never sees a dangling one;
  `HeapOK.toSel` / `HeapOK.toMain` move the heap invariant into that region and back (this is what
  the weak bound `FnB` is for).  The input loop itself is `Lemmas/DriverRun.lean`: `runInv_np`
  supplies its five steps, and no run of a well-formed program reports `Outcome.panic`.
-/
import Jqawk.Lemmas.NoPanicDriver
import Jqawk.Lemmas.ParserWF
import Jqawk.Lemmas.DriverRun


namespace Jqawk

/-- everything allocated after the heap `h`; no function of the program is known there -/
def Psel (prog : Program) (h : Heap) : Region :=
  ⟨h.cells.size, h.arrs.size, h.objs.size, 0, prog.functions.length⟩

theorem FnB_congr {P P' : Region} (h : P.L = P'.L) {v : Val} (hv : FnB P v) : FnB P' v := by
  cases v <;> simp_all [FnB]

theorem specOK_main (prog : Program) (sp : Option SpecRef) : SpecOK (Pm prog) sp := by
  cases sp with
  | none => trivial
  | some r => exact Nat.zero_le _

theorem optReg_main (prog : Program) (b : Option CellId) : OptReg (Pm prog) b := by
  cases b with
  | none => trivial
  | some r => exact Nat.zero_le _

theorem goodV_main_of_fnB {prog : Program} {v : Val} (h : FnB (Pm prog) v) : GoodV (Pm prog) v := by
  cases v with
  | str s sp => exact specOK_main prog sp
  | nil sp => exact specOK_main prog sp
  | native f b sp => exact ⟨optReg_main prog b, specOK_main prog sp⟩
  | fn i => exact ⟨h, h⟩
  | arr a => exact Nat.zero_le a
  | obj o => exact Nat.zero_le o
  | _ => trivial

theorem HeapOK.toSel {prog : Program} {h : Heap} (ok : HeapOK (Pm prog) h) : HeapOK (Psel prog h) h := by
  refine ⟨Nat.le_refl _, Nat.le_refl _, Nat.le_refl _, fun c => FnB_congr rfl (ok.all c), ?_, ?_, ?_⟩
  · intro c hc
    have : h.get c = .unknown := by
      simp only [Heap.get, Array.getD_eq_getD_getElem?, Array.getElem?_eq_none hc, Option.getD_none]
    rw [this]; trivial
  · intro a ha c hc
    have : h.arr a = #[] := by
      simp only [Heap.arr, Array.getD_eq_getD_getElem?, Array.getElem?_eq_none ha, Option.getD_none]
    rw [this] at hc; simp at hc
  · intro o ho kc hkc
    have : h.obj o = [] := by
      simp only [Heap.obj, Array.getD_eq_getD_getElem?, Array.getElem?_eq_none ho, Option.getD_none]
    rw [this] at hkc; cases hkc

theorem HeapOK.toMain {prog : Program} {h0 h : Heap} (ok : HeapOK (Psel prog h0) h) :
    HeapOK (Pm prog) h := by
  refine ⟨Nat.zero_le _, Nat.zero_le _, Nat.zero_le _, fun c => FnB_congr rfl (ok.all c), ?_, ?_, ?_⟩
  · intro c _; exact goodV_main_of_fnB (FnB_congr rfl (ok.all c))
  · intro a _ c _; exact Nat.zero_le c
  · intro o _ kc _; exact Nat.zero_le kc.2

theorem selectorRun_np (prog : Program) (h0 : Heap) (rootValue : JVal) (expr : Expr)
    (hwf : expr.wfB = true) :
    NP (Psel prog h0) KAny (selectorRun rootValue expr) (InR (Psel prog h0)) := by
  unfold selectorRun
  refine NP.bind (NP.newValueJson _) (fun v hv => NP.bind (NP.newCell hv) (fun rc hrc =>
    NP.enter2 KSup.any hrc ?_))
  refine NP.bind ((allNP (Psel prog h0) Program.empty (Nat.zero_le _) (by intro f hf; cases hf)
    evalFuel).expr _ hwf) (fun cell hcell => NP.bind (NP.newCell trivial) (fun root hroot =>
      NP.bind (NP.copyValue hcell hroot) (fun r hr => ?_)))
  split
  · exact NP.throwRt _ _
  · exact NP.pure hr

variable {tbl : RuleTable} (htbl : TblOK tbl) (prog : Program)
include htbl

theorem evalSelector_np (sel : Bytes) (rootValue : JVal) (s : St) (hs : InvK (Pm prog) KAny s) :
    (∀ o s', evalSelector tbl sel rootValue s = .inl (o, s') → ∀ m, o ≠ .panic m) ∧
    (∀ x s', evalSelector tbl sel rootValue s = .inr (x, s') → InvK (Pm prog) KAny s') := by
  unfold evalSelector
  split
  · constructor
    · intro o s' h; simp only [Sum.inl.injEq, Prod.mk.injEq] at h; obtain ⟨rfl, rfl⟩ := h
      intro m hm; cases hm
    · intro x s' h; cases h
  · constructor
    · intro o s' h; simp only [Sum.inl.injEq, Prod.mk.injEq] at h; obtain ⟨rfl, rfl⟩ := h
      intro m hm; cases hm
    · intro x s' h; cases h
  · rename_i expr hp
    have hwf : expr.wfB = true := parseExpressionSrc_wf htbl sel expr hp
    have hs0 : InvK (Psel prog s.heap) KAny (newEvaluator Program.empty s.heap s.out s.faults) :=
      newEvaluator_inv Program.empty (Nat.zero_le _) (Nat.zero_le _) hs.heap.toSel _ _
    have h0 := selectorRun_np prog s.heap rootValue expr hwf _ hs0
    unfold NPat at h0
    have back : ∀ s1 : St, InvK (Psel prog s.heap) KAny s1 →
        InvK (Pm prog) KAny { s with heap := s1.heap, out := s1.out, faults := s1.faults,
                                     faultOut := s1.faultOut, maxDepth := max s.maxDepth s1.maxDepth } :=
      fun s1 h1 => ⟨⟨h1.heap.toMain, hs.frames, hs.ret⟩, trivial⟩
    dsimp only
    split
    all_goals (rename_i hr; rw [hr] at h0)
    all_goals constructor
    all_goals intro a s' h
    all_goals (first
      | (cases h; done)
      | (exact False.elim h0)
      | (simp only [Sum.inl.injEq, Sum.inr.injEq, Prod.mk.injEq] at h
         obtain ⟨rfl, rfl⟩ := h
         first
           | exact back _ h0.1
           | exact back _ h0
           | (intro m hm; cases hm; done)))

omit htbl in
theorem errOutcome_panic (src : Bytes) (e : Err) (m : String) :
    errOutcome src e = .panic m ↔ e = .panic m := by
  cases e <;> simp [errOutcome]

omit htbl in
theorem NPres.not_panic {P : Region} {K : Option CellId → Prop} {α : Type} {R : α → Prop} {e : Err}
    {s' : St} (h : NPres P K R (.err e s' : Res α)) (src : Bytes) (m : String) :
    errOutcome src e ≠ .panic m := by
  intro hm
  rw [errOutcome_panic] at hm
  subst hm
  exact h

omit htbl in
theorem setLastFrame_ok {P : Region} {fr : List Frame} (h : FramesOK P fr) (name : Bytes) {c : CellId}
    (hc : P.N ≤ c) : FramesOK P (setLastFrame fr name c) := by
  obtain ⟨hne, hreg⟩ := h
  induction fr with
  | nil => exact absurd rfl hne
  | cons f fs ih =>
    cases fs with
    | nil =>
      refine ⟨by simp [setLastFrame], ?_⟩
      intro g hg
      simp only [setLastFrame, List.mem_singleton] at hg
      subst hg
      exact (hreg f (List.mem_cons_self ..)).objInsert _ hc
    | cons f2 fs2 =>
      have ih' := ih (by simp) (fun g hg => hreg g (List.mem_cons_of_mem _ hg))
      refine ⟨by simp [setLastFrame], ?_⟩
      intro g hg
      simp only [setLastFrame] at hg
      rcases List.mem_cons.mp hg with hg | hg
      · subst hg; exact hreg _ (List.mem_cons_self ..)
      · exact ih'.2 g hg

omit htbl in
theorem NP.setGlobal {P : Region} {K : Option CellId → Prop} (name : Bytes) {c : CellId} (hc : P.N ≤ c) :
    NP P K (Jqawk.setGlobal name c) Tr :=
  fun _ hs => ⟨⟨⟨hs.heap, setLastFrame_ok hs.frames name hc, hs.ret⟩, hs.rr⟩, trivial⟩

omit htbl in
theorem NP.keeps (src : Bytes) {α : Type} {m : EM α} {R : α → Prop} (hm : NP (Pm prog) KAny m R) :
    Run.Keeps (InvK (Pm prog) KAny) (fun o _ => ∀ msg, o ≠ .panic msg) src m := by
  intro s hs
  have h := hm s hs
  unfold NPat at h
  split
  · rename_i hr; rw [hr] at h; exact h.1
  · rename_i hr; rw [hr] at h; exact h.not_panic src
  · trivial

variable (hwf : prog.wfB = true)
include hwf

theorem runInv_np (src : Bytes) (sels : List Bytes) :
    Run.Invariant prog tbl src sels (InvK (Pm prog) KAny) (fun o _ => ∀ msg, o ≠ .panic msg) where
  setFile _ := NP.keeps prog src (NP.bind (NP.newCell trivial) (fun _ hc => NP.setGlobal _ hc))
  newRoot v := NP.keeps prog src (NP.bind (NP.newValueJson v) (fun _ hval => NP.newCell hval))
  roots cs := NP.keeps prog src (NP.processRoots prog hwf KSup.any cs)
  special k := NP.keeps prog src (NP.evalSpecialRules prog (Nat.le_refl _) hwf KSup.any
    (newCell (.nil none)) (fun _ => NP.newCell trivial) _ (rulesOf_sub prog k))
  selector sel _ := evalSelector_np htbl prog sel
  quiet _ _ := ⟨fun _ => nofun, fun _ => nofun, fun _ _ => nofun⟩

/-- **A run of a well-formed program never panics** (any rule table satisfying `TblOK` for the
    selectors, any selector texts, any input files). -/
theorem runProgram_np (src : Bytes) (sels : List Bytes) (files : List InputFile) (m : String) :
    (runProgram prog src tbl sels files).outcome ≠ .panic m := by
  have h := (runInv_np htbl prog hwf src sels).runProgram files
    (newEvaluator_inv prog (Nat.le_refl _) (Nat.le_refl _) (HeapOK.empty _ rfl rfl rfl) _ _)
  unfold Run.OK at h
  split at h
  · exact h m
  · rw [h]; exact fun e => nomatch e

end Jqawk
