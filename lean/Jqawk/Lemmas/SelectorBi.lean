/-
  `-r E` versus `BEGINFILE { $ = E }` (C14), builtins: a program that mentions the names
  `printf`, `json`, `num` only as the callee of a call — no assignment target, parameter,
  pattern binding, loop variable or function of that name (`okProg`) — never changes what these
  names denote in the root frame, nor the cells they are bound to.

  The invariant (`InvB`) is the region invariant of Lemmas/NoPanic*.lean for the region "every
  cell but the builtin cells" (`P.N` = 3 for the main evaluator), with two changes: a frame may
  bind a *builtin name* to a cell outside the region, and the cells outside the region keep the
  value they had (`HeapB.keep`).  Every write goes to a cell of the region: every cell an
  expression hands out lies in the region, except for the identifier in callee position, which is
  only read.

  The program logic `BP` has the rules of `NP` (Lemmas/NoPanicLogic.lean) with `InvB` in place of
  `InvK`.  What is not a transcription:
  * `HeapB.set … allocObj`, `fillNulls_keep`, `setMember_okB`: each heap operation also leaves the
    cells below the region alone (`keep`); `HeapB.cellsAll`, `BP.readCellG`: so every cell holds a
    good value.
  * `FrM`, `FrM.lookup`, `lookupFrames_regB`: a name that is not a builtin name is bound to a cell
    of the region; `botLookup`, `lookupFrames_bot`, `BP.getVariableB`: a builtin name is always
    found, in the root frame.
  * `FramesB.setLocal`, `FramesB.push`, `BP.setLocal`, `BP.bindAll`, `BP.bindParams`: binding a name
    that is not a builtin name, or pushing a frame, keeps what the root frame binds the builtin
    names to.
-/
import Jqawk.Model.WF
import Jqawk.Lemmas.Heap
import Jqawk.Lemmas.HeapOps
import Jqawk.Lemmas.EvalSteps
import Jqawk.Lemmas.NoPanicLogic


namespace Jqawk
namespace Sel

def isB (k : Bytes) : Bool := k == b!"printf" || k == b!"json" || k == b!"num"

mutual
def okE : Expr → Bool
  | .lit _ => true
  | .ident t => !isB t.text
  | .arr _ items => okEs items
  | .obj _ items => okKVs items
  | .unary e _ _ => okE e
  | .binary l r op => okE l && (op.tag == .is || okE r)
  | .call f args => (f.isIdent || okE f) && okEs args
  | .match_ _ v cases => okE v && okCases cases
def okEs : List Expr → Bool
  | [] => true
  | e :: es => okE e && okEs es
def okKVs : List (Bytes × Expr) → Bool
  | [] => true
  | (_, e) :: es => okE e && okKVs es
def okCases : List MatchCase → Bool
  | [] => true
  | (.mk pats body) :: cs => okEs pats && okS body && okCases cs
def okS : Stmt → Bool
  | .block _ body => okSs body
  | .print _ args => okEs args
  | .expr e => okE e
  | .ret none => true
  | .ret (some e) => okE e
  | .brk _ => true
  | .cont _ => true
  | .next _ => true
  | .exit _ => true
  | .if_ c b none => okE c && okS b
  | .if_ c b (some e) => okE c && okS b && okS e
  | .while_ c b => okE c && okS b
  | .for_ pre c post b => okE pre && okE c && okE post && okS b
  | .forIn id idx iter b =>
    !isB id.text && (match idx with | none => true | some it => !isB it.text) && okE iter && okS b
def okSs : List Stmt → Bool
  | [] => true
  | s :: ss => okS s && okSs ss
end

def okRule (r : Rule) : Bool :=
  okS r.body && (match r.pattern with | none => true | some e => okE e)

def okFn (f : FuncDef) : Bool :=
  !isB f.ident.text && f.args.all (fun p => !isB p) && okS f.body

/-- the program never rebinds a builtin name: it mentions `printf`, `json`, `num` only as callees,
    and has no function, parameter, pattern binding or loop variable of such a name -/
def okProg (p : Program) : Bool := p.rules.all okRule && p.functions.all okFn

structure HeapB (P : Region) (h0 : Heap) (h : Heap) : Prop extends HeapOK P h where
  keep : ∀ i, i < P.N → h.get i = h0.get i
  low : ∀ i, i < P.N → GoodV P (h0.get i)

def FrM (P : Region) (m : List (Bytes × CellId)) : Prop := ∀ kc ∈ m, P.N ≤ kc.2 ∨ isB kc.1 = true

def RegMB (P : Region) (m : List (Bytes × CellId)) : Prop := ∀ kc ∈ m, P.N ≤ kc.2 ∧ isB kc.1 = false

def OptRegMB (P : Region) : Option (List (Bytes × CellId)) → Prop
  | some m => RegMB P m
  | none => True

def botLookup (fr : List Frame) (k : Bytes) : Option CellId :=
  match fr.getLast? with
  | some f => objLookup f.locals k
  | none => none

structure FramesB (P : Region) (b0 : Bytes → Option CellId) (fr : List Frame) : Prop where
  ne : fr ≠ []
  loc : ∀ f ∈ fr, FrM P f.locals
  bot : ∀ k, isB k = true → botLookup fr k = b0 k
  some : ∀ k, isB k = true → (b0 k).isSome = true

structure InvB (P : Region) (h0 : Heap) (b0 : Bytes → Option CellId) (K : Option CellId → Prop) (s : St) :
    Prop where
  heap : HeapB P h0 s.heap
  frames : FramesB P b0 s.frames
  ret : OptReg P s.returnVal
  root : OptReg P s.root
  rr : K s.ruleRoot

variable {P : Region} {h0 : Heap} {b0 : Bytes → Option CellId} {K : Option CellId → Prop}

namespace HeapB

theorem cellsAll {h : Heap} (ok : HeapB P h0 h) (c : CellId) : GoodV P (h.get c) := by
  by_cases hc : c < P.N
  · rw [ok.keep c hc]; exact ok.low c hc
  · exact ok.cells c (Nat.le_of_not_lt hc)

theorem set {h : Heap} (ok : HeapB P h0 h) {c : CellId} (hc : P.N ≤ c) {v : Val} (hv : GoodV P v) :
    HeapB P h0 (h.set c v) := by
  refine ⟨ok.toHeapOK.set c hv, ?_, ok.low⟩
  intro i hi
  rw [Heap.get_set]
  have : ¬ (i = c ∧ c < h.cells.size) := fun e => by
    have := e.1; subst this; exact absurd hi (Nat.not_lt.mpr hc)
  simp only [this, ↓reduceIte]
  exact ok.keep i hi

theorem alloc {h : Heap} (ok : HeapB P h0 h) {v : Val} (hv : GoodV P v) :
    HeapB P h0 (h.alloc v).2 ∧ P.N ≤ (h.alloc v).1 := by
  have ha := ok.toHeapOK.alloc hv
  refine ⟨⟨ha.1, ?_, ok.low⟩, ha.2⟩
  intro i hi
  rw [Heap.get_alloc]
  have : i ≠ h.cells.size := Nat.ne_of_lt (Nat.lt_of_lt_of_le hi ok.nle)
  simp only [this, ↓reduceIte]
  exact ok.keep i hi

theorem setArr {h : Heap} (ok : HeapB P h0 h) (a : ArrId) {items : Array CellId}
    (hi : P.A ≤ a → RegL P items.toList) : HeapB P h0 (h.setArr a items) :=
  ⟨ok.toHeapOK.setArr a hi, fun i hi' => by rw [Heap.get_setArr]; exact ok.keep i hi', ok.low⟩

theorem allocArr {h : Heap} (ok : HeapB P h0 h) {items : Array CellId} (hi : RegL P items.toList) :
    HeapB P h0 (h.allocArr items).2 ∧ P.A ≤ (h.allocArr items).1 :=
  ⟨⟨(ok.toHeapOK.allocArr hi).1, fun i hi' => ok.keep i hi', ok.low⟩, (ok.toHeapOK.allocArr hi).2⟩

theorem setObj {h : Heap} (ok : HeapB P h0 h) (o : ObjId) {m : List (Bytes × CellId)}
    (hm : P.O ≤ o → RegM P m) : HeapB P h0 (h.setObj o m) :=
  ⟨ok.toHeapOK.setObj o hm, fun i hi' => ok.keep i hi', ok.low⟩

theorem allocObj {h : Heap} (ok : HeapB P h0 h) {m : List (Bytes × CellId)} (hm : RegM P m) :
    HeapB P h0 (h.allocObj m).2 ∧ P.O ≤ (h.allocObj m).1 :=
  ⟨⟨(ok.toHeapOK.allocObj hm).1, fun i hi' => ok.keep i hi', ok.low⟩, (ok.toHeapOK.allocObj hm).2⟩

end HeapB

theorem fillNulls_keep : ∀ (n : Nat) (h : Heap) (items : Array CellId), HeapB P h0 h →
    ∀ i, i < P.N → (fillNulls n h items).1.get i = h0.get i
  | 0, h, items, ok, i, hi => ok.keep i hi
  | n + 1, h, items, ok, i, hi => by
    unfold fillNulls
    exact fillNulls_keep n _ _ (ok.alloc (v := .nil none) trivial).1 i hi

theorem setMember_okB {h : Heap} (ok : HeapB P h0 h) {v m : Val} (hv : GoodV P v) {cell : CellId}
    (hcell : P.N ≤ cell) {c : CellId} {h' : Heap} (hs : setMember h v m cell = .ok (c, h')) :
    HeapB P h0 h' ∧ P.N ≤ c := by
  have h1 := setMember_ok ok.toHeapOK hv hcell hs
  refine ⟨⟨h1.1, ?_, ok.low⟩, h1.2⟩
  intro j hj
  unfold setMember at hs
  cases v with
  | arr a =>
    dsimp only at hs
    cases m with
    | num x =>
      dsimp only at hs
      split at hs
      · cases hs
      · rename_i i _
        split at hs
        · rename_i hlt
          cases hs
          exact (ok.set ((ok.arrs a hv).getInternal hlt) (ok.cells cell hcell)).keep j hj
        · split at hs
          · cases hs
          · rename_i hnlt _
            simp only [Except.ok.injEq, Prod.mk.injEq] at hs
            obtain ⟨rfl, rfl⟩ := hs
            have hf := fillNulls_ok (i + 1 - (h.arr a).size) h (h.arr a) ok.toHeapOK (ok.arrs a hv)
            have hsz : i < (fillNulls (i + 1 - (h.arr a).size) h (h.arr a)).2.size := by
              rw [hf.2.2]; omega
            have hreg : P.N ≤ (fillNulls (i + 1 - (h.arr a).size) h (h.arr a)).2.getD i 0 := hf.2.1.getD hsz
            rw [Heap.get_set_ne' _ _ _ _ (fun e => by subst e; exact absurd hj (Nat.not_lt.mpr hreg))]
            rw [Heap.get_setArr]
            exact fillNulls_keep _ _ _ ok j hj
    | _ => cases hs
  | obj o =>
    simp only [Except.ok.injEq, Prod.mk.injEq] at hs
    obtain ⟨rfl, rfl⟩ := hs
    exact ok.keep j hj
  | _ => cases hs

theorem FrM.lookup {m : List (Bytes × CellId)} (hm : FrM P m) {k : Bytes} (hk : isB k = false) {c : CellId}
    (h : objLookup m k = some c) : P.N ≤ c := by
  rcases hm _ (objLookup_mem h) with h3 | h3
  · exact h3
  · rw [hk] at h3; cases h3

theorem lookupFrames_regB {fr : List Frame} (h : ∀ f ∈ fr, FrM P f.locals) {k : Bytes} (hk : isB k = false)
    {c : CellId} (hl : lookupFrames fr k = some c) : P.N ≤ c := by
  induction fr with
  | nil => cases hl
  | cons f fs ih =>
    unfold lookupFrames at hl
    split at hl
    · rename_i c' hc'
      cases hl
      exact (h f (List.mem_cons_self ..)).lookup hk hc'
    · exact ih (fun g hg => h g (List.mem_cons_of_mem _ hg)) hl

theorem FrM.nil : FrM P [] := by intro kc h; cases h

theorem FrM.objInsert {m : List (Bytes × CellId)} (hm : FrM P m) (k : Bytes) {c : CellId}
    (hc : P.N ≤ c) : FrM P (objInsert m k c) :=
  fun kc h => (mem_objInsert h).elim (hm kc) fun e => .inl (e ▸ hc)

theorem lookupFrames_bot {fr : List Frame} {k : Bytes} {c : CellId} (h : botLookup fr k = some c) :
    (lookupFrames fr k).isSome = true := by
  induction fr with
  | nil => simp [botLookup] at h
  | cons f fs ih =>
    unfold lookupFrames
    split
    · rfl
    · rename_i hnone
      cases fs with
      | nil =>
        simp only [botLookup, List.getLast?_singleton] at h
        rw [h] at hnone; cases hnone
      | cons g gs =>
        apply ih
        simpa [botLookup, List.getLast?_cons_cons] using h

theorem botLookup_cons (f g : Frame) (fs : List Frame) (k : Bytes) :
    botLookup (f :: g :: fs) k = botLookup (g :: fs) k := by
  simp [botLookup, List.getLast?_cons_cons]

theorem botLookup_push (f : Frame) {fs : List Frame} (hne : fs ≠ []) (k : Bytes) :
    botLookup (f :: fs) k = botLookup fs k := by
  cases fs with
  | nil => exact absurd rfl hne
  | cons g gs => exact botLookup_cons f g gs k

theorem FramesB.setLocal {f : Frame} {fs : List Frame} (h : FramesB P b0 (f :: fs)) {name : Bytes}
    (hn : isB name = false) {c : CellId} (hc : P.N ≤ c) :
    FramesB P b0 ({ f with locals := objInsert f.locals name c } :: fs) := by
  refine ⟨by simp, ?_, ?_, h.some⟩
  · intro g hg
    rcases List.mem_cons.mp hg with hg | hg
    · subst hg
      exact (h.loc f (List.mem_cons_self ..)).objInsert _ hc
    · exact h.loc g (List.mem_cons_of_mem _ hg)
  · intro k hk
    rw [← h.bot k hk]
    cases fs with
    | nil =>
      simp only [botLookup, List.getLast?_singleton]
      rw [objLookup_objInsert]
      have : ¬ name = k := fun e => by rw [e, hk] at hn; cases hn
      simp only [this, ↓reduceIte]
    | cons g gs => rw [botLookup_cons, botLookup_cons]

theorem FramesB.push (h : FramesB P b0 fr) (name : Bytes) : FramesB P b0 (⟨name, []⟩ :: fr) := by
  refine ⟨by simp, ?_, ?_, h.some⟩
  · intro g hg
    rcases List.mem_cons.mp hg with hg | hg
    · subst hg; exact FrM.nil
    · exact h.loc g hg
  · intro k hk
    rw [botLookup_push _ h.ne]; exact h.bot k hk

def BPres (P : Region) (h0 : Heap) (b0 : Bytes → Option CellId) (K : Option CellId → Prop) {α : Type}
    (R : α → Prop) : Res α → Prop
  | .ok a s' => InvB P h0 b0 K s' ∧ R a
  | .err (.runtime _ _) s' => InvB P h0 b0 K s'
  | .err (.sig _) s' => InvB P h0 b0 K s'
  | .err (.panic _) s' => InvB P h0 b0 K s'
  | .err (.unmodelled _) s' => InvB P h0 b0 K s'
  | .oof => True

def BPat (P : Region) (h0 : Heap) (b0 : Bytes → Option CellId) (K : Option CellId → Prop) {α : Type}
    (m : EM α) (R : α → Prop) (s : St) : Prop :=
  BPres P h0 b0 K R (m s)

def BP (P : Region) (h0 : Heap) (b0 : Bytes → Option CellId) (K : Option CellId → Prop) {α : Type}
    (m : EM α) (R : α → Prop) : Prop :=
  ∀ s, InvB P h0 b0 K s → BPat P h0 b0 K m R s

theorem BPres.err_inv {α : Type} {R : α → Prop} {e : Err} {s' : St}
    (h : BPres P h0 b0 K R (.err e s' : Res α)) : InvB P h0 b0 K s' := by
  cases e <;> exact h

theorem BPres.of_err {α : Type} {R : α → Prop} {e : Err} {s' : St}
    (h : InvB P h0 b0 K s') : BPres P h0 b0 K R (.err e s' : Res α) := by
  cases e <;> exact h

@[elab_as_elim]
theorem BPres.byCases {α : Type} {R : α → Prop} {M : Res α → Prop} {r : Res α} (h : BPres P h0 b0 K R r)
    (oof : M .oof) (ok : ∀ a s', InvB P h0 b0 K s' → R a → M (.ok a s'))
    (err : ∀ e s', InvB P h0 b0 K s' → M (.err e s')) : M r := by
  cases r with
  | oof => exact oof
  | ok a s' => exact ok a s' h.1 h.2
  | err e s' => exact err e s' h.err_inv

theorem BPres.conseq {α : Type} {R R' : α → Prop} {r : Res α} (h : BPres P h0 b0 K R r)
    (hr : ∀ a, R a → R' a) : BPres P h0 b0 K R' r :=
  h.byCases trivial (fun a _ h1 h2 => ⟨h1, hr a h2⟩) (fun _ _ h1 => BPres.of_err h1)

namespace BP

theorem conseq {α : Type} {m : EM α} {R R' : α → Prop} (hm : BP P h0 b0 K m R) (hr : ∀ a, R a → R' a) :
    BP P h0 b0 K m R' := fun s hs => (hm s hs).conseq hr

theorem pure {α : Type} {R : α → Prop} {a : α} (h : R a) : BP P h0 b0 K (Pure.pure a : EM α) R :=
  fun _ hs => ⟨hs, h⟩

theorem bindAt {α β : Type} {m : EM α} {f : α → EM β} {R1 : α → Prop} {R : β → Prop} {s : St}
    (hm : BPat P h0 b0 K m R1 s) (hf : ∀ a, R1 a → BP P h0 b0 K (f a) R) : BPat P h0 b0 K (m >>= f) R s := by
  show BPres P h0 b0 K R (EM.bind m f s)
  unfold EM.bind
  exact BPres.byCases hm trivial (fun a s1 h1 h2 => hf a h2 s1 h1) (fun _ _ h1 => BPres.of_err h1)

theorem bind {α β : Type} {m : EM α} {f : α → EM β} {R1 : α → Prop} {R : β → Prop}
    (hm : BP P h0 b0 K m R1) (hf : ∀ a, R1 a → BP P h0 b0 K (f a) R) : BP P h0 b0 K (m >>= f) R :=
  fun s hs => bindAt (hm s hs) hf

theorem oof {α : Type} {R : α → Prop} : BP P h0 b0 K (Jqawk.oof : EM α) R := fun _ _ => trivial

theorem getSt : BP P h0 b0 K Jqawk.getSt (InvB P h0 b0 K) := fun _ hs => ⟨hs, hs⟩
theorem getHeap : BP P h0 b0 K Jqawk.getHeap (HeapB P h0) := fun _ hs => ⟨hs, hs.heap⟩
theorem readCell {c : CellId} (hc : P.N ≤ c) : BP P h0 b0 K (Jqawk.readCell c) (GoodV P) :=
  fun _ hs => ⟨hs, hs.heap.cells c hc⟩
/-- the cells outside the region hold what they held at the start, which was good -/
theorem readCellG (c : CellId) : BP P h0 b0 K (Jqawk.readCell c) (GoodV P) :=
  fun _ hs => ⟨hs, hs.heap.cellsAll c⟩
theorem readCellAny (c : CellId) : BP P h0 b0 K (Jqawk.readCell c) Tr := fun _ hs => ⟨hs, trivial⟩
theorem throwSig {α : Type} {R : α → Prop} (g : Sig) : BP P h0 b0 K (Jqawk.throwSig g : EM α) R :=
  fun _ hs => hs
theorem throwUnmodelled {α : Type} {R : α → Prop} (w : String) :
    BP P h0 b0 K (Jqawk.throwUnmodelled w : EM α) R := fun _ hs => hs
theorem throwPanic {α : Type} {R : α → Prop} (w : String) :
    BP P h0 b0 K (Jqawk.throwPanic w : EM α) R := fun _ hs => hs
theorem throwRt {α : Type} {R : α → Prop} (p : Nat) (m : String) :
    BP P h0 b0 K (Jqawk.throwRt p m : EM α) R :=
  fun _ hs => ⟨hs.heap, hs.frames, hs.ret, hs.root, hs.rr⟩

theorem newCell {v : Val} (hv : GoodV P v) : BP P h0 b0 K (Jqawk.newCell v) (InR P) := by
  intro _ hs
  have h := hs.heap.alloc hv
  exact ⟨⟨h.1, hs.frames, hs.ret, hs.root, hs.rr⟩, h.2⟩

theorem writeCell {c : CellId} (hc : P.N ≤ c) {v : Val} (hv : GoodV P v) :
    BP P h0 b0 K (Jqawk.writeCell c v) Tr :=
  fun _ hs => ⟨⟨hs.heap.set hc hv, hs.frames, hs.ret, hs.root, hs.rr⟩, trivial⟩

theorem setHeap {h : Heap} (ok : HeapB P h0 h) : BP P h0 b0 K (Jqawk.setHeap h) Tr :=
  fun _ hs => ⟨⟨ok, hs.frames, hs.ret, hs.root, hs.rr⟩, trivial⟩

theorem allocArrM {items : Array CellId} (hi : RegL P items.toList) :
    BP P h0 b0 K (Jqawk.allocArrM items) (InA P) := by
  intro _ hs
  have h := hs.heap.allocArr hi
  exact ⟨⟨h.1, hs.frames, hs.ret, hs.root, hs.rr⟩, h.2⟩

theorem allocObjM {m : List (Bytes × CellId)} (hm : RegM P m) :
    BP P h0 b0 K (Jqawk.allocObjM m) (InO P) := by
  intro _ hs
  have h := hs.heap.allocObj hm
  exact ⟨⟨h.1, hs.frames, hs.ret, hs.root, hs.rr⟩, h.2⟩

theorem emit (b : Bytes) : BP P h0 b0 K (Jqawk.emit b) Tr :=
  fun _ hs => ⟨⟨hs.heap, hs.frames, hs.ret, hs.root, hs.rr⟩, trivial⟩

theorem setReturnVal {c : Option CellId} (hc : OptReg P c) :
    BP P h0 b0 K (Jqawk.modifySt fun s => { s with returnVal := c }) Tr :=
  fun _ hs => ⟨⟨hs.heap, hs.frames, hc, hs.root, hs.rr⟩, trivial⟩

theorem setLocal {name : Bytes} (hn : isB name = false) {c : CellId} (hc : P.N ≤ c) :
    BP P h0 b0 K (Jqawk.setLocal name c) Tr := by
  intro s hs
  unfold BPat Jqawk.setLocal
  have hf := hs.frames
  cases hfr : s.frames with
  | nil => exact absurd hfr hf.ne
  | cons f fs =>
    rw [hfr] at hf
    exact ⟨⟨hs.heap, hf.setLocal hn hc, hs.ret, hs.root, hs.rr⟩, trivial⟩

theorem getVariable {name : Bytes} (hn : isB name = false) :
    BP P h0 b0 K (Jqawk.getVariable name) (ExReg P) := by
  unfold Jqawk.getVariable
  refine bind getSt (fun s hs => ?_)
  split
  · rename_i c hc
    exact pure (lookupFrames_regB hs.frames.loc hn hc)
  · split
    · exact pure trivial
    · exact bind (newCell trivial) (fun c hc => bind (setLocal hn hc) (fun _ _ => pure hc))

theorem getVariableB {name : Bytes} (hn : isB name = true) :
    BP P h0 b0 K (Jqawk.getVariable name) Tr := by
  unfold Jqawk.getVariable
  refine bind getSt (fun s hs => ?_)
  split
  · exact pure trivial
  · rename_i hnone
    have hsome := hs.frames.some name hn
    rw [← hs.frames.bot name hn] at hsome
    obtain ⟨c, hc⟩ := Option.isSome_iff_exists.mp hsome
    have := lookupFrames_bot hc
    rw [hnone] at this; cases this

theorem copyValue {a : CellId} (ha : P.N ≤ a) {b : CellId} (hb : P.N ≤ b) :
    BP P h0 b0 K (Jqawk.copyValue a b) (ExReg P) := by
  unfold Jqawk.copyValue
  refine bind (readCell ha) (fun v hv => ?_)
  split
  · rename_i w hw
    exact bind (writeCell hb (copyVal_good hw hv)) (fun _ _ => pure hb)
  · exact pure trivial

theorem bindAll {l : List (Bytes × CellId)} (hl : RegMB P l) : BP P h0 b0 K (Jqawk.bindAll l) Tr := by
  induction l with
  | nil => exact pure trivial
  | cons kv rest ih =>
    obtain ⟨k, c⟩ := kv
    have h1 := hl (k, c) (List.mem_cons_self ..)
    exact bind (setLocal h1.2 h1.1)
      (fun _ _ => ih (fun x hx => hl x (List.mem_cons_of_mem _ hx)))

theorem bindParams {ps : List Bytes} (hps : ∀ p ∈ ps, isB p = false) {as : List Val} (has : GoodVs P as) :
    BP P h0 b0 K (Jqawk.bindParams ps as) Tr := by
  induction ps generalizing as with
  | nil => exact pure trivial
  | cons p ps ih =>
    have hp := hps p (List.mem_cons_self ..)
    have hps' : ∀ q ∈ ps, isB q = false := fun q hq => hps q (List.mem_cons_of_mem _ hq)
    cases as with
    | nil =>
      exact bind (newCell trivial) (fun c hc => bind (setLocal hp hc) (fun _ _ => ih hps' has))
    | cons a as =>
      exact bind (newCell (has a (List.mem_cons_self ..))) (fun c hc => bind (setLocal hp hc)
        (fun _ _ => ih hps' (fun x hx => has x (List.mem_cons_of_mem _ hx))))

theorem allocCells {vs : List Val} (hvs : GoodVs P vs) : BP P h0 b0 K (Jqawk.allocCells vs) (RegL P) := by
  induction vs with
  | nil => exact pure (by intro c hc; cases hc)
  | cons v vs ih =>
    refine bind (newCell (hvs v (List.mem_cons_self ..))) (fun c hc =>
      bind (ih (fun x hx => hvs x (List.mem_cons_of_mem _ hx))) (fun cs hcs => pure ?_))
    intro d hd
    rcases List.mem_cons.mp hd with hd | hd
    · subst hd; exact hc
    · exact hcs d hd

theorem newArrayOf {vs : List Val} (hvs : GoodVs P vs) : BP P h0 b0 K (Jqawk.newArrayOf vs) (GoodV P) := by
  unfold Jqawk.newArrayOf
  refine bind (allocCells hvs) (fun cells hcells => bind getHeap (fun h hh => ?_))
  have ha := hh.allocArr (items := cells.toArray) (by simpa using hcells)
  exact bind (setHeap ha.1) (fun _ _ => pure ha.2)

theorem handle {α β : Type} {m : EM α} {onOk : α → EM β} {onSig : Sig → Option (EM β)} {R1 : α → Prop}
    {R : β → Prop} (hm : BP P h0 b0 K m R1) (hok : ∀ a, R1 a → BP P h0 b0 K (onOk a) R)
    (hsig : ∀ g k, onSig g = some k → BP P h0 b0 K k R) : BP P h0 b0 K (Jqawk.handle m onOk onSig) R := by
  intro s hs
  unfold BPat Jqawk.handle
  refine BPres.byCases (hm s hs) trivial (fun a s1 h1 h2 => hok a h2 s1 h1) (fun e s1 h1 => ?_)
  cases e with
  | sig g =>
    dsimp only
    cases hk : onSig g with
    | none => exact h1
    | some k => exact hsig g k hk s1 h1
  | _ => exact h1

theorem loopIter {body k : EM Unit} {R : Unit → Prop} (hb : BP P h0 b0 K body Tr) (hk : BP P h0 b0 K k R)
    (hR : R ()) : BP P h0 b0 K (Jqawk.loopIter body k) R := by
  rw [loopIter_eq_handle]
  refine handle hb (fun _ _ => hk) (fun g k hg => ?_)
  cases g <;> cases hg <;> first | exact pure hR | exact hk

theorem returnSlot : BP P h0 b0 K Jqawk.returnSlot (GoodV P) := by
  intro s hs
  refine ⟨hs, ?_⟩
  have hret := hs.ret
  cases hrv : s.returnVal with
  | none => trivial
  | some c => rw [hrv] at hret; exact hs.heap.cells c hret

theorem catchReturn {body : EM Unit} (hb : BP P h0 b0 K body Tr) :
    BP P h0 b0 K (Jqawk.catchReturn body) (GoodV P) := by
  rw [catchReturn_eq_handle]
  refine handle hb (fun _ _ => pure trivial) (fun g k hg => ?_)
  cases g <;> cases hg
  exact returnSlot

theorem catchSig {α : Type} {m : EM α} {R : α → Prop} (g : Sig) {d : α} (hd : R d)
    (hm : BP P h0 b0 K m R) : BP P h0 b0 K (Jqawk.catchSig g d m) R := by
  rw [catchSig_eq_handle]
  refine handle hm (fun _ h => pure h) (fun g' k hg => ?_)
  split at hg <;> cases hg
  exact pure hd

theorem framed {α : Type} {R : α → Prop} (name : Bytes) (pos : Nat) (body : EM α)
    (hb : BP P h0 b0 K body R) :
    BP P h0 b0 K (Jqawk.framed name pos body) R := by
  intro s hs
  unfold BPat
  rw [framed_eq]
  split
  · exact throwRt pos _ s hs
  · unfold Jqawk.withFrames
    have hs1 : InvB P h0 b0 K ({ s with frames := ⟨name, []⟩ :: s.frames,
                                        maxDepth := max s.maxDepth (s.frames.length + 1) } : St) :=
      ⟨hs.heap, hs.frames.push name, hs.ret, hs.root, hs.rr⟩
    have fix : ∀ s1 : St, InvB P h0 b0 K s1 → InvB P h0 b0 K { s1 with frames := s.frames } :=
      fun s1 h1 => ⟨h1.heap, hs.frames, h1.ret, h1.root, h1.rr⟩
    exact BPres.byCases (hb _ hs1) trivial (fun _ s1 h1 h2 => ⟨fix s1 h1, h2⟩)
      (fun _ s1 h1 => BPres.of_err (fix s1 h1))

end BP

end Sel
end Jqawk
