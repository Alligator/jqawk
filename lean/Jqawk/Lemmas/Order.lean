/-
  `Bytes.cmp` is a total order; `sortByKey` is a permutation, yields an ascending list, and
  its result depends only on the SET of members when the keys are pairwise distinct; so does
  `objLookup`.  `HeapOrderEq h1 h2`: two heaps that differ only in the order in which objects
  list their members (Go's map iteration order) — their sorted member lists agree.
-/
import Jqawk.Model.Value

namespace Jqawk

namespace Bytes

theorem u8_trichotomy (a b : UInt8) : a < b ∨ a = b ∨ b < a :=
  if h : a = b then .inr (.inl h) else (UInt8.lt_or_lt_of_ne h).imp id .inr

theorem cmp_cons (a b : UInt8) (as bs : Bytes) :
    cmp (a :: as) (b :: bs) = if a < b then .lt else if b < a then .gt else cmp as bs := by
  rw [cmp]

theorem cmp_cons_lt {a b : UInt8} (h : a < b) (as bs : Bytes) : cmp (a :: as) (b :: bs) = .lt := by
  rw [cmp_cons, if_pos h]

theorem cmp_cons_gt {a b : UInt8} (h : b < a) (as bs : Bytes) : cmp (a :: as) (b :: bs) = .gt := by
  rw [cmp_cons, if_neg (UInt8.lt_asymm h), if_pos h]

theorem cmp_cons_self (a : UInt8) (as bs : Bytes) : cmp (a :: as) (a :: bs) = cmp as bs := by
  rw [cmp_cons, if_neg (UInt8.lt_irrefl a), if_neg (UInt8.lt_irrefl a)]

theorem cmp_eq_iff (a b : Bytes) : cmp a b = .eq ↔ a = b := by
  induction a generalizing b with
  | nil => cases b <;> simp [cmp]
  | cons x xs ih =>
    cases b with
    | nil => simp [cmp]
    | cons y ys =>
      rcases u8_trichotomy x y with h | rfl | h
      · rw [cmp_cons_lt h]; exact ⟨nofun, fun e => by cases e; exact absurd h (UInt8.lt_irrefl _)⟩
      · rw [cmp_cons_self, ih, List.cons.injEq, eq_self, true_and]
      · rw [cmp_cons_gt h]; exact ⟨nofun, fun e => by cases e; exact absurd h (UInt8.lt_irrefl _)⟩

theorem cmp_refl (a : Bytes) : cmp a a = .eq := (cmp_eq_iff a a).2 rfl

theorem cmp_swap (a b : Bytes) : cmp b a = (cmp a b).swap := by
  induction a generalizing b with
  | nil => cases b <;> rfl
  | cons x xs ih =>
    cases b with
    | nil => rfl
    | cons y ys =>
      rcases u8_trichotomy x y with h | rfl | h
      · rw [cmp_cons_lt h, cmp_cons_gt h]; rfl
      · rw [cmp_cons_self, cmp_cons_self]; exact ih ys
      · rw [cmp_cons_gt h, cmp_cons_lt h]; rfl

theorem cmp_gt_iff (a b : Bytes) : cmp a b = .gt ↔ cmp b a = .lt := by
  rw [cmp_swap a b]; cases cmp a b <;> decide

theorem cmp_lt_trans (a b c : Bytes) (h1 : cmp a b = .lt) (h2 : cmp b c = .lt) : cmp a c = .lt := by
  induction a generalizing b c with
  | nil =>
    cases b with
    | nil => cases h1
    | cons y ys => cases c with
      | nil => cases h2
      | cons z zs => rfl
  | cons x xs ih =>
    cases b with
    | nil => cases h1
    | cons y ys =>
      cases c with
      | nil => cases h2
      | cons z zs =>
        rcases u8_trichotomy x y with hxy | rfl | hxy
        · rcases u8_trichotomy y z with hyz | rfl | hyz
          · exact cmp_cons_lt (UInt8.lt_trans hxy hyz) ..
          · exact cmp_cons_lt hxy ..
          · rw [cmp_cons_gt hyz] at h2; cases h2
        · rcases u8_trichotomy x z with hyz | rfl | hyz
          · exact cmp_cons_lt hyz ..
          · rw [cmp_cons_self] at h1 h2 ⊢
            exact ih _ _ h1 h2
          · rw [cmp_cons_gt hyz] at h2; cases h2
        · rw [cmp_cons_gt hxy] at h1; cases h1

theorem cmp_lt_asymm (a b : Bytes) (h : cmp a b = .lt) : cmp b a ≠ .lt := by
  rw [cmp_swap a b, h]; decide

theorem le_total (a b : Bytes) : le a b = true ∨ le b a = true := by
  rw [le, le, cmp_swap a b]
  cases cmp a b <;> decide

theorem le_iff (a b : Bytes) : le a b = true ↔ cmp a b = .lt ∨ a = b := by
  rw [le, ← cmp_eq_iff]
  cases cmp a b <;> decide

theorem le_trans (a b c : Bytes) (h1 : le a b = true) (h2 : le b c = true) : le a c = true := by
  rw [le_iff] at *
  rcases h1 with h1 | rfl
  · rcases h2 with h2 | rfl
    · exact Or.inl (cmp_lt_trans _ _ _ h1 h2)
    · exact Or.inl h1
  · exact h2

theorem not_le (a b : Bytes) (h : le a b = false) : cmp b a = .lt := by
  rw [le, cmp_swap b a] at h
  revert h
  cases cmp b a <;> decide

end Bytes

abbrev Members := List (Bytes × CellId)

def SortedLe (l : Members) : Prop := l.Pairwise (fun x y => Bytes.le x.1 y.1 = true)
def SortedLt (l : Members) : Prop := l.Pairwise (fun x y => Bytes.cmp x.1 y.1 = .lt)
/-- the invariant of a Go map -/
def DistinctKeys (l : Members) : Prop := l.Pairwise (fun x y => x.1 ≠ y.1)

theorem insertByKey_perm (kv : Bytes × CellId) (l : Members) : (insertByKey kv l).Perm (kv :: l) := by
  induction l with
  | nil => simp [insertByKey]
  | cons x xs ih =>
    simp only [insertByKey]
    split
    · exact List.Perm.refl _
    · exact (List.Perm.cons x ih).trans (List.Perm.swap kv x xs)

theorem sortByKey_perm (l : Members) : (sortByKey l).Perm l := by
  induction l with
  | nil => simp [sortByKey]
  | cons x xs ih =>
    simp only [sortByKey]
    exact (insertByKey_perm x _).trans (List.Perm.cons x ih)

theorem mem_sortByKey {l : Members} {kv : Bytes × CellId} (h : kv ∈ sortByKey l) : kv ∈ l :=
  (sortByKey_perm l).mem_iff.1 h

theorem insertByKey_sorted (kv : Bytes × CellId) (l : Members) (hl : SortedLe l) :
    SortedLe (insertByKey kv l) := by
  induction l with
  | nil => simp [insertByKey, SortedLe]
  | cons x xs ih =>
    simp only [insertByKey]
    have hx := List.pairwise_cons.1 hl
    split
    · rename_i hle
      refine List.pairwise_cons.2 ⟨?_, hl⟩
      intro y hy
      rcases List.mem_cons.1 hy with rfl | hy
      · exact hle
      · exact Bytes.le_trans _ _ _ hle (hx.1 y hy)
    · rename_i hle
      have hle' : Bytes.le kv.1 x.1 = false := by simpa using hle
      refine List.pairwise_cons.2 ⟨?_, ih hx.2⟩
      intro y hy
      rcases List.mem_cons.1 ((insertByKey_perm kv xs).mem_iff.1 hy) with rfl | hy
      · rw [Bytes.le_iff]; exact Or.inl (Bytes.not_le _ _ hle')
      · exact hx.1 y hy

theorem sortByKey_sorted (l : Members) : SortedLe (sortByKey l) := by
  induction l with
  | nil => simp [sortByKey, SortedLe]
  | cons x xs ih => exact insertByKey_sorted x _ ih

theorem DistinctKeys.perm {l1 l2 : Members} (p : l1.Perm l2) (h : DistinctKeys l1) : DistinctKeys l2 :=
  (p.pairwise_iff (fun {_ _} h => Ne.symm h)).1 h

theorem sortByKey_sortedLt (l : Members) (hd : DistinctKeys l) : SortedLt (sortByKey l) := by
  have h1 := sortByKey_sorted l
  have h2 : DistinctKeys (sortByKey l) := hd.perm (sortByKey_perm l).symm
  have := List.Pairwise.and h1 h2
  refine this.imp ?_
  intro x y ⟨hle, hne⟩
  rcases (Bytes.le_iff _ _).1 hle with h | h
  · exact h
  · exact absurd h hne

theorem sortedLt_perm_eq : ∀ (l1 l2 : Members), SortedLt l1 → SortedLt l2 → l1.Perm l2 → l1 = l2 := by
  intro l1
  induction l1 with
  | nil => intro l2 _ _ p; exact p.nil_eq
  | cons a t1 ih =>
    intro l2 s1 s2 p
    cases l2 with
    | nil => exact absurd p.symm.nil_eq (by simp)
    | cons b t2 =>
      have hs1 := List.pairwise_cons.1 s1
      have hs2 := List.pairwise_cons.1 s2
      have hab : a = b := by
        have ha : a ∈ b :: t2 := p.mem_iff.1 (by simp)
        have hb : b ∈ a :: t1 := p.mem_iff.2 (by simp)
        rcases List.mem_cons.1 ha with e | ha'
        · exact e
        · rcases List.mem_cons.1 hb with e | hb'
          · exact e.symm
          · exact absurd (hs2.1 a ha') (Bytes.cmp_lt_asymm _ _ (hs1.1 b hb'))
      subst hab
      rw [ih t2 hs1.2 hs2.2 (List.Perm.cons_inv p)]

theorem sortByKey_perm_eq (m1 m2 : Members) (p : m1.Perm m2) (hd : DistinctKeys m1) :
    sortByKey m1 = sortByKey m2 :=
  sortedLt_perm_eq _ _ (sortByKey_sortedLt m1 hd) (sortByKey_sortedLt m2 (hd.perm p))
    ((sortByKey_perm m1).trans (p.trans (sortByKey_perm m2).symm))

theorem objLookup_mem {m : Members} {k : Bytes} {c : CellId} (h : objLookup m k = some c) : (k, c) ∈ m := by
  induction m with
  | nil => cases h
  | cons x rest ih =>
    obtain ⟨k0, c0⟩ := x
    rw [objLookup] at h
    split at h
    · next e => rw [← beq_iff_eq.1 e, ← Option.some.inj h]; exact List.mem_cons_self
    · exact List.mem_cons_of_mem _ (ih h)

theorem mem_objInsert' {m : Members} {k : Bytes} {c : CellId} {kc : Bytes × CellId}
    (h : kc ∈ objInsert m k c) : kc ∈ m ∨ kc = (k, c) := by
  induction m with
  | nil => exact .inr (List.mem_singleton.1 h)
  | cons x rest ih =>
    obtain ⟨k0, c0⟩ := x
    rw [objInsert] at h
    split at h
    · next e =>
      rcases List.mem_cons.1 h with h | h
      · exact .inr (h.trans (by rw [beq_iff_eq.1 e]))
      · exact .inl (List.mem_cons_of_mem _ h)
    · rcases List.mem_cons.1 h with h | h
      · exact .inl (h ▸ List.mem_cons_self)
      · exact (ih h).imp_left (List.mem_cons_of_mem _)

theorem mem_objInsert {m : Members} {k : Bytes} {c : CellId} {kc : Bytes × CellId}
    (h : kc ∈ objInsert m k c) : kc ∈ m ∨ kc.2 = c :=
  (mem_objInsert' h).imp_right fun e => congrArg Prod.snd e

theorem objLookup_eq_some_iff (m : Members) (hd : DistinctKeys m) (k : Bytes) (c : CellId) :
    objLookup m k = some c ↔ (k, c) ∈ m := by
  induction m with
  | nil => simp [objLookup]
  | cons x xs ih =>
    obtain ⟨k0, c0⟩ := x
    have hx := List.pairwise_cons.1 hd
    rw [objLookup, List.mem_cons, Prod.mk.injEq]
    by_cases hk : k0 = k
    · subst hk
      rw [if_pos (beq_self_eq_true _), Option.some.injEq]
      exact ⟨fun e => .inl ⟨rfl, e.symm⟩, fun h => h.elim (fun e => e.2.symm) (fun hm => absurd rfl (hx.1 (k0, c) hm))⟩
    · rw [if_neg (by simpa using hk), ih hx.2]
      exact ⟨.inr, fun h => h.resolve_left (fun e => hk e.1.symm)⟩

theorem objLookup_perm (m1 m2 : Members) (p : m1.Perm m2) (hd : DistinctKeys m1) (k : Bytes) :
    objLookup m1 k = objLookup m2 k := by
  apply Option.ext
  intro c
  rw [objLookup_eq_some_iff m1 hd, objLookup_eq_some_iff m2 (hd.perm p), p.mem_iff]

structure HeapOrderEq (h1 h2 : Heap) : Prop where
  cells : h1.cells = h2.cells
  arrs : h1.arrs = h2.arrs
  nobjs : h1.objs.size = h2.objs.size
  perm : ∀ o, (h1.obj o).Perm (h2.obj o)
  distinct : ∀ o, DistinctKeys (h1.obj o)

theorem HeapOrderEq.get {h1 h2 : Heap} (e : HeapOrderEq h1 h2) (c : CellId) : h1.get c = h2.get c := by
  simp [Heap.get, e.cells]

theorem HeapOrderEq.arr {h1 h2 : Heap} (e : HeapOrderEq h1 h2) (a : ArrId) : h1.arr a = h2.arr a := by
  simp [Heap.arr, e.arrs]

theorem HeapOrderEq.sorted {h1 h2 : Heap} (e : HeapOrderEq h1 h2) (o : ObjId) :
    sortByKey (h1.obj o) = sortByKey (h2.obj o) :=
  sortByKey_perm_eq _ _ (e.perm o) (e.distinct o)

end Jqawk
