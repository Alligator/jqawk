import Jqawk.Lemmas.JsonBytesStr
import Jqawk.Lemmas.JsonNumLit
/-!
  A grammar of JSON texts with the value each denotes for the decoder, and the scanner's side of
  every round trip.  `Txt f bs v n`: `bs` is a text of the value `v` — white space wherever
  RFC 8259 allows it, any escapes, duplicate keys (the decoder's map keeps the last), number
  literals accepted by `f`, at most `n` brackets open at once.  `Txt.reads`: the scanner reads a
  text as its value wherever a value may stand inside a container; `Txt.top`: the decoder's
  answer on a text as a whole document, in every continuation.  What a WRITER has to show is then
  free of the scanner: its output is a `Txt` (`txt_outF` in JsonBytesTree for `marshalIndent`,
  `decode_flat` in Reparse for `pretty`).
-/
namespace Jqawk.JsonBytes
open Jqawk Jqawk.Json

def Ws (w : Bytes) : Prop := ∀ x ∈ w, isSpace x = true

theorem Ws.nil : Ws [] := nofun

/-- an element of an array, or the value of a member: `pre txt post`, white space around the text -/
structure Item where
  pre : Bytes
  txt : Bytes
  post : Bytes
  val : JVal

def Item.bytes (p : Item) : Bytes := p.pre ++ (p.txt ++ p.post)

/-- a member: `pre "raw" mid : item` -/
structure Mem where
  pre : Bytes
  raw : Bytes
  mid : Bytes
  it : Item

def Mem.bytes (m : Mem) : Bytes := m.pre ++ 0x22 :: (m.raw ++ 0x22 :: (m.mid ++ 0x3A :: m.it.bytes))

/-- every further element with the comma before it -/
def moreItems : List Item → Bytes
  | [] => []
  | p :: ps => 0x2C :: (p.bytes ++ moreItems ps)

def itemsBytes : List Item → Bytes
  | [] => []
  | p :: ps => p.bytes ++ moreItems ps

def moreMems : List Mem → Bytes
  | [] => []
  | m :: ms => 0x2C :: (m.bytes ++ moreMems ms)

def memsBytes : List Mem → Bytes
  | [] => []
  | m :: ms => m.bytes ++ moreMems ms

/-- the Go map the decoder builds from the members in the order read -/
def memsVal (ms : List Mem) (acc : List (Bytes × JVal)) : List (Bytes × JVal) :=
  ms.foldl (fun a m => insertMember (unquote m.raw) m.it.val a) acc

/-- the texts of null, the booleans, numbers and strings -/
inductive Leaf (f : Bytes → Bool) : Bytes → JVal → Prop
  | null : Leaf f [0x6E, 0x75, 0x6C, 0x6C] .null
  | tru : Leaf f [0x74, 0x72, 0x75, 0x65] (.bool true)
  | fls : Leaf f [0x66, 0x61, 0x6C, 0x73, 0x65] (.bool false)
  | num {lit} (hg : numGrammar lit = true) (hf : f lit = true) : Leaf f lit (.num lit)
  | str {raw} (h : ScanOK raw) : Leaf f (0x22 :: (raw ++ [0x22])) (.str (unquote raw))

inductive Txt (f : Bytes → Bool) : Bytes → JVal → Nat → Prop
  | leaf {n bs v} (h : Leaf f bs v) : Txt f bs v n
  | arr {n its w} (hw : Ws w) (hws : ∀ p ∈ its, Ws p.pre ∧ Ws p.post) (h : ∀ p ∈ its, Txt f p.txt p.val n) :
      Txt f (0x5B :: (itemsBytes its ++ (w ++ [0x5D]))) (.arr (its.map Item.val)) (n + 1)
  | obj {n ms w} (hw : Ws w)
      (hws : ∀ m ∈ ms, Ws m.pre ∧ ScanOK m.raw ∧ Ws m.mid ∧ Ws m.it.pre ∧ Ws m.it.post)
      (h : ∀ m ∈ ms, Txt f m.it.txt m.it.val n) :
      Txt f (0x7B :: (memsBytes ms ++ (w ++ [0x7D]))) (.obj (memsVal ms [])) (n + 1)

theorem Txt.mono {f : Bytes → Bool} {bs : Bytes} {v : JVal} {n : Nat} (h : Txt f bs v n) :
    ∀ {m}, n ≤ m → Txt f bs v m := by
  induction h with
  | leaf h => intros; exact .leaf h
  | arr hw hws _ ih =>
    intro m hm
    obtain ⟨m, rfl⟩ : ∃ k, m = k + 1 := ⟨m - 1, by omega⟩
    exact .arr hw hws fun p hp => ih p hp (by omega)
  | obj hw hws _ ih =>
    intro m hm
    obtain ⟨m, rfl⟩ : ∃ k, m = k + 1 := ⟨m - 1, by omega⟩
    exact .obj hw hws fun p hp => ih p hp (by omega)

/-! ### the scanner on one token -/

theorem run_words (f : Bytes → Bool) (t : Tail) {st : Step} (hst : st = .beginValue ∨ st = .beginValueOrEmpty)
    (stk : List Frame) (dp : Nat) (lit : Bytes) (bad : Bool) (rest : Bytes) :
    run f ⟨st, stk, dp, lit, bad⟩ (0x6E :: 0x75 :: 0x6C :: 0x6C :: rest) t
      = run f (deliver ⟨st, stk, dp, lit, bad⟩ .null) rest t ∧
    run f ⟨st, stk, dp, lit, bad⟩ (0x74 :: 0x72 :: 0x75 :: 0x65 :: rest) t
      = run f (deliver ⟨st, stk, dp, lit, bad⟩ (.bool true)) rest t ∧
    run f ⟨st, stk, dp, lit, bad⟩ (0x66 :: 0x61 :: 0x6C :: 0x73 :: 0x65 :: rest) t
      = run f (deliver ⟨st, stk, dp, lit, bad⟩ (.bool false)) rest t := by
  rcases hst with rfl | rfl <;> simp [run, step, beginValue, isSpace] <;> exact ⟨rfl, rfl, rfl⟩

theorem run_open (f : Bytes → Bool) (t : Tail) {st : Step} (hst : st = .beginValue ∨ st = .beginValueOrEmpty)
    (stk : List Frame) (dp : Nat) (lit : Bytes) (bad : Bool) (rest : Bytes) (h : dp + 1 ≤ maxNestingDepth) :
    run f ⟨st, stk, dp, lit, bad⟩ (0x5B :: rest) t
      = run f ⟨.beginValueOrEmpty, .arr [] :: stk, dp + 1, lit, bad⟩ rest t ∧
    run f ⟨st, stk, dp, lit, bad⟩ (0x7B :: rest) t
      = run f ⟨.beginStringOrEmpty, .obj [] [] false :: stk, dp + 1, lit, bad⟩ rest t := by
  rcases hst with rfl | rfl <;> simp [run, step, beginValue, isSpace, push, h]

/-- `]` after the last element (or right after `[`): inside another container the array is
    delivered there, at top level it is the answer -/
theorem run_close_arr (f : Bytes → Bool) (t : Tail) {st : Step} (hst : st = .endValue ∨ st = .beginValueOrEmpty)
    (acc : List JVal) (dp : Nat) (lit : Bytes) (bad : Bool) (rest : Bytes) :
    (∀ fr fs, run f ⟨st, .arr acc :: fr :: fs, dp + 1, lit, bad⟩ (0x5D :: rest) t
      = run f ⟨.endValue, deliverStk (fr :: fs) (.arr acc.reverse), dp, lit, bad⟩ rest t) ∧
    run f ⟨st, [.arr acc], dp, lit, false⟩ (0x5D :: rest) t = .value (.arr acc.reverse) rest := by
  rcases hst with rfl | rfl <;> simp [run, step, endValue, isSpace, pop, deliver_eq]

theorem run_close_obj (f : Bytes → Bool) (t : Tail) {st : Step} {b : Bool}
    (hst : st = .endValue ∧ b = true ∨ st = .beginStringOrEmpty)
    (ms : List (Bytes × JVal)) (k : Bytes) (dp : Nat) (lit : Bytes) (bad : Bool) (rest : Bytes) :
    (∀ fr fs, run f ⟨st, .obj ms k b :: fr :: fs, dp + 1, lit, bad⟩ (0x7D :: rest) t
      = run f ⟨.endValue, deliverStk (fr :: fs) (.obj ms), dp, lit, bad⟩ rest t) ∧
    run f ⟨st, [.obj ms k b], dp, lit, false⟩ (0x7D :: rest) t = .value (.obj ms) rest := by
  rcases hst with ⟨rfl, rfl⟩ | rfl <;> simp [run, step, endValue, isSpace, pop, deliver_eq]

/-- what follows a value: nothing yet, or a byte that continues no number literal (white space,
    `,`, `]`, `}` — every byte that may follow a value inside a container — and many more) -/
def NumEnd (rest : Bytes) : Prop := ∀ c cs, rest = c :: cs → numDelim c = true

theorem NumEnd.nil : NumEnd [] := nofun

theorem NumEnd.cons {c : UInt8} (cs : Bytes) (h : numDelim c = true) : NumEnd (c :: cs) := by
  rintro _ _ ⟨⟩; exact h

theorem numDelim_of_space (c : UInt8) (h : isSpace c = true) : numDelim c = true := by
  simp only [isSpace, Bool.or_eq_true, beq_iff_eq] at h
  rcases h with ((rfl | rfl) | rfl) | rfl <;> rfl

theorem NumEnd.ws {w rest : Bytes} (hw : Ws w) (h : NumEnd rest) : NumEnd (w ++ rest) := by
  cases w with
  | nil => exact h
  | cons x xs => exact .cons _ (numDelim_of_space x (hw x (List.mem_cons_self ..)))

/-- a number needs a continuation that ends it; every other value ends with its own last byte -/
def EndsOK : JVal → Bytes → Prop
  | .num _, rest => NumEnd rest
  | _, _ => True

theorem NumEnd.endsOK {rest : Bytes} (h : NumEnd rest) : ∀ v, EndsOK v rest
  | .num _ => h
  | .null | .bool _ | .str _ | .arr _ | .obj _ => trivial

theorem step_deliver (f : Bytes → Bool) (s : St) (v : JVal) (c : UInt8) :
    step f (deliver s v) c = afterValue (deliver s v) c :=
  deliver_cases (P := fun s' => step f s' c = afterValue s' c) s v (fun _ _ _ _ => rfl) (fun _ => rfl)
    (fun _ _ _ => rfl) fun _ _ _ _ => rfl

/-- a complete number literal accepted by `f` is delivered by the byte after it, and by the end of input -/
theorem run_numEnd (f : Bytes → Bool) (t : Tail) {st : Step} (hn : isNum st = true) (hce : canEnd st = true)
    (stk : List Frame) (dp : Nat) (acc : Bytes) (bad : Bool) (hf : f acc.reverse = true) {rest : Bytes}
    (h : NumEnd rest) :
    run f ⟨st, stk, dp, acc, bad⟩ rest t = run f (deliver ⟨st, stk, dp, [], bad⟩ (.num acc.reverse)) rest t := by
  have key : ∀ c, numDelim c = true →
      step f ⟨st, stk, dp, acc, bad⟩ c = step f (deliver ⟨st, stk, dp, [], bad⟩ (.num acc.reverse)) c := by
    intro c hc
    rw [step_numEnd f _ hn hce (numNext_numDelim st c hc), step_deliver]
    simp only [endNumber, hf, Bool.not_true, Bool.or_false]
  cases rest with
  | nil =>
    cases t with
    | more => rfl
    | ioerr => rfl
    | eof => simp only [run, key 0x20 rfl]
  | cons c cs => simp only [run, key c (h c cs rfl)]

theorem run_raw_string (f : Bytes → Bool) {raw : Bytes} (h : ScanOK raw) (t : Tail) {st : Step}
    (hst : st = .beginValue ∨ st = .beginValueOrEmpty ∨ st = .beginString ∨ st = .beginStringOrEmpty)
    (stk : List Frame) (dp : Nat) (lit : Bytes) (bad : Bool) (rest : Bytes) :
    run f ⟨st, stk, dp, lit, bad⟩ (0x22 :: (raw ++ 0x22 :: rest)) t
      = run f (deliver ⟨st, stk, dp, [], bad⟩ (.str (unquote raw))) rest t := by
  have h1 : run f ⟨st, stk, dp, lit, bad⟩ (0x22 :: (raw ++ 0x22 :: rest)) t
      = run f ⟨.inString, stk, dp, [], bad⟩ (raw ++ 0x22 :: rest) t := by
    rcases hst with rfl | rfl | rfl | rfl <;> simp [run, step, beginValue, beginString, isSpace]
  rw [h1, run_steps f t _ _ _ _ (h f stk dp [] bad), run]
  simp only [step, beq_self_eq_true, if_true, List.append_nil, List.reverse_reverse]
  rfl

/-- a null, boolean, number or string, with ANY parse stack (the empty one: a whole document) -/
theorem Leaf.run {f : Bytes → Bool} {bs : Bytes} {v : JVal} (h : Leaf f bs v)
    (t : Tail) {st : Step} (hst : st = .beginValue ∨ st = .beginValueOrEmpty)
    (stk : List Frame) (dp : Nat) (lit : Bytes) (bad : Bool) {rest : Bytes} (hr : EndsOK v rest) :
    ∃ lit', run f ⟨st, stk, dp, lit, bad⟩ (bs ++ rest) t = run f (deliver ⟨st, stk, dp, lit', bad⟩ v) rest t := by
  cases h with
  | null => exact ⟨lit, (run_words f t hst stk dp lit bad rest).1⟩
  | tru => exact ⟨lit, (run_words f t hst stk dp lit bad rest).2.1⟩
  | fls => exact ⟨lit, (run_words f t hst stk dp lit bad rest).2.2⟩
  | num hg hf =>
    obtain ⟨st', hn, hce, hs⟩ := steps_numLit f hst stk dp lit bad hg
    refine ⟨[], (run_steps f t _ _ _ _ hs).trans ?_⟩
    have := run_numEnd f t hn hce stk dp bs.reverse bad (by rwa [List.reverse_reverse]) hr
    rwa [List.reverse_reverse] at this
  | str h =>
    exact ⟨[], by
      rw [List.cons_append, List.append_assoc]
      exact run_raw_string f h t (by rcases hst with e | e <;> simp [e]) stk dp lit bad rest⟩

/-! ### the scanner on a text, inside a container -/

/-- `bs` is read as the value `v` wherever a value may stand inside an array or object: from a
    state expecting a value, with any enclosing frames, followed by `,` or a newline; `n` = how many
    further nesting levels the bytes open -/
def Reads (f : Bytes → Bool) (bs : Bytes) (v : JVal) (n : Nat) : Prop :=
  ∀ (t : Tail) (st : Step), (st = .beginValue ∨ st = .beginValueOrEmpty) →
    ∀ (fr : Frame) (fs : List Frame) (dp : Nat) (lit : Bytes) (bad : Bool) (c : UInt8) (cs : Bytes),
      dp + n ≤ maxNestingDepth → (c = 0x2C ∨ c = 0x0A) →
      ∃ lit', run f ⟨st, fr :: fs, dp, lit, bad⟩ (bs ++ c :: cs) t
        = run f ⟨.endValue, deliverStk (fr :: fs) v, dp, lit', bad⟩ (c :: cs) t

/-- `Reads` with any continuation that ends the value, the end of input included -/
def ReadsG (f : Bytes → Bool) (bs : Bytes) (v : JVal) (n : Nat) : Prop :=
  ∀ (t : Tail) (st : Step), (st = .beginValue ∨ st = .beginValueOrEmpty) →
    ∀ (fr : Frame) (fs : List Frame) (dp : Nat) (lit : Bytes) (bad : Bool) (rest : Bytes),
      dp + n ≤ maxNestingDepth → EndsOK v rest →
      ∃ lit', run f ⟨st, fr :: fs, dp, lit, bad⟩ (bs ++ rest) t
        = run f ⟨.endValue, deliverStk (fr :: fs) v, dp, lit', bad⟩ rest t

theorem ReadsG.reads {f : Bytes → Bool} {bs : Bytes} {v : JVal} {n : Nat} (h : ReadsG f bs v n) :
    Reads f bs v n :=
  fun t st hst fr fs dp lit bad c cs hdp hc =>
    h t st hst fr fs dp lit bad (c :: cs) hdp (NumEnd.endsOK (.cons cs (by rcases hc with rfl | rfl <;> rfl)) v)

theorem skipsWs_of_value {st : Step} (h : st = .beginValue ∨ st = .beginValueOrEmpty) : SkipsWs st := by
  rcases h with rfl | rfl <;> simp [SkipsWs]

/-- an item from a state that expects a value: white space, the value, white space -/
theorem run_item (f : Bytes → Bool) (n : Nat) (p : Item) (hw : Ws p.pre ∧ Ws p.post)
    (hp : ReadsG f p.txt p.val n) (t : Tail) {st : Step} (hst : st = .beginValue ∨ st = .beginValueOrEmpty)
    (fr : Frame) (fs : List Frame) (dp : Nat) (lit : Bytes) (bad : Bool) {rest : Bytes}
    (hdp : dp + n ≤ maxNestingDepth) (hr : NumEnd rest) :
    ∃ lit', run f ⟨st, fr :: fs, dp, lit, bad⟩ (p.bytes ++ rest) t
      = run f ⟨.endValue, deliverStk (fr :: fs) p.val, dp, lit', bad⟩ rest t := by
  obtain ⟨lit1, h1⟩ := hp t st hst fr fs dp lit bad (p.post ++ rest) hdp ((hr.ws hw.2).endsOK _)
  refine ⟨lit1, ?_⟩
  rw [Item.bytes, List.append_assoc, List.append_assoc,
    run_ws f t st (skipsWs_of_value hst) _ dp lit bad _ _ hw.1, h1]
  exact run_ws f t .endValue (.inr (.inr (.inr (.inr rfl)))) _ dp lit1 bad _ _ hw.2

theorem numEnd_comma (bs : Bytes) : NumEnd (0x2C :: bs) := .cons bs rfl

theorem numEnd_tail (p : List Item) (w R : Bytes) (c : UInt8) (hw : Ws w) (hc : numDelim c = true) :
    NumEnd (moreItems p ++ (w ++ c :: R)) := by
  cases p with
  | nil => exact ((NumEnd.cons R hc).ws hw :)
  | cons _ _ => exact numEnd_comma _

/-- the further elements of an array, each after its comma -/
theorem run_moreItems (f : Bytes → Bool) (n : Nat) (t : Tail) (w R : Bytes) (hw : Ws w) :
    ∀ (its : List Item), (∀ p ∈ its, Ws p.pre ∧ Ws p.post) → (∀ p ∈ its, ReadsG f p.txt p.val n) →
    ∀ (acc : List JVal) (fs : List Frame) (dp : Nat) (lit : Bytes) (bad : Bool), dp + n ≤ maxNestingDepth →
      ∃ lit', run f ⟨.endValue, .arr acc :: fs, dp, lit, bad⟩ (moreItems its ++ (w ++ 0x5D :: R)) t
        = run f ⟨.endValue, .arr ((its.map Item.val).reverse ++ acc) :: fs, dp, lit', bad⟩ (0x5D :: R) t
  | [], _, _, acc, fs, dp, lit, bad, _ =>
    ⟨lit, run_ws f t .endValue (.inr (.inr (.inr (.inr rfl)))) _ dp lit bad _ _ hw⟩
  | p :: ps, hws, hps, acc, fs, dp, lit, bad, hdp => by
    obtain ⟨lit1, h1⟩ := run_item f n p (hws p (List.mem_cons_self ..)) (hps p (List.mem_cons_self ..)) t
      (.inl rfl) (.arr acc) fs dp lit bad hdp (numEnd_tail ps w R 0x5D hw rfl)
    obtain ⟨lit2, h2⟩ := run_moreItems f n t w R hw ps (fun q hq => hws q (List.mem_cons_of_mem _ hq))
      (fun q hq => hps q (List.mem_cons_of_mem _ hq)) (p.val :: acc) fs dp lit1 bad hdp
    refine ⟨lit2, ?_⟩
    have comma : run f ⟨.endValue, .arr acc :: fs, dp, lit, bad⟩
        (0x2C :: (p.bytes ++ (moreItems ps ++ (w ++ 0x5D :: R)))) t
        = run f ⟨.beginValue, .arr acc :: fs, dp, lit, bad⟩ (p.bytes ++ (moreItems ps ++ (w ++ 0x5D :: R))) t := rfl
    rw [moreItems, List.cons_append, List.append_assoc, comma, h1, deliverStk, h2, List.map_cons,
      List.reverse_cons, List.append_assoc, List.singleton_append]

/-- all elements of an array, from just after `[` to just before `]` -/
theorem run_items (f : Bytes → Bool) (n : Nat) (t : Tail) (w R : Bytes) (hw : Ws w) (its : List Item)
    (hws : ∀ p ∈ its, Ws p.pre ∧ Ws p.post) (hps : ∀ p ∈ its, ReadsG f p.txt p.val n)
    (fs : List Frame) (dp : Nat) (lit : Bytes) (bad : Bool) (hdp : dp + n ≤ maxNestingDepth) :
    ∃ (st : Step) (lit' : Bytes), (st = .endValue ∨ st = .beginValueOrEmpty) ∧
      run f ⟨.beginValueOrEmpty, .arr [] :: fs, dp, lit, bad⟩ (itemsBytes its ++ (w ++ 0x5D :: R)) t
        = run f ⟨st, .arr (its.map Item.val).reverse :: fs, dp, lit', bad⟩ (0x5D :: R) t := by
  cases its with
  | nil => exact ⟨_, lit, .inr rfl, run_ws f t .beginValueOrEmpty (.inr (.inl rfl)) _ dp lit bad _ _ hw⟩
  | cons p ps =>
    obtain ⟨lit1, h1⟩ := run_item f n p (hws p (List.mem_cons_self ..)) (hps p (List.mem_cons_self ..)) t
      (.inr rfl) (.arr []) fs dp lit bad hdp (numEnd_tail ps w R 0x5D hw rfl)
    obtain ⟨lit2, h2⟩ := run_moreItems f n t w R hw ps (fun q hq => hws q (List.mem_cons_of_mem _ hq))
      (fun q hq => hps q (List.mem_cons_of_mem _ hq)) [p.val] fs dp lit1 bad hdp
    refine ⟨_, lit2, .inl rfl, ?_⟩
    rw [itemsBytes, List.append_assoc, h1, deliverStk, h2, List.map_cons, List.reverse_cons]

/-- a member from a state that expects a key -/
theorem run_mem (f : Bytes → Bool) (n : Nat) (m : Mem)
    (hw : Ws m.pre ∧ ScanOK m.raw ∧ Ws m.mid ∧ Ws m.it.pre ∧ Ws m.it.post)
    (hp : ReadsG f m.it.txt m.it.val n) (t : Tail) {st : Step}
    (hst : st = .beginString ∨ st = .beginStringOrEmpty) (acc : List (Bytes × JVal)) (k0 : Bytes)
    (fs : List Frame) (dp : Nat) (lit : Bytes) (bad : Bool) {rest : Bytes}
    (hdp : dp + n ≤ maxNestingDepth) (hr : NumEnd rest) :
    ∃ lit', run f ⟨st, .obj acc k0 false :: fs, dp, lit, bad⟩ (m.bytes ++ rest) t
      = run f ⟨.endValue, .obj (insertMember (unquote m.raw) m.it.val acc) [] true :: fs, dp, lit', bad⟩ rest t := by
  obtain ⟨lit1, h1⟩ := run_item f n m.it ⟨hw.2.2.2.1, hw.2.2.2.2⟩ hp t (.inl rfl)
    (.obj acc (unquote m.raw) true) fs dp [] bad hdp hr
  refine ⟨lit1, ?_⟩
  have hws : SkipsWs st := by rcases hst with rfl | rfl <;> simp [SkipsWs]
  have colon : ∀ R, run f ⟨.endValue, .obj acc (unquote m.raw) false :: fs, dp, [], bad⟩ (0x3A :: R) t
      = run f ⟨.beginValue, .obj acc (unquote m.raw) true :: fs, dp, [], bad⟩ R t := fun _ => rfl
  simp only [Mem.bytes, List.append_assoc, List.cons_append]
  rw [run_ws f t st hws _ dp lit bad _ _ hw.1,
    run_raw_string f hw.2.1 t (by rcases hst with e | e <;> simp [e]) _ dp lit bad, deliver_eq, deliverStk,
    run_ws f t .endValue (.inr (.inr (.inr (.inr rfl)))) _ dp [] bad _ _ hw.2.2.1, colon, h1, deliverStk]

theorem numEnd_tailM (p : List Mem) (w R : Bytes) (c : UInt8) (hw : Ws w) (hc : numDelim c = true) :
    NumEnd (moreMems p ++ (w ++ c :: R)) := by
  cases p with
  | nil => exact ((NumEnd.cons R hc).ws hw :)
  | cons _ _ => exact numEnd_comma _

theorem run_moreMems (f : Bytes → Bool) (n : Nat) (t : Tail) (w R : Bytes) (hw : Ws w) :
    ∀ (ms : List Mem), (∀ m ∈ ms, Ws m.pre ∧ ScanOK m.raw ∧ Ws m.mid ∧ Ws m.it.pre ∧ Ws m.it.post) →
    (∀ m ∈ ms, ReadsG f m.it.txt m.it.val n) →
    ∀ (acc : List (Bytes × JVal)) (fs : List Frame) (dp : Nat) (lit : Bytes) (bad : Bool),
      dp + n ≤ maxNestingDepth →
      ∃ lit', run f ⟨.endValue, .obj acc [] true :: fs, dp, lit, bad⟩ (moreMems ms ++ (w ++ 0x7D :: R)) t
        = run f ⟨.endValue, .obj (memsVal ms acc) [] true :: fs, dp, lit', bad⟩ (0x7D :: R) t
  | [], _, _, acc, fs, dp, lit, bad, _ =>
    ⟨lit, run_ws f t .endValue (.inr (.inr (.inr (.inr rfl)))) _ dp lit bad _ _ hw⟩
  | m :: ms, hws, hps, acc, fs, dp, lit, bad, hdp => by
    obtain ⟨lit1, h1⟩ := run_mem f n m (hws m (List.mem_cons_self ..)) (hps m (List.mem_cons_self ..)) t
      (.inl rfl) acc [] fs dp lit bad hdp (numEnd_tailM ms w R 0x7D hw rfl)
    obtain ⟨lit2, h2⟩ := run_moreMems f n t w R hw ms (fun q hq => hws q (List.mem_cons_of_mem _ hq))
      (fun q hq => hps q (List.mem_cons_of_mem _ hq)) (insertMember (unquote m.raw) m.it.val acc) fs dp lit1 bad hdp
    refine ⟨lit2, ?_⟩
    have comma : run f ⟨.endValue, .obj acc [] true :: fs, dp, lit, bad⟩
        (0x2C :: (m.bytes ++ (moreMems ms ++ (w ++ 0x7D :: R)))) t
        = run f ⟨.beginString, .obj acc [] false :: fs, dp, lit, bad⟩ (m.bytes ++ (moreMems ms ++ (w ++ 0x7D :: R))) t := rfl
    rw [moreMems, List.cons_append, List.append_assoc, comma, h1, h2]
    rfl

/-- all members of an object, from just after `{` to just before `}` -/
theorem run_mems (f : Bytes → Bool) (n : Nat) (t : Tail) (w R : Bytes) (hw : Ws w) (ms : List Mem)
    (hws : ∀ m ∈ ms, Ws m.pre ∧ ScanOK m.raw ∧ Ws m.mid ∧ Ws m.it.pre ∧ Ws m.it.post)
    (hps : ∀ m ∈ ms, ReadsG f m.it.txt m.it.val n)
    (fs : List Frame) (dp : Nat) (lit : Bytes) (bad : Bool) (hdp : dp + n ≤ maxNestingDepth) :
    ∃ (st : Step) (b : Bool) (lit' : Bytes), (st = .endValue ∧ b = true ∨ st = .beginStringOrEmpty) ∧
      run f ⟨.beginStringOrEmpty, .obj [] [] false :: fs, dp, lit, bad⟩ (memsBytes ms ++ (w ++ 0x7D :: R)) t
        = run f ⟨st, .obj (memsVal ms []) [] b :: fs, dp, lit', bad⟩ (0x7D :: R) t := by
  cases ms with
  | nil => exact ⟨_, false, lit, .inr rfl, run_ws f t .beginStringOrEmpty (.inr (.inr (.inr (.inl rfl)))) _ dp lit bad _ _ hw⟩
  | cons m ms =>
    obtain ⟨lit1, h1⟩ := run_mem f n m (hws m (List.mem_cons_self ..)) (hps m (List.mem_cons_self ..)) t
      (.inr rfl) [] [] fs dp lit bad hdp (numEnd_tailM ms w R 0x7D hw rfl)
    obtain ⟨lit2, h2⟩ := run_moreMems f n t w R hw ms (fun q hq => hws q (List.mem_cons_of_mem _ hq))
      (fun q hq => hps q (List.mem_cons_of_mem _ hq)) (insertMember (unquote m.raw) m.it.val []) fs dp lit1 bad hdp
    refine ⟨_, true, lit2, .inl ⟨rfl, rfl⟩, ?_⟩
    rw [memsBytes, List.append_assoc, h1, h2]
    rfl

/-- **The scanner reads every JSON text as its value**, wherever a value may stand inside a container. -/
theorem Txt.reads {f : Bytes → Bool} {bs : Bytes} {v : JVal} {n : Nat} (h : Txt f bs v n) : ReadsG f bs v n := by
  induction h with
  | @arr n its w hw hws _ ih =>
    intro t st hst fr fs dp lit bad rest hdp _
    obtain ⟨st1, lit1, hst1, h1⟩ := run_items f n t w rest hw its hws ih (fr :: fs) (dp + 1) lit bad (by omega)
    refine ⟨lit1, ?_⟩
    simp only [List.cons_append, List.append_assoc, List.nil_append]
    rw [(run_open f t hst _ dp lit bad _ (by omega)).1, h1,
      (run_close_arr f t hst1 _ dp lit1 bad rest).1 fr fs, List.reverse_reverse]
  | @obj n ms w hw hws _ ih =>
    intro t st hst fr fs dp lit bad rest hdp _
    obtain ⟨st1, b, lit1, hst1, h1⟩ := run_mems f n t w rest hw ms hws ih (fr :: fs) (dp + 1) lit bad (by omega)
    refine ⟨lit1, ?_⟩
    simp only [List.cons_append, List.append_assoc, List.nil_append]
    rw [(run_open f t hst _ dp lit bad _ (by omega)).2, h1]
    exact (run_close_obj f t hst1 _ _ dp lit1 bad rest).1 fr fs
  | leaf h =>
    intro t st hst fr fs dp lit bad rest _ hr
    obtain ⟨lit1, h1⟩ := h.run t hst (fr :: fs) dp lit bad hr
    exact ⟨lit1, by rw [h1, deliver_eq]⟩

/-! ### whole documents -/

/-- the answer once a top-level scalar `v` is complete and `rest` has been read after it -/
def scalarEnd (v : JVal) : Bytes → Tail → DecodeRes
  | [], .more => .needMore
  | [], .ioerr => .error
  | rest, _ => .value v rest

theorem run_endTop (f : Bytes → Bool) (v : JVal) (stk : List Frame) (dp : Nat) (lit : Bytes) (rest : Bytes)
    (t : Tail) : run f ⟨.endTop v, stk, dp, lit, false⟩ rest t = scalarEnd v rest t := by
  cases rest with
  | nil => cases t <;> rfl
  | cons c cs => rfl

theorem Txt.head {f : Bytes → Bool} {bs : Bytes} {v : JVal} {n : Nat} (h : Txt f bs v n) :
    ∃ b tl, bs = b :: tl ∧ isSpace b = false := by
  cases h with
  | leaf h =>
    cases h with
    | num hg _ =>
      cases bs with
      | nil => cases hg
      | cons b tl => exact ⟨b, tl, rfl, (numHead_facts b (Bool.and_eq_true _ _ ▸ hg).1).1⟩
    | _ => exact ⟨_, _, rfl, rfl⟩
  | _ => exact ⟨_, _, rfl, rfl⟩

/-- **A JSON text as a whole document**, after any white space, before anything that does not
    continue a number: an array or object is the answer at its closing bracket; a scalar is the
    answer at the next byte or the end of input. -/
theorem Txt.top {f : Bytes → Bool} {bs : Bytes} {v : JVal} {n : Nat} (h : Txt f bs v n)
    (hn : n ≤ maxNestingDepth) {w : Bytes} (hw : Ws w) {rest : Bytes} (hr : EndsOK v rest) (t : Tail) :
    decodeOne f (w ++ (bs ++ rest)) t = if OneByte.composite v then .value v rest else scalarEnd v rest t := by
  obtain ⟨b, tl, hb, hsp⟩ := h.head
  have e : decodeOne f (w ++ (bs ++ rest)) t = run f ⟨.beginValue, [], 0, [], false⟩ (bs ++ rest) t := by
    rw [hb, List.cons_append]; exact decodeOne_ws f hw b _ hsp t
  rw [e]
  cases h with
  | @arr n its w' hw' hws hps =>
    obtain ⟨st1, lit1, hst1, h1⟩ := run_items f n t w' rest hw' its hws (fun p hp => (hps p hp).reads) [] 1 [] false
      (by omega)
    simp only [List.cons_append, List.append_assoc, List.nil_append]
    rw [(run_open f t (.inl rfl) [] 0 [] false _ (by decide)).1, h1,
      (run_close_arr f t hst1 _ 1 lit1 false rest).2, List.reverse_reverse]
    rfl
  | @obj n ms w' hw' hws hps =>
    obtain ⟨st1, b1, lit1, hst1, h1⟩ := run_mems f n t w' rest hw' ms hws (fun p hp => (hps p hp).reads) [] 1 []
      false (by omega)
    simp only [List.cons_append, List.append_assoc, List.nil_append]
    rw [(run_open f t (.inl rfl) [] 0 [] false _ (by decide)).2, h1]
    exact (run_close_obj f t hst1 _ _ 1 lit1 false rest).2
  | leaf h =>
    obtain ⟨lit1, h1⟩ := h.run t (.inl rfl) [] 0 [] false hr
    rw [h1, show OneByte.composite v = false by cases h <;> rfl]
    exact run_endTop ..

theorem top_num (f : Bytes → Bool) (lit : Bytes) (h : NumLit f lit) (t : Tail) (c : UInt8) (cs : Bytes)
    (hc : numDelim c = true) : decodeOne f (lit ++ c :: cs) t = .value (.num lit) (c :: cs) :=
  (Txt.leaf (n := 0) (.num ((numLit_iff f lit).1 h).1 ((numLit_iff f lit).1 h).2)).top (Nat.zero_le _) .nil
    (NumEnd.cons cs hc) t

end Jqawk.JsonBytes
