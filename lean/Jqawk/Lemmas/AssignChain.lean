/-
  The frame rule for an assignment that creates its target through ANY number of missing
  levels (C09): `o.x.y.z = e`, `a[3][1].k = e`, `u.a[2] = e` — the recursive branch of
  `createSpeculativeObjects`.
-/
import Jqawk.Lemmas.AssignCreate


namespace Jqawk

def freshCont (h : Heap) (key : Key) : Val × Heap :=
  match key with
  | .str _ => (.obj h.objs.size, (h.allocObj []).2)
  | .num _ => (.arr h.arrs.size, (h.allocArr #[]).2)

/-- the heap after the missing parent has been created: a fresh container, referred to by the
    new member cell `np` of the grandparent and by the stand-in cell `p` -/
def linkParent (h : Heap) (key : Key) (np p : CellId) : Heap :=
  ((freshCont h key).2.set np (freshCont h key).1).set p (freshCont h key).1

/-- `createSpeculative` when the parent `p` is itself a stand-in for a missing member: create
    the parent first (on a copy cell of its value), make it a fresh container, then store -/
theorem createSpeculative_step (n : Nat) (sc p : CellId) (key : Key) (sp : SpecRef) (s : St)
    (hsv : (s.heap.get sc).spec? = some ⟨p, key⟩) (hp : s.heap.get p = .nil (some sp)) :
    createSpeculative (n + 1) sc s =
      match createSpeculative n s.heap.cells.size { s with heap := (s.heap.alloc (.nil (some sp))).2 } with
      | .oof => .oof
      | .err e s' => .err e s'
      | .ok (.error m) s' => .ok (.error m) s'
      | .ok (.ok np) s2 =>
        match setMember (linkParent s2.heap key np p) (freshCont s2.heap key).1 key.val sc with
        | .error m => .ok (.error m) { s2 with heap := linkParent s2.heap key np p }
        | .ok (c, h') => .ok (.ok c) { s2 with heap := h' } := by
  rw [createSpeculative_eq]
  simp only [bind, EM.bind, readCell, specOf_eq, hsv, keyVal_eq, hp, Jqawk.newCell, Heap.alloc]
  cases createSpeculative n s.heap.cells.size
      { s with heap := { cells := s.heap.cells.push (.nil (some sp)), arrs := s.heap.arrs, objs := s.heap.objs } } with
  | oof => rfl
  | err e s' => rfl
  | ok r s2 =>
    cases r with
    | error m => rfl
    | ok np =>
      cases key <;>
        simp only [newContainer, keyIsNum, Key.val, allocArrM, allocObjM, Heap.allocArr, Heap.allocObj, writeCell,
          pure, EM.pure, bind, EM.bind, setMemberM, linkParent, freshCont, Bool.false_eq_true, ↓reduceIte] <;>
        cases setMember _ _ _ _ <;> rfl


/-- `ChainV h b v cs`: the value `v` stands for a missing member whose missing parents are the
    stand-in cells `cs` (innermost first), ending at the base cell `b`, which is allocated and
    is not itself a stand-in; if `b` holds an array, the index stored on it is at or past its
    end (that is why the member was missing). -/
inductive ChainV (h : Heap) (b : CellId) : Val → List CellId → Prop
  | base {v : Val} {key : Key} (hv : v.spec? = some ⟨b, key⟩) (hb : b < h.cells.size)
      (hns : ∀ sp, h.get b ≠ .nil (some sp))
      (harr : ∀ a, h.get b = .arr a → a < h.arrs.size ∧ ∀ x i, key = .num x →
        resolveIndex (h.arr a).size x.toGoInt = some i → (h.arr a).size ≤ i) : ChainV h b v []
  | step {v : Val} {p : CellId} {key : Key} {sp : SpecRef} {cs : List CellId}
      (hv : v.spec? = some ⟨p, key⟩) (hp : h.get p = .nil (some sp))
      (hrec : ChainV h b (h.get p) cs) : ChainV h b v (p :: cs)

theorem ChainV.lift {h h' : Heap} {b : CellId} {v : Val} {cs : List CellId} (c : ChainV h b v cs)
    (p : HeapPreserved h h') : ChainV h' b v cs := by
  induction c with
  | base hv hb hns harr =>
    refine .base hv (Nat.lt_of_lt_of_le hb p.cells) (by rw [p.get b hb]; exact hns) ?_
    intro a ha
    rw [p.get b hb] at ha
    obtain ⟨h1, h2⟩ := harr a ha
    refine ⟨Nat.lt_of_lt_of_le h1 p.arrs, ?_⟩
    rw [p.arr a h1]; exact h2
  | step hv hp hrec ih =>
    rename_i v0 p0 key0 sp0 cs0
    have hlt : p0 < h.cells.size := Heap.lt_of_get_ne_unknown _ _ (by rw [hp]; simp)
    have e : h'.get p0 = h.get p0 := p.get p0 hlt
    exact .step hv (by rw [e]; exact hp) (by rw [e]; exact ih)

theorem ChainV.base_lt {h : Heap} {b : CellId} {v : Val} {cs : List CellId} (c : ChainV h b v cs) :
    b < h.cells.size := by
  induction c with
  | base _ hb _ _ => exact hb
  | step _ _ _ ih => exact ih

/-- the sets a creating store may touch, relative to the heap `h` it starts from -/
def SpecFrame (h : Heap) (sc b : CellId) (cs : List CellId) (h' : Heap) : Prop :=
  HeapFrame (fun d => d = sc ∨ d ∈ cs ∨ (d = b ∧ h.get b = .unknown))
    (fun a => h.get b = .arr a) (fun o => h.get b = .obj o) h h'

/-- the same with everything allocated later thrown in (closed under composition) -/
def SpecFrameBig (h : Heap) (sc b : CellId) (cs : List CellId) (h1 h2 : Heap) : Prop :=
  HeapFrame (fun d => d = sc ∨ d ∈ cs ∨ (d = b ∧ h.get b = .unknown) ∨ h.cells.size ≤ d)
    (fun a => h.get b = .arr a ∨ h.arrs.size ≤ a) (fun o => h.get b = .obj o ∨ h.objs.size ≤ o) h1 h2

theorem SpecFrameBig.restrict {h : Heap} {sc b : CellId} {cs : List CellId} {h' : Heap}
    (f : SpecFrameBig h sc b cs h h') : SpecFrame h sc b cs h' := by
  refine HeapFrame.restrict f ?_ ?_ ?_
  · intro d hd hc
    rcases hc with e | e | e | e
    · exact .inl e
    · exact .inr (.inl e)
    · exact .inr (.inr e)
    · exact absurd hd (Nat.not_lt.mpr e)
  · intro d hd hc
    rcases hc with e | e
    · exact e
    · exact absurd hd (Nat.not_lt.mpr e)
  · intro d hd hc
    rcases hc with e | e
    · exact e
    · exact absurd hd (Nat.not_lt.mpr e)

theorem SpecFrameBig.trans {h : Heap} {sc b : CellId} {cs : List CellId} {h1 h2 h3 : Heap}
    (f : SpecFrameBig h sc b cs h1 h2) (g : SpecFrameBig h sc b cs h2 h3) :
    SpecFrameBig h sc b cs h1 h3 := HeapFrame.trans f g

theorem SpecFrameBig.set {h : Heap} {sc b : CellId} {cs : List CellId} (h1 : Heap) (c : CellId) (w : Val)
    (hc : c = sc ∨ c ∈ cs ∨ (c = b ∧ h.get b = .unknown) ∨ h.cells.size ≤ c) :
    SpecFrameBig h sc b cs h1 (h1.set c w) :=
  (HeapFrame.set h1 c w).mono (fun _ hd => hd ▸ hc) (fun _ hd => hd.elim) (fun _ hd => hd.elim)

theorem storeBase_frame (h : Heap) (sc b : CellId) (key : Key) (cs : List CellId)
    (hsc : sc < h.cells.size)
    (harr : ∀ a, h.get b = .arr a → ∀ x i, key = .num x →
        resolveIndex (h.arr a).size x.toGoInt = some i → (h.arr a).size ≤ i) :
    SpecFrameBig h sc b cs h (createTarget h b key).1 ∧
    ∀ c h', setMember (createTarget h b key).1 (createTarget h b key).2 key.val sc = .ok (c, h') →
      SpecFrameBig h sc b cs h h' ∧ (c = sc ∨ h.cells.size ≤ c) ∧ c < h'.cells.size := by
  have F0 : SpecFrameBig h sc b cs h (createTarget h b key).1 :=
    (createTarget_frame h b key).mono (fun d hd => .inr (.inr (.inl hd))) (fun _ hd => hd.elim)
      (fun _ hd => hd.elim)
  refine ⟨F0, ?_⟩
  intro c h' hs
  have hsc' : sc < (createTarget h b key).1.cells.size := Nat.lt_of_lt_of_le hsc F0.cells
  have hidx' : ∀ a x i, (createTarget h b key).2 = .arr a → key.val = .num x →
      resolveIndex ((createTarget h b key).1.arr a).size x.toGoInt = some i →
      ((createTarget h b key).1.arr a).size ≤ i := by
    intro a x i ht hkx hri
    rcases createTarget_snd h b key with ⟨_, ⟨e1, e2⟩ | e1⟩ | ⟨_, e⟩
    · rw [e1] at ht; cases ht
      rw [e2]; exact Nat.zero_le _
    · rw [e1] at ht; cases ht
    · rw [e] at ht hri ⊢
      have : key = .num x := by cases key <;> simp_all [Key.val]
      exact harr a ht x i this hri
  obtain ⟨F1, hcc, hclt⟩ := setMember_frame _ _ _ sc c h' hsc' hs hidx'
  have F1' : SpecFrameBig h sc b cs (createTarget h b key).1 h' := by
    refine F1.mono (fun _ hd => hd.elim) ?_ ?_
    · intro a ht
      rcases createTarget_snd h b key with ⟨_, ⟨e1, _⟩ | e1⟩ | ⟨_, e⟩
      · rw [e1] at ht; cases ht; exact .inr (Nat.le_refl _)
      · rw [e1] at ht; cases ht
      · rw [e] at ht; exact .inl ht
    · intro o ht
      rcases createTarget_snd h b key with ⟨_, ⟨e1, _⟩ | e1⟩ | ⟨_, e⟩
      · rw [e1] at ht; cases ht
      · rw [e1] at ht; cases ht; exact .inr (Nat.le_refl _)
      · rw [e] at ht; exact .inl ht
  refine ⟨F0.trans F1', ?_, hclt⟩
  rcases hcc with e | e
  · exact .inl e
  · exact .inr (Nat.le_trans F0.cells e)


theorem freshCont_preserved (h : Heap) (key : Key) : HeapPreserved h (freshCont h key).2 := by
  cases key with
  | str k => exact HeapPreserved.allocObj h []
  | num x => exact HeapPreserved.allocArr h #[]

theorem linkParent_size (h : Heap) (key : Key) (np p : CellId) :
    (linkParent h key np p).cells.size = h.cells.size := by
  unfold linkParent
  rw [Heap.size_set, Heap.size_set]
  cases key <;> rfl

theorem freshCont_arr (h : Heap) (key : Key) (np p : CellId) (a : ArrId)
    (e : (freshCont h key).1 = .arr a) :
    a = h.arrs.size ∧ (linkParent h key np p).arr a = #[] := by
  cases key with
  | str k => cases e
  | num x =>
    simp only [freshCont, Val.arr.injEq] at e
    subst e
    exact ⟨rfl, by simp [linkParent, freshCont, Heap.set, Heap.allocArr, Heap.arr, Array.getD_eq_getD_getElem?]⟩

theorem freshCont_obj (h : Heap) (key : Key) (o : ObjId) (e : (freshCont h key).1 = .obj o) :
    o = h.objs.size := by
  cases key with
  | str k => simp only [freshCont, Val.obj.injEq] at e; exact e.symm
  | num x => cases e

def SpecRes (h : Heap) (sc b : CellId) (cs : List CellId) : Res (Except String CellId) → Prop
  | .ok r s' => SpecFrame h sc b cs s'.heap ∧
      ∀ c, r = .ok c → (c = sc ∨ h.cells.size ≤ c) ∧ c < s'.heap.cells.size
  | .err _ s' => SpecFrame h sc b cs s'.heap
  | .oof => True

theorem lt_of_spec {h : Heap} {c : CellId} {sp : SpecRef} (hv : (h.get c).spec? = some sp) :
    c < h.cells.size :=
  Heap.lt_of_get_ne_unknown _ _ (fun e => by rw [e] at hv; cases hv)

theorem createSpeculative_base_frame (n : Nat) (sc b : CellId) (key : Key) (s : St)
    (hv : (s.heap.get sc).spec? = some ⟨b, key⟩) (hns : ∀ sp, s.heap.get b ≠ .nil (some sp))
    (harr : ∀ a, s.heap.get b = .arr a → ∀ x i, key = .num x →
      resolveIndex (s.heap.arr a).size x.toGoInt = some i → (s.heap.arr a).size ≤ i) :
    SpecRes s.heap sc b [] (createSpeculative (n + 1) sc s) := by
  rw [createSpeculative_base n sc b key s hv hns]
  obtain ⟨F0, Fs⟩ := storeBase_frame s.heap sc b key [] (lt_of_spec hv) harr
  split
  · exact ⟨(SpecFrameBig.restrict (.of_preserved (HeapPreserved.refl _))), fun c e => by cases e⟩
  · cases hs : setMember (createTarget s.heap b key).1 (createTarget s.heap b key).2 key.val sc with
    | error m => exact ⟨F0.restrict, fun c e => by cases e⟩
    | ok res =>
      obtain ⟨c, h'⟩ := res
      obtain ⟨F, hcc, hlt⟩ := Fs c h' hs
      exact ⟨F.restrict, fun c' e => by cases e; exact ⟨hcc, hlt⟩⟩

/-- **the frame of `createSpeculativeObjects`, any number of missing levels**: apart from the
    stand-in cells of the chain and an unset base cell, no cell that existed changes; no array /
    object other than the one the base holds changes; the member cell it returns is the
    stand-in cell itself or a fresh cell -/
theorem createSpeculative_frame : ∀ (n : Nat) (sc : CellId) (s : St) (b : CellId) (cs : List CellId),
    ChainV s.heap b (s.heap.get sc) cs → SpecRes s.heap sc b cs (createSpeculative n sc s)
  | 0, sc, s, b, cs, _ => by unfold createSpeculative; trivial
  | n + 1, sc, s, b, cs, hc => by
    cases hc with
    | base hv hb hns harr =>
      exact createSpeculative_base_frame n sc b _ s hv hns (fun a ha => (harr a ha).2)
    | step hv hp hrec =>
      rename_i p key sp cs'
      have hsc : sc < s.heap.cells.size := lt_of_spec hv
      rw [createSpeculative_step n sc p key sp s hv hp]
      -- Heaps in order: 0 = `s.heap`; 1 = after the copy cell is allocated; 2 = `s2.heap`, after the
      -- recursive call; 3 = `linkParent …`; 4 = `h'`, after the member is stored.  `Fij` is the frame
      -- from heap i to heap j, always relative to heap 0 (`SpecFrameBig s.heap …`); `toBig` turns the
      -- induction hypothesis, a frame relative to heap 1, into one relative to heap 0.
      have hpc : (s.heap.alloc (.nil (some sp))).2.get s.heap.cells.size = s.heap.get p := by
        rw [Heap.get_alloc_new, hp]
      have hal := HeapPreserved.alloc s.heap (.nil (some sp))
      have ih := createSpeculative_frame n s.heap.cells.size
        { s with heap := (s.heap.alloc (.nil (some sp))).2 } b cs'
        (by show ChainV _ b ((s.heap.alloc (.nil (some sp))).2.get s.heap.cells.size) cs'
            rw [hpc]; exact hrec.lift hal)
      -- the base cell is allocated, so it is the same in the intermediate heap
      have hblt : b < s.heap.cells.size := hrec.base_lt
      have hbget : (s.heap.alloc (.nil (some sp))).2.get b = s.heap.get b := hal.get b hblt
      have toBig : ∀ h2, SpecFrame (s.heap.alloc (.nil (some sp))).2 s.heap.cells.size b cs' h2 →
          SpecFrameBig s.heap sc b (p :: cs') (s.heap.alloc (.nil (some sp))).2 h2 := by
        intro h2 f
        refine HeapFrame.mono f ?_ ?_ ?_
        · intro d hd
          rcases hd with e | e | ⟨e1, e2⟩
          · exact .inr (.inr (.inr (by rw [e]; exact Nat.le_refl _)))
          · exact .inr (.inl (List.mem_cons_of_mem _ e))
          · exact .inr (.inr (.inl ⟨e1, by rw [← hbget]; exact e2⟩))
        · intro a ha; exact .inl (by rw [← hbget]; exact ha)
        · intro o ho; exact .inl (by rw [← hbget]; exact ho)
      have F01 : SpecFrameBig s.heap sc b (p :: cs') s.heap (s.heap.alloc (.nil (some sp))).2 :=
        HeapFrame.of_preserved hal
      cases hr : createSpeculative n s.heap.cells.size
          { s with heap := (s.heap.alloc (.nil (some sp))).2 } with
      | oof => trivial
      | err e s' =>
        rw [hr] at ih
        exact (F01.trans (toBig _ ih)).restrict
      | ok r s2 =>
        rw [hr] at ih
        obtain ⟨f2, hnp⟩ := ih
        have F02 := F01.trans (toBig _ f2)
        cases r with
        | error m => exact ⟨F02.restrict, fun c e => by cases e⟩
        | ok np =>
          obtain ⟨hnp1, _⟩ := hnp np rfl
          have hsz1 : (s.heap.alloc (.nil (some sp))).2.cells.size = s.heap.cells.size + 1 :=
            Heap.size_alloc _ _
          have hnpge : s.heap.cells.size ≤ np := by
            rcases hnp1 with e | e
            · rw [e]; exact Nat.le_refl _
            · rw [hsz1] at e; exact Nat.le_of_succ_le e
          have F23 : SpecFrameBig s.heap sc b (p :: cs') s2.heap (linkParent s2.heap key np p) := by
            unfold linkParent
            refine SpecFrameBig.trans (.of_preserved (freshCont_preserved s2.heap key)) ?_
            exact (SpecFrameBig.set (freshCont s2.heap key).2 np (freshCont s2.heap key).1
              (.inr (.inr (.inr hnpge)))).trans
              (SpecFrameBig.set _ p (freshCont s2.heap key).1 (.inr (.inl List.mem_cons_self)))
          have F03 := F02.trans F23
          dsimp only
          cases hs : setMember (linkParent s2.heap key np p) (freshCont s2.heap key).1 key.val sc with
          | error m => exact ⟨F03.restrict, fun c e => by cases e⟩
          | ok res =>
            obtain ⟨c, h'⟩ := res
            have hsc3 : sc < (linkParent s2.heap key np p).cells.size := Nat.lt_of_lt_of_le hsc F03.cells
            obtain ⟨F, hcc, hlt⟩ := setMember_frame _ _ _ sc c h' hsc3 hs (by
              intro a x i ht _ _
              rw [(freshCont_arr s2.heap key np p a ht).2]; exact Nat.zero_le _)
            have F34 : SpecFrameBig s.heap sc b (p :: cs') (linkParent s2.heap key np p) h' := by
              refine F.mono (fun _ hd => hd.elim) ?_ ?_
              · intro a ht
                rw [(freshCont_arr s2.heap key np p a ht).1]
                exact .inr F02.arrs
              · intro o ht
                rw [freshCont_obj s2.heap key o ht]
                exact .inr F02.objs
            refine ⟨(F03.trans F34).restrict, fun c' e => ?_⟩
            cases e
            refine ⟨?_, hlt⟩
            rcases hcc with e | e
            · exact .inl e
            · exact .inr (Nat.le_trans F03.cells e)


def SpecAfter (h : Heap) (sc b : CellId) (cs : List CellId) : Res CellId → Prop
  | .ok _ s' => SpecFrame h sc b cs s'.heap
  | .err _ s' => SpecFrame h sc b cs s'.heap
  | .oof => True

/-- `evalAssignment` to a stand-in cell: the frame of `createSpeculativeObjects`, then one write to
    the member cell it returned -/
theorem evalAssignment_frame_of (pos : Nat) (left right b : CellId) (cs : List CellId) (s : St)
    (sp : SpecRef) (hsp : (s.heap.get left).spec? = some sp)
    (hfr : SpecRes s.heap left b cs (createSpeculative (s.heap.cells.size + 2) left s)) :
    SpecAfter s.heap left b cs (evalAssignment pos left right s) := by
  rw [evalAssignment_spec_eq pos left right s sp hsp]
  cases hr : createSpeculative (s.heap.cells.size + 2) left s with
  | oof => trivial
  | err e s' => rw [hr] at hfr; exact hfr
  | ok r s' =>
    rw [hr] at hfr
    obtain ⟨f, hcell⟩ := hfr
    cases r with
    | error m => exact f
    | ok c =>
      obtain ⟨hc1, _⟩ := hcell c rfl
      dsimp only
      cases copyVal (s'.heap.get right) with
      | error m => exact f
      | ok w =>
        have fb : SpecFrameBig s.heap left b cs s.heap s'.heap :=
          HeapFrame.mono f (fun d hd => by
            rcases hd with e | e | e
            · exact .inl e
            · exact .inr (.inl e)
            · exact .inr (.inr (.inl e))) (fun _ hd => .inl hd) (fun _ hd => .inl hd)
        refine (fb.trans (SpecFrameBig.set s'.heap c w ?_)).restrict
        rcases hc1 with e | e
        · exact .inl e
        · exact .inr (.inr (.inr e))

theorem assign_chain_heapFrame (prog : Program) (n : Nat) (l r : Expr) (op : Token) (s s1 s2 : St)
    (sc rc b : CellId) (cs : List CellId) (hop : op.tag = .equal)
    (h1 : evalExpr prog n l s = .ok sc s1) (h2 : evalExpr prog n r s1 = .ok rc s2)
    (hc : ChainV s2.heap b (s2.heap.get sc) cs) :
    SpecAfter s2.heap sc b cs (evalExpr prog (n + 2) (.binary l r op) s) := by
  have hsp : ∃ sp, (s2.heap.get sc).spec? = some sp := by
    cases hc with
    | base hv _ _ _ => exact ⟨_, hv⟩
    | step hv _ _ => exact ⟨_, hv⟩
  obtain ⟨sp, hsp⟩ := hsp
  rw [assign_unfold prog n l r op s s1 s2 sc rc hop h1 h2]
  exact evalAssignment_frame_of _ _ _ _ _ _ sp hsp (createSpeculative_frame _ sc s2 b cs hc)

/-- … with one missing level: the base cell `b` need not be allocated -/
theorem assign_create_heapFrame (prog : Program) (n : Nat) (l r : Expr) (op : Token) (s s1 s2 : St)
    (sc rc b : CellId) (key : Key) (hop : op.tag = .equal)
    (h1 : evalExpr prog n l s = .ok sc s1) (h2 : evalExpr prog n r s1 = .ok rc s2)
    (hsv : s2.heap.get sc = .nil (some ⟨b, key⟩)) (hpv : ∀ sp, s2.heap.get b ≠ .nil sp)
    (hidx : ∀ a x i, s2.heap.get b = .arr a → key = .num x →
      resolveIndex (s2.heap.arr a).size x.toGoInt = some i → (s2.heap.arr a).size ≤ i) :
    SpecAfter s2.heap sc b [] (evalExpr prog (n + 2) (.binary l r op) s) := by
  have hsp : (s2.heap.get sc).spec? = some ⟨b, key⟩ := by rw [hsv]; rfl
  rw [assign_unfold prog n l r op s s1 s2 sc rc hop h1 h2]
  exact evalAssignment_frame_of _ _ _ _ _ _ _ hsp
    (createSpeculative_base_frame _ sc b key s2 hsp (fun sp => hpv _) (fun a ha x i => hidx a x i ha))


/-- a store through a stand-in whose base holds a scalar (e.g. `s[0] = x` on a string `s`, or
    `n.k = x` on a number) is the runtime error "cannot set member on a scalar" and changes
    nothing -/
theorem evalAssignment_scalar_base (pos : Nat) (left right b : CellId) (key : Key) (s : St)
    (hsp : (s.heap.get left).spec? = some ⟨b, key⟩)
    (h1 : ∀ a, s.heap.get b ≠ .arr a) (h2 : ∀ o, s.heap.get b ≠ .obj o)
    (h3 : s.heap.get b ≠ .unknown) (h4 : ∀ sp, s.heap.get b ≠ .nil sp) :
    evalAssignment pos left right s = Jqawk.throwRt pos "cannot set member on a scalar" s := by
  rw [evalAssignment_spec_eq pos left right s _ hsp,
    createSpeculative_base (s.heap.cells.size + 1) left b key s hsp (fun sp => h4 _)]
  have hne : s.heap.get b ≠ .nil none := h4 none
  simp only [hne, ↓reduceIte]
  rw [createTarget_set rfl h3 key]
  cases hv : s.heap.get b with
  | arr a => exact absurd hv (h1 a)
  | obj o => exact absurd hv (h2 o)
  | unknown => exact absurd hv h3
  | nil sp => exact absurd hv (h4 sp)
  | _ => rfl

end Jqawk
