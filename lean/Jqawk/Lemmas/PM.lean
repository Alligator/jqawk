/-
  The parser monad `PM` run against an abstract token source, and the bisimulation principle:
  two token sources that answer alike give the same parse.  `run_bisim` is the exact form, the
  statement of the property; the arguments about layout need equality up to positions and use
  `PM.run_sim` of Lemmas/Erase.lean.
-/
import Jqawk.Model.Parser

namespace Jqawk

/-- An abstract token source: what the parser can ask of a lexer.  `next` is `Lexer.Next()` with
    newline tokens already skipped (the flag tells whether one was), `regex` is `Lexer.Regex()`. -/
structure TokSrc (σ : Type) where
  next : σ → Except SynErr (Token × Bool × σ)
  regex : σ → Except SynErr (Token × σ)

namespace PM

def runWith {σ α : Type} (src : TokSrc σ) : PM α → σ → ParseRes α
  | .pure a, _ => .ok a
  | .fail e, _ => .syntaxErr e
  | .oof, _ => .oof
  | .next k, s =>
    match src.next s with
    | .error e => .syntaxErr e
    | .ok (t, nl, s') => (k t nl).runWith src s'
  | .regex k, s =>
    match src.regex s with
    | .error e => .syntaxErr e
    | .ok (t, s') => (k t).runWith src s'

end PM

def lexerSrc : TokSrc LexState where
  next := fun s => Lexer.nextNN (s.rest.length + 1) s false
  regex := Lexer.regex

namespace PM

theorem run_eq_runWith {α : Type} (m : PM α) (s : LexState) : m.run s = m.runWith lexerSrc s := by
  induction m generalizing s with
  | pure a => rfl
  | fail e => rfl
  | oof => rfl
  | next k ih =>
    simp only [run, runWith, lexerSrc]
    cases Lexer.nextNN (s.rest.length + 1) s false with
    | error e => rfl
    | ok r => exact ih _ _ _
  | regex k ih =>
    simp only [run, runWith, lexerSrc]
    cases Lexer.regex s with
    | error e => rfl
    | ok r => exact ih _ _

def AnsNext {σ₁ σ₂ : Type} (R : σ₁ → σ₂ → Prop) :
    Except SynErr (Token × Bool × σ₁) → Except SynErr (Token × Bool × σ₂) → Prop
  | .error e₁, .error e₂ => e₁ = e₂
  | .ok (t₁, nl₁, s₁), .ok (t₂, nl₂, s₂) => t₁ = t₂ ∧ nl₁ = nl₂ ∧ R s₁ s₂
  | _, _ => False

def AnsRegex {σ₁ σ₂ : Type} (R : σ₁ → σ₂ → Prop) :
    Except SynErr (Token × σ₁) → Except SynErr (Token × σ₂) → Prop
  | .error e₁, .error e₂ => e₁ = e₂
  | .ok (t₁, s₁), .ok (t₂, s₂) => t₁ = t₂ ∧ R s₁ s₂
  | _, _ => False

structure IsSim {σ₁ σ₂ : Type} (src₁ : TokSrc σ₁) (src₂ : TokSrc σ₂) (R : σ₁ → σ₂ → Prop) :
    Prop where
  next : ∀ s₁ s₂, R s₁ s₂ → AnsNext R (src₁.next s₁) (src₂.next s₂)
  regex : ∀ s₁ s₂, R s₁ s₂ → AnsRegex R (src₁.regex s₁) (src₂.regex s₂)

/-- C13 (lifting step): a parser program cannot tell two similar token sources apart. -/
theorem run_bisim {σ₁ σ₂ α : Type} {src₁ : TokSrc σ₁} {src₂ : TokSrc σ₂} {R : σ₁ → σ₂ → Prop}
    (hR : IsSim src₁ src₂ R) (m : PM α) (s₁ : σ₁) (s₂ : σ₂) (h : R s₁ s₂) :
    m.runWith src₁ s₁ = m.runWith src₂ s₂ := by
  induction m generalizing s₁ s₂ with
  | pure a => rfl
  | fail e => rfl
  | oof => rfl
  | next k ih =>
    have hn := hR.next s₁ s₂ h
    simp only [runWith]
    cases h₁ : src₁.next s₁ with
    | error e₁ =>
      cases h₂ : src₂.next s₂ with
      | error e₂ => rw [h₁, h₂] at hn; simp only [AnsNext] at hn; rw [hn]
      | ok r₂ => rw [h₁, h₂] at hn; simp [AnsNext] at hn
    | ok r₁ =>
      obtain ⟨t₁, nl₁, s₁'⟩ := r₁
      cases h₂ : src₂.next s₂ with
      | error e₂ => rw [h₁, h₂] at hn; simp [AnsNext] at hn
      | ok r₂ =>
        obtain ⟨t₂, nl₂, s₂'⟩ := r₂
        rw [h₁, h₂] at hn
        obtain ⟨rfl, rfl, hs⟩ := hn
        exact ih _ _ _ _ hs
  | regex k ih =>
    have hn := hR.regex s₁ s₂ h
    simp only [runWith]
    cases h₁ : src₁.regex s₁ with
    | error e₁ =>
      cases h₂ : src₂.regex s₂ with
      | error e₂ => rw [h₁, h₂] at hn; simp only [AnsRegex] at hn; rw [hn]
      | ok r₂ => rw [h₁, h₂] at hn; simp [AnsRegex] at hn
    | ok r₁ =>
      obtain ⟨t₁, s₁'⟩ := r₁
      cases h₂ : src₂.regex s₂ with
      | error e₂ => rw [h₁, h₂] at hn; simp [AnsRegex] at hn
      | ok r₂ =>
        obtain ⟨t₂, s₂'⟩ := r₂
        rw [h₁, h₂] at hn
        obtain ⟨rfl, hs⟩ := hn
        exact ih _ _ _ hs

end PM

end Jqawk
