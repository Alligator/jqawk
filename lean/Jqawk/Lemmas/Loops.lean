/-
  C07: generic facts about the loop specification (`Spec/Loops.lean`): what a round is,
  `Repeats` = some number of "go on" rounds followed by a final round (the unrolled least fixed
  point), determinism, monotonicity in the fuel order `EMLe`, and the fuel-indexed versions
  (`repeatN`, `iterateN`) the evaluator's loops are instances of.
-/
import Jqawk.Spec.Loops
import Jqawk.Lemmas.LoopsMono
import Jqawk.Lemmas.EvalSteps


namespace Jqawk.Spec
open Jqawk


theorem outcome_continue_iff (r : Res Unit) (s' : St) :
    outcome r = .continue_ s' ↔ r = .ok () s' ∨ r = .err (.sig .cont) s' := by
  cases r with
  | ok a s1 => cases a; simp [outcome]
  | err e s1 =>
    cases e with
    | sig g => cases g <;> simp [outcome]
    | _ => simp [outcome]
  | oof => simp [outcome]

theorem outcome_stop_iff (r : Res Unit) (s' : St) :
    outcome r = .stop s' ↔ r = .err (.sig .brk) s' := by
  cases r with
  | ok a s1 => cases a; simp [outcome]
  | err e s1 =>
    cases e with
    | sig g => cases g <;> simp [outcome]
    | _ => simp [outcome]
  | oof => simp [outcome]

theorem outcome_abort_iff (r : Res Unit) (e : Err) (s' : St) :
    outcome r = .abort e s' ↔ r = .err e s' ∧ e ≠ .sig .brk ∧ e ≠ .sig .cont := by
  cases r with
  | ok a s1 => cases a; simp [outcome]
  | err e1 s1 =>
    cases e1 with
    | sig g => cases g <;> simp [outcome] <;> (intro h _; subst h; simp)
    | _ => simp [outcome] <;> (intro h _; subst h; simp)
  | oof => simp [outcome]

theorem outcome_oof_iff (r : Res Unit) : outcome r = .oof ↔ r = .oof := by
  cases r with
  | ok a s1 => cases a; simp [outcome]
  | err e s1 =>
    cases e with
    | sig g => cases g <;> simp [outcome]
    | _ => simp [outcome]
  | oof => simp [outcome]

theorem loopIter_eq (body k : EM Unit) (s : St) :
    loopIter body k s = (match outcome (body s) with
      | .continue_ s' => k s'
      | .stop s' => .ok () s'
      | .abort e s' => .err e s'
      | .oof => .oof) := by
  unfold loopIter
  cases body s with
  | ok a s1 => cases a; rfl
  | err e s1 =>
    cases e with
    | sig g => cases g <;> rfl
    | _ => rfl
  | oof => rfl


theorem bodyRound_true_iff (body : EM Unit) (s s' : St) :
    bodyRound body s = .ok true s' ↔ body s = .ok () s' ∨ body s = .err (.sig .cont) s' := by
  rw [← outcome_continue_iff]
  unfold bodyRound
  cases outcome (body s) <;> simp

theorem bodyRound_false_iff (body : EM Unit) (s s' : St) :
    bodyRound body s = .ok false s' ↔ body s = .err (.sig .brk) s' := by
  rw [← outcome_stop_iff]
  unfold bodyRound
  cases outcome (body s) <;> simp

theorem bodyRound_err_iff (body : EM Unit) (s s' : St) (e : Err) :
    bodyRound body s = .err e s' ↔ body s = .err e s' ∧ e ≠ .sig .brk ∧ e ≠ .sig .cont := by
  rw [← outcome_abort_iff]
  unfold bodyRound
  cases outcome (body s) <;> simp

theorem bodyRound_oof_iff (body : EM Unit) (s : St) : bodyRound body s = .oof ↔ body s = .oof := by
  rw [← outcome_oof_iff]
  unfold bodyRound
  cases outcome (body s) <;> simp

theorem unit_ok_iff (m : EM Unit) (s s3 : St) :
    (∃ a s1, m s = Res.ok a s1 ∧ True ∧ s1 = s3) ↔ m s = .ok () s3 := by
  constructor
  · rintro ⟨a, s1, h, _, rfl⟩; cases a; exact h
  · intro h; exact ⟨(), s3, h, trivial, rfl⟩

theorem whileRound_true_iff (cond : EM Bool) (body : EM Unit) (s s2 : St) :
    whileRound cond body s = .ok true s2 ↔
      ∃ s1, cond s = .ok true s1 ∧ (body s1 = .ok () s2 ∨ body s1 = .err (.sig .cont) s2) := by
  simp only [whileRound, EM.bind_eq_ok, Bool.exists_bool, EM.pure_eq_ok, Bool.false_eq_true, ↓reduceIte,
    false_and, and_false, exists_false, false_or, bodyRound_true_iff]

theorem whileRound_false_iff (cond : EM Bool) (body : EM Unit) (s s2 : St) :
    whileRound cond body s = .ok false s2 ↔
      cond s = .ok false s2 ∨ ∃ s1, cond s = .ok true s1 ∧ body s1 = .err (.sig .brk) s2 := by
  simp only [whileRound, EM.bind_eq_ok, Bool.exists_bool, EM.pure_eq_ok, Bool.false_eq_true, ↓reduceIte,
    true_and, exists_eq_right, bodyRound_false_iff]

theorem whileRound_err_iff (cond : EM Bool) (body : EM Unit) (s s2 : St) (e : Err) :
    whileRound cond body s = .err e s2 ↔
      cond s = .err e s2 ∨
      ∃ s1, cond s = .ok true s1 ∧ body s1 = .err e s2 ∧ e ≠ .sig .brk ∧ e ≠ .sig .cont := by
  simp only [whileRound, EM.bind_eq_err, Bool.exists_bool, EM.pure_eq_err, Bool.false_eq_true, ↓reduceIte,
    and_false, exists_false, false_or, bodyRound_err_iff]

theorem forRound_true_iff (cond : EM Bool) (body post : EM Unit) (s s3 : St) :
    forRound cond body post s = .ok true s3 ↔
      ∃ s1 s2, cond s = .ok true s1 ∧ (body s1 = .ok () s2 ∨ body s1 = .err (.sig .cont) s2) ∧
        post s2 = .ok () s3 := by
  simp only [forRound, EM.bind_eq_ok, Bool.exists_bool, EM.pure_eq_ok, Bool.false_eq_true, ↓reduceIte,
    false_and, and_false, exists_false, false_or, bodyRound_true_iff, unit_ok_iff]
  constructor
  · rintro ⟨s1, h1, s2, h2, h3⟩; exact ⟨s1, s2, h1, h2, h3⟩
  · rintro ⟨s1, s2, h1, h2, h3⟩; exact ⟨s1, h1, s2, h2, h3⟩

theorem forRound_false_iff (cond : EM Bool) (body post : EM Unit) (s s2 : St) :
    forRound cond body post s = .ok false s2 ↔
      cond s = .ok false s2 ∨ ∃ s1, cond s = .ok true s1 ∧ body s1 = .err (.sig .brk) s2 := by
  simp only [forRound, EM.bind_eq_ok, Bool.exists_bool, EM.pure_eq_ok, Bool.false_eq_true, ↓reduceIte,
    false_and, and_false, exists_false, or_false, bodyRound_true_iff, bodyRound_false_iff,
    Bool.true_eq_false, true_and, exists_eq_right]

theorem forRound_err_iff (cond : EM Bool) (body post : EM Unit) (s s3 : St) (e : Err) :
    forRound cond body post s = .err e s3 ↔
      cond s = .err e s3 ∨
      (∃ s1, cond s = .ok true s1 ∧ body s1 = .err e s3 ∧ e ≠ .sig .brk ∧ e ≠ .sig .cont) ∨
      (∃ s1 s2, cond s = .ok true s1 ∧ (body s1 = .ok () s2 ∨ body s1 = .err (.sig .cont) s2) ∧
        post s2 = .err e s3) := by
  simp only [forRound, EM.bind_eq_err, Bool.exists_bool, EM.pure_eq_err, Bool.false_eq_true, ↓reduceIte,
    and_false, exists_false, false_or, or_false, bodyRound_true_iff, bodyRound_false_iff, bodyRound_err_iff]
  constructor
  · rintro (h | ⟨s1, h1, h2 | ⟨s2, h2, h3⟩⟩)
    · exact .inl h
    · exact .inr (.inl ⟨s1, h1, h2⟩)
    · exact .inr (.inr ⟨s1, s2, h1, h2, h3⟩)
  · rintro (h | ⟨s1, h1, h2⟩ | ⟨s1, s2, h1, h2, h3⟩)
    · exact .inl h
    · exact .inr ⟨s1, h1, .inl h2⟩
    · exact .inr ⟨s1, h1, .inr ⟨s2, h2, h3⟩⟩

theorem truthyOf_ok_iff (m : EM CellId) (s s1 : St) (b : Bool) :
    truthyOf m s = .ok b s1 ↔ ∃ cell, m s = .ok cell s1 ∧ (s1.heap.get cell).truthy = b := by
  simp only [truthyOf, bind, EM.bind, readCell, pure, EM.pure]
  cases m s with
  | ok c s2 =>
    simp only [Res.ok.injEq]
    constructor
    · rintro ⟨h1, h2⟩; subst h2; exact ⟨c, ⟨rfl, rfl⟩, h1⟩
    · rintro ⟨cell, ⟨h1, h2⟩, h3⟩; subst h1 h2; exact ⟨h3, rfl⟩
  | err e s2 => simp
  | oof => simp

theorem truthyOf_err_iff (m : EM CellId) (s s1 : St) (e : Err) :
    truthyOf m s = .err e s1 ↔ m s = .err e s1 := by
  simp only [truthyOf, bind, EM.bind, readCell, pure, EM.pure]
  cases m s <;> simp

/-! ### `Repeats`: determinism, unrolling, monotonicity -/

theorem Repeats.ne_oof {round : EM Bool} {s : St} {r : Res Unit} (h : Repeats round s r) :
    r ≠ .oof := by
  induction h with
  | done _ => intro h; cases h
  | fail _ => intro h; cases h
  | more _ _ ih => exact ih

theorem Repeats.deterministic {round : EM Bool} {s : St} {r r' : Res Unit}
    (h : Repeats round s r) (h' : Repeats round s r') : r = r' := by
  induction h with
  | done h1 =>
    cases h' with
    | done h2 => rw [h1] at h2; cases h2; rfl
    | fail h2 => rw [h1] at h2; cases h2
    | more h2 _ => rw [h1] at h2; cases h2
  | fail h1 =>
    cases h' with
    | done h2 => rw [h1] at h2; cases h2
    | fail h2 => rw [h1] at h2; cases h2; rfl
    | more h2 _ => rw [h1] at h2; cases h2
  | more h1 _ ih =>
    cases h' with
    | done h2 => rw [h1] at h2; cases h2
    | fail h2 => rw [h1] at h2; cases h2
    | more h2 h3 => rw [h1] at h2; cases h2; exact ih h3

def FinalRound (round : EM Bool) (s : St) (r : Res Unit) : Prop :=
  (∃ s', round s = .ok false s' ∧ r = .ok () s') ∨ (∃ e s', round s = .err e s' ∧ r = .err e s')

theorem repeats_iff_rounds (round : EM Bool) (s : St) (r : Res Unit) :
    Repeats round s r ↔ ∃ k sk, Rounds round k s sk ∧ FinalRound round sk r := by
  constructor
  · intro h
    induction h with
    | done h1 => exact ⟨0, _, .zero, .inl ⟨_, h1, rfl⟩⟩
    | fail h1 => exact ⟨0, _, .zero, .inr ⟨_, _, h1, rfl⟩⟩
    | more h1 _ ih =>
      obtain ⟨k, sk, hr, hf⟩ := ih
      exact ⟨k + 1, sk, .succ h1 hr, hf⟩
  · rintro ⟨k, sk, hr, hf⟩
    induction hr with
    | zero =>
      rcases hf with ⟨s', h1, rfl⟩ | ⟨e, s', h1, rfl⟩
      · exact .done h1
      · exact .fail h1
    | succ h1 _ ih => exact .more h1 (ih hf)

theorem Rounds.mono {round round' : EM Bool} (hle : EMLe round round') {k : Nat} {s s' : St}
    (h : Rounds round k s s') : Rounds round' k s s' := by
  induction h with
  | zero => exact .zero
  | succ h1 _ ih => exact .succ (by rw [hle.eq_of_ne_oof (by rw [h1]; simp), h1]) ih

theorem Repeats.mono {round round' : EM Bool} (hle : EMLe round round') {s : St} {r : Res Unit}
    (h : Repeats round s r) : Repeats round' s r := by
  induction h with
  | done h1 => exact .done (by rw [hle.eq_of_ne_oof (by rw [h1]; simp), h1])
  | fail h1 => exact .fail (by rw [hle.eq_of_ne_oof (by rw [h1]; simp), h1])
  | more h1 _ ih => exact .more (by rw [hle.eq_of_ne_oof (by rw [h1]; simp), h1]) ih


theorem bodyRound_mono {body body' : EM Unit} (h : EMLe body body') :
    EMLe (bodyRound body) (bodyRound body') := by
  intro s
  unfold bodyRound
  rcases h s with h | h
  · left; rw [h]; rfl
  · right; rw [h]

theorem truthyOf_mono {m m' : EM CellId} (h : EMLe m m') : EMLe (truthyOf m) (truthyOf m') :=
  EMLe.bind h (fun _ => EMLe.refl _)

theorem whileRound_mono {cond cond' : EM Bool} {body body' : EM Unit} (hc : EMLe cond cond')
    (hb : EMLe body body') : EMLe (whileRound cond body) (whileRound cond' body') := by
  unfold whileRound
  refine EMLe.bind hc (fun b => ?_)
  cases b
  · exact EMLe.refl _
  · exact bodyRound_mono hb

theorem forRound_mono {cond cond' : EM Bool} {body body' post post' : EM Unit} (hc : EMLe cond cond')
    (hb : EMLe body body') (hp : EMLe post post') :
    EMLe (forRound cond body post) (forRound cond' body' post') := by
  unfold forRound
  refine EMLe.bind hc (fun b => ?_)
  cases b
  · exact EMLe.refl _
  · refine EMLe.bind (bodyRound_mono hb) (fun b2 => ?_)
    cases b2
    · exact EMLe.refl _
    · exact EMLe.bind hp (fun _ => EMLe.refl _)


/-- repeat with a fuel counter that also indexes the round -/
def repeatN (round : Nat → EM Bool) : Nat → EM Unit
  | 0 => oof
  | n + 1 => do
    if (← round n) then repeatN round n else pure ()

theorem repeatN_sound (round : Nat → EM Bool) (hmono : ∀ n, EMLe (round n) (round (n + 1)))
    (n : Nat) (s : St) (r : Res Unit) (h : repeatN round n s = r) (hr : r ≠ .oof) :
    Repeats (round n) s r := by
  induction n generalizing s r with
  | zero => exact absurd h.symm hr
  | succ n ih =>
    have hle : EMLe (round n) (round (n + 1)) := hmono n
    simp only [repeatN, bind, EM.bind] at h
    cases hc : round n s with
    | ok b s1 =>
      have hc' : round (n + 1) s = .ok b s1 := by rw [hle.eq_of_ne_oof (by rw [hc]; simp), hc]
      rw [hc] at h
      cases b with
      | true =>
        simp only [↓reduceIte] at h
        exact .more hc' ((ih s1 r h hr).mono hle)
      | false =>
        simp only [Bool.false_eq_true, ↓reduceIte, pure, EM.pure] at h
        subst h; exact .done hc'
    | err e s1 =>
      have hc' : round (n + 1) s = .err e s1 := by rw [hle.eq_of_ne_oof (by rw [hc]; simp), hc]
      rw [hc] at h; subst h; exact .fail hc'
    | oof => rw [hc] at h; exact absurd h.symm hr

theorem emle_add {α : Type} (f : Nat → EM α) (hmono : ∀ n, EMLe (f n) (f (n + 1))) (n k : Nat) :
    EMLe (f n) (f (n + k)) := by
  induction k with
  | zero => exact EMLe.refl _
  | succ k ih => exact ih.trans (hmono (n + k))

theorem emle_le {α : Type} (f : Nat → EM α) (hmono : ∀ n, EMLe (f n) (f (n + 1))) {n m : Nat}
    (h : n ≤ m) : EMLe (f n) (f m) := by
  obtain ⟨k, rfl⟩ : ∃ k, m = n + k := ⟨m - n, by omega⟩
  exact emle_add f hmono n k

theorem repeatN_of_rounds (round : Nat → EM Bool) (hmono : ∀ n, EMLe (round n) (round (n + 1)))
    (m k : Nat) (s sk : St) (r : Res Unit) (hk : Rounds (round m) k s sk)
    (hf : FinalRound (round m) sk r) : ∀ n, m + k < n → repeatN round n s = r := by
  induction hk with
  | zero =>
    intro n hn
    obtain ⟨n', rfl⟩ : ∃ n', n = n' + 1 := ⟨n - 1, by omega⟩
    have hle : EMLe (round m) (round n') := emle_le round hmono (by omega)
    simp only [repeatN, bind, EM.bind]
    rcases hf with ⟨s', h1, rfl⟩ | ⟨e, s', h1, rfl⟩
    · rw [hle.eq_of_ne_oof (by rw [h1]; simp), h1]; rfl
    · rw [hle.eq_of_ne_oof (by rw [h1]; simp), h1]
  | succ h1 _ ih =>
    intro n hn
    obtain ⟨n', rfl⟩ : ∃ n', n = n' + 1 := ⟨n - 1, by omega⟩
    have hle : EMLe (round m) (round n') := emle_le round hmono (by omega)
    simp only [repeatN, bind, EM.bind]
    rw [hle.eq_of_ne_oof (by rw [h1]; simp), h1]
    exact ih hf n' (by omega)

theorem repeatN_complete (round : Nat → EM Bool) (hmono : ∀ n, EMLe (round n) (round (n + 1)))
    (m : Nat) (s : St) (r : Res Unit) (h : Repeats (round m) s r) : ∃ n, repeatN round n s = r := by
  obtain ⟨k, sk, hk, hf⟩ := (repeats_iff_rounds _ _ _).mp h
  exact ⟨m + k + 1, repeatN_of_rounds round hmono m k s sk r hk hf _ (by omega)⟩


def iterateN {ι : Type} (step : Nat → ι → EM Unit) : Nat → List ι → EM Unit
  | 0, _ => oof
  | _ + 1, [] => pure ()
  | n + 1, x :: xs => fun s =>
    match outcome (step n x s) with
    | .continue_ s' => iterateN step n xs s'
    | .stop s' => .ok () s'
    | .abort e s' => .err e s'
    | .oof => .oof

theorem iterate_mono {ι : Type} {step step' : ι → EM Unit} (h : ∀ x, EMLe (step x) (step' x))
    (l : List ι) : EMLe (iterate step l) (iterate step' l) := by
  induction l with
  | nil => exact EMLe.refl _
  | cons x xs ih =>
    intro s
    simp only [iterate]
    rcases h x s with h1 | h1
    · left; rw [h1]; rfl
    · rw [← h1]
      cases outcome (step x s) with
      | continue_ s' => exact ih s'
      | stop s' => right; rfl
      | abort e s' => right; rfl
      | oof => left; rfl

theorem iterateN_sound {ι : Type} (step : Nat → ι → EM Unit)
    (hmono : ∀ n x, EMLe (step n x) (step (n + 1) x)) (n : Nat) (l : List ι) :
    EMLe (iterateN step n l) (iterate (step n) l) := by
  induction n generalizing l with
  | zero => intro s; left; rfl
  | succ n ih =>
    cases l with
    | nil => exact EMLe.refl _
    | cons x xs =>
      intro s
      simp only [iterateN, iterate]
      rcases hmono n x s with h1 | h1
      · left; rw [h1]; rfl
      · rw [← h1]
        cases outcome (step n x s) with
        | continue_ s' => exact ((ih xs).trans (iterate_mono (hmono n) xs)) s'
        | stop s' => right; rfl
        | abort e s' => right; rfl
        | oof => left; rfl

theorem iterateN_complete {ι : Type} (step : Nat → ι → EM Unit)
    (hmono : ∀ n x, EMLe (step n x) (step (n + 1) x)) (m : Nat) (l : List ι) :
    ∀ n, m + l.length < n → EMLe (iterate (step m) l) (iterateN step n l) := by
  induction l with
  | nil =>
    intro n hn
    obtain ⟨n', rfl⟩ : ∃ n', n = n' + 1 := ⟨n - 1, by omega⟩
    exact EMLe.refl _
  | cons x xs ih =>
    intro n hn
    obtain ⟨n', rfl⟩ : ∃ n', n = n' + 1 := ⟨n - 1, by omega⟩
    simp only [List.length_cons] at hn
    have hle : EMLe (step m x) (step n' x) :=
      emle_le (fun k => step k x) (fun k => hmono k x) (by omega)
    intro s
    simp only [iterateN, iterate]
    rcases hle s with h1 | h1
    · left; rw [h1]; rfl
    · rw [← h1]
      cases outcome (step m x s) with
      | continue_ s' => exact ih n' (by omega) s'
      | stop s' => right; rfl
      | abort e s' => right; rfl
      | oof => left; rfl

end Jqawk.Spec
