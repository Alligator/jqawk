/-
  C13, `;` for a newline: three runs of the parser are compared —
    L: the token `t₀` carries a newline flag,
    Z: the same without the flag,
    R: a `;` token (unflagged) in front of `t₀`.
  Until `t₀` is delivered the runs are identical (`BTree`: a predicate on the common program
  tree).  When `t₀` (resp. `;`) has become the current token, the three programs are related by
  `T3`: they agree on L and Z for good (as trees: the flag was never read), or L has failed, or
  all three have returned the same value without any request, or R has just consumed the `;`
  in `atStatementEnd` where L used the flag — after which L and R are related by `A2`: equal as
  trees, or both returned, states equal up to `prev`.
  Everything is phrased through the head of the program trees and tree equality; no lock-step
  relation is needed because after the first request the trees coincide.
-/
import Jqawk.Lemmas.PM
import Jqawk.Lemmas.NewlineParser

namespace Jqawk
namespace Semi

variable {α β : Type}

def isDead : PM α → Prop
  | .fail _ => True
  | .oof => True
  | _ => False

theorem isDead_bind {m : PM α} (h : isDead m) (f : α → PM β) : isDead (m.bind f) := by
  cases m <;> first | exact h | exact h.elim

section
variable (t₀ semi : Token)

/-- what is assumed about the token `t₀` behind the newline and about the `;` token.
    `ne_eof`, `ne_rcurly`, `ne_rparen`: the loops over statements, cases and parameters test the
    current tag for their end before their first request, so in front of such a `t₀` the newline
    is not read as a separator at all.  `ne_semi`, `ne_rcurly`: once the `;` is consumed,
    `atStatementEnd` at `t₀` with the flag down has to answer no. -/
structure Hyp : Prop where
  semi : semi.tag = .semiColon
  ne_semi : t₀.tag ≠ .semiColon
  ne_eof : t₀.tag ≠ .eof
  ne_rcurly : t₀.tag ≠ .rcurly
  ne_rparen : t₀.tag ≠ .rparen

/-- `A2 Q l r`: L and R after R has consumed the `;`: the same tree, or L failed, or both have
    returned the same value, in states related by `Q` -/
def A2 (Q : α → PS → PS → Prop) (l r : PM (α × PS)) : Prop :=
  l = r ∨ isDead l ∨ ∃ a s s', l = .pure (a, s) ∧ r = .pure (a, s') ∧ Q a s s'

/-- `T3 Q l z r`: L, Z and R while `t₀` / the `;` is the current token and the flag is unread:
    L and Z are the same tree (the flag is never read), or L failed, or R has just consumed
    the `;` by a request, or all three have returned the same value without any request -/
def T3 (Q : α → PS → PS → Prop) (l z r : PM (α × PS)) : Prop :=
  l = z ∨ isDead l ∨
  (∃ k', r = .next k' ∧ ∀ b, A2 Q l (k' t₀ b)) ∨
  (∃ a s, l = .pure (a, s) ∧ z = .pure (a, { s with didEnd := false }) ∧
    r = .pure (a, { s with cur := semi, didEnd := false }) ∧ s.didEnd = true ∧ s.cur = t₀)

def Eq0 (s s' : PS) : Prop := s.cur = t₀ ∧ s' = { s with prev := s'.prev }

def QE : α → PS → PS → Prop := fun _ => Eq0 t₀

/-- a parser action entered after the `;` was consumed, in states related by `pre` -/
def AP (pre : PS → PS → Prop) (Q : α → PS → PS → Prop) (f : P α) : Prop :=
  ∀ s s', pre s s' → A2 Q (f s) (f s')

/-- a parser action entered while the flag of `t₀` is unread -/
def TP (Q : α → PS → PS → Prop) (f : P α) : Prop := ∀ s, s.didEnd = true → s.cur = t₀ →
  T3 t₀ semi Q (f s) (f { s with didEnd := false }) (f { s with cur := semi, didEnd := false })

/-- the action does not look at `prev` and `didEnd` before its first request, when the current
    token is `t₀`: its whole tree is independent of them -/
def Er (f : P α) : Prop := ∀ s, s.cur = t₀ → ∀ p d, f { s with prev := p, didEnd := d } = f s

/-- before `t₀` is delivered: every request of the tree may be the one answered by `t₀` (L, Z)
    resp. `;` (R); the continuations are then related by `T3` -/
def BTree (Q : α → PS → PS → Prop) : PM (α × PS) → Prop
  | .pure _ => True
  | .fail _ => True
  | .oof => True
  | .next k => (∀ t nl, BTree Q (k t nl)) ∧ T3 t₀ semi Q (k t₀ true) (k t₀ false) (k semi false)
  | .regex k => ∀ t, BTree Q (k t)

def BP (Q : α → PS → PS → Prop) (f : P α) : Prop := ∀ s, BTree t₀ semi Q (f s)

/-- the three specifications together; `pre` relates the states in which the action is entered
    after the `;` was consumed -/
structure X' (pre : PS → PS → Prop) (Q : α → PS → PS → Prop) (f : P α) : Prop where
  b : BP t₀ semi Q f
  t : TP t₀ semi Q f
  a : AP pre Q f

abbrev X (f : P α) : Prop := X' t₀ semi (Eq0 t₀) (QE t₀) f

variable {t₀ semi}

theorem A2.bind {Q₁ : α → PS → PS → Prop} {Q : β → PS → PS → Prop} {l r : PM (α × PS)}
    {f : α → P β} (h : A2 Q₁ l r) (hf : ∀ a, AP (Q₁ a) Q (f a)) :
    A2 Q (l.bind fun x => f x.1 x.2) (r.bind fun x => f x.1 x.2) := by
  rcases h with rfl | h | ⟨a, s, s', rfl, rfl, hq⟩
  · exact .inl rfl
  · exact .inr (.inl (isDead_bind h _))
  · exact hf a s s' hq

theorem T3.bind {Q₁ : α → PS → PS → Prop} {Q : β → PS → PS → Prop} {l z r : PM (α × PS)}
    {f : α → P β} (h : T3 t₀ semi Q₁ l z r)
    (hT : ∀ a, TP t₀ semi Q (f a)) (hA : ∀ a, AP (Q₁ a) Q (f a)) :
    T3 t₀ semi Q (l.bind fun x => f x.1 x.2) (z.bind fun x => f x.1 x.2)
      (r.bind fun x => f x.1 x.2) := by
  rcases h with rfl | h | ⟨k', rfl, hk⟩ | ⟨a, s, rfl, rfl, rfl, hd, hc⟩
  · exact .inl rfl
  · exact .inr (.inl (isDead_bind h _))
  · exact .inr (.inr (.inl ⟨_, rfl, fun b => (hk b).bind hA⟩))
  · exact hT a s hd hc

theorem BTree.bind {Q₁ : α → PS → PS → Prop} {Q : β → PS → PS → Prop} {m : PM (α × PS)}
    {f : α → P β} (h : BTree t₀ semi Q₁ m)
    (hB : ∀ a, BP t₀ semi Q (f a)) (hT : ∀ a, TP t₀ semi Q (f a)) (hA : ∀ a, AP (Q₁ a) Q (f a)) :
    BTree t₀ semi Q (m.bind fun x => f x.1 x.2) := by
  induction m with
  | pure x => exact hB x.1 x.2
  | fail e => trivial
  | oof => trivial
  | next k ih => exact ⟨fun t nl => ih t nl (h.1 t nl), h.2.bind hT hA⟩
  | regex k ih => exact fun t => ih t (h t)

theorem Er.tp {Q : α → PS → PS → Prop} {f : P α} (h : Er t₀ f) : TP t₀ semi Q f := by
  intro s _ hc
  refine .inl ?_
  have := h s hc s.prev false
  exact this.symm

theorem Er.ap {pre : PS → PS → Prop} {Q : α → PS → PS → Prop} {f : P α} (h : Er t₀ f)
    (hpre : ∀ s s', pre s s' → s.cur = t₀ ∧ s' = { s with prev := s'.prev, didEnd := s'.didEnd }) :
    AP pre Q f := by
  intro s s' hp
  obtain ⟨hc, he⟩ := hpre s s' hp
  refine .inl ?_
  rw [he]
  exact (h s hc _ _).symm

theorem eq0_shape (s s' : PS) (h : Eq0 t₀ s s') :
    s.cur = t₀ ∧ s' = { s with prev := s'.prev, didEnd := s'.didEnd } := by
  refine ⟨h.1, ?_⟩
  have := h.2
  rw [this]

theorem BP.bind {Q₁ : α → PS → PS → Prop} {Q : β → PS → PS → Prop} {m : P α} {f : α → P β}
    (hm : BP t₀ semi Q₁ m) (hf : ∀ a, X' t₀ semi (Q₁ a) Q (f a)) : BP t₀ semi Q (m >>= f) :=
  fun s => (hm s).bind (fun a => (hf a).b) (fun a => (hf a).t) (fun a => (hf a).a)

theorem BP.bind_curTag {Q : α → PS → PS → Prop} {f : Tag → P α} (h : ∀ t, BP t₀ semi Q (f t)) :
    BP t₀ semi Q (Parser.curTag >>= f) := fun s => h _ s

theorem BP.bind_atEnd {Q : α → PS → PS → Prop} {f : Bool → P α} (h : ∀ b, BP t₀ semi Q (f b)) :
    BP t₀ semi Q (Parser.atEnd >>= f) := fun s => h _ s

theorem BP.bind_get {Q : α → PS → PS → Prop} {f : PS → P α} (h : ∀ x, BP t₀ semi Q (f x)) :
    BP t₀ semi Q (get >>= f) := fun s => h s s

theorem BP.bind_setDidEnd {Q : α → PS → PS → Prop} (b : Bool) {f : Unit → P α}
    (h : BP t₀ semi Q (f ())) : BP t₀ semi Q (Parser.setDidEnd b >>= f) := fun _ => h _

theorem BP.fail {Q : α → PS → PS → Prop} {pos : Nat} {msg : String} :
    BP t₀ semi Q (Parser.fail pos msg : P α) := fun _ => trivial

namespace X'
variable {pre : PS → PS → Prop} {Q₁ : α → PS → PS → Prop} {Q : β → PS → PS → Prop}

theorem bind {m : P α} {f : α → P β} (hm : X' t₀ semi pre Q₁ m)
    (hf : ∀ a, X' t₀ semi (Q₁ a) Q (f a)) : X' t₀ semi pre Q (m >>= f) where
  b := fun s => (hm.b s).bind (fun a => (hf a).b) (fun a => (hf a).t) (fun a => (hf a).a)
  t := fun s hd hc => (hm.t s hd hc).bind (fun a => (hf a).t) (fun a => (hf a).a)
  a := fun s s' hp => (hm.a s s' hp).bind (fun a => (hf a).a)

theorem of_er {Q : α → PS → PS → Prop} {f : P α} (hb : BP t₀ semi Q f) (h : Er t₀ f)
    (hpre : ∀ s s', pre s s' → s.cur = t₀ ∧ s' = { s with prev := s'.prev, didEnd := s'.didEnd }) :
    X' t₀ semi pre Q f := ⟨hb, h.tp, h.ap hpre⟩

end X'

namespace X

theorem bind {Q : β → PS → PS → Prop} {m : P α} {f : α → P β} (hm : X t₀ semi m)
    (hf : ∀ a, X' t₀ semi (Eq0 t₀) Q (f a)) : X' t₀ semi (Eq0 t₀) Q (m >>= f) :=
  X'.bind hm hf

theorem fail {pre : PS → PS → Prop} {Q : α → PS → PS → Prop} {pos : Nat} {msg : String} :
    X' t₀ semi pre Q (Parser.fail pos msg : P α) where
  b := fun _ => trivial
  t := fun _ _ _ => .inr (.inl trivial)
  a := fun _ _ _ => .inr (.inl trivial)

theorem oof {pre : PS → PS → Prop} {Q : α → PS → PS → Prop} : X' t₀ semi pre Q (Parser.oof : P α) where
  b := fun _ => trivial
  t := fun _ _ _ => .inr (.inl trivial)
  a := fun _ _ _ => .inr (.inl trivial)

end X

namespace Er

theorem advance : Er t₀ Parser.advance := fun _ _ _ _ => rfl

theorem consume (tag : Tag) : Er t₀ (Parser.consume tag) := by
  intro s _ p d
  unfold Parser.consume
  show (if _ then _ else _ : P Unit) _ = (if _ then _ else _ : P Unit) _
  split <;> rfl

theorem consumeOf (tags : List Tag) : Er t₀ (Parser.consumeOf tags) := by
  intro s _ p d
  unfold Parser.consumeOf
  show (if _ then _ else _ : P Unit) _ = (if _ then _ else _ : P Unit) _
  split <;> rfl

theorem regexPrefix : Er t₀ Parser.regexPrefix := fun _ _ _ _ => rfl

theorem fail {pos : Nat} {msg : String} : Er t₀ (Parser.fail pos msg : P α) := fun _ _ _ _ => rfl

theorem oof : Er t₀ (Parser.oof : P α) := fun _ _ _ _ => rfl

theorem ite {c : Prop} [Decidable c] {a b : P α} (ha : Er t₀ a) (hb : Er t₀ b) :
    Er t₀ (if c then a else b) := by
  split <;> assumption

theorem bind {m : P α} (hm : Er t₀ m) (f : α → P β) : Er t₀ (m >>= f) := by
  intro s hc p d
  show (m _).bind _ = (m s).bind _
  rw [hm s hc p d]

theorem bind_get {f : PS → P α} (h : ∀ x, x.cur = t₀ → Er t₀ (f x))
    (hf : ∀ x p d, f { x with prev := p, didEnd := d } = f x := by intros; rfl) :
    Er t₀ (get >>= f) := by
  intro s hc p d
  show f _ _ = f s s
  rw [hf, h s hc s hc]

theorem bind_curTag {f : Tag → P α} (h : Er t₀ (f t₀.tag)) : Er t₀ (Parser.curTag >>= f) := by
  intro s hc p d
  subst hc
  exact h s rfl p d

theorem bind_atEnd {f : Bool → P α} (h : Er t₀ (f (t₀.tag == .eof))) :
    Er t₀ (Parser.atEnd >>= f) := by
  intro s hc p d
  subst hc
  exact h s rfl p d

theorem bind_setDidEnd (b : Bool) {f : Unit → P α} (h : Er t₀ (f ())) :
    Er t₀ (Parser.setDidEnd b >>= f) := by
  intro s hc p d
  show f () _ = f () { s with didEnd := b }
  have h1 := h { s with didEnd := b } hc p b
  exact h1

theorem bind_or {m : P β} {f : β → P α}
    (h : Er t₀ m ∨ ∃ a, (∀ s, s.cur = t₀ → m s = .pure (a, s)) ∧ Er t₀ (f a)) :
    Er t₀ (m >>= f) := by
  rcases h with h | ⟨a, hm, hf⟩
  · exact bind h f
  · intro s hc p d
    have e1 := hm s hc
    have e2 := hm { s with prev := p, didEnd := d } hc
    show PM.bind (m { s with prev := p, didEnd := d }) _ = PM.bind (m s) _
    rw [e1, e2]
    exact hf s hc p d

theorem bind_pure (a : β) {f : β → P α} (h : Er t₀ (f a)) : Er t₀ (Pure.pure a >>= f) := by
  intro s hc p d
  exact h s hc p d

theorem bind_modify {g : PS → PS} {f : Unit → P α} (h : Er t₀ (f ()))
    (hcur : ∀ x, (g x).cur = x.cur := by intros; rfl)
    (hg : ∀ x p d, g { x with prev := p, didEnd := d } = { g x with prev := p, didEnd := d } := by
      intros; rfl) :
    Er t₀ (modify g >>= f) := by
  intro s hc p d
  show f () (g _) = f () (g s)
  rw [hg]
  exact h (g s) (by rw [hcur]; exact hc) p d

end Er

theorem t3_after_advance (s : PS) :
    T3 t₀ semi (QE t₀)
      (.pure ((), { s with prev := s.cur, cur := t₀, didEnd := true }))
      (.pure ((), { s with prev := s.cur, cur := t₀, didEnd := false }))
      (.pure ((), { s with prev := s.cur, cur := semi, didEnd := false })) :=
  .inr (.inr (.inr ⟨(), _, rfl, rfl, rfl, rfl, rfl⟩))

theorem btree_advance (s : PS) : BTree t₀ semi (QE t₀) (Parser.advance s) :=
  ⟨fun _ _ => trivial, t3_after_advance s⟩

/-- no states: the precondition of continuations that are never entered after the `;` was
    consumed (they follow a request) -/
def F : PS → PS → Prop := fun _ _ => False

def PreOK (t₀ : Token) (pre : PS → PS → Prop) : Prop := ∀ s s', pre s s' → Eq0 t₀ s s'

theorem preOK_eq0 : PreOK t₀ (Eq0 t₀) := fun _ _ h => h
theorem preOK_F : PreOK t₀ F := fun _ _ h => h.elim

/-- the two preconditions in use -/
macro "pre_ok" : tactic => `(tactic| first | exact preOK_eq0 | exact preOK_F)

/-- `f s' = f s` for states related by `F` (none) or by `Eq0` (`f` does not look at `prev`) -/
macro "hfp_tac" : tactic =>
  `(tactic| first | (intro _ _ h; exact h.elim) | (intro s s' h; rw [h.2]; done))

theorem PreOK.shape {pre : PS → PS → Prop} (hp : PreOK t₀ pre) (s s' : PS) (h : pre s s') :
    s.cur = t₀ ∧ s' = { s with prev := s'.prev, didEnd := s'.didEnd } := eq0_shape s s' (hp s s' h)

theorem X'.toF {pre : PS → PS → Prop} {Q : α → PS → PS → Prop} {f : P α}
    (h : X' t₀ semi pre Q f) : X' t₀ semi F Q f := ⟨h.b, h.t, fun _ _ hp => hp.elim⟩

namespace X
variable {pre : PS → PS → Prop}

theorem advance : X t₀ semi Parser.advance :=
  X'.of_er (fun s => btree_advance s) Er.advance eq0_shape

theorem consumeOf (tags : List Tag) : X t₀ semi (Parser.consumeOf tags) := by
  refine X'.of_er (fun s => ?_) (Er.consumeOf tags) eq0_shape
  unfold Parser.consumeOf
  show BTree t₀ semi _ ((if _ then _ else _ : P Unit) s)
  split
  · exact btree_advance s
  · trivial

theorem regexPrefix : X t₀ semi Parser.regexPrefix := by
  refine X'.of_er (fun s => ?_) Er.regexPrefix eq0_shape
  intro tok
  exact ⟨fun _ _ => trivial, .inr (.inr (.inr ⟨_, _, rfl, rfl, rfl, rfl, rfl⟩))⟩

theorem btree_advance_bind {Q : β → PS → PS → Prop} {f : Unit → P β} (hf : X' t₀ semi F Q (f ()))
    (s : PS) : BTree t₀ semi Q ((Parser.advance s).bind fun x => f x.1 x.2) :=
  ⟨fun _ _ => hf.b _, hf.t { s with prev := s.cur, cur := t₀, didEnd := true } rfl rfl⟩

/-- after `advance`/`consume` the continuation is never entered after the `;` was consumed: it
    needs no A-part -/
theorem advance_bind {Q : β → PS → PS → Prop} {f : Unit → P β} (hf : X' t₀ semi F Q (f ()))
    (hp : PreOK t₀ pre := by pre_ok) : X' t₀ semi pre Q (Parser.advance >>= f) where
  b := fun s => btree_advance_bind hf s
  t := (Er.advance.bind f).tp
  a := (Er.advance.bind f).ap hp.shape

theorem consume_bind {Q : β → PS → PS → Prop} {f : Unit → P β} (tag : Tag)
    (hf : X' t₀ semi F Q (f ())) (hp : PreOK t₀ pre := by pre_ok) :
    X' t₀ semi pre Q (Parser.consume tag >>= f) where
  b := fun s => by
    unfold Parser.consume
    show BTree t₀ semi Q (((if _ then _ else _ : P Unit) s).bind _)
    split
    · exact btree_advance_bind hf s
    · trivial
  t := ((Er.consume tag).bind f).tp
  a := ((Er.consume tag).bind f).ap hp.shape

theorem consumeOf_bind {Q : β → PS → PS → Prop} {f : Unit → P β} (tags : List Tag)
    (hf : X' t₀ semi F Q (f ())) (hp : PreOK t₀ pre := by pre_ok) :
    X' t₀ semi pre Q (Parser.consumeOf tags >>= f) where
  b := fun s => by
    unfold Parser.consumeOf
    show BTree t₀ semi Q (((if _ then _ else _ : P Unit) s).bind _)
    split
    · exact btree_advance_bind hf s
    · trivial
  t := ((Er.consumeOf tags).bind f).tp
  a := ((Er.consumeOf tags).bind f).ap hp.shape

theorem bind' {Q : β → PS → PS → Prop} {m : P α} {f : α → P β} (hm : X' t₀ semi pre (QE t₀) m)
    (hf : ∀ a, X' t₀ semi (Eq0 t₀) Q (f a)) : X' t₀ semi pre Q (m >>= f) :=
  X'.bind hm hf

theorem setDidEnd (b : Bool) (hp : PreOK t₀ pre := by pre_ok) :
    X' t₀ semi pre (QE t₀) (Parser.setDidEnd b) where
  b := fun _ => trivial
  t := fun _ _ _ => .inl rfl
  a := fun s s' hp' => .inr (.inr ⟨(), _, _, rfl, rfl, (hp s s' hp').1, by
    show ({ s' with didEnd := b } : PS) = _
    rw [(hp s s' hp').2]⟩)

theorem setInLoop (v : Bool) (hp : PreOK t₀ pre := by pre_ok) :
    X' t₀ semi pre (QE t₀) (modify fun s => { s with inLoop := v } : P Unit) where
  b := fun _ => trivial
  t := fun s hd hc => .inr (.inr (.inr ⟨(), { s with inLoop := v }, rfl, rfl, rfl, hd, hc⟩))
  a := fun s s' hp' => .inr (.inr ⟨(), _, _, rfl, rfl, (hp s s' hp').1, by
    show ({ s' with inLoop := v } : PS) = _
    rw [(hp s s' hp').2]⟩)

theorem setInFn (v : Bool) (hp : PreOK t₀ pre := by pre_ok) :
    X' t₀ semi pre (QE t₀) (modify fun s => { s with inFn := v } : P Unit) where
  b := fun _ => trivial
  t := fun s hd hc => .inr (.inr (.inr ⟨(), { s with inFn := v }, rfl, rfl, rfl, hd, hc⟩))
  a := fun s s' hp' => .inr (.inr ⟨(), _, _, rfl, rfl, (hp s s' hp').1, by
    show ({ s' with inFn := v } : PS) = _
    rw [(hp s s' hp').2]⟩)

theorem pureQ {Q : α → PS → PS → Prop} (a : α) (hq : ∀ s s', pre s s' → Q a s s') :
    X' t₀ semi pre Q (Pure.pure a : P α) where
  b := fun _ => trivial
  t := fun s hd hc => .inr (.inr (.inr ⟨a, s, rfl, rfl, rfl, hd, hc⟩))
  a := fun s s' hp' => .inr (.inr ⟨a, s, s', rfl, rfl, hq s s' hp'⟩)

theorem pure' (a : α) (hp : PreOK t₀ pre := by pre_ok) :
    X' t₀ semi pre (QE t₀) (Pure.pure a : P α) := pureQ a hp

/-- `let x ← get; f x`, `f` not looking at `didEnd` (nor at `prev`, if the action can be entered
    after the `;` was consumed); the comparison with the R run (whose current token is the
    `;`) while the flag is unread is a separate obligation -/
theorem bind_get {Q : α → PS → PS → Prop} {f : PS → P α}
    (hX : ∀ x, X' t₀ semi pre Q (f x))
    (hT : ∀ s, s.didEnd = true → s.cur = t₀ →
      T3 t₀ semi Q (f s s) (f s { s with didEnd := false })
        (f { s with cur := semi, didEnd := false } { s with cur := semi, didEnd := false }))
    (hfd : ∀ x d, f { x with didEnd := d } = f x := by intros; rfl)
    (hfp : ∀ s s', pre s s' → f s' = f s := by hfp_tac) :
    X' t₀ semi pre Q (get >>= f) where
  b := fun s => (hX s).b s
  t := fun s hd hc => by
    show T3 t₀ semi Q (f s s) (f { s with didEnd := false } { s with didEnd := false }) _
    rw [hfd s false]
    exact hT s hd hc
  a := fun s s' hp => by
    show A2 Q (f s s) (f s' s')
    rw [hfp s s' hp]
    exact (hX s).a s s' hp

/-- … when every continuation erases: nothing to compare -/
theorem bind_get_er {Q : α → PS → PS → Prop} {f : PS → P α}
    (hX : ∀ x, X' t₀ semi pre Q (f x)) (hE : ∀ x, x.cur = t₀ → Er t₀ (f x))
    (hfd : ∀ x d, f { x with didEnd := d } = f x := by intros; rfl)
    (hfp : ∀ s s', pre s s' → f s' = f s := by hfp_tac) :
    X' t₀ semi pre Q (get >>= f) :=
  bind_get hX (fun s _ hc => .inl ((hE s hc s hc s.prev false).symm)) hfd hfp

/-- … when `f` does not look at the current token either: the R run does the same -/
theorem bind_get_c {Q : α → PS → PS → Prop} {f : PS → P α}
    (hX : ∀ x, X' t₀ semi pre Q (f x))
    (hfc : ∀ x c d, f { x with cur := c, didEnd := d } = f x := by intros; rfl)
    (hfp : ∀ s s', pre s s' → f s' = f s := by hfp_tac) :
    X' t₀ semi pre Q (get >>= f) :=
  bind_get hX (fun s hd hc => by
    rw [hfc s semi false]
    exact (hX s).t s hd hc) (fun x d => hfc x x.cur d) hfp

theorem bind_curTag {Q : α → PS → PS → Prop} {f : Tag → P α}
    (hX : ∀ t, X' t₀ semi pre Q (f t))
    (hT : ∀ s, s.didEnd = true → s.cur = t₀ →
      T3 t₀ semi Q (f t₀.tag s) (f t₀.tag { s with didEnd := false })
        (f semi.tag { s with cur := semi, didEnd := false }))
    (hp : PreOK t₀ pre := by pre_ok) :
    X' t₀ semi pre Q (Parser.curTag >>= f) where
  b := fun s => (hX _).b s
  t := fun s hd hc => by
    have := hT s hd hc
    subst hc
    exact this
  a := fun s s' hp' => by
    show A2 Q (f s.cur.tag s) (f s'.cur.tag s')
    have : s'.cur = s.cur := by rw [(hp s s' hp').2]
    rw [this]
    exact (hX _).a s s' hp'

theorem bind_curTag_er {Q : α → PS → PS → Prop} {f : Tag → P α}
    (hX : ∀ t, X' t₀ semi pre Q (f t)) (hE : Er t₀ (f t₀.tag)) (hp : PreOK t₀ pre := by pre_ok) :
    X' t₀ semi pre Q (Parser.curTag >>= f) :=
  bind_curTag hX (fun s _ hc => .inl ((hE s hc s.prev false).symm)) hp

theorem bind_atEnd {Q : α → PS → PS → Prop} {f : Bool → P α}
    (hX : ∀ b, X' t₀ semi pre Q (f b))
    (hT : ∀ s, s.didEnd = true → s.cur = t₀ →
      T3 t₀ semi Q (f (t₀.tag == .eof) s) (f (t₀.tag == .eof) { s with didEnd := false })
        (f (semi.tag == .eof) { s with cur := semi, didEnd := false }))
    (hp : PreOK t₀ pre := by pre_ok) :
    X' t₀ semi pre Q (Parser.atEnd >>= f) where
  b := fun s => (hX _).b s
  t := fun s hd hc => by
    have := hT s hd hc
    subst hc
    exact this
  a := fun s s' hp' => by
    show A2 Q (f (s.cur.tag == .eof) s) (f (s'.cur.tag == .eof) s')
    have : s'.cur = s.cur := by rw [(hp s s' hp').2]
    rw [this]
    exact (hX _).a s s' hp'

theorem bind_atEnd_er {Q : α → PS → PS → Prop} {f : Bool → P α}
    (hX : ∀ b, X' t₀ semi pre Q (f b)) (hE : Er t₀ (f (t₀.tag == .eof)))
    (hp : PreOK t₀ pre := by pre_ok) :
    X' t₀ semi pre Q (Parser.atEnd >>= f) :=
  bind_atEnd hX (fun s _ hc => .inl ((hE s hc s.prev false).symm)) hp

theorem t3_of_er {Q : α → PS → PS → Prop} {m : P α} {r : PM (α × PS)} (hE : Er t₀ m) (s : PS)
    (hc : s.cur = t₀) : T3 t₀ semi Q (m s) (m { s with didEnd := false }) r :=
  .inl ((hE s hc s.prev false).symm)

theorem t3_pure {Q : α → PS → PS → Prop} (a : α) (s : PS) (hd : s.didEnd = true) (hc : s.cur = t₀) :
    T3 t₀ semi Q ((Pure.pure a : P α) s) ((Pure.pure a : P α) { s with didEnd := false })
      ((Pure.pure a : P α) { s with cur := semi, didEnd := false }) :=
  .inr (.inr (.inr ⟨a, s, rfl, rfl, rfl, hd, hc⟩))

/-- a test of the current token that L/Z pass into an erasing branch or fail into a `pure`,
    and that R (looking at the `;`) fails -/
theorem t3_ite_pure {Q : α → PS → PS → Prop} {c c' : Prop} [Decidable c] [Decidable c'] (a : α)
    {m m' : P α} (hE : Er t₀ m) (hc' : ¬c') (s : PS) (hd : s.didEnd = true) (hc : s.cur = t₀) :
    T3 t₀ semi Q ((if c then m else Pure.pure a : P α) s)
      ((if c then m else Pure.pure a : P α) { s with didEnd := false })
      ((if c' then m' else Pure.pure a : P α) { s with cur := semi, didEnd := false }) := by
  rw [if_neg hc']
  split
  · exact .inl ((hE s hc s.prev false).symm)
  · exact t3_pure a s hd hc

theorem t3_pure_ite {Q : α → PS → PS → Prop} {c c' : Prop} [Decidable c] [Decidable c'] (a : α)
    {m m' : P α} (hE : Er t₀ m) (hc' : c') (s : PS) (hd : s.didEnd = true) (hc : s.cur = t₀) :
    T3 t₀ semi Q ((if c then Pure.pure a else m : P α) s)
      ((if c then Pure.pure a else m : P α) { s with didEnd := false })
      ((if c' then Pure.pure a else m' : P α) { s with cur := semi, didEnd := false }) := by
  rw [if_pos hc']
  split
  · exact t3_pure a s hd hc
  · exact .inl ((hE s hc s.prev false).symm)

theorem consumeIgnore (H : Hyp t₀ semi) (tag : Tag) (htag : tag ≠ .semiColon) :
    X t₀ semi (Parser.consumeIgnore tag) := by
  unfold Parser.consumeIgnore
  refine bind_get (fun x => ?_) ?_
  · split
    · exact advance
    · exact pure' ()
  · intro s hd hc
    have hr : (({ s with cur := semi, didEnd := false } : PS).cur.tag == tag) = false := by
      show (semi.tag == tag) = false
      rw [H.semi]; exact beq_false_of_ne (Ne.symm htag)
    simp only [hr]
    split
    · exact .inl rfl
    · exact .inr (.inr (.inr ⟨(), s, rfl, rfl, rfl, hd, hc⟩))

end X

/-- the relation of L and R states after `atStatementEnd`: also `didEnd` may differ if the
    answer was `true` because of the flag -/
def Qase (t₀ : Token) (b : Bool) (s s' : PS) : Prop :=
  s.cur = t₀ ∧ s' = { s with prev := s'.prev, didEnd := s'.didEnd } ∧
    (s'.didEnd = s.didEnd ∨ (b = true ∧ s.didEnd = true))

theorem qase_shape (b : Bool) (s s' : PS) (h : Qase t₀ b s s') :
    s.cur = t₀ ∧ s' = { s with prev := s'.prev, didEnd := s'.didEnd } := ⟨h.1, h.2.1⟩

/-- `atStatementEnd`: while the flag is unread, L answers `true` by the flag and R by consuming
    the `;` -/
theorem ase_x (H : Hyp t₀ semi) : X' t₀ semi (Eq0 t₀) (Qase t₀) Parser.atStatementEnd where
  b := fun s => by
    rw [Nl.ase_eval]
    split
    · trivial
    · split
      · trivial
      · split
        · exact ⟨fun _ _ => trivial, .inr (.inr (.inr ⟨true, _, rfl, rfl, rfl, rfl, rfl⟩))⟩
        · trivial
  t := fun s hd hc => by
    refine .inr (.inr (.inl ?_))
    rw [Nl.ase_eval s, Nl.ase_eval { s with cur := semi, didEnd := false }]
    rw [if_pos hd]
    have h1 : ¬ (({ s with cur := semi, didEnd := false } : PS).didEnd = true) := by simp
    have h2 : ¬ (({ s with cur := semi, didEnd := false } : PS).cur.tag = .rcurly) := by
      show ¬ semi.tag = _; rw [H.semi]; decide
    have h3 : ({ s with cur := semi, didEnd := false } : PS).cur.tag = .semiColon := H.semi
    rw [if_neg h1, if_neg h2, if_pos h3]
    refine ⟨_, rfl, fun b => .inr (.inr ⟨true, s, _, rfl, rfl, hc, ?_, .inr ⟨rfl, hd⟩⟩)⟩
    show ({ cur := t₀, prev := semi, didEnd := b, inFn := s.inFn, inLoop := s.inLoop } : PS) = _
    rw [← hc]
  a := fun s s' hp => by
    obtain ⟨hc, he⟩ := hp
    rw [Nl.ase_eval s, Nl.ase_eval s']
    have e1 : s'.didEnd = s.didEnd := by rw [he]
    have e2 : s'.cur = s.cur := by rw [he]
    rw [e1, e2]
    have hq : ∀ b, Qase t₀ b s s' := fun b => ⟨hc, by rw [he], .inl e1⟩
    split
    · exact .inr (.inr ⟨true, s, s', rfl, rfl, hq _⟩)
    · split
      · exact .inr (.inr ⟨true, s, s', rfl, rfl, hq _⟩)
      · split
        · refine .inl ?_
          rw [he]; rfl
        · exact .inr (.inr ⟨false, s, s', rfl, rfl, hq _⟩)

/-- after `atStatementEnd`: setting `didEnd` removes the difference -/
theorem setDidEnd_pure_qase (b : Bool) (a : α) :
    X' t₀ semi (Qase t₀ b) (QE t₀) (do Parser.setDidEnd true; return a : P α) := by
  have h0 : X t₀ semi (do Parser.setDidEnd true; return a : P α) :=
    X.bind' (X.setDidEnd true) fun _ => X.pure' a
  refine ⟨h0.b, h0.t, ?_⟩
  intro s s' hq
  obtain ⟨hc, he, _⟩ := hq
  refine .inr (.inr ⟨a, { s with didEnd := true }, { s' with didEnd := true }, rfl, rfl, hc, ?_⟩)
  show ({ s' with didEnd := true } : PS) = _
  rw [he]

end

end Semi
end Jqawk
