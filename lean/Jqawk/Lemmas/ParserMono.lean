/-
  C13: exact fuel monotonicity of the parser.  `Le m₁ m₂`: the two programs are the same
  except that the left one may stop with `.oof` where the right one goes on.  Every parser
  function with fuel `n₁` is below the same function with fuel `n₂ ≥ n₁` (`allLe`), hence a run
  that is not out of fuel gives exactly the same result (AST with positions, error with
  position) with any larger fuel (`parseProgram_run_mono`).  Same organisation as
  Lemmas/Param.lean, with equality in place of equality up to positions.  `PM.Sim`
  (Lemmas/Erase.lean) also lets the left run stop early, but it compares runs on two texts and
  only up to positions; `Le` is for one text and gives the same result, positions included
  (`PM.Sim.fail` forgets error positions, so `Le` is not `PM.Sim` at the identity).
-/
import Jqawk.Model.Parser
import Jqawk.Lemmas.Ite

namespace Jqawk
namespace ParserMono
open Parser

inductive Le {α : Type} : PM α → PM α → Prop
  | oofL {m : PM α} : Le .oof m
  | pure {a : α} : Le (.pure a) (.pure a)
  | fail {e : SynErr} : Le (.fail e) (.fail e)
  | next {k₁ k₂ : Token → Bool → PM α} : (∀ t nl, Le (k₁ t nl) (k₂ t nl)) → Le (.next k₁) (.next k₂)
  | regex {k₁ k₂ : Token → PM α} : (∀ t, Le (k₁ t) (k₂ t)) → Le (.regex k₁) (.regex k₂)

variable {α β : Type}

theorem Le.refl (m : PM α) : Le m m := by
  induction m with
  | pure a => exact .pure
  | fail e => exact .fail
  | oof => exact .oofL
  | next k ih => exact .next fun t nl => ih t nl
  | regex k ih => exact .regex fun t => ih t

theorem Le.bind {m₁ m₂ : PM α} {f g : α → PM β} (h : Le m₁ m₂) (hf : ∀ a, Le (f a) (g a)) :
    Le (m₁.bind f) (m₂.bind g) := by
  induction h with
  | oofL => exact .oofL
  | pure => exact hf _
  | fail => exact .fail
  | next _ ih => exact .next fun t nl => ih t nl
  | regex _ ih => exact .regex fun t => ih t

theorem Le.run {m₁ m₂ : PM α} (h : Le m₁ m₂) (s : LexState) (hne : m₁.run s ≠ .oof) :
    m₁.run s = m₂.run s := by
  induction h generalizing s with
  | oofL => exact absurd rfl hne
  | pure => rfl
  | fail => rfl
  | next _ ih =>
    simp only [PM.run] at hne ⊢
    split
    · rfl
    · rename_i t nl s' heq
      rw [heq] at hne
      exact ih _ _ _ hne
  | regex _ ih =>
    simp only [PM.run] at hne ⊢
    split
    · rfl
    · rename_i t s' heq
      rw [heq] at hne
      exact ih _ _ hne

def PLe (m₁ m₂ : P α) : Prop := ∀ s, Le (m₁ s) (m₂ s)

namespace PLe

theorem refl (m : P α) : PLe m m := fun s => Le.refl (m s)

theorem oofL {m : P α} : PLe (Parser.oof : P α) m := fun _ => .oofL

theorem bind {m₁ m₂ : P α} {f g : α → P β} (h : PLe m₁ m₂) (hf : ∀ a, PLe (f a) (g a)) :
    PLe (m₁ >>= f) (m₂ >>= g) := by
  intro s
  show Le ((m₁ s).bind _) ((m₂ s).bind _)
  exact Le.bind (h s) fun r => hf r.1 r.2

end PLe

structure AllLe (tbl : RuleTable) (n₁ n₂ : Nat) : Prop where
  statement : PLe (statement tbl n₁) (statement tbl n₂)
  loopBody : PLe (loopBody tbl n₁) (loopBody tbl n₂)
  block : PLe (block tbl n₁) (block tbl n₂)
  blockLoop : ∀ a, PLe (blockLoop tbl n₁ a) (blockLoop tbl n₂ a)
  printStatement : PLe (printStatement tbl n₁) (printStatement tbl n₂)
  printLoop : ∀ a, PLe (printLoop tbl n₁ a) (printLoop tbl n₂ a)
  expressionWithPrec : ∀ prec, PLe (expressionWithPrec tbl n₁ prec) (expressionWithPrec tbl n₂ prec)
  infixLoop : ∀ prec l, PLe (infixLoop tbl n₁ prec l) (infixLoop tbl n₂ prec l)
  prefixFn : ∀ pk, PLe (prefixFn tbl n₁ pk) (prefixFn tbl n₂ pk)
  exprList : ∀ endTag a, PLe (exprList tbl n₁ endTag a) (exprList tbl n₂ endTag a)
  objectLoop : ∀ a, PLe (objectLoop tbl n₁ a) (objectLoop tbl n₂ a)
  matchCases : ∀ a, PLe (matchCases tbl n₁ a) (matchCases tbl n₂ a)
  matchPats : ∀ a, PLe (matchPats tbl n₁ a) (matchPats tbl n₂ a)
  infixFn : ∀ ik l, PLe (infixFn tbl n₁ ik l) (infixFn tbl n₂ ik l)

section tactics
set_option hygiene false

/-- a part without recursive call is the same on both sides; a call is an instance of `ih`
    (a name the caller provides) -/
macro "ple_leaf" : tactic => `(tactic| with_reducible first
  | exact PLe.refl _
  | exact ih.expressionWithPrec _
  | exact ih.statement
  | exact ih.loopBody
  | exact ih.block
  | exact ih.printStatement
  | exact ih.prefixFn _
  | exact ih.blockLoop _
  | exact ih.printLoop _
  | exact ih.infixLoop _ _
  | exact ih.exprList _ _
  | exact ih.objectLoop _
  | exact ih.matchCases _
  | exact ih.matchPats _
  | exact ih.infixFn _ _)

macro "ple_step" : tactic => `(tactic| first
  | (with_reducible refine PLe.bind ?_ (fun x => ?_); try ple_leaf)
  | ple_leaf
  | with_reducible refine ite_elim₂ (P := PLe) (fun _ => ?_) (fun _ => ?_)
  | split)

end tactics

variable {tbl : RuleTable} {n₁ n₂ : Nat}

theorem allLe (tbl : RuleTable) : ∀ n₁ n₂, n₁ ≤ n₂ → AllLe tbl n₁ n₂
  | 0, _, _ => by constructor <;> intros <;> exact PLe.oofL
  | _ + 1, 0, h => by omega
  | n₁ + 1, n₂ + 1, h =>
    have ih := allLe tbl n₁ n₂ (by omega)
    { statement := by unfold statement; repeat' ple_step
      loopBody := by unfold loopBody; repeat' ple_step
      block := by unfold block; repeat' ple_step
      blockLoop := fun _ => by unfold blockLoop; repeat' ple_step
      printStatement := by unfold printStatement; repeat' ple_step
      printLoop := fun _ => by unfold printLoop; repeat' ple_step
      expressionWithPrec := fun _ => by unfold expressionWithPrec; repeat' ple_step
      infixLoop := fun _ _ => by unfold infixLoop; repeat' ple_step
      prefixFn := fun _ => by unfold prefixFn; repeat' ple_step
      exprList := fun _ _ => by unfold exprList; repeat' ple_step
      objectLoop := fun _ => by unfold objectLoop; repeat' ple_step
      matchCases := fun _ => by unfold matchCases; repeat' ple_step
      matchPats := fun _ => by unfold matchPats; repeat' ple_step
      infixFn := fun _ _ => by unfold infixFn; repeat' ple_step }

theorem parseRule_le (ih : AllLe tbl n₁ n₂) : PLe (parseRule tbl n₁) (parseRule tbl n₂) := by
  unfold parseRule
  repeat' ple_step

theorem funcArgs_le : ∀ n₁ n₂, n₁ ≤ n₂ → ∀ a : List Bytes, PLe (funcArgs n₁ a) (funcArgs n₂ a) := by
  intro n₁
  induction n₁ with
  | zero => intro n₂ _ a; unfold funcArgs; exact PLe.oofL
  | succ n₁ ih =>
    intro n₂ h a
    cases n₂ with
    | zero => omega
    | succ n₂ =>
      have ih := ih n₂ (by omega)
      unfold funcArgs
      repeat' ple_step
      all_goals exact ih _

theorem parseFunction_le (ih : AllLe tbl n₁ n₂) (h : n₁ ≤ n₂) :
    PLe (parseFunction tbl n₁) (parseFunction tbl n₂) := by
  unfold parseFunction
  repeat' ple_step
  all_goals exact funcArgs_le _ _ h _

theorem parseTop_le (tbl : RuleTable) : ∀ n₁ n₂, n₁ ≤ n₂ → ∀ (r : List Rule) (f : List FuncDef),
    PLe (parseTop tbl n₁ r f) (parseTop tbl n₂ r f) := by
  intro n₁
  induction n₁ with
  | zero => intros; unfold parseTop; exact PLe.oofL
  | succ n₁ ih =>
    intro n₂ h r f
    cases n₂ with
    | zero => omega
    | succ n₂ =>
      have ihT := ih n₂ (by omega)
      have ih := allLe tbl n₁ n₂ (by omega)
      unfold parseTop
      repeat' ple_step
      all_goals first
        | exact parseFunction_le ih (by omega)
        | exact parseRule_le ih
        | exact ihT _ _

theorem parseProgram_le (tbl : RuleTable) (n₁ n₂ : Nat) (h : n₁ ≤ n₂) :
    PLe (parseProgram tbl n₁) (parseProgram tbl n₂) := by
  unfold parseProgram
  exact PLe.bind (PLe.refl _) fun _ => parseTop_le tbl n₁ n₂ h _ _

theorem parseExpression_le (tbl : RuleTable) (n₁ n₂ : Nat) (h : n₁ ≤ n₂) :
    PLe (parseExpression tbl n₁) (parseExpression tbl n₂) := by
  have ih := allLe tbl n₁ n₂ h
  unfold parseExpression
  repeat' ple_step

theorem parseProgram_run_mono (tbl : RuleTable) (n₁ n₂ : Nat) (h : n₁ ≤ n₂) (ps : PS) (s : LexState)
    (hne : (parseProgram tbl n₁ ps).run s ≠ .oof) :
    (parseProgram tbl n₁ ps).run s = (parseProgram tbl n₂ ps).run s :=
  (parseProgram_le tbl n₁ n₂ h ps).run s hne

theorem parseExpression_run_mono (tbl : RuleTable) (n₁ n₂ : Nat) (h : n₁ ≤ n₂) (ps : PS) (s : LexState)
    (hne : (parseExpression tbl n₁ ps).run s ≠ .oof) :
    (parseExpression tbl n₁ ps).run s = (parseExpression tbl n₂ ps).run s :=
  (parseExpression_le tbl n₁ n₂ h ps).run s hne

end ParserMono
end Jqawk
