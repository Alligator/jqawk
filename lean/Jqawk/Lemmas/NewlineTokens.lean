/-
  C13, newline insertion: the static side.  Where in a flagged token list may a flag be raised
  (`Nl.insertableAt`), raising one flag (`Nl.setNl`), reflexivity of `NlMoreAt`, and helpers to
  turn a program text into a flagged token list for the examples (`lexFlags`).
-/
import Jqawk.Lemmas.NewlineSrc
import Jqawk.Lemmas.Erase
import Jqawk.Model.Dump

namespace Jqawk
namespace Nl

theorem flagOK_refl (g : G) (t : Token) (nl : Bool) : FlagOK g t nl nl := .inl rfl

theorem nlMoreAt_refl : ∀ (g : G) (ts : List (Token × Bool)), NlMoreAt g ts ts
  | _, [] => nlMoreAt_nil _
  | g, (t, nl) :: r => by
    have ih := nlMoreAt_refl (g.step t) r
    unfold NlMoreAt at ih ⊢
    rw [nlMoreB, ih, (flagOKB_iff g t nl nl).mpr (flagOK_refl g t nl)]
    simp

def ghostAt (g : G) : List (Token × Bool) → Nat → G
  | [], _ => g
  | _, 0 => g
  | (t, _) :: r, i + 1 => ghostAt (g.step t) r i

def setNl : List (Token × Bool) → Nat → List (Token × Bool)
  | [], _ => []
  | (t, _) :: r, 0 => (t, true) :: r
  | x :: r, i + 1 => x :: setNl r i

def insertableAt (g : G) (ts : List (Token × Bool)) (i : Nat) : Bool :=
  match ts[i]? with
  | some (t, _) => Allowed (ghostAt g ts i) t
  | none => false

theorem nlMoreAt_setNl : ∀ (g : G) (ts : List (Token × Bool)) (i : Nat),
    insertableAt g ts i = true → NlMoreAt g ts (setNl ts i)
  | _, [], _, h => by simp [insertableAt] at h
  | g, (t, nl) :: r, 0, h => by
    have ha : Allowed g t = true := by simpa [insertableAt, ghostAt] using h
    have ih := nlMoreAt_refl (g.step t) r
    unfold NlMoreAt at ih ⊢
    rw [setNl, nlMoreB, ih]
    have : flagOKB g t nl true = true := by
      rw [flagOKB_iff]
      cases nl
      · exact .inr ⟨rfl, rfl, ha⟩
      · exact .inl rfl
    simp [this]
  | g, (t, nl) :: r, i + 1, h => by
    have h' : insertableAt (g.step t) r i = true := by
      simpa [insertableAt, ghostAt] using h
    have ih := nlMoreAt_setNl (g.step t) r i h'
    unfold NlMoreAt at ih ⊢
    rw [setNl, nlMoreB, ih, (flagOKB_iff g t nl nl).mpr (flagOK_refl g t nl)]
    simp

def stackOf (tags : List Tag) : List Bool := tags.foldl (fun s t => applyTag t s) []

theorem ghostAt_eq (ts : List (Token × Bool)) (i : Nat) (hi : i < ts.length) (h0 : 0 < i) :
    ghostAt G.init ts i =
      ⟨(ts[i - 1]'(by omega)).1.tag, stackOf ((ts.take (i - 1)).map fun x => x.1.tag)⟩ := by
  suffices H : ∀ (g : G) (ts : List (Token × Bool)) (i : Nat) (hi : i < ts.length) (h0 : 0 < i),
      ghostAt g ts i = ⟨(ts[i - 1]'(by omega)).1.tag,
        ((ts.take (i - 1)).map fun x => x.1.tag).foldl (fun s t => applyTag t s)
          (applyTag g.cur g.stk)⟩ from by
    have := H G.init ts i hi h0
    rw [this]; rfl
  intro g ts
  induction ts generalizing g with
  | nil => intro i hi; simp at hi
  | cons x r ih =>
    intro i hi h0
    obtain ⟨t, nl⟩ := x
    cases i with
    | zero => omega
    | succ i =>
      cases i with
      | zero => simp [ghostAt, G.step]; cases r <;> rfl
      | succ i =>
        have := ih (g.step t) (i + 1) (by simpa using hi) (by omega)
        simp only [ghostAt, this]
        simp [G.step]

end Nl

/-- positions erased; every token is obtained by `Lexer.nextNN`, as the parser's `advance` does -/
def lexFlags : Nat → LexState → Option (List (Token × Bool))
  | 0, _ => none
  | fuel + 1, s =>
    match Lexer.nextNN (s.rest.length + 1) s false with
    | .error _ => none
    | .ok (t, nl, s') =>
      if t.tag == .eof then some [(t.erase, nl)] else
      match lexFlags fuel s' with
      | some r => some ((t.erase, nl) :: r)
      | none => none

def lexE (src : Bytes) : List (Token × Bool) :=
  (lexFlags (src.length + 2) (LexState.init src)).getD []

/-- `Program` has no `DecidableEq`: dumps are compared instead -/
def dumpParse : ParseRes Program → Option Bytes
  | .ok p => some (dumpProgram p)
  | _ => none

theorem Nl.dumpParse_nlMore {tbl : RuleTable} (hT : Nl.TableOK tbl = true) {n : Nat}
    {ts ts' : List (Token × Bool)} (h : Nl.nlMoreB Nl.G.init ts ts' = true)
    (hs : (dumpParse (Nl.parseFlags tbl n ts)).isSome = true) :
    dumpParse (Nl.parseFlags tbl n ts) = dumpParse (Nl.parseFlags tbl n ts') := by
  cases hp : Nl.parseFlags tbl n ts with
  | ok p => rw [Nl.parseFlags_nlMore hT n h hp]
  | syntaxErr e => rw [hp] at hs; cases hs
  | oof => rw [hp] at hs; cases hs

end Jqawk
