/-
  Index writes `a[i] = v` on an array against the ideal list (C15).

  What the evaluator runs for `a[i] = e` is `memberStep` on the cells of `a` and `i`, then the
  evaluation of `e`, then `evalAssignment` on the cell `memberStep` returned and the cell of `e`.
  `writeAt` is `memberStep` followed directly by `evalAssignment` (what runs when `e` is a variable).
  The ideal operation is `setIdx` on `List Val`.
-/
import Jqawk.Lemmas.AssignCreate
import Jqawk.Lemmas.Arr


namespace Jqawk.IndexWrite
open Jqawk Spec

/-- `omega` for goals stated with `CellId` (an abbreviation of `Nat` that `omega` does not see through) -/
macro "nomega" : tactic =>
  `(tactic| first | omega | (show @LT.lt Nat _ _ _; omega) | (show @LE.le Nat _ _ _; omega)
                  | (show @Eq Nat _ _; omega))

/-- the ideal list under `l[i] = w` (`i` already truncated to an integer): an index inside the list
    overwrites that element; an index at or past the end pads with nulls and appends; `-k` is the
    k-th element from the end; an index before the start, or a padding beyond `fillLimit`
    (1024·1024, src/value.go SetMember), is an error and there is no new list -/
def setIdx (l : List Val) (i : Int) (w : Val) : Except String (List Val) :=
  if 0 ≤ i then
    if i.toNat < l.length then .ok (l.set i.toNat w)
    else if fillLimit < i.toNat then .error "index too large to auto-fill array"
    else .ok (l ++ List.replicate (i.toNat - l.length) (.nil none) ++ [w])
  else if (-i).toNat ≤ l.length then .ok (l.set (l.length - (-i).toNat) w)
  else .error "index out of range"

/-- a value as array elements are: not a stand-in for a missing member and not a method value
    (both are refused by `copyValue` / stripped by it, so no store puts one into an array) -/
def Plain (v : Val) : Prop := v.speculative = false ∧ ∀ f b sp, v ≠ .native f b sp

def ElemsPlain (h : Heap) : Prop := ∀ a, ∀ c ∈ (h.arr a).toList, Plain (h.get c)

def Unshared (h : Heap) : Prop :=
  ∀ a b i j, i < (h.arr a).size → j < (h.arr b).size →
    (h.arr a).getD i 0 = (h.arr b).getD j 0 → a = b ∧ i = j

def writeAt (pos : Nat) (ac ic rc : CellId) : EM CellId := do
  let m ← memberStep pos ac ic
  evalAssignment pos m rc

theorem memberStep_arr_num (pos : Nat) (ac ic : CellId) (s : St) (a : ArrId) (x : F64)
    (hac : s.heap.get ac = .arr a) (hic : s.heap.get ic = .num x) :
    memberStep pos ac ic s =
      match resolveIndex (s.heap.arr a).size x.toGoInt with
      | none => Jqawk.throwRt pos "index out of range" s
      | some j =>
        if j < (s.heap.arr a).size then
          match s.heap.get ((s.heap.arr a).getD j 0) with
          | .native f _ _ => Jqawk.newCell (.native f (some ac) (some ⟨ac, .str (Val.num x).str!⟩)) s
          | _ => .ok ((s.heap.arr a).getD j 0) s
        else Jqawk.newCell (.nil (some ⟨ac, .num x⟩)) s := by
  rw [memberStep_eq]
  have hu : s.heap.get ac ≠ .unknown := by rw [hac]; intro e; cases e
  rw [if_neg hu, hic]
  unfold memberRead
  cases hri : resolveIndex (s.heap.arr a).size x.toGoInt with
  | none => simp only [bind, EM.bind, readCell, hac, getHeap, getMember, hri]
  | some j =>
    by_cases hj : j < (s.heap.arr a).size
    · simp only [bind, EM.bind, readCell, hac, getHeap, getMember, hri, hj, ↓reduceIte]
      cases hv : s.heap.get ((s.heap.arr a).getD j 0) <;> rfl
    · simp only [bind, EM.bind, readCell, hac, getHeap, getMember, hri, hj, ↓reduceIte]

theorem absArr_length (h : Heap) (a : ArrId) : (absArr h a).length = (h.arr a).size := by
  simp [absArr]

theorem absArr_getElem? (h : Heap) (a : ArrId) (k : Nat) (hk : k < (h.arr a).size) :
    (absArr h a)[k]? = some (h.get ((h.arr a).getD k 0)) := by
  simp [absArr, Array.getD_eq_getD_getElem?, hk]

theorem mem_arr_getD (h : Heap) (a : ArrId) (k : Nat) (hk : k < (h.arr a).size) :
    (h.arr a).getD k 0 ∈ (h.arr a).toList := by
  simp only [Array.getD_eq_getD_getElem?, Array.getElem?_eq_getElem hk, Option.getD_some]
  exact Array.mem_toList_iff.mpr (Array.getElem_mem hk)

theorem exists_of_mem_arr (h : Heap) (a : ArrId) (c : CellId) (hc : c ∈ (h.arr a).toList) :
    ∃ k, k < (h.arr a).size ∧ (h.arr a).getD k 0 = c := by
  obtain ⟨k, hk, e⟩ := List.getElem_of_mem hc
  have hk' : k < (h.arr a).size := by simpa using hk
  refine ⟨k, hk', ?_⟩
  simp only [Array.getD_eq_getD_getElem?, Array.getElem?_eq_getElem hk', Option.getD_some]
  simpa using e

theorem absArr_set_same (h : Heap) (un : Unshared h) (wf : h.WF) (a : ArrId) (j : Nat)
    (hj : j < (h.arr a).size) (w : Val) :
    absArr (h.set ((h.arr a).getD j 0) w) a = (absArr h a).set j w := by
  apply List.ext_getElem?
  intro k
  by_cases hk : k < (h.arr a).size
  · have h1 : (absArr (h.set ((h.arr a).getD j 0) w) a)[k]?
        = some ((h.set ((h.arr a).getD j 0) w).get ((h.arr a).getD k 0)) :=
      absArr_getElem? (h.set _ w) a k hk
    rw [h1, List.getElem?_set]
    by_cases hjk : j = k
    · subst hjk
      have hlen : j < (absArr h a).length := by rw [absArr_length]; exact hj
      simp only [↓reduceIte, hlen]
      rw [Heap.get_set_same' _ _ _ (wf.arrs a _ (mem_arr_getD h a j hj))]
    · simp only [hjk, ↓reduceIte]
      rw [absArr_getElem? h a k hk, Heap.get_set_ne']
      intro e
      exact hjk ((un a a k j hk hj e).2).symm
  · have l1 : (absArr (h.set ((h.arr a).getD j 0) w) a).length ≤ k := by
      rw [absArr_length]; exact Nat.le_of_not_lt hk
    have l2 : ((absArr h a).set j w).length ≤ k := by
      rw [List.length_set, absArr_length]; exact Nat.le_of_not_lt hk
    rw [List.getElem?_eq_none l1, List.getElem?_eq_none l2]

theorem absArr_set_other (h : Heap) (un : Unshared h) (a b : ArrId) (j : Nat)
    (hj : j < (h.arr a).size) (w : Val) (hb : b ≠ a) :
    absArr (h.set ((h.arr a).getD j 0) w) b = absArr h b := by
  simp only [absArr]
  apply List.map_congr_left
  intro c hc
  obtain ⟨k, hk, rfl⟩ := exists_of_mem_arr h b c hc
  apply Heap.get_set_ne'
  intro e
  exact hb (un b a k j hk hj e).1

theorem Heap.WF.set' {h : Heap} (wf : h.WF) (c : CellId) (w : Val) : (h.set c w).WF :=
  ⟨fun a d hd => by rw [Heap.size_set]; exact wf.arrs a d hd,
   fun o k d hd => by rw [Heap.size_set]; exact wf.objs o k d hd⟩


theorem unshared_append (h h' : Heap) (wf : h.WF) (un : Unshared h) (a : ArrId) (n k : Nat)
    (hn : h.cells.size ≤ n) (ha : h'.arr a = h.arr a ++ (List.range' n k).toArray)
    (hb : ∀ b, b ≠ a → h'.arr b = h.arr b) : Unshared h' := by
  have old : ∀ i, i < (h.arr a).size → (h'.arr a).getD i 0 = (h.arr a).getD i 0 := by
    intro i hi
    simp only [ha, Array.getD_eq_getD_getElem?]
    rw [Array.getElem?_append_left hi]
  have new : ∀ i, i < (h'.arr a).size → ¬ i < (h.arr a).size →
      (h'.arr a).getD i 0 = n + (i - (h.arr a).size) := by
    intro i hi hi'
    rw [ha] at hi ⊢
    exact getD_append_range' _ _ _ _ (Nat.le_of_not_lt hi') (by simp at hi; omega)
  have lt : ∀ b i, i < (h.arr b).size → @LT.lt Nat _ ((h.arr b).getD i 0) h.cells.size :=
    fun b i hi => wf.arrs b _ (mem_arr_getD h b i hi)
  intro p q i j hi hj e
  by_cases hp : a = p <;> by_cases hq : a = q
  · subst hp; subst hq
    refine ⟨rfl, ?_⟩
    by_cases hi' : i < (h.arr a).size <;> by_cases hj' : j < (h.arr a).size
    · rw [old i hi', old j hj'] at e; exact (un a a i j hi' hj' e).2
    · rw [old i hi', new j hj hj'] at e; have := lt a i hi'; have e' : @Eq Nat _ _ := e; omega
    · rw [new i hi hi', old j hj'] at e; have := lt a j hj'; have e' : @Eq Nat _ _ := e; omega
    · rw [new i hi hi', new j hj hj'] at e; have e' : @Eq Nat _ _ := e; omega
  · subst hp
    have hq' : q ≠ a := fun x => hq x.symm
    rw [hb q hq'] at hj e
    by_cases hi' : i < (h.arr a).size
    · rw [old i hi'] at e; exact absurd (un a q i j hi' hj e).1 hq
    · rw [new i hi hi'] at e; have := lt q j hj; have e' : @Eq Nat _ _ := e; omega
  · subst hq
    have hp' : p ≠ a := fun x => hp x.symm
    rw [hb p hp'] at hi e
    by_cases hj' : j < (h.arr a).size
    · rw [old j hj'] at e; exact absurd (un p a i j hi hj' e).1.symm hp
    · rw [new j hj hj'] at e; have := lt p i hi; have e' : @Eq Nat _ _ := e; omega
  · rw [hb p (fun x => hp x.symm)] at hi e; rw [hb q (fun x => hq x.symm)] at hj e
    exact un p q i j hi hj e

theorem unshared_sub (h : Heap) (un : Unshared h) (a : ArrId) (ha : a < h.arrs.size)
    (sub : Array CellId) (off : Nat)
    (hsub : ∀ i, i < sub.size → i + off < (h.arr a).size ∧ sub.getD i 0 = (h.arr a).getD (i + off) 0) :
    Unshared (h.setArr a sub) := by
  intro p q i j hi hj e
  by_cases hp : a = p <;> by_cases hq : a = q
  · subst hp; subst hq
    rw [Heap.arr_setArr_same h a sub ha] at hi hj e
    obtain ⟨hi1, hi2⟩ := hsub i hi
    obtain ⟨hj1, hj2⟩ := hsub j hj
    rw [hi2, hj2] at e
    have := (un a a _ _ hi1 hj1 e).2
    exact ⟨rfl, by omega⟩
  · subst hp
    have hq' : q ≠ a := fun x => hq x.symm
    rw [Heap.arr_setArr_same h a sub ha] at hi e
    rw [Heap.arr_setArr_other h a q sub hq'] at hj e
    obtain ⟨hi1, hi2⟩ := hsub i hi
    rw [hi2] at e
    exact absurd (un a q _ j hi1 hj e).1 hq
  · subst hq
    have hp' : p ≠ a := fun x => hp x.symm
    rw [Heap.arr_setArr_same h a sub ha] at hj e
    rw [Heap.arr_setArr_other h a p sub hp'] at hi e
    obtain ⟨hj1, hj2⟩ := hsub j hj
    rw [hj2] at e
    exact absurd (un p a i _ hi hj1 e).1.symm hp
  · rw [Heap.arr_setArr_other h a p sub (fun x => hp x.symm)] at hi e
    rw [Heap.arr_setArr_other h a q sub (fun x => hq x.symm)] at hj e
    exact un p q i j hi hj e

theorem elemsPlain_of (h h' : Heap) (pl : ElemsPlain h)
    (hh : ∀ b, ∀ c ∈ (h'.arr b).toList, (c ∈ (h.arr b).toList ∧ h'.get c = h.get c) ∨ Plain (h'.get c)) :
    ElemsPlain h' := by
  intro b c hc
  rcases hh b c hc with ⟨h1, h2⟩ | h1
  · rw [h2]; exact pl b c h1
  · exact h1


structure HStep (a : ArrId) (h h' : Heap) (l' : List Val) : Prop where
  this : absArr h' a = l'
  others : ∀ b, b ≠ a → absArr h' b = absArr h b
  wf : h'.WF
  unshared : Unshared h'
  plain : ElemsPlain h'
  arrs : h'.arrs.size = h.arrs.size
  objs : h'.objs = h.objs

theorem plain_of_copyVal {v w : Val} (hw : copyVal v = .ok w) : Plain w :=
  ⟨spec_none_speculative (copyVal_ok hw).2, (copyVal_ok hw).1⟩

/-- the shape of a heap after padding array `a` with `k` nulls and one more element `w`, in fresh
    cells `N, …, N+k` -/
structure Padded (h h' : Heap) (a : ArrId) (N k : Nat) (w : Val) : Prop where
  hN : h.cells.size ≤ N
  size : h'.cells.size = N + (k + 1)
  old : ∀ d : Nat, d < h.cells.size → h'.get d = h.get d
  nulls : ∀ t, t < k → h'.get (N + t) = .nil none
  last : h'.get (N + k) = w
  arrA : h'.arr a = h.arr a ++ (List.range' N (k + 1)).toArray
  arrB : ∀ b, b ≠ a → h'.arr b = h.arr b
  arrs : h'.arrs.size = h.arrs.size
  objs : h'.objs = h.objs

theorem Padded.hstep {h h' : Heap} {a : ArrId} {N k : Nat} {w : Val} (p : Padded h h' a N k w)
    (wf : h.WF) (un : Unshared h) (pl : ElemsPlain h) (hw : Plain w) :
    HStep a h h' (absArr h a ++ List.replicate k (.nil none) ++ [w]) := by
  have hold : ∀ b, (h.arr b).toList.map h'.get = absArr h b := by
    intro b
    simp only [absArr]
    apply List.map_congr_left
    intro c hc
    exact p.old c (wf.arrs b c hc)
  have hnew : (List.range' N (k + 1)).map h'.get = List.replicate k (.nil none) ++ [w] := by
    rw [List.range'_concat, List.map_append]
    congr 1
    · rw [List.eq_replicate_iff]
      refine ⟨by simp, ?_⟩
      intro v hv
      obtain ⟨c, hc, rfl⟩ := List.mem_map.mp hv
      obtain ⟨t, ht, rfl⟩ := List.mem_range'.mp hc
      simpa using p.nulls t ht
    · simp [p.last]
  have ltA : ∀ b c, c ∈ (h.arr b).toList → @LT.lt Nat _ c h.cells.size := wf.arrs
  have ltO : ∀ o kk c, (kk, c) ∈ h.obj o → @LT.lt Nat _ c h.cells.size := wf.objs
  have hN := p.hN
  exact {
    this := by
      simp only [absArr, p.arrA, Array.toList_append, List.map_append]
      rw [hold a, hnew, List.append_assoc]
      rfl
    others := fun b hb => by
      simp only [absArr, p.arrB b hb]
      exact hold b
    wf := by
      constructor
      · intro b c hc
        show @LT.lt Nat _ c h'.cells.size
        rw [p.size]
        by_cases hb : b = a
        · subst hb
          rw [p.arrA] at hc
          simp only [Array.toList_append, List.mem_append, List.mem_range'_1] at hc
          rcases hc with hc | hc
          · have := ltA b c hc; omega
          · have hc' : @LE.le Nat _ N c ∧ @LT.lt Nat _ c (N + (k + 1)) := hc
            omega
        · rw [p.arrB b hb] at hc
          have := ltA b c hc; omega
      · intro o kk c hc
        have e : h'.obj o = h.obj o := by simp only [Heap.obj, p.objs]
        rw [e] at hc
        show @LT.lt Nat _ c h'.cells.size
        rw [p.size]
        have := ltO o kk c hc; omega
    unshared := unshared_append h h' wf un a N (k + 1) p.hN p.arrA p.arrB
    plain := by
      apply elemsPlain_of h h' pl
      intro b c hc
      by_cases hb : b = a
      · subst hb
        rw [p.arrA] at hc
        simp only [Array.toList_append, List.mem_append, List.mem_range'_1] at hc
        rcases hc with hc | hc
        · exact .inl ⟨hc, p.old c (wf.arrs b c hc)⟩
        · right
          have hc' : @LE.le Nat _ N c ∧ @LT.lt Nat _ c (N + (k + 1)) := hc
          obtain ⟨t, rfl⟩ : ∃ t : Nat, c = N + t := ⟨(c : Nat) - N, by show @Eq Nat c (N + (c - N)); omega⟩
          by_cases hck : t = k
          · rw [hck, p.last]; exact hw
          · rw [p.nulls t (by omega)]
            exact ⟨rfl, fun _ _ _ e => by cases e⟩
      · rw [p.arrB b hb] at hc
        exact .inl ⟨hc, p.old c (wf.arrs b c hc)⟩
    arrs := p.arrs
    objs := p.objs }


theorem absArr_alloc (h : Heap) (wf : h.WF) (v : Val) (b : ArrId) :
    absArr (h.alloc v).2 b = absArr h b := by
  simp only [absArr]
  apply List.map_congr_left
  intro c hc
  exact Heap.get_push_old h v c (wf.arrs b c hc)

theorem wf_alloc (h : Heap) (wf : h.WF) (v : Val) : (h.alloc v).2.WF :=
  ⟨fun a c hc => by
      show @LT.lt Nat _ c (h.cells.push v).size
      have : @LT.lt Nat _ c h.cells.size := wf.arrs a c hc
      simp only [Array.size_push]; omega,
   fun o k c hc => by
      show @LT.lt Nat _ c (h.cells.push v).size
      have : @LT.lt Nat _ c h.cells.size := wf.objs o k c hc
      simp only [Array.size_push]; omega⟩

theorem unshared_alloc (h : Heap) (un : Unshared h) (v : Val) : Unshared (h.alloc v).2 := un

theorem elemsPlain_alloc (h : Heap) (wf : h.WF) (pl : ElemsPlain h) (v : Val) :
    ElemsPlain (h.alloc v).2 := by
  intro b c hc
  have : (h.alloc v).2.get c = h.get c := Heap.get_push_old h v c (wf.arrs b c hc)
  rw [this]; exact pl b c hc

theorem unshared_pushHeap (h : Heap) (wf : h.WF) (un : Unshared h) (a : ArrId) (ha : a < h.arrs.size)
    (v : Val) : Unshared (pushHeap h a v) := by
  apply unshared_append h (pushHeap h a v) wf un a h.cells.size 1 (Nat.le_refl _)
  · rw [pushHeap_eq, Heap.arr_setArr_same _ _ _ (by simpa using ha)]
    apply Array.toList_inj.mp
    simp
  · intro b hb
    rw [pushHeap_eq, Heap.arr_setArr_other _ _ _ _ hb]
    rfl

theorem elemsPlain_pushHeap (h : Heap) (wf : h.WF) (pl : ElemsPlain h) (a : ArrId) (ha : a < h.arrs.size)
    (v : Val) (hv : Plain v) : ElemsPlain (pushHeap h a v) := by
  apply elemsPlain_of h _ pl
  intro b c hc
  have hget : ∀ d : Nat, d < h.cells.size → (pushHeap h a v).get d = h.get d := fun d hd => by
    rw [pushHeap_eq, Heap.get_setArr]; exact Heap.get_push_old h v d hd
  by_cases hb : b = a
  · subst hb
    rw [pushHeap_eq, Heap.arr_setArr_same _ _ _ (by simpa using ha)] at hc
    simp only [Array.toList_push, List.mem_append, List.mem_singleton] at hc
    rcases hc with hc | rfl
    · exact .inl ⟨hc, hget c (wf.arrs b c hc)⟩
    · right
      have : (pushHeap h b v).get h.cells.size = v := by
        rw [pushHeap_eq, Heap.get_setArr]; exact Heap.get_push_new h v
      rw [this]; exact hv
  · have e : (pushHeap h a v).arr b = h.arr b := by
      rw [pushHeap_eq, Heap.arr_setArr_other _ _ _ _ hb]; rfl
    rw [e] at hc
    exact .inl ⟨hc, hget c (wf.arrs b c hc)⟩

theorem elemsPlain_setArr_sub (h : Heap) (pl : ElemsPlain h) (a : ArrId) (ha : a < h.arrs.size)
    (sub : Array CellId) (hsub : ∀ c ∈ sub.toList, c ∈ (h.arr a).toList) :
    ElemsPlain (h.setArr a sub) := by
  apply elemsPlain_of h _ pl
  intro b c hc
  left
  refine ⟨?_, Heap.get_setArr h a sub c⟩
  by_cases hb : b = a
  · subst hb
    rw [Heap.arr_setArr_same h b sub ha] at hc
    exact hsub c hc
  · rw [Heap.arr_setArr_other h a b sub hb] at hc
    exact hc

theorem unshared_pop (h : Heap) (un : Unshared h) (a : ArrId) (ha : a < h.arrs.size) :
    Unshared (h.setArr a (h.arr a).pop) := by
  apply unshared_sub h un a ha _ 0
  intro i hi
  have hi' : i < (h.arr a).size - 1 := by simpa using hi
  refine ⟨by omega, ?_⟩
  simp only [Array.getD_eq_getD_getElem?, Nat.add_zero]
  rw [Array.getElem?_pop]
  simp [hi']

theorem unshared_popfirst (h : Heap) (un : Unshared h) (a : ArrId) (ha : a < h.arrs.size) :
    Unshared (h.setArr a ((h.arr a).extract 1 (h.arr a).size)) := by
  apply unshared_sub h un a ha _ 1
  intro i hi
  have hi' : i < (h.arr a).size - 1 := by simpa using hi
  refine ⟨by omega, ?_⟩
  simp only [Array.getD_eq_getD_getElem?]
  rw [Array.getElem?_extract]
  simp [hi', Nat.add_comm]

theorem elemsPlain_pop (h : Heap) (pl : ElemsPlain h) (a : ArrId) (ha : a < h.arrs.size) :
    ElemsPlain (h.setArr a (h.arr a).pop) :=
  elemsPlain_setArr_sub h pl a ha _ (fun c hc => by
    rw [Array.toList_pop] at hc; exact List.dropLast_subset _ hc)

theorem elemsPlain_popfirst (h : Heap) (pl : ElemsPlain h) (a : ArrId) (ha : a < h.arrs.size) :
    ElemsPlain (h.setArr a ((h.arr a).extract 1 (h.arr a).size)) :=
  elemsPlain_setArr_sub h pl a ha _ (fun c hc => by
    rw [Array.toList_extract] at hc
    simp only [List.extract] at hc
    exact List.mem_of_mem_drop (List.mem_of_mem_take hc))


/-! ### a right-hand side evaluated between the member step and the store -/

/-- `H` extends `h` by fresh cells only: the old cells keep their values, arrays and objects are
    the same (what evaluating a literal, a variable, an arithmetic expression … does) -/
structure Ext (h H : Heap) : Prop where
  cells : h.cells.size ≤ H.cells.size
  get : ∀ d : Nat, d < h.cells.size → H.get d = h.get d
  arrs : H.arrs = h.arrs
  objs : H.objs = h.objs

theorem Ext.refl (h : Heap) : Ext h h := ⟨Nat.le_refl _, fun _ _ => rfl, rfl, rfl⟩

theorem Ext.trans {a b c : Heap} (h1 : Ext a b) (h2 : Ext b c) : Ext a c :=
  ⟨Nat.le_trans h1.cells h2.cells, fun d hd => by
      rw [h2.get d (Nat.lt_of_lt_of_le hd h1.cells), h1.get d hd],
   h2.arrs.trans h1.arrs, h2.objs.trans h1.objs⟩

theorem Ext.alloc (h : Heap) (v : Val) : Ext h (h.alloc v).2 :=
  ⟨by simp [Heap.alloc], fun d hd => Heap.get_push_old h v d hd, rfl, rfl⟩

theorem Ext.arr {h H : Heap} (e : Ext h H) (b : ArrId) : H.arr b = h.arr b := by
  simp only [Heap.arr, e.arrs]

theorem Ext.absArr {h H : Heap} (e : Ext h H) (wf : h.WF) (b : ArrId) : absArr H b = absArr h b := by
  simp only [Jqawk.absArr, e.arr b]
  apply List.map_congr_left
  intro c hc
  exact e.get c (wf.arrs b c hc)

theorem Ext.wf {h H : Heap} (e : Ext h H) (wf : h.WF) : H.WF :=
  ⟨fun b c hc => by
      rw [e.arr b] at hc
      exact Nat.lt_of_lt_of_le (wf.arrs b c hc) e.cells,
   fun o k c hc => by
      have : H.obj o = h.obj o := by simp only [Heap.obj, e.objs]
      rw [this] at hc
      exact Nat.lt_of_lt_of_le (wf.objs o k c hc) e.cells⟩

theorem Ext.unshared {h H : Heap} (e : Ext h H) (un : Unshared h) : Unshared H := by
  intro p q i j hi hj eq
  rw [e.arr p] at hi eq
  rw [e.arr q] at hj eq
  exact un p q i j hi hj eq

theorem Ext.plain {h H : Heap} (e : Ext h H) (wf : h.WF) (pl : ElemsPlain h) : ElemsPlain H := by
  intro b c hc
  rw [e.arr b] at hc
  rw [e.get c (wf.arrs b c hc)]
  exact pl b c hc

theorem HStep.ofExt {a : ArrId} {h H h' : Heap} {l' : List Val} (e : Ext h H) (wf : h.WF)
    (st : HStep a H h' l') : HStep a h h' l' :=
  { this := st.this
    others := fun b hb => by rw [st.others b hb, e.absArr wf b]
    wf := st.wf
    unshared := st.unshared
    plain := st.plain
    arrs := by rw [st.arrs, e.arrs]
    objs := by rw [st.objs, e.objs] }

theorem memberStep_ext (pos : Nat) (l r : CellId) (s : St) (m : CellId) (sm : St)
    (e : memberStep pos l r s = .ok m sm) : sm = { s with heap := sm.heap } ∧ Ext s.heap sm.heap := by
  have nc : ∀ v, Jqawk.newCell v s = .ok m sm → sm = { s with heap := sm.heap } ∧ Ext s.heap sm.heap := by
    intro v e; rw [newCell_eq] at e; cases e; exact ⟨rfl, Ext.alloc _ _⟩
  rw [memberStep_eq] at e
  split at e
  · exact nc _ e
  · unfold memberRead at e
    simp only [bind, EM.bind, readCell, getHeap] at e
    generalize getMember s.heap (s.heap.get l) (s.heap.get r) = g at e
    cases g with
    | error msg => cases e
    | ok mem =>
      cases mem with
      | missing => exact nc _ e
      | method f => exact nc _ e
      | char ch x => cases ch <;> exact nc _ e
      | cell c =>
        simp only at e
        generalize s.heap.get c = v at e
        cases v <;> first | exact nc _ e | (cases e; exact ⟨rfl, Ext.refl _⟩)

theorem assign_inside (pos : Nat) (rc : CellId) (S : St) (a : ArrId) (w : Val) (j : Nat)
    (wf : S.heap.WF) (un : Unshared S.heap) (pl : ElemsPlain S.heap)
    (hw : copyVal (S.heap.get rc) = .ok w) (hj : j < (S.heap.arr a).size) :
    evalAssignment pos ((S.heap.arr a).getD j 0) rc S = .ok ((S.heap.arr a).getD j 0)
        { S with heap := S.heap.set ((S.heap.arr a).getD j 0) w } ∧
      HStep a S.heap (S.heap.set ((S.heap.arr a).getD j 0) w) ((absArr S.heap a).set j w) := by
  have hmem := mem_arr_getD S.heap a j hj
  have hpl := pl a _ hmem
  constructor
  · rw [evalAssignment_plain pos _ rc S hpl.1, hw]
  · exact {
      this := absArr_set_same S.heap un wf a j hj w
      others := fun b hb => absArr_set_other S.heap un a b j hj w hb
      wf := Heap.WF.set' wf _ _
      unshared := un
      plain := by
        intro b c hc
        by_cases hcc : c = (S.heap.arr a).getD j 0
        · rw [hcc, Heap.get_set_same' _ _ _ (wf.arrs a _ hmem)]; exact plain_of_copyVal hw
        · rw [Heap.get_set_ne' _ _ _ _ hcc]; exact pl b c hc
      arrs := rfl
      objs := rfl }

theorem assign_pad (pos : Nat) (m rc ac : CellId) (S : St) (a : ArrId) (x : F64) (w : Val) (i : Nat)
    (wf : S.heap.WF) (un : Unshared S.heap) (pl : ElemsPlain S.heap) (ha : a < S.heap.arrs.size)
    (hm : S.heap.get m = .nil (some ⟨ac, .num x⟩)) (hac : S.heap.get ac = .arr a)
    (hrc : rc < S.heap.cells.size) (hw : copyVal (S.heap.get rc) = .ok w)
    (hri : resolveIndex (S.heap.arr a).size x.toGoInt = some i) (hge : (S.heap.arr a).size ≤ i)
    (hlim : i ≤ fillLimit) :
    ∃ h', evalAssignment pos m rc S = .ok (S.heap.cells.size + (i - (S.heap.arr a).size))
        { S with heap := h' } ∧
      h'.get (S.heap.cells.size + (i - (S.heap.arr a).size)) = w ∧
      HStep a S.heap h' (absArr S.heap a ++ List.replicate (i - (S.heap.arr a).size) (.nil none) ++ [w]) := by
  generalize hH : S.heap = H at *
  have hml : m < H.cells.size := Heap.lt_of_get_ne_unknown _ _ (by rw [hm]; intro e; cases e)
  have hct : createTarget H ac (.num x) = (H, .arr a) := createTarget_set hac (by simp) _
  obtain ⟨p1, p2, p3, p4, p5, p6, p7, _⟩ := padHeap_spec H a i (H.get m) hge
  have hk : i + 1 - (H.arr a).size = (i - (H.arr a).size) + 1 := by omega
  have hrc' : @LT.lt Nat _ rc H.cells.size := hrc
  have p4' : ∀ d : Nat, d < H.cells.size → (padHeap H a i (H.get m)).get d = H.get d := p4
  have hcopy : copyVal ((padHeap H a i (H.get m)).get rc) = .ok w := by
    rw [p4' rc hrc']; exact hw
  have hlim' := hlim
  clear hlim
  refine ⟨(padHeap H a i (H.get m)).set (H.cells.size + (i - (H.arr a).size)) w, ?_, ?_, ?_⟩
  · rw [evalAssignment_create pos m rc ac (.num x) S (by rw [hH]; exact hm)
      (by intro sp; rw [hH, hac]; intro e; cases e)]
    simp only [hH, hct, Key.val]
    rw [setMember_arr_fill H a x m i hri hge hlim' hml]
    simp only [hcopy]
  · apply Heap.get_set_same'
    rw [p1]; nomega
  · apply Padded.hstep (N := H.cells.size) _ wf un pl (plain_of_copyVal hw)
    have hne : ∀ d : Nat, d < H.cells.size + (i - (H.arr a).size) →
        ((padHeap H a i (H.get m)).set (H.cells.size + (i - (H.arr a).size)) w).get d
          = (padHeap H a i (H.get m)).get d :=
      fun d hd => Heap.get_set_ne' _ _ _ _ (Nat.ne_of_lt hd)
    exact {
      hN := Nat.le_refl _
      size := by rw [Heap.size_set, p1, hk]
      old := fun d hd => by rw [hne d (by omega), p4' d hd]
      nulls := fun t ht => by rw [hne _ (by omega), p7 t ht]
      last := Heap.get_set_same' _ _ _ (by rw [p1]; nomega)
      arrA := by rw [Heap.arr_set, p6 ha, hk]
      arrB := fun b hb => by rw [Heap.arr_set, p5 b hb]
      arrs := by rw [Heap.arrs_set, p2]
      objs := by rw [Heap.objs_set, p3] }

theorem assign_too_large (pos : Nat) (m rc ac : CellId) (S : St) (a : ArrId) (x : F64) (i : Nat)
    (hm : S.heap.get m = .nil (some ⟨ac, .num x⟩)) (hac : S.heap.get ac = .arr a)
    (hri : resolveIndex (S.heap.arr a).size x.toGoInt = some i) (hge : (S.heap.arr a).size ≤ i)
    (hlim : fillLimit < i) :
    evalAssignment pos m rc S = Jqawk.throwRt pos "index too large to auto-fill array" S := by
  have hnj : ¬ i < (S.heap.arr a).size := Nat.not_lt.mpr hge
  have hct : createTarget S.heap ac (.num x) = (S.heap, .arr a) := createTarget_set hac (by simp) _
  rw [evalAssignment_create pos m rc ac (.num x) S hm (by intro sp; rw [hac]; intro e; cases e)]
  simp only [hct, Key.val, setMember, hri, hnj, ↓reduceIte, hlim]

/-- member step, then the right-hand side, then the assignment: what the evaluator runs for
    `ea[ei] = er` after `ea` and `ei` are evaluated -/
def writeAtVia (pos : Nat) (ac ic : CellId) (rhs : EM CellId) : EM CellId := do
  let m ← memberStep pos ac ic
  let rc ← rhs
  evalAssignment pos m rc

/-- what is assumed about the right-hand side, run in a state `sm`: it yields a cell `rc` holding a
    value whose copy is `w`, and changes the state only by allocating cells -/
def RhsYields (rhs : EM CellId) (w : Val) (sm : St) : Prop :=
  ∃ rc H, rhs sm = .ok rc { sm with heap := H } ∧ Ext sm.heap H ∧ rc < H.cells.size ∧
    copyVal (H.get rc) = .ok w

/-- **the index write with an arbitrary right-hand side that only allocates cells** refines the
    ideal list (the right-hand side is run in the state after the member step — `sm` ranges over
    the at most two states that can be: `s` itself and `s` with one more cell, the stand-in) -/
theorem writeAtVia_refines (pos : Nat) (ac ic : CellId) (rhs : EM CellId) (s : St) (a : ArrId) (x : F64)
    (w : Val) (wf : s.heap.WF) (un : Unshared s.heap) (pl : ElemsPlain s.heap) (ha : a < s.heap.arrs.size)
    (hac : s.heap.get ac = .arr a) (hic : s.heap.get ic = .num x)
    (hr : ∀ m sm, memberStep pos ac ic s = .ok m sm → RhsYields rhs w sm) :
    match setIdx (absArr s.heap a) x.toGoInt w with
    | .ok l' => ∃ c h', writeAtVia pos ac ic rhs s = .ok c { s with heap := h' } ∧ h'.get c = w ∧
        HStep a s.heap h' l'
    | .error m => ∃ h', writeAtVia pos ac ic rhs s = Jqawk.throwRt pos m { s with heap := h' } ∧
        ∀ b, absArr h' b = absArr s.heap b := by
  have hms := memberStep_arr_num pos ac ic s a x hac hic
  have hacl : ac < s.heap.cells.size := Heap.lt_of_get_ne_unknown _ _ (by rw [hac]; intro e; cases e)
  -- the two ways the member step can succeed
  have inside : ∀ j, resolveIndex (s.heap.arr a).size x.toGoInt = some j → j < (s.heap.arr a).size →
      ∃ c h', writeAtVia pos ac ic rhs s = .ok c { s with heap := h' } ∧ h'.get c = w ∧
        HStep a s.heap h' ((absArr s.heap a).set j w) := by
    intro j hri hj
    have hpl := pl a _ (mem_arr_getD s.heap a j hj)
    have hm : memberStep pos ac ic s = .ok ((s.heap.arr a).getD j 0) s := by
      rw [hms, hri]
      simp only [hj, ↓reduceIte]
      cases hv : s.heap.get ((s.heap.arr a).getD j 0) with
      | native f b sp => exact absurd hv (hpl.2 f b sp)
      | _ => rfl
    obtain ⟨rc, H, e1, ext, _, hw⟩ := hr _ _ hm
    have harr : H.arr a = s.heap.arr a := ext.arr a
    obtain ⟨e2, st⟩ := assign_inside pos rc { s with heap := H } a w j (ext.wf wf) (ext.unshared un)
      (ext.plain wf pl) hw (by rw [harr]; exact hj)
    refine ⟨(s.heap.arr a).getD j 0, H.set ((s.heap.arr a).getD j 0) w, ?_, ?_, ?_⟩
    · simp only [writeAtVia, bind, EM.bind, hm, e1]
      dsimp only at e2
      rw [harr] at e2
      exact e2
    · exact Heap.get_set_same' _ _ _ ((ext.wf wf).arrs a _ (by rw [harr]; exact mem_arr_getD s.heap a j hj))
    · have := HStep.ofExt ext wf st
      simpa only [harr, ext.absArr wf a] using this
  have past : ∀ i, resolveIndex (s.heap.arr a).size x.toGoInt = some i → (s.heap.arr a).size ≤ i →
      ∃ rc H, memberStep pos ac ic s = .ok s.heap.cells.size
          { s with heap := (s.heap.alloc (.nil (some ⟨ac, .num x⟩))).2 } ∧
        rhs { s with heap := (s.heap.alloc (.nil (some ⟨ac, .num x⟩))).2 } = .ok rc { s with heap := H } ∧
        Ext s.heap H ∧ H.get s.heap.cells.size = .nil (some ⟨ac, .num x⟩) ∧ rc < H.cells.size ∧
        copyVal (H.get rc) = .ok w := by
    intro i hri hge
    have hnj : ¬ i < (s.heap.arr a).size := Nat.not_lt.mpr hge
    have hm : memberStep pos ac ic s = .ok s.heap.cells.size
        { s with heap := (s.heap.alloc (.nil (some ⟨ac, .num x⟩))).2 } := by
      rw [hms, hri]; simp only [hnj, ↓reduceIte]; rfl
    obtain ⟨rc, H, e1, ext, hrc, hw⟩ := hr _ _ hm
    refine ⟨rc, H, hm, e1, (Ext.alloc s.heap _).trans ext, ?_, hrc, hw⟩
    have : @LT.lt Nat _ s.heap.cells.size (s.heap.alloc (.nil (some ⟨ac, .num x⟩))).2.cells.size := by
      simp [Heap.alloc]
    rw [ext.get _ this]
    exact Heap.get_push_new s.heap _
  unfold setIdx
  rw [absArr_length]
  by_cases h0 : 0 ≤ x.toGoInt
  · have hri : resolveIndex (s.heap.arr a).size x.toGoInt = some x.toGoInt.toNat :=
      resolveIndex_nonneg _ _ h0
    simp only [h0, ↓reduceIte]
    by_cases hj : x.toGoInt.toNat < (s.heap.arr a).size
    · simp only [hj, ↓reduceIte]
      exact inside _ hri hj
    · simp only [hj, ↓reduceIte]
      obtain ⟨rc, H, hm, e1, ext, hHm, hrc, hw⟩ := past _ hri (Nat.le_of_not_lt hj)
      have harr : H.arr a = s.heap.arr a := ext.arr a
      have hHac : H.get ac = .arr a := by rw [ext.get ac hacl]; exact hac
      by_cases hl : fillLimit < x.toGoInt.toNat
      · simp only [hl, ↓reduceIte]
        refine ⟨H, ?_, fun b => ext.absArr wf b⟩
        simp only [writeAtVia, bind, EM.bind, hm, e1]
        exact assign_too_large pos _ rc ac { s with heap := H } a x _ hHm hHac
          (by rw [harr]; exact hri) (by rw [harr]; exact Nat.le_of_not_lt hj) hl
      · simp only [hl, ↓reduceIte]
        obtain ⟨h', e2, g, st⟩ := assign_pad pos s.heap.cells.size rc ac { s with heap := H } a x w _
          (ext.wf wf) (ext.unshared un) (ext.plain wf pl) (by rw [ext.arrs]; exact ha) hHm hHac hrc hw
          (by rw [harr]; exact hri) (by rw [harr]; exact Nat.le_of_not_lt hj) (Nat.le_of_not_lt hl)
        refine ⟨_, h', ?_, g, ?_⟩
        · simp only [writeAtVia, bind, EM.bind, hm, e1]
          exact e2
        · have := HStep.ofExt ext wf st
          simpa only [harr, ext.absArr wf a] using this
  · simp only [h0, ↓reduceIte]
    have hri := resolveIndex_neg (s.heap.arr a).size x.toGoInt (by omega)
    by_cases hk : (-x.toGoInt).toNat ≤ (s.heap.arr a).size
    · rw [if_pos hk] at hri
      have hj : (s.heap.arr a).size - (-x.toGoInt).toNat < (s.heap.arr a).size := by omega
      simp only [hk, ↓reduceIte]
      exact inside _ hri hj
    · rw [if_neg hk] at hri
      simp only [hk, ↓reduceIte]
      refine ⟨s.heap, ?_, fun _ => rfl⟩
      simp only [writeAtVia, bind, EM.bind, hms, hri]
      rfl

theorem evalExpr_index_assign_any (prog : Program) (n : Nat) (ea ei er : Expr) (lsq eq : Token)
    (s s1 s2 : St) (ac ic : CellId)
    (hl : lsq.tag = .lsquare) (he : eq.tag = .equal)
    (h1 : evalExpr prog n ea s = .ok ac s1) (h2 : evalExpr prog n ei s1 = .ok ic s2) :
    evalExpr prog (n + 4) (.binary (.binary ea ei lsq) er eq) s
      = writeAtVia ea.token.pos ac ic (evalExpr prog (n + 2) er) s2 := by
  have inner : evalExpr prog (n + 2) (.binary ea ei lsq) s = memberStep ea.token.pos ac ic s2 := by
    unfold evalExpr
    dsimp only
    unfold evalBinary
    simp only [bind, EM.bind, h1, hl, h2]
  have outer : ∀ rhs, evalExpr prog (n + 2) er = rhs →
      evalExpr prog (n + 4) (.binary (.binary ea ei lsq) er eq) s = writeAtVia ea.token.pos ac ic rhs s2 := by
    intro rhs hrhs
    unfold evalExpr
    dsimp only
    unfold evalBinary
    simp only [bind, EM.bind, inner, he, writeAtVia, Expr.token, hrhs]
  exact outer _ rfl

theorem evalExpr_index_assign (prog : Program) (n : Nat) (ea ei : Expr) (lsq eq tv : Token)
    (s s1 s2 : St) (ac ic rc : CellId)
    (hl : lsq.tag = .lsquare) (he : eq.tag = .equal)
    (h1 : evalExpr prog n ea s = .ok ac s1) (h2 : evalExpr prog n ei s1 = .ok ic s2)
    (h3 : ∀ h', getIdentifier prog tv { s2 with heap := h' } = .ok rc { s2 with heap := h' }) :
    evalExpr prog (n + 4) (.binary (.binary ea ei lsq) (.ident tv) eq) s
      = writeAt ea.token.pos ac ic rc s2 := by
  rw [evalExpr_index_assign_any prog n ea ei (.ident tv) lsq eq s s1 s2 ac ic hl he h1 h2]
  simp only [writeAtVia, writeAt, bind, EM.bind]
  cases hm : memberStep ea.token.pos ac ic s2 with
  | oof => rfl
  | err e s' => rfl
  | ok m sm =>
    have : evalExpr prog (n + 2) (.ident tv) sm = .ok rc sm := by
      unfold evalExpr
      dsimp only
      rw [(memberStep_ext _ _ _ _ _ _ hm).1]
      exact h3 _
    simp only [this]

/-- **the index write refines the ideal list** (`memberStep` + `evalAssignment` on the cells of the
    array, of the index and of the value): when the ideal `setIdx` yields a list, the write succeeds,
    returns a cell holding the copy `w`, array `a` denotes that list and no other array changes;
    when the ideal operation is an error, the write is the runtime error with the same message and
    no array changes (the heap may have gained an unused cell) -/
theorem writeAt_refines (pos : Nat) (ac ic rc : CellId) (s : St) (a : ArrId) (x : F64) (w : Val)
    (wf : s.heap.WF) (un : Unshared s.heap) (pl : ElemsPlain s.heap) (ha : a < s.heap.arrs.size)
    (hac : s.heap.get ac = .arr a) (hic : s.heap.get ic = .num x) (hrc : rc < s.heap.cells.size)
    (hw : copyVal (s.heap.get rc) = .ok w) :
    match setIdx (absArr s.heap a) x.toGoInt w with
    | .ok l' => ∃ c h', writeAt pos ac ic rc s = .ok c { s with heap := h' } ∧ h'.get c = w ∧
        HStep a s.heap h' l'
    | .error m => ∃ h', writeAt pos ac ic rc s = Jqawk.throwRt pos m { s with heap := h' } ∧
        ∀ b, absArr h' b = absArr s.heap b := by
  have e : writeAt pos ac ic rc s = writeAtVia pos ac ic (pure rc) s := by
    simp only [writeAt, writeAtVia, bind, EM.bind]
    cases memberStep pos ac ic s <;> rfl
  rw [e]
  refine writeAtVia_refines pos ac ic (pure rc) s a x w wf un pl ha hac hic (fun m sm hm => ?_)
  have ext := (memberStep_ext _ _ _ _ _ _ hm).2
  exact ⟨rc, sm.heap, rfl, Ext.refl _, Nat.lt_of_lt_of_le hrc ext.cells, by rw [ext.get rc hrc]; exact hw⟩

end Jqawk.IndexWrite
