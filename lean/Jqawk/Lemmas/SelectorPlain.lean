/-
  `-r E` versus `BEGINFILE { $ = E }` (C14): selectors that create containers and call methods.

  Class `selX ok`: `$` (and the names `ok` allows), literals, array / object literals, member /
  index steps, unary and binary operators other than assignment and `++`/`--`, calls, `match`
  whose case bodies are expressions of the same kind.

  For the nested evaluator of a selector (no program functions) evaluating such an expression:
  no cell that exists ever changes its value (`CK`), no signal is raised, and every array or
  object of the evaluator's region — those of the converted document and those the expression
  creates — holds member cells other than the `$` cell whose values mention no cell (`MPH`).
  The second fact is what lets the main evaluator take over the selected value: nothing that
  stays reachable refers to the cell `$` was bound to.

  The region invariant of Lemmas/NoPanic*.lean (`InvK`) is carried along: `pluck` copies the
  raw values of the members of its receiver, which are known to be plain only because the
  receiver is an object of the region.
-/
import Jqawk.Lemmas.SelectorEval
import Jqawk.Lemmas.SelectorPath
import Jqawk.Lemmas.NoPanicAll


namespace Jqawk
namespace Sel

mutual
def selX (ok : Bytes → Bool) : Expr → Bool
  | .lit _ => true
  | .ident t => t.tag == .dollar || ok t.text
  | .arr _ items => selXs ok items
  | .obj _ items => selXKVs ok items
  | .unary e op _ => !(op.tag == .plusPlus) && !(op.tag == .minusMinus) && selX ok e
  | .binary l r op => !(op.tag == .equal) && selX ok l && (op.tag == .is || selX ok r)
  | .call f args => selX ok f && selXs ok args
  | .match_ _ v cases => selX ok v && selXCases ok cases
def selXs (ok : Bytes → Bool) : List Expr → Bool
  | [] => true
  | e :: es => selX ok e && selXs ok es
def selXKVs (ok : Bytes → Bool) : List (Bytes × Expr) → Bool
  | [] => true
  | (_, e) :: es => selX ok e && selXKVs ok es
def selXCases (ok : Bytes → Bool) : List MatchCase → Bool
  | [] => true
  | (.mk _ body) :: cs => selXBody ok body && selXCases ok cs
def selXBody (ok : Bytes → Bool) : Stmt → Bool
  | .expr be => selX ok be
  | _ => false
end

mutual
theorem selX_ids (ok : Bytes → Bool) : ∀ e : Expr, selX ok e = true → idsE true ok e = true
  | .lit _, _ => rfl
  | .ident t, h => by
    simp only [selX, Bool.or_eq_true] at h
    simp only [idsE]
    split
    · rfl
    · rename_i hd
      rcases h with h | h
      · exact absurd h hd
      · exact h
  | .arr _ items, h => by simp only [selX] at h; rw [idsE]; exact selXs_ids ok items h
  | .obj _ items, h => by simp only [selX] at h; rw [idsE]; exact selXKVs_ids ok items h
  | .unary e op p, h => by
    simp only [selX, Bool.and_eq_true] at h
    rw [idsE]; exact selX_ids ok e h.2
  | .binary l r op, h => by
    simp only [selX, Bool.and_eq_true, Bool.or_eq_true] at h
    rw [idsE, selX_ids ok l h.1.2]
    rcases h.2 with h2 | h2
    · simp [h2]
    · simp [selX_ids ok r h2]
  | .call f args, h => by
    simp only [selX, Bool.and_eq_true] at h
    rw [idsE, selX_ids ok f h.1, selXs_ids ok args h.2]; rfl
  | .match_ t v cases, h => by
    simp only [selX, Bool.and_eq_true] at h
    rw [idsE, selX_ids ok v h.1, selXCases_ids ok cases h.2]; rfl
theorem selXs_ids (ok : Bytes → Bool) : ∀ es : List Expr, selXs ok es = true → idsEs true ok es = true
  | [], _ => rfl
  | e :: es, h => by
    simp only [selXs, Bool.and_eq_true] at h
    rw [idsEs, selX_ids ok e h.1, selXs_ids ok es h.2]; rfl
theorem selXKVs_ids (ok : Bytes → Bool) : ∀ es : List (Bytes × Expr), selXKVs ok es = true →
    idsKVs true ok es = true
  | [], _ => rfl
  | (_, e) :: es, h => by
    simp only [selXKVs, Bool.and_eq_true] at h
    rw [idsKVs, selX_ids ok e h.1, selXKVs_ids ok es h.2]; rfl
theorem selXCases_ids (ok : Bytes → Bool) : ∀ cs : List MatchCase, selXCases ok cs = true →
    idsCases true ok cs = true
  | [], _ => rfl
  | (.mk pats body) :: cs, h => by
    simp only [selXCases, Bool.and_eq_true] at h
    rw [idsCases, selXCases_ids ok cs h.2]
    cases body with
    | expr be =>
      simp only [selXBody] at h
      rw [idsS, selX_ids ok be h.1]; rfl
    | _ => simp [selXBody] at h
end

mutual
theorem selE_selX (ok : Bytes → Bool) : ∀ e : Expr, selE e = true → selX ok e = true
  | .lit _, _ => rfl
  | .ident t, h => by simp only [selE] at h; simp [selX, h]
  | .unary e op p, h => by
    simp only [selE, Bool.and_eq_true] at h
    rw [selX, selE_selX ok e h.2, h.1.1, h.1.2]; rfl
  | .binary l r op, h => by
    simp only [selE, Bool.and_eq_true, Bool.or_eq_true] at h
    rw [selX, selE_selX ok l h.1.2, h.1.1]
    rcases h.2 with h2 | h2
    · simp [h2]
    · simp [selE_selX ok r h2]
  | .match_ t v cases, h => by
    simp only [selE, Bool.and_eq_true] at h
    rw [selX, selE_selX ok v h.1, selCases_selX ok cases h.2]; rfl
  | .arr _ _, h => by simp [selE] at h
  | .obj _ _, h => by simp [selE] at h
  | .call _ _, h => by simp [selE] at h
theorem selCases_selX (ok : Bytes → Bool) : ∀ cs : List MatchCase, selCases cs = true → selXCases ok cs = true
  | [], _ => rfl
  | (.mk pats body) :: cs, h => by
    simp only [selCases, Bool.and_eq_true] at h
    rw [selXCases, selCases_selX ok cs h.2]
    cases body with
    | expr be =>
      simp only [Sel.selBody] at h
      rw [selXBody, selE_selX ok be h.1]; rfl
    | _ => simp [Sel.selBody] at h
end

theorem selE_ids : ∀ e : Expr, selE e = true → idsE true (fun _ => false) e = true :=
  fun e h => selX_ids _ e (selE_selX _ e h)

theorem selCases_ids : ∀ cs : List MatchCase, selCases cs = true → idsCases true (fun _ => false) cs = true :=
  fun cs h => selXCases_ids _ cs (selCases_selX _ cs h)

/-! ### cells keep their values; members of region containers are plain -/

def CK (h h' : Heap) : Prop := h.cells.size ≤ h'.cells.size ∧ ∀ i, i < h.cells.size → h'.get i = h.get i

theorem CK.refl (h : Heap) : CK h h := ⟨Nat.le_refl _, fun _ _ => rfl⟩
theorem CK.trans {a b c : Heap} (h1 : CK a b) (h2 : CK b c) : CK a c :=
  ⟨Nat.le_trans h1.1 h2.1, fun i hi => by rw [h2.2 i (Nat.lt_of_lt_of_le hi h1.1), h1.2 i hi]⟩

theorem CK.alloc (h : Heap) (v : Val) : CK h (h.alloc v).2 := by
  refine ⟨by rw [Heap.size_alloc]; exact Nat.le_succ _, fun i hi => ?_⟩
  rw [Heap.get_alloc]; simp only [Nat.ne_of_lt hi, ↓reduceIte]

/-- a cell fit to be a member of a region container; `rc` is the `$` cell -/
def PC (rc : CellId) (h : Heap) (x : CellId) : Prop := x ≠ rc ∧ x < h.cells.size ∧ Val.plain (h.get x)

theorem PC.mono {rc : CellId} {h h' : Heap} {x : CellId} (p : PC rc h x) (ck : CK h h') : PC rc h' x :=
  ⟨p.1, Nat.lt_of_lt_of_le p.2.1 ck.1, by rw [ck.2 x p.2.1]; exact p.2.2⟩

structure MPH (P : Region) (rc : CellId) (h : Heap) : Prop where
  rcLt : rc < h.cells.size
  arrs : ∀ k, P.A ≤ k → ∀ x ∈ (h.arr k).toList, PC rc h x
  objs : ∀ k, P.O ≤ k → ∀ kc ∈ h.obj k, PC rc h kc.2

variable {P : Region} {rc : CellId}

theorem MPH.cells {h h' : Heap} (m : MPH P rc h) (ck : CK h h') (ha : h'.arrs = h.arrs) (ho : h'.objs = h.objs) :
    MPH P rc h' := by
  refine ⟨Nat.lt_of_lt_of_le m.rcLt ck.1, ?_, ?_⟩
  · intro k hk x hx
    have : h'.arr k = h.arr k := by simp only [Heap.arr, ha]
    rw [this] at hx
    exact (m.arrs k hk x hx).mono ck
  · intro k hk kc hkc
    have : h'.obj k = h.obj k := by simp only [Heap.obj, ho]
    rw [this] at hkc
    exact (m.objs k hk kc hkc).mono ck

theorem MPH.alloc {h : Heap} (m : MPH P rc h) (v : Val) : MPH P rc (h.alloc v).2 :=
  m.cells (CK.alloc h v) rfl rfl

theorem PC.new {h : Heap} (m : MPH P rc h) {v : Val} (hv : Val.plain v) : PC rc (h.alloc v).2 h.cells.size := by
  refine ⟨Nat.ne_of_gt m.rcLt, by rw [Heap.size_alloc]; exact Nat.lt_succ_self _, ?_⟩
  rw [Heap.get_alloc]; simp only [↓reduceIte]; exact hv

theorem MPH.allocArr {h : Heap} (m : MPH P rc h) {items : Array CellId} (hi : ∀ x ∈ items.toList, PC rc h x) :
    MPH P rc (h.allocArr items).2 := by
  refine ⟨m.rcLt, ?_, m.objs⟩
  intro k hk x hx
  rw [Heap.arr_allocArr] at hx
  split at hx
  · exact hi x hx
  · exact m.arrs k hk x hx

theorem MPH.allocObj {h : Heap} (m : MPH P rc h) {items : List (Bytes × CellId)}
    (hi : ∀ kc ∈ items, PC rc h kc.2) : MPH P rc (h.allocObj items).2 := by
  refine ⟨m.rcLt, m.arrs, ?_⟩
  intro k hk kc hkc
  rw [Heap.obj_allocObj] at hkc
  split at hkc
  · exact hi kc hkc
  · exact m.objs k hk kc hkc

theorem MPH.setArr {h : Heap} (m : MPH P rc h) (a : ArrId) {items : Array CellId}
    (hi : P.A ≤ a → ∀ x ∈ items.toList, PC rc h x) : MPH P rc (h.setArr a items) := by
  refine ⟨m.rcLt, ?_, m.objs⟩
  intro k hk x hx
  rw [Heap.arr_setArr] at hx
  split at hx
  · rename_i e; exact hi (e.1 ▸ hk) x hx
  · exact m.arrs k hk x hx


/-! ### the logic: a result together with the region fact about the same computation -/

variable (P rc)

def Qp {α : Type} (s : St) (R : α → St → Prop) : Res α → Prop
  | .ok a s' => CK s.heap s'.heap ∧ MPH P rc s'.heap ∧ R a s'
  | .err e _ => ∀ g, e ≠ .sig g
  | .oof => True

variable {P rc}

@[elab_as_elim]
theorem Qp.byCases {α : Type} {s : St} {R : α → St → Prop} {M : Res α → Prop} {r : Res α} (h : Qp P rc s R r)
    (oof : M .oof) (ok : ∀ a s', CK s.heap s'.heap → MPH P rc s'.heap → R a s' → M (.ok a s'))
    (err : ∀ e s', (∀ g, e ≠ .sig g) → M (.err e s')) : M r := by
  cases r with
  | oof => exact oof
  | ok a s' => exact ok a s' h.1 h.2.1 h.2.2
  | err e s' => exact err e s' h

theorem Qp.conseq {α : Type} {s : St} {R R' : α → St → Prop} {r : Res α} (h : Qp P rc s R r)
    (hr : ∀ a s', R a s' → R' a s') : Qp P rc s R' r :=
  h.byCases trivial (fun a s' ck m r1 => ⟨ck, m, hr a s' r1⟩) (fun _ _ h => h)

theorem Qp.bind' {α β : Type} {m : EM α} {f : α → EM β} {s : St} {R1 : α → St → Prop}
    {R2 : β → St → Prop} (q : Qp P rc s R1 (m s))
    (hf : ∀ a s1, CK s.heap s1.heap → MPH P rc s1.heap → R1 a s1 → Qp P rc s1 R2 (f a s1)) :
    Qp P rc s R2 ((m >>= f) s) := by
  show Qp P rc s R2 (EM.bind m f s)
  unfold EM.bind
  refine q.byCases trivial (fun a s1 ck m1 r1 => ?_) (fun _ _ h => h)
  show Qp P rc s R2 (f a s1)
  exact (hf a s1 ck m1 r1).byCases trivial (fun b s2 ck2 m2 r2 => ⟨ck.trans ck2, m2, r2⟩) (fun _ _ h => h)

/-- `np`: the region fact about `m`, from Lemmas/NoPanic*.lean -/
theorem Qp.bind {α β : Type} {m : EM α} {f : α → EM β} {s : St} {Rg : α → Prop} {R1 : α → St → Prop}
    {R2 : β → St → Prop} (np : NPres P (KSet P) Rg (m s)) (q : Qp P rc s R1 (m s))
    (hf : ∀ a s1, InvK P (KSet P) s1 → Rg a → CK s.heap s1.heap → MPH P rc s1.heap →
      R1 a s1 → Qp P rc s1 R2 (f a s1)) :
    Qp P rc s R2 ((m >>= f) s) := by
  show Qp P rc s R2 (EM.bind m f s)
  unfold EM.bind
  revert np
  refine q.byCases (fun _ => trivial) (fun a s1 ck m1 r1 np => ?_) (fun _ _ h _ => h)
  show Qp P rc s R2 (f a s1)
  exact (hf a s1 np.1 np.2 ck m1 r1).byCases trivial (fun b s2 ck2 m2 r2 => ⟨ck.trans ck2, m2, r2⟩)
    (fun _ _ h => h)

theorem Qp.of_NA {α : Type} {s : St} {r : Res α} (h : NAres s r) (m : MPH P rc s.heap) :
    Qp P rc s (fun _ _ => True) r := by
  cases r with
  | ok a s' =>
    have ck : CK s.heap s'.heap := ⟨h.heap.cells, fun i hi => h.heap.get i hi⟩
    exact ⟨ck, m.cells ck h.arrs h.objs, trivial⟩
  | err e s' => exact h.2
  | oof => trivial

theorem qp_pure {α : Type} {s : St} {R : α → St → Prop} (m : MPH P rc s.heap) {a : α} (hr : R a s) :
    Qp P rc s R ((pure a : EM α) s) := ⟨CK.refl _, m, hr⟩

theorem qp_throwRt {α : Type} {s s' : St} {R : α → St → Prop} (p : Nat) (msg : String) :
    Qp P rc s R ((throwRt p msg : EM α) s') := fun g h => by cases h

theorem qp_newCell {s : St} (m : MPH P rc s.heap) (v : Val) :
    Qp P rc s (fun c s' => Val.plain v → PC rc s'.heap c) (newCell v s) :=
  ⟨CK.alloc _ _, m.alloc v, fun hv => PC.new m hv⟩

theorem qp_newCopy {s : St} (m : MPH P rc s.heap) (x : Val) (v : CellId) :
    Qp P rc s (fun r s' => ∀ c, r = .ok c → PC rc s'.heap c)
      ((newCell x >>= fun c => copyValue v c) s) := by
  rw [newCopy_eq]
  cases hcv : copyVal ((s.heap.alloc x).2.get v) with
  | error msg =>
    exact ⟨CK.alloc _ _, m.alloc x, fun c h => by cases h⟩
  | ok w =>
    have ck : CK s.heap ((s.heap.alloc x).2.set s.heap.cells.size w) := by
      refine ⟨by rw [Heap.size_set, Heap.size_alloc]; exact Nat.le_succ _, fun i hi => ?_⟩
      rw [Heap.get_set, Heap.get_alloc]
      simp only [Nat.ne_of_lt hi, false_and, ↓reduceIte]
    refine ⟨ck, m.cells ck rfl rfl, ?_⟩
    intro c h
    cases h
    refine ⟨Nat.ne_of_gt m.rcLt, by rw [Heap.size_set, Heap.size_alloc]; exact Nat.lt_succ_self _, ?_⟩
    rw [Heap.get_set, Heap.size_alloc]
    simp only [Nat.lt_succ_self, and_self, ↓reduceIte]
    exact copyVal_plain hcv

theorem qp_allocArrM {s : St} (m : MPH P rc s.heap) {items : Array CellId}
    (hi : ∀ x ∈ items.toList, PC rc s.heap x) : Qp P rc s (fun _ _ => True) (allocArrM items s) :=
  ⟨CK.refl _, m.allocArr hi, trivial⟩

theorem qp_allocObjM {s : St} (m : MPH P rc s.heap) {items : List (Bytes × CellId)}
    (hi : ∀ kc ∈ items, PC rc s.heap kc.2) : Qp P rc s (fun _ _ => True) (allocObjM items s) :=
  ⟨CK.refl _, m.allocObj hi, trivial⟩

theorem qp_framed {α : Type} {s : St} {R : α → St → Prop} (hR : ∀ a s1 fr, R a s1 → R a { s1 with frames := fr })
    (name : Bytes) (pos : Nat) (body : EM α)
    (hb : Qp P rc { s with frames := ⟨name, []⟩ :: s.frames, maxDepth := max s.maxDepth (s.frames.length + 1) } R
      (body { s with frames := ⟨name, []⟩ :: s.frames, maxDepth := max s.maxDepth (s.frames.length + 1) })) :
    Qp P rc s R (framed name pos body s) := by
  rw [framed_eq]
  split
  · exact qp_throwRt pos _
  · unfold withFrames
    exact hb.byCases trivial (fun a s1 ck m1 r1 => ⟨ck, m1, hR a s1 _ r1⟩) (fun _ _ h => h)

theorem invK_push {K : Option CellId → Prop} {s : St} (h : InvK P K s) (name : Bytes) (d : Nat) :
    InvK P K { s with frames := ⟨name, []⟩ :: s.frames, maxDepth := d } := by
  refine ⟨⟨h.heap, ⟨by simp, ?_⟩, h.ret⟩, h.rr⟩
  intro f hf
  rcases List.mem_cons.mp hf with e | e
  · subst e; exact RegM.nil
  · exact h.frames.2 f e

theorem qp_heapSame {α : Type} {s s' : St} (m : MPH P rc s.heap) (a : α) (h : s'.heap = s.heap) :
    Qp P rc s (fun _ _ => True) (.ok a s') := by
  refine ⟨?_, ?_, trivial⟩
  · rw [h]; exact CK.refl _
  · rw [h]; exact m

theorem qp_allocCells {s : St} (m : MPH P rc s.heap) : ∀ (vs : List Val), (∀ v ∈ vs, Val.plain v) →
    Qp P rc s (fun cs s' => s'.heap.arrs = s.heap.arrs ∧ s'.heap.objs = s.heap.objs ∧ ∀ c ∈ cs, PC rc s'.heap c)
      (allocCells vs s) := by
  intro vs
  induction vs generalizing s with
  | nil => intro _; exact ⟨CK.refl _, m, rfl, rfl, fun c h => by cases h⟩
  | cons v vs ih =>
    intro hv
    simp only [allocCells, bind, EM.bind, Jqawk.newCell, pure, EM.pure]
    have m1 := m.alloc v (P := P) (rc := rc)
    refine (ih (s := { s with heap := (s.heap.alloc v).2 }) m1
      (fun x hx => hv x (List.mem_cons_of_mem _ hx))).byCases trivial (fun cs s2 ck m2 h2 => ?_) (fun _ _ h => h)
    obtain ⟨ha, ho, hc⟩ := h2
    refine ⟨(CK.alloc _ v).trans ck, m2, ha, ho, ?_⟩
    intro c hcm
    rcases List.mem_cons.mp hcm with e | e
    · subst e
      exact (PC.new m (hv v (List.mem_cons_self ..))).mono ck
    · exact hc c e

theorem qp_newArrayOf {s : St} (m : MPH P rc s.heap) (vs : List Val) (hv : ∀ v ∈ vs, Val.plain v) :
    Qp P rc s (fun _ _ => True) (newArrayOf vs s) := by
  rw [newArrayOf_eq2]
  simp only [bind, EM.bind]
  exact (qp_allocCells m vs hv).byCases trivial
    (fun cs s1 ck m1 h1 => ⟨ck, m1.allocArr (by simpa using h1.2.2), trivial⟩) (fun _ _ h => h)

theorem plain_pluckVal {h : Heap} (m : MPH P rc h) {o : ObjId} (ho : P.O ≤ o) (key : Bytes) :
    Val.plain (pluckVal h (h.obj o) key) := by
  unfold pluckVal
  cases hl : objLookup (h.obj o) key with
  | none => rfl
  | some c => exact (m.objs o ho _ (objLookup_mem hl)).2.2

theorem qp_map {α β : Type} {s : St} {m : EM α} (g : α → β) (h : Qp P rc s (fun _ _ => True) (m s)) :
    Qp P rc s (fun _ _ => True) ((m >>= fun r => (pure (g r) : EM β)) s) :=
  Qp.bind' h (fun _ _ _ m1 _ => ⟨CK.refl _, m1, trivial⟩)

theorem qp_setArrM {s : St} (m : MPH P rc s.heap) (a : ArrId) (f : Array CellId → Array CellId)
    (hf : P.A ≤ a → ∀ x ∈ (f (s.heap.arr a)).toList, PC rc s.heap x) :
    Qp P rc s (fun _ _ => True) (Sel.setArrM a f s) :=
  ⟨CK.refl _, m.setArr a hf, trivial⟩

theorem qp_offKind (f : Native) {s : St} (m : MPH P rc s.heap) :
    Qp P rc s (fun _ _ => True) (offKind f s) := by
  cases f with
  | strSplit => exact qp_map _ (qp_newArrayOf m [] (fun _ h => nomatch h))
  | _ => exact qp_heapSame m _ rfl

theorem qp_callNative (f : Native) {s : St} (m : MPH P rc s.heap) {args : List Val}
    (hargs : ∀ v ∈ args, Val.plain v) {this : Option Val} (hthis : ∀ v, this = some v → GoodV P v) :
    Qp P rc s (fun _ _ => True) (callNative f args this s) := by
  have harg0 : Val.plain (args.getD 0 .unknown) := by
    rw [List.getD_eq_getElem?_getD]
    cases h : args[0]? with
    | none => trivial
    | some v => exact hargs v (List.mem_of_getElem? h)
  induction f, this using native_cases with
  | printf =>
    simp only [callNative, bind, EM.bind, getHeap]
    cases printfFormat (prettyTop s.heap) args with
    | none => exact trivial
    | some r => cases r <;> exact qp_heapSame m _ rfl
  | json =>
    simp only [callNative, bind, EM.bind, getHeap]
    cases checkArgCount args 1 with
    | error msg => exact qp_heapSame m _ rfl
    | ok u =>
      dsimp only
      cases toJValTop s.heap (args.getD 0 .unknown) with
      | oof => exact trivial
      | error msg => exact qp_heapSame m _ rfl
      | ok j => exact qp_heapSame m _ rfl
  | num =>
    simp only [callNative, bind, EM.bind, getHeap]
    cases checkArgCount args 1 with
    | error msg => exact qp_heapSame m _ rfl
    | ok u =>
      dsimp only
      cases args.getD 0 .unknown with
      | str x sp => dsimp only; cases F64.parse x <;> exact qp_heapSame m _ rfl
      | _ => exact qp_heapSame m _ rfl
  | arrPush a =>
    rw [callNative_push_eq]
    cases checkArgCount args 1 with
    | error msg => exact qp_heapSame m _ rfl
    | ok u =>
      simp only [bind, EM.bind, Jqawk.newCell, pure, EM.pure, Sel.setArrM]
      have m1 := m.alloc (args.getD 0 .unknown) (P := P) (rc := rc)
      have hnew := PC.new m harg0 (P := P) (rc := rc)
      refine ⟨CK.alloc _ _, m1.setArr a (fun ha x hx => ?_), trivial⟩
      simp only [Array.toList_push, List.mem_append, List.mem_singleton] at hx
      rcases hx with hx | hx
      · exact m1.arrs a ha x hx
      · rw [hx]; exact hnew
  | arrPop a =>
    rw [callNative_pop_eq]
    cases checkArgCount args 0 with
    | error msg => exact qp_heapSame m _ rfl
    | ok u =>
      simp only [bind, EM.bind, getHeap, pure]
      split
      · exact qp_heapSame m _ rfl
      · refine ⟨CK.refl _, m.setArr a (fun ha x hx => ?_), trivial⟩
        simp only [Array.toList_pop] at hx
        exact m.arrs a ha x (List.dropLast_subset _ hx)
  | arrPopfirst a =>
    rw [callNative_popfirst_eq]
    cases checkArgCount args 0 with
    | error msg => exact qp_heapSame m _ rfl
    | ok u =>
      simp only [bind, EM.bind, getHeap, pure]
      split
      · exact qp_heapSame m _ rfl
      · refine ⟨CK.refl _, m.setArr a (fun ha x hx => ?_), trivial⟩
        simp only [Array.toList_extract, List.extract_eq_take_drop] at hx
        exact m.arrs a ha x (List.mem_of_mem_drop (List.mem_of_mem_take hx))
  | arrContains a =>
    simp only [callNative, bind, EM.bind, getHeap]
    cases checkArgCount args 1 <;> exact qp_heapSame m _ rfl
  | arrSort a =>
    rw [callNative_sort_eq]
    simp only [bind, EM.bind, getHeap]
    refine qp_map _ (qp_newArrayOf m _ ?_)
    intro x hx
    have hok : ∀ y ∈ sortCopies ((s.heap.arr a).toList.map s.heap.get), Val.plain y := by
      intro y hy
      simp only [sortCopies, List.mem_map] at hy
      obtain ⟨v, _, rfl⟩ := hy
      cases hc : copyVal v with
      | ok z => exact copyVal_plain hc
      | error _ => rfl
    split at hx
    · exact hok x ((List.mergeSort_perm _ _).mem_iff.mp hx)
    · exact hok x ((List.mergeSort_perm _ _).mem_iff.mp hx)
  | objPluck o =>
    have ho : P.O ≤ o := hthis _ rfl
    rw [callNative_pluck_eq]
    simp only [bind, EM.bind, getHeap]
    rw [pluckCollect_eq]
    by_cases hk : args.all isKeyVal = true
    · simp only [hk, ↓reduceIte, List.reverse_nil, List.nil_append]
      have hvals : ∀ v ∈ (args.map fun k => (k.str!, pluckVal s.heap (s.heap.obj o) k.str!)).map (·.2),
          Val.plain v := by
        intro v hv
        simp only [List.map_map, List.mem_map, Function.comp] at hv
        obtain ⟨k, _, rfl⟩ := hv
        exact plain_pluckVal m ho _
      have h1 := qp_allocCells m _ hvals
      simp only [EM.bind]
      revert h1
      generalize allocCells _ s = r
      intro h1
      cases r with
      | oof => exact trivial
      | err e s1 => exact h1
      | ok cs s1 =>
        obtain ⟨ck, m1, _, _, hc⟩ := h1
        simp only [allocObjM, pure, EM.pure]
        refine ⟨ck, m1.allocObj ?_, trivial⟩
        intro kc hkc
        rcases mem_pluckMembers hkc with h0 | ⟨x, hx, e⟩
        · cases h0
        · rw [e]; exact hc _ (List.of_mem_zip hx).2
    · simp only [hk, Bool.false_eq_true, ↓reduceIte]
      exact qp_heapSame m _ rfl
  | strSplit str sp =>
    simp only [callNative, bind, EM.bind, getHeap]
    cases checkArg args 0 Kind.str with
    | error msg => exact qp_heapSame m _ rfl
    | ok sep =>
      refine qp_map _ (qp_newArrayOf m _ ?_)
      intro x hx
      obtain ⟨b, _, rfl⟩ := List.mem_map.mp hx
      rfl
  | strLower str sp | strUpper str sp =>
    simp only [callNative, bind, EM.bind, getHeap]
    split
    · exact qp_heapSame m _ rfl
    · exact fun g h => nomatch h
  | arrLength a | objLength o | strLength str sp | numFloor x | numCeil x | numRound x =>
    exact qp_heapSame m _ rfl
  | off k hk hoff =>
    rw [callNative_offKind hk _ hoff]
    exact qp_offKind f m


/-! ### the induction over the nested evaluator (`Program.empty`) -/

abbrev pe : Program := Program.empty

structure AllPl (P : Region) (rc : CellId) (ok : Bytes → Bool) (n : Nat) : Prop where
  expr : ∀ (e : Expr) (s : St), selX ok e = true → e.wfB = true → InvK P (KSet P) s → MPH P rc s.heap →
    Qp P rc s (fun _ _ => True) (evalExpr pe n e s)
  objItems : ∀ (pos : Nat) (items : List (Bytes × Expr)) (acc : List (Bytes × CellId)) (s : St),
    selXKVs ok items = true → wfKVs items = true → RegM P acc → (∀ kc ∈ acc, PC rc s.heap kc.2) →
    InvK P (KSet P) s → MPH P rc s.heap →
    Qp P rc s (fun m s' => ∀ kc ∈ m, PC rc s'.heap kc.2) (evalObjItems pe n pos items acc s)
  exprList : ∀ (es : List Expr) (copy : Bool) (s : St), selXs ok es = true → wfEs es = true →
    InvK P (KSet P) s → MPH P rc s.heap →
    Qp P rc s (fun cs s' => copy = true → ∀ c ∈ cs, PC rc s'.heap c) (evalExprList pe n es copy s)
  matchCases : ∀ (pos : Nat) (v : CellId) (cs : List MatchCase) (s : St), selXCases ok cs = true →
    wfCases cs = true → P.N ≤ v → InvK P (KSet P) s → MPH P rc s.heap →
    Qp P rc s (fun _ _ => True) (evalMatchCases pe n pos v cs s)
  caseMatch : ∀ (v : CellId) (ps : List Expr) (s : St), wfEs ps = true → P.N ≤ v →
    InvK P (KSet P) s → MPH P rc s.heap → Qp P rc s (fun _ _ => True) (evalCaseMatch pe n v ps s)
  arrayCaseMatch : ∀ (v : CellId) (ps : List Expr) (s : St), wfEs ps = true → P.N ≤ v →
    InvK P (KSet P) s → MPH P rc s.heap → Qp P rc s (fun _ _ => True) (evalArrayCaseMatch pe n v ps s)
  matchElems : ∀ (cs : List CellId) (ps : List Expr) (acc : List (Bytes × CellId)) (s : St), wfEs ps = true →
    RegL P cs → RegM P acc → InvK P (KSet P) s → MPH P rc s.heap →
    Qp P rc s (fun _ _ => True) (Jqawk.matchElems pe n cs ps acc s)
  call : ∀ (pos : Nat) (f : CellId) (args : List CellId) (s : St), P.N ≤ f → RegL P args →
    (∀ c ∈ args, Val.plain (s.heap.get c)) → InvK P (KSet P) s → MPH P rc s.heap →
    Qp P rc s (fun _ _ => True) (callFunction pe n pos f args s)
  unary : ∀ (e : Expr) (op : Token) (p : Bool) (s : St), (op.tag == Tag.plusPlus) = false →
    (op.tag == Tag.minusMinus) = false → selX ok e = true → e.wfB = true →
    InvK P (KSet P) s → MPH P rc s.heap → Qp P rc s (fun _ _ => True) (evalUnary pe n e op p s)
  binary : ∀ (l r : Expr) (op : Token) (s : St), (op.tag == Tag.equal) = false → selX ok l = true →
    (op.tag == Tag.is || selX ok r) = true → l.wfB = true → r.wfB = true →
    InvK P (KSet P) s → MPH P rc s.heap → Qp P rc s (fun _ _ => True) (evalBinary pe n l r op s)

theorem allPl_zero (P : Region) (rc : CellId) (ok : Bytes → Bool) : AllPl P rc ok 0 :=
  ⟨by intros; unfold evalExpr; exact trivial,
   by intros; unfold evalObjItems; exact trivial,
   by intros; unfold evalExprList; exact trivial,
   by intros; unfold evalMatchCases; exact trivial,
   by intros; unfold evalCaseMatch; exact trivial,
   by intros; unfold evalArrayCaseMatch; exact trivial,
   by intros; unfold Jqawk.matchElems; exact trivial,
   by intros; unfold callFunction; exact trivial,
   by intros; unfold evalUnary; exact trivial,
   by intros; unfold evalBinary; exact trivial⟩

theorem npE (P : Region) (hF : P.F = 0) (n : Nat) : AllNP P pe n :=
  allNP P pe (by rw [hF]; exact Nat.zero_le _) (fun f hf => by cases hf) n

theorem np_newCopy {v : CellId} (hv : P.N ≤ v) {x : Val} (hx : GoodV P x) :
    NP P (KSet P) (newCell x >>= copyValue v) (ExReg P) :=
  NP.bind (NP.newCell hx) (fun _ hf => NP.copyValue hv hf)

/-- a computation (not applied to a state, so that `split` can take it apart) that keeps the
    invariants from every state -/
def QQ (P : Region) (rc : CellId) (m : EM CellId) : Prop :=
  ∀ s', InvK P (KSet P) s' → MPH P rc s'.heap → Qp P rc s' (fun _ _ => True) (m s')

theorem allPl_succ (hF : P.F = 0) (ok : Bytes → Bool) (n : Nat) (ih : AllPl P rc ok n) : AllPl P rc ok (n + 1) := by
  constructor
  case exprList =>
    intro es copy s hx hwf hinv hm
    cases es with
    | nil => unfold evalExprList; exact ⟨CK.refl _, hm, fun _ c h => by cases h⟩
    | cons e rest =>
      simp only [selXs, Bool.and_eq_true] at hx
      simp only [wfEs, Bool.and_eq_true] at hwf
      unfold evalExprList
      refine Qp.bind ((npE P hF n).expr e hwf.1 s hinv) (ih.expr e s hx.1 hwf.1 hinv hm)
        (fun v s1 inv1 hv ck1 m1 _ => ?_)
      have tail : ∀ (c : CellId) (s2 : St), InvK P (KSet P) s2 → MPH P rc s2.heap →
          (copy = true → PC rc s2.heap c) →
          Qp P rc s2 (fun cs s' => copy = true → ∀ c ∈ cs, PC rc s'.heap c)
            ((evalExprList pe n rest copy >>= fun cs => pure (c :: cs)) s2) := by
        intro c s2 inv2 m2 pc2
        refine Qp.bind' (ih.exprList rest copy s2 hx.2 hwf.2 inv2 m2) (fun cs s3 ck3 m3 hcs => ?_)
        refine ⟨CK.refl _, m3, fun hc x hxm => ?_⟩
        rcases List.mem_cons.mp hxm with e1 | e1
        · rw [e1]; exact (pc2 hc).mono ck3
        · exact hcs hc x e1
      cases copy with
      | false => exact tail v s1 inv1 m1 (fun h => nomatch h)
      | true =>
        rw [if_pos rfl]
        refine Qp.bind (Rg := InR P) (R1 := fun c s' => PC rc s'.heap c) ?_ ?_
          (fun c s2 inv2 _ _ m2 pc2 => tail c s2 inv2 m2 (fun _ => pc2))
        · refine NP.bind (np_newCopy hv (x := .str [] none) trivial) (fun r hr => ?_) s1 inv1
          split
          · exact NP.throwRt _ _
          · exact NP.pure hr
        · rw [EM.bind_assoc']
          refine Qp.bind' (qp_newCopy m1 (.str [] none) v) (fun r s2 _ m2 pc2 => ?_)
          cases r with
          | error msg => exact qp_throwRt _ _
          | ok c => exact ⟨CK.refl _, m2, pc2 c rfl⟩
  case objItems =>
    intro pos items acc s hx hwf hacc hpc hinv hm
    cases items with
    | nil => unfold evalObjItems; exact ⟨CK.refl _, hm, hpc⟩
    | cons kv rest =>
      obtain ⟨k, e⟩ := kv
      simp only [selXKVs, Bool.and_eq_true] at hx
      simp only [wfKVs, Bool.and_eq_true] at hwf
      unfold evalObjItems
      refine Qp.bind ((npE P hF n).expr e hwf.1 s hinv) (ih.expr e s hx.1 hwf.1 hinv hm)
        (fun v s1 inv1 hv ck1 m1 _ => ?_)
      rw [EM.bind_assoc']
      refine Qp.bind (np_newCopy hv (x := .unknown) trivial s1 inv1)
        (show Qp P rc s1 _ ((newCell .unknown >>= copyValue v) s1) from qp_newCopy m1 .unknown v)
        (fun r s2 inv2 hr ck2 m2 pc2 => ?_)
      cases r with
      | error msg => exact qp_throwRt _ _
      | ok c =>
        dsimp only
        refine Qp.conseq (ih.objItems pos rest (objInsert acc k c) s2 hx.2 hwf.2 (hacc.objInsert k hr) ?_ inv2 m2)
          (fun _ _ h => h)
        intro kc hkc
        have hall : ∀ kc ∈ acc, PC rc s2.heap kc.2 := fun kc h => ((hpc kc h).mono ck1).mono ck2
        clear hwf hx
        induction acc with
        | nil => simp [objInsert] at hkc; rw [hkc]; exact pc2 c rfl
        | cons z zs ihz =>
          obtain ⟨k0, c0⟩ := z
          unfold objInsert at hkc
          split at hkc
          · rcases List.mem_cons.mp hkc with e1 | e1
            · rw [e1]; exact pc2 c rfl
            · exact hall kc (List.mem_cons_of_mem _ e1)
          · rcases List.mem_cons.mp hkc with e1 | e1
            · rw [e1]; exact hall _ (List.mem_cons_self ..)
            · exact ihz (fun x hx => hacc x (List.mem_cons_of_mem _ hx))
                (fun x hx => hpc x (List.mem_cons_of_mem _ hx)) e1 (fun x hx => hall x (List.mem_cons_of_mem _ hx))
  case expr =>
    intro e s hx hwf hinv hm
    cases e with
    | lit t => exact Qp.of_NA ((allNA pe (n + 1)).expr (.lit t) rfl s) hm
    | ident t =>
      unfold evalExpr
      exact Qp.of_NA (NA.getIdentifier pe t s) hm
    | unary inner op p =>
      simp only [selX, Bool.and_eq_true, Bool.not_eq_true'] at hx
      simp only [Expr.wfB, Bool.and_eq_true] at hwf
      unfold evalExpr
      exact ih.unary inner op p s hx.1.1 hx.1.2 hx.2 hwf.2 hinv hm
    | binary l r op =>
      simp only [selX, Bool.and_eq_true, Bool.not_eq_true'] at hx
      simp only [Expr.wfB, Bool.and_eq_true] at hwf
      unfold evalExpr
      exact ih.binary l r op s hx.1.1 hx.1.2 hx.2 hwf.1.2 hwf.2 hinv hm
    | arr t items =>
      simp only [selX] at hx
      simp only [Expr.wfB] at hwf
      unfold evalExpr
      dsimp only
      refine Qp.bind ((npE P hF n).exprList items true hwf s hinv) (ih.exprList items true s hx hwf hinv hm)
        (fun cells s1 inv1 hreg ck1 m1 hpc => ?_)
      refine Qp.bind' (qp_allocArrM m1 (by simpa using hpc rfl)) (fun a s2 ck2 m2 _ => ?_)
      exact Qp.conseq (qp_newCell m2 (.arr a)) (fun _ _ _ => trivial)
    | obj t items =>
      simp only [selX] at hx
      simp only [Expr.wfB] at hwf
      unfold evalExpr
      dsimp only
      refine Qp.bind' (ih.objItems t.pos items [] s hx hwf RegM.nil (fun _ h => by cases h) hinv hm)
        (fun members s1 ck1 m1 hpc => ?_)
      refine Qp.bind' (qp_allocObjM m1 hpc) (fun o s2 ck2 m2 _ => ?_)
      exact Qp.conseq (qp_newCell m2 (.obj o)) (fun _ _ _ => trivial)
    | call f args =>
      simp only [selX, Bool.and_eq_true] at hx
      simp only [Expr.wfB, Bool.and_eq_true] at hwf
      unfold evalExpr
      dsimp only
      refine Qp.bind ((npE P hF n).expr f hwf.1 s hinv) (ih.expr f s hx.1 hwf.1 hinv hm)
        (fun fc s1 inv1 hfc ck1 m1 _ => ?_)
      refine Qp.bind ((npE P hF n).exprList args true hwf.2 s1 inv1) (ih.exprList args true s1 hx.2 hwf.2 inv1 m1)
        (fun acs s2 inv2 hacs ck2 m2 hpc => ?_)
      exact ih.call _ fc acs s2 hfc hacs (fun c hc => (hpc rfl c hc).2.2) inv2 m2
    | match_ t v cases =>
      simp only [selX, Bool.and_eq_true] at hx
      simp only [Expr.wfB, Bool.and_eq_true] at hwf
      unfold evalExpr
      dsimp only
      refine Qp.bind ((npE P hF n).expr v hwf.1 s hinv) (ih.expr v s hx.1 hwf.1 hinv hm)
        (fun value s1 inv1 hv ck1 m1 _ => ?_)
      exact ih.matchCases _ value cases s1 hx.2 hwf.2 hv inv1 m1
  case matchCases =>
    intro pos v cs s hx hwf hv hinv hm
    cases cs with
    | nil => unfold evalMatchCases; exact Qp.conseq (qp_newCell hm (.nil none)) (fun _ _ _ => trivial)
    | cons c rest =>
      obtain ⟨pats, body⟩ := c
      simp only [selXCases, Bool.and_eq_true] at hx
      simp only [wfCases, Bool.and_eq_true] at hwf
      unfold evalMatchCases
      refine Qp.bind ((npE P hF n).caseMatch v pats hwf.1.1 hv s hinv) (ih.caseMatch v pats s hwf.1.1 hv hinv hm)
        (fun r s1 inv1 hr ck1 m1 _ => ?_)
      cases r with
      | none => exact ih.matchCases pos v rest s1 hx.2 hwf.2 hv inv1 m1
      | some bindings =>
        dsimp only
        cases body with
        | expr be =>
          have hbe : selX ok be = true := by simpa [selXBody] using hx.1
          have hwbe : be.wfB = true := by simpa [Stmt.wfB] using hwf.1.2
          apply qp_framed (fun _ _ _ h => h)
          have invp := invK_push inv1 b!"<match>" (max s1.maxDepth (s1.frames.length + 1))
          refine Qp.bind ((NP.bindAll (hr : RegM P bindings)) _ invp)
            (Qp.of_NA (NA.bindAll bindings _) m1) (fun _ s2 inv2 _ ck2 m2 _ => ?_)
          exact ih.expr be s2 hbe hwbe inv2 m2
        | _ => simp [selXBody] at hx
  case caseMatch =>
    intro v ps s hwf hv hinv hm
    cases ps with
    | nil => unfold evalCaseMatch; exact ⟨CK.refl _, hm, trivial⟩
    | cons p rest =>
      simp only [wfEs, Bool.and_eq_true] at hwf
      unfold evalCaseMatch
      cases p with
      | lit t =>
        dsimp only
        refine Qp.bind ((npE P hF n).expr (.lit t) hwf.1 s hinv)
          (Qp.of_NA ((allNA pe n).expr (.lit t) rfl s) hm) (fun cv s1 inv1 hcv ck1 m1 _ => ?_)
        simp only [bind, EM.bind, readCell]
        have hrest := ih.caseMatch v rest s1 hwf.2 hv inv1 m1
        split
        · exact hrest
        · generalize (s1.heap.get v).compare (s1.heap.get cv) = cmp
          cases cmp with
          | error msg => exact qp_throwRt _ _
          | ok c =>
            dsimp only
            split
            · exact ⟨CK.refl _, m1, trivial⟩
            · exact hrest
      | arr t items =>
        have hit : wfEs items = true := by simpa [Expr.wfB] using hwf.1
        dsimp only
        refine Qp.bind ((npE P hF n).arrayCaseMatch v items hit hv s hinv) (ih.arrayCaseMatch v items s hit hv hinv hm)
          (fun r s1 inv1 hr ck1 m1 _ => ?_)
        cases r with
        | some b => exact ⟨CK.refl _, m1, trivial⟩
        | none => exact ih.caseMatch v rest s1 hwf.2 hv inv1 m1
      | ident t => exact ⟨CK.refl _, hm, trivial⟩
      | _ => exact qp_throwRt _ _
  case arrayCaseMatch =>
    intro v ps s hwf hv hinv hm
    unfold evalArrayCaseMatch
    simp only [bind, EM.bind, readCell]
    have hgv : GoodV P (s.heap.get v) := hinv.heap.cells v hv
    cases hval : s.heap.get v with
    | arr a =>
      rw [hval] at hgv
      simp only [EM.bind, getHeap]
      split
      · exact ⟨CK.refl _, hm, trivial⟩
      · exact ih.matchElems _ ps [] s hwf (hinv.heap.arrs a hgv) RegM.nil hinv hm
    | _ => exact ⟨CK.refl _, hm, trivial⟩
  case matchElems =>
    intro cs ps acc s hwf hcs hacc hinv hm
    cases cs with
    | nil => unfold Jqawk.matchElems; exact ⟨CK.refl _, hm, trivial⟩
    | cons c cs =>
      cases ps with
      | nil => unfold Jqawk.matchElems; exact ⟨CK.refl _, hm, trivial⟩
      | cons p ps =>
        simp only [wfEs, Bool.and_eq_true] at hwf
        have h3 : wfEs [p] = true := by simp [wfEs, hwf.1]
        have hc : P.N ≤ c := hcs c (List.mem_cons_self ..)
        unfold Jqawk.matchElems
        refine Qp.bind ((npE P hF n).caseMatch c [p] h3 hc s hinv) (ih.caseMatch c [p] s h3 hc hinv hm)
          (fun r s1 inv1 hr ck1 m1 _ => ?_)
        cases r with
        | none => exact ⟨CK.refl _, m1, trivial⟩
        | some nb =>
          exact ih.matchElems cs ps _ s1 hwf.2 (fun x hx => hcs x (List.mem_cons_of_mem _ hx))
            (RegM.foldInsert hr hacc) inv1 m1
  case call =>
    intro pos f args s hf hargs hpl hinv hm
    unfold callFunction
    simp only [bind, EM.bind, readCell, getHeap]
    have hgv : GoodV P (s.heap.get f) := hinv.heap.cells f hf
    cases hval : s.heap.get f with
    | native nf binding sp =>
      rw [hval] at hgv
      dsimp only
      have hthis : ∀ v, binding.map s.heap.get = some v → GoodV P v := by
        intro v hv
        cases binding with
        | none => cases hv
        | some b => cases hv; exact hinv.heap.cells b hgv.1
      have hvals : ∀ v ∈ args.map s.heap.get, Val.plain v := by
        intro v hv
        obtain ⟨c, hc, rfl⟩ := List.mem_map.mp hv
        exact hpl c hc
      simp only [EM.bind]
      refine (qp_callNative nf hm hvals hthis (P := P) (rc := rc)).byCases trivial (fun res s1 ck m1 _ => ?_)
        (fun _ _ h => h)
      cases res with
      | error msg => exact qp_throwRt _ _
      | ok ov => cases ov <;> exact ⟨ck.trans (CK.alloc _ _), m1.alloc _, trivial⟩
    | fn i =>
      dsimp only
      have : (pe.functions[i]? : Option FuncDef) = none := by simp [pe, Program.empty]
      simp only [this]
      exact fun g h => by cases h
    | _ => exact qp_throwRt _ _
  case unary =>
    intro e op p s h1 h2 hx hwf hinv hm
    unfold evalUnary
    refine Qp.bind' (ih.expr e s hx hwf hinv hm) (fun val s1 ck1 m1 _ => Qp.of_NA ?_ m1)
    refine (NA.bind (NA.readCell _) (fun v => ?_) : NA _) s1
    split
    · exact NA.newCell _
    · exact NA.newCell _
    · exact NA.newCell _
    · rename_i heq; rw [heq] at h1; cases h1
    · rename_i heq; rw [heq] at h2; cases h2
    · exact NA.throwRt _ _
  case binary =>
    intro l r op s h1 hxl hxr hwl hwr hinv hm
    unfold evalBinary
    refine Qp.bind ((npE P hF n).expr l hwl s hinv) (ih.expr l s hxl hwl hinv hm)
      (fun left s1 inv1 hl ck1 m1 _ => ?_)
    have truthyCell : ∀ c : CellId, NA (do newCell (.bool (← Jqawk.readCell c).truthy)) :=
      fun c => NA.bind (NA.readCell c) (fun v => NA.newCell _)
    refine (?_ : QQ P rc _) s1 inv1 m1
    split
    · rename_i htag
      have hr' : selX ok r = true := by simpa [htag] using hxr
      intro s' inv' m'
      simp only [bind, EM.bind, readCell]
      split
      · exact Qp.bind' (ih.expr r s' hr' hwr inv' m') (fun right s2 ck2 m2 _ => Qp.of_NA (truthyCell right s2) m2)
      · exact Qp.conseq (qp_newCell m' _) (fun _ _ _ => trivial)
    · rename_i htag
      have hr' : selX ok r = true := by simpa [htag] using hxr
      intro s' inv' m'
      simp only [bind, EM.bind, readCell]
      split
      · exact Qp.conseq (qp_newCell m' _) (fun _ _ _ => trivial)
      · exact Qp.bind' (ih.expr r s' hr' hwr inv' m') (fun right s2 ck2 m2 _ => Qp.of_NA (truthyCell right s2) m2)
    · intro s' inv' m'
      refine Qp.of_NA ((?_ : NA _) s') m'
      split
      · exact NA.bind (NA.readCell _) (fun v => NA.newCell _)
      · exact NA.throwRt _ _
    · rename_i hn1 hn2 hn3
      have hr' : selX ok r = true := by
        cases hb : (op.tag == Tag.is) with
        | true => exact absurd (by simpa using hb) hn3
        | false => simpa [hb] using hxr
      intro s' inv' m'
      refine Qp.bind' (ih.expr r s' hr' hwr inv' m') (fun right s2 ck2 m2 _ => Qp.of_NA ((?_ : NA _) s2) m2)
      split
      · exact NA.memberStep _ _ _
      · exact NA.memberStep _ _ _
      · rename_i heq; rw [heq] at h1; cases h1
      · split
        · refine NA.bind (NA.readCell _) (fun a => NA.bind (NA.readCell _) (fun b => ?_))
          split
          · exact NA.newCell _
          · exact NA.throwRt _ _
          · exact NA.throwUnmodelled _
        · exact NA.throwRt _ _

/-- **the nested evaluator of a selector keeps cells, raises no signal, and puts only plain,
    fresh cells into containers** -/
theorem allPl (hF : P.F = 0) (ok : Bytes → Bool) : ∀ n, AllPl P rc ok n
  | 0 => allPl_zero P rc ok
  | n + 1 => allPl_succ hF ok n (allPl hF ok n)

end Sel
end Jqawk
