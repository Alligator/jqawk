/-
  `newValueJson` builds a fresh tree in the heap; `toJVal` reads it back (C04 round trip).
  * `insertK` / `sortK`: the heap's keyed insertion sort for any payload (`sortByKey` is the
    instance for cells); `JVal.norm`: the tree as it comes back (members sorted, numbers
    re-formatted); `JVal.Plain`: distinct keys, finite numbers.
  * `HeapExt`: allocation only.  `ReprB h na no v j`: the value `v` represents the tree `j` using
    arrays / objects with ids below `na` / `no`; `toJVal_of_reprB`: such a value converts to `j.norm`.
  * `newValueJson_spec`: what `newValueJson` builds is a `HeapExt` with a `ReprB` root;
    `newValueJson_toJValTop`: the round trip; `newValueJson_succeeds`: it is total.
-/
import Jqawk.Model.Driver
import Jqawk.Lemmas.Render
import Jqawk.Lemmas.Order
import Jqawk.Lemmas.EvalSteps
import Jqawk.Lemmas.JValEq

namespace Jqawk

def insertK {α : Type} (kv : Bytes × α) : List (Bytes × α) → List (Bytes × α)
  | [] => [kv]
  | x :: xs => if Bytes.le kv.1 x.1 then kv :: x :: xs else x :: insertK kv xs

def sortK {α : Type} : List (Bytes × α) → List (Bytes × α)
  | [] => []
  | x :: xs => insertK x (sortK xs)

theorem insertByKey_eq_insertK (kv : Bytes × CellId) (l : Members) : insertByKey kv l = insertK kv l := by
  induction l with
  | nil => rfl
  | cons x xs ih => simp only [insertByKey, insertK, ih]

theorem sortByKey_eq_sortK (l : Members) : sortByKey l = sortK l := by
  induction l with
  | nil => rfl
  | cons x xs ih => simp only [sortByKey, sortK, ih, insertByKey_eq_insertK]

theorem insertK_map {α β : Type} (f : Bytes × α → Bytes × β) (hf : ∀ x, (f x).1 = x.1)
    (kv : Bytes × α) (l : List (Bytes × α)) : insertK (f kv) (l.map f) = (insertK kv l).map f := by
  induction l with
  | nil => rfl
  | cons x xs ih =>
    simp only [List.map_cons, insertK, hf]
    split
    · simp
    · simp [ih]

theorem sortK_map {α β : Type} (f : Bytes × α → Bytes × β) (hf : ∀ x, (f x).1 = x.1)
    (l : List (Bytes × α)) : sortK (l.map f) = (sortK l).map f := by
  induction l with
  | nil => rfl
  | cons x xs ih => simp only [List.map_cons, sortK, ih, insertK_map f hf]

theorem insertK_perm {α : Type} (kv : Bytes × α) (l : List (Bytes × α)) : (insertK kv l).Perm (kv :: l) := by
  induction l with
  | nil => simp [insertK]
  | cons x xs ih =>
    simp only [insertK]
    split
    · exact List.Perm.refl _
    · exact (List.Perm.cons x ih).trans (List.Perm.swap kv x xs)

theorem sortK_perm {α : Type} (l : List (Bytes × α)) : (sortK l).Perm l := by
  induction l with
  | nil => simp [sortK]
  | cons x xs ih => exact (insertK_perm x _).trans (List.Perm.cons x ih)

namespace JVal
mutual
/-- `j` as it comes back from the heap: object members sorted by key, number literals
    re-formatted (parsed to the nearest double, then printed as `encoding/json` prints it) -/
def norm : JVal → JVal
  | .null => .null
  | .bool b => .bool b
  | .str s => .str s
  | .num lit => .num (((F64.parse lit).getD F64.zero).jsonFormat.getD [])
  | .arr items => .arr (normList items)
  | .obj ms => .obj (sortK (normMembers ms))
def normList : List JVal → List JVal
  | [] => []
  | x :: xs => norm x :: normList xs
def normMembers : List (Bytes × JVal) → List (Bytes × JVal)
  | [] => []
  | (k, v) :: ms => (k, norm v) :: normMembers ms
end

mutual
/-- object keys pairwise distinct at every level, number literals denote finite doubles -/
def Plain : JVal → Prop
  | .null => True
  | .bool _ => True
  | .str _ => True
  | .num lit => ((F64.parse lit).getD F64.zero).jsonFormat ≠ none
  | .arr items => PlainList items
  | .obj ms => ms.Pairwise (fun x y => x.1 ≠ y.1) ∧ PlainMembers ms
def PlainList : List JVal → Prop
  | [] => True
  | x :: xs => Plain x ∧ PlainList xs
def PlainMembers : List (Bytes × JVal) → Prop
  | [] => True
  | (_, v) :: ms => Plain v ∧ PlainMembers ms
end

theorem normList_eq (l : List JVal) : normList l = l.map norm := by
  induction l with
  | nil => rfl
  | cons x xs ih => simp [normList, ih]

theorem normMembers_eq (l : List (Bytes × JVal)) : normMembers l = l.map fun kv => (kv.1, norm kv.2) := by
  induction l with
  | nil => rfl
  | cons x xs ih => obtain ⟨k, v⟩ := x; simp [normMembers, ih]

theorem plainList_iff (l : List JVal) : PlainList l ↔ ∀ x ∈ l, Plain x :=
  forall_mem_iff_of_rec trivial (fun _ _ => Iff.rfl) l

theorem plainMembers_iff (l : List (Bytes × JVal)) : PlainMembers l ↔ ∀ x ∈ l, Plain x.2 :=
  forall_mem_iff_of_rec (P := fun x => Plain x.2) trivial (fun _ _ => Iff.rfl) l

end JVal

structure HeapExt (h h' : Heap) : Prop where
  cells : ∃ xs, h'.cells = h.cells ++ xs
  arrs : ∃ xs, h'.arrs = h.arrs ++ xs
  objs : ∃ xs, h'.objs = h.objs ++ xs

namespace HeapExt

theorem refl (h : Heap) : HeapExt h h := ⟨⟨#[], by simp⟩, ⟨#[], by simp⟩, ⟨#[], by simp⟩⟩

theorem trans {a b c : Heap} (h1 : HeapExt a b) (h2 : HeapExt b c) : HeapExt a c := by
  obtain ⟨⟨x1, e1⟩, ⟨y1, f1⟩, ⟨z1, g1⟩⟩ := h1
  obtain ⟨⟨x2, e2⟩, ⟨y2, f2⟩, ⟨z2, g2⟩⟩ := h2
  exact ⟨⟨x1 ++ x2, by rw [e2, e1, Array.append_assoc]⟩, ⟨y1 ++ y2, by rw [f2, f1, Array.append_assoc]⟩,
    ⟨z1 ++ z2, by rw [g2, g1, Array.append_assoc]⟩⟩

theorem cells_size {h h' : Heap} (e : HeapExt h h') : h.cells.size ≤ h'.cells.size := by
  obtain ⟨xs, e⟩ := e.cells; rw [e, Array.size_append]; omega
theorem arrs_size {h h' : Heap} (e : HeapExt h h') : h.arrs.size ≤ h'.arrs.size := by
  obtain ⟨xs, e⟩ := e.arrs; rw [e, Array.size_append]; omega
theorem objs_size {h h' : Heap} (e : HeapExt h h') : h.objs.size ≤ h'.objs.size := by
  obtain ⟨xs, e⟩ := e.objs; rw [e, Array.size_append]; omega

theorem get_eq {h h' : Heap} (e : HeapExt h h') (c : CellId) (hc : c < h.cells.size) :
    h'.get c = h.get c := by
  obtain ⟨xs, e⟩ := e.cells
  simp only [Heap.get, e, Array.getD_eq_getD_getElem?]
  rw [Array.getElem?_append_left hc]

theorem arr_eq {h h' : Heap} (e : HeapExt h h') (a : ArrId) (ha : a < h.arrs.size) :
    h'.arr a = h.arr a := by
  obtain ⟨xs, e⟩ := e.arrs
  simp only [Heap.arr, e, Array.getD_eq_getD_getElem?]
  rw [Array.getElem?_append_left ha]

theorem obj_eq {h h' : Heap} (e : HeapExt h h') (o : ObjId) (ho : o < h.objs.size) :
    h'.obj o = h.obj o := by
  obtain ⟨xs, e⟩ := e.objs
  simp only [Heap.obj, e, Array.getD_eq_getD_getElem?]
  rw [Array.getElem?_append_left ho]

theorem alloc (h : Heap) (v : Val) : HeapExt h (h.alloc v).2 :=
  ⟨⟨#[v], by simp [Heap.alloc]⟩, ⟨#[], by simp [Heap.alloc]⟩, ⟨#[], by simp [Heap.alloc]⟩⟩
theorem allocArr (h : Heap) (x : Array CellId) : HeapExt h (h.allocArr x).2 :=
  ⟨⟨#[], by simp [Heap.allocArr]⟩, ⟨#[x], by simp [Heap.allocArr]⟩, ⟨#[], by simp [Heap.allocArr]⟩⟩
theorem allocObj (h : Heap) (x : List (Bytes × CellId)) : HeapExt h (h.allocObj x).2 :=
  ⟨⟨#[], by simp [Heap.allocObj]⟩, ⟨#[], by simp [Heap.allocObj]⟩, ⟨#[x], by simp [Heap.allocObj]⟩⟩

end HeapExt

/-! ### a value of the heap represents a JSON tree, with freshness bounds

  `ReprB h na no v j`: `v` is the root of a tree-shaped copy of `j` in `h` in which every array
  has an id `< na` and every object an id `< no`, and the containers below a container have ids
  smaller than its own (children are allocated first). -/

inductive ReprB (h : Heap) : Nat → Nat → Val → JVal → Prop
  | null (na no : Nat) : ReprB h na no (.nil none) .null
  | bool (na no : Nat) (b : Bool) : ReprB h na no (.bool b) (.bool b)
  | str (na no : Nat) (s : Bytes) : ReprB h na no (.str s none) (.str s)
  | num (na no : Nat) (lit : Bytes) : ReprB h na no (.num ((F64.parse lit).getD F64.zero)) (.num lit)
  | arr (na no : Nat) (a : Nat) (Z : List (CellId × JVal)) (hna : a < na) (ha : a < h.arrs.size)
      (harr : h.arr a = (Z.map Prod.fst).toArray) (hlt : ∀ z ∈ Z, z.1 < h.cells.size)
      (hrec : ∀ z ∈ Z, ReprB h a no (h.get z.1) z.2) : ReprB h na no (.arr a) (.arr (Z.map Prod.snd))
  | obj (na no : Nat) (o : Nat) (Z : List (Bytes × (CellId × JVal))) (hno : o < no) (ho : o < h.objs.size)
      (hobj : h.obj o = Z.map (fun z => (z.1, z.2.1))) (hlt : ∀ z ∈ Z, z.2.1 < h.cells.size)
      (hrec : ∀ z ∈ Z, ReprB h na o (h.get z.2.1) z.2.2) :
      ReprB h na no (.obj o) (.obj (Z.map fun z => (z.1, z.2.2)))

theorem ReprB.lift {h : Heap} {na no : Nat} {v : Val} {j : JVal} (r : ReprB h na no v j) :
    ∀ (h' : Heap) (na' no' : Nat), HeapExt h h' → na ≤ na' → no ≤ no' → ReprB h' na' no' v j := by
  induction r with
  | null | bool | str | num => intros; constructor
  | arr na no a Z hna ha harr hlt _ ih =>
    intro h' na' no' e h1 h2
    refine .arr na' no' a Z (by omega) (by have := e.arrs_size; omega) ?_ ?_ ?_
    · rw [e.arr_eq a ha, harr]
    · intro z hz; exact Nat.lt_of_lt_of_le (hlt z hz) e.cells_size
    · intro z hz
      rw [e.get_eq _ (hlt z hz)]
      exact ih z hz h' a no' e (Nat.le_refl _) h2
  | obj na no o Z hno ho hobj hlt _ ih =>
    intro h' na' no' e h1 h2
    refine .obj na' no' o Z (by omega) (by have := e.objs_size; omega) ?_ ?_ ?_
    · rw [e.obj_eq o ho, hobj]
    · intro z hz; exact Nat.lt_of_lt_of_le (hlt z hz) e.cells_size
    · intro z hz
      rw [e.get_eq _ (hlt z hz)]
      exact ih z hz h' na' o e h1 (Nat.le_refl _)

theorem uniform_fuel {α : Type} (Z : List α) (P : α → Nat → Prop)
    (mono : ∀ z n m, n ≤ m → P z n → P z m) (hz : ∀ z ∈ Z, ∃ n, P z n) : ∃ N, ∀ z ∈ Z, P z N := by
  induction Z with
  | nil => exact ⟨0, by simp⟩
  | cons x xs ih =>
    obtain ⟨n1, h1⟩ := hz x (by simp)
    obtain ⟨n2, h2⟩ := ih (fun z hz' => hz z (by simp [hz']))
    refine ⟨max n1 n2, ?_⟩
    intro z hz'
    rcases List.mem_cons.1 hz' with rfl | hz'
    · exact mono _ _ _ (Nat.le_max_left _ _) h1
    · exact mono _ _ _ (Nat.le_max_right _ _) (h2 z hz')

theorem toJVal_ok_mono (h : Heap) (path : List Cont) (check : Bool) (v : Val) (j : JVal) (n m : Nat)
    (hnm : n ≤ m) (e : toJVal h n path check v = .ok j) : toJVal h m path check v = .ok j := by
  rw [toJVal_fuel_mono h n m hnm path check v (by simp [e]), e]

/-- reading back a fresh tree: the conversion succeeds with the normalised tree, under any
    ancestor path made of containers outside the tree's id bounds -/
theorem toJVal_of_reprB {h : Heap} {na no : Nat} {v : Val} {j : JVal} (r : ReprB h na no v j) :
    j.Plain → ∀ (path : List Cont) (check : Bool), (∀ x, Cont.a x ∈ path → na ≤ x) →
      (∀ y, Cont.o y ∈ path → no ≤ y) → ∃ n, toJVal h n path check v = .ok j.norm := by
  induction r with
  | null => intro _ path check _ _; exact ⟨1, by simp [toJVal, onPath, Val.cont?, JVal.norm]⟩
  | bool => intro _ path check _ _; exact ⟨1, by simp [toJVal, onPath, Val.cont?, JVal.norm]⟩
  | str => intro _ path check _ _; exact ⟨1, by simp [toJVal, onPath, Val.cont?, JVal.norm]⟩
  | num na no lit =>
    intro hpl path check _ _
    simp only [JVal.Plain] at hpl
    refine ⟨1, ?_⟩
    cases hx : ((F64.parse lit).getD F64.zero).jsonFormat with
    | none => exact absurd hx hpl
    | some l => simp [toJVal, onPath, Val.cont?, JVal.norm, hx]
  | arr na no a Z hna ha harr hlt _ ih =>
    intro hpl path check hpa hpo
    simp only [JVal.Plain, JVal.plainList_iff] at hpl
    have hp : (check && path.contains (.a a)) = false := by
      have : Cont.a a ∉ path := fun hm => by have := hpa a hm; omega
      simp [this]
    have hch : ∀ z ∈ Z, ∃ n, toJVal h n (path ++ [.a a]) true (h.get z.1) = .ok z.2.norm := by
      intro z hz
      refine ih z hz (hpl z.2 (List.mem_map.2 ⟨z, hz, rfl⟩)) _ true ?_ ?_
      · intro x hx
        rcases List.mem_append.1 hx with hx | hx
        · have := hpa x hx; omega
        · simp at hx; subst hx; exact Nat.le_refl _
      · intro y hy
        rcases List.mem_append.1 hy with hy | hy
        · exact hpo y hy
        · simp at hy
    obtain ⟨N, hN⟩ := uniform_fuel Z
      (fun z n => toJVal h n (path ++ [.a a]) true (h.get z.1) = .ok z.2.norm)
      (fun z n m hnm e => toJVal_ok_mono h _ _ _ _ n m hnm e) hch
    refine ⟨N + 1, ?_⟩
    rw [toJVal_arr_unfold h N path check a hp, harr]
    have : GoValRes.sequence ((Z.map Prod.fst).toArray.toList.map fun c =>
        toJVal h N (path ++ [.a a]) true (h.get c)) = .ok (Z.map fun z => z.2.norm) := by
      rw [sequence_eq_ok]
      simp only [List.map_map]
      apply List.map_congr_left
      intro z hz
      exact hN z hz
    rw [this]
    simp [GoValRes.map, JVal.norm, JVal.normList_eq]
  | obj na no o Z hno ho hobj hlt _ ih =>
    intro hpl path check hpa hpo
    simp only [JVal.Plain, JVal.plainMembers_iff] at hpl
    have hp : (check && path.contains (.o o)) = false := by
      have : Cont.o o ∉ path := fun hm => by have := hpo o hm; omega
      simp [this]
    have hch : ∀ z ∈ Z, ∃ n, toJVal h n (path ++ [.o o]) true (h.get z.2.1) = .ok z.2.2.norm := by
      intro z hz
      refine ih z hz (hpl.2 (z.1, z.2.2) (List.mem_map.2 ⟨z, hz, rfl⟩)) _ true ?_ ?_
      · intro x hx
        rcases List.mem_append.1 hx with hx | hx
        · exact hpa x hx
        · simp at hx
      · intro y hy
        rcases List.mem_append.1 hy with hy | hy
        · have := hpo y hy; omega
        · simp at hy; subst hy; exact Nat.le_refl _
    obtain ⟨N, hN⟩ := uniform_fuel Z
      (fun z n => toJVal h n (path ++ [.o o]) true (h.get z.2.1) = .ok z.2.2.norm)
      (fun z n m hnm e => toJVal_ok_mono h _ _ _ _ n m hnm e) hch
    refine ⟨N + 1, ?_⟩
    rw [toJVal_obj_unfold h N path check o hp, hobj, sortByKey_eq_sortK,
      sortK_map (fun z : Bytes × (CellId × JVal) => (z.1, z.2.1)) (fun _ => rfl)]
    have : GoValRes.sequence (((sortK Z).map fun z => (z.1, z.2.1)).map fun kv =>
        (toJVal h N (path ++ [.o o]) true (h.get kv.2)).map (fun j => (kv.1, j)))
        = .ok ((sortK Z).map fun z => (z.1, z.2.2.norm)) := by
      rw [sequence_eq_ok]
      simp only [List.map_map]
      apply List.map_congr_left
      intro z hz
      have hz' : z ∈ Z := (sortK_perm Z).mem_iff.1 hz
      simp [hN z hz', GoValRes.map]
    rw [this]
    simp only [GoValRes.map, JVal.norm, JVal.normMembers_eq, List.map_map]
    rw [← sortK_map (fun z : Bytes × (CellId × JVal) => (z.1, z.2.2.norm)) (fun _ => rfl)]
    rfl

theorem objInsert_fresh (m : Members) (k : Bytes) (c : CellId) (hk : ∀ x ∈ m, x.1 ≠ k) :
    objInsert m k c = m ++ [(k, c)] := by
  induction m with
  | nil => rfl
  | cons x xs ih =>
    obtain ⟨k0, c0⟩ := x
    have h0 : (k0 == k) = false := by simpa using hk (k0, c0) (by simp)
    simp only [objInsert, h0, Bool.false_eq_true, ↓reduceIte, List.cons_append]
    rw [ih (fun y hy => hk y (by simp [hy]))]

theorem foldl_objInsert_distinct (l acc : Members) (hd : DistinctKeys (acc ++ l)) :
    l.foldl (fun m kc => objInsert m kc.1 kc.2) acc = acc ++ l := by
  induction l generalizing acc with
  | nil => simp
  | cons x xs ih =>
    have hx : ∀ y ∈ acc, y.1 ≠ x.1 := by
      intro y hy
      have := List.pairwise_append.1 hd
      exact this.2.2 y hy x (by simp)
    simp only [List.foldl_cons]
    rw [objInsert_fresh acc x.1 x.2 hx]
    have hd' : DistinctKeys ((acc ++ [x]) ++ xs) := by simpa [DistinctKeys] using hd
    rw [ih _ hd']; simp

/-- cell `c` of state `s` holds a fresh copy of `j` -/
def GoodCell (s : St) (c : CellId) (j : JVal) : Prop :=
  c < s.heap.cells.size ∧ ReprB s.heap s.heap.arrs.size s.heap.objs.size (s.heap.get c) j

theorem GoodCell.lift {s s' : St} {c : CellId} {j : JVal} (g : GoodCell s c j)
    (e : HeapExt s.heap s'.heap) : GoodCell s' c j :=
  ⟨Nat.lt_of_lt_of_le g.1 e.cells_size, by
    rw [e.get_eq c g.1]; exact g.2.lift _ _ _ e e.arrs_size e.objs_size⟩

/-- `newValueJson j; newCell`: the step shared by the item and member loops -/
theorem newCell_good (s sa : St) (v : Val) (j : JVal) (hext : HeapExt s.heap sa.heap)
    (hrep : ReprB sa.heap sa.heap.arrs.size sa.heap.objs.size v j) (c : CellId) (s1 : St)
    (e : newCell v sa = .ok c s1) : HeapExt s.heap s1.heap ∧ GoodCell s1 c j := by
  simp only [newCell, Heap.alloc, Res.ok.injEq] at e
  obtain ⟨rfl, rfl⟩ := e
  have he2 : HeapExt sa.heap { sa.heap with cells := sa.heap.cells.push v } := HeapExt.alloc sa.heap v
  refine ⟨hext.trans he2, ?_, ?_⟩
  · simp
  · have : Heap.get { sa.heap with cells := sa.heap.cells.push v } sa.heap.cells.size = v := by
      simp [Heap.get]
    simp only [this]
    exact hrep.lift _ _ _ he2 (Nat.le_refl _) (Nat.le_refl _)

mutual
theorem newValueJson_spec : ∀ (j : JVal) (s : St) (v : Val) (s' : St), j.Plain →
    newValueJson j s = .ok v s' →
    HeapExt s.heap s'.heap ∧ ReprB s'.heap s'.heap.arrs.size s'.heap.objs.size v j
  | .null, s, v, s', _, e => by
    simp only [newValueJson, pure, EM.pure, Res.ok.injEq] at e
    obtain ⟨rfl, rfl⟩ := e; exact ⟨HeapExt.refl _, .null _ _⟩
  | .bool b, s, v, s', _, e => by
    simp only [newValueJson, pure, EM.pure, Res.ok.injEq] at e
    obtain ⟨rfl, rfl⟩ := e; exact ⟨HeapExt.refl _, .bool _ _ _⟩
  | .str x, s, v, s', _, e => by
    simp only [newValueJson, pure, EM.pure, Res.ok.injEq] at e
    obtain ⟨rfl, rfl⟩ := e; exact ⟨HeapExt.refl _, .str _ _ _⟩
  | .num lit, s, v, s', _, e => by
    simp only [newValueJson, pure, EM.pure, Res.ok.injEq] at e
    obtain ⟨rfl, rfl⟩ := e; exact ⟨HeapExt.refl _, .num _ _ _⟩
  | .arr items, s, v, s', hpl, e => by
    simp only [JVal.Plain, JVal.plainList_iff] at hpl
    rw [newValueJson, EM.bind_eq_ok] at e
    obtain ⟨cells, s1, hm, e⟩ := e
    obtain ⟨e1, Z, rfl, rfl, gz⟩ := newValueItems_spec items s s1 cells hpl hm
    simp only [bind, EM.bind, getHeap, Heap.allocArr, setHeap, pure, EM.pure, Res.ok.injEq] at e
    obtain ⟨rfl, rfl⟩ := e
    have e2 : HeapExt s1.heap { s1.heap with arrs := s1.heap.arrs.push (Z.map Prod.fst).toArray } :=
      HeapExt.allocArr s1.heap _
    refine ⟨e1.trans e2, ?_⟩
    refine .arr _ _ s1.heap.arrs.size Z (by simp) (by simp) (by simp [Heap.arr]) ?_ ?_
    · intro z hz; exact (gz z hz).1
    · intro z hz
      have := (gz z hz).2.lift _ s1.heap.arrs.size s1.heap.objs.size e2 (Nat.le_refl _) (Nat.le_refl _)
      rw [e2.get_eq _ (gz z hz).1]
      exact this
  | .obj members, s, v, s', hpl, e => by
    simp only [JVal.Plain, JVal.plainMembers_iff] at hpl
    rw [newValueJson, EM.bind_eq_ok] at e
    obtain ⟨cells, s1, hm, e⟩ := e
    obtain ⟨e1, Z, rfl, rfl, gz⟩ := newValueMembers_spec members s s1 cells hpl.2 hm
    have hd : DistinctKeys ([] ++ Z.map (fun z => (z.1, z.2.1))) := by
      have := hpl.1
      simp only [List.pairwise_map] at this
      simpa [DistinctKeys, List.pairwise_map] using this
    rw [foldl_objInsert_distinct _ _ hd] at e
    simp only [bind, EM.bind, getHeap, Heap.allocObj, setHeap, pure, EM.pure, Res.ok.injEq,
      List.nil_append] at e
    obtain ⟨rfl, rfl⟩ := e
    have e2 : HeapExt s1.heap { s1.heap with objs := s1.heap.objs.push (Z.map fun z => (z.1, z.2.1)) } :=
      HeapExt.allocObj s1.heap _
    refine ⟨e1.trans e2, ?_⟩
    refine .obj _ _ s1.heap.objs.size Z (by simp) (by simp) (by simp [Heap.obj]) ?_ ?_
    · intro z hz; exact (gz z hz).1
    · intro z hz
      have := (gz z hz).2.lift _ s1.heap.arrs.size s1.heap.objs.size e2 (Nat.le_refl _) (Nat.le_refl _)
      rw [e2.get_eq _ (gz z hz).1]
      exact this
theorem newValueItems_spec : ∀ (items : List JVal) (s s1 : St) (cells : List CellId),
    (∀ it ∈ items, it.Plain) → newValueItems items s = .ok cells s1 →
    HeapExt s.heap s1.heap ∧ ∃ Z : List (CellId × JVal), cells = Z.map Prod.fst ∧
      items = Z.map Prod.snd ∧ ∀ z ∈ Z, GoodCell s1 z.1 z.2
  | [], s, s1, cells, _, e => by
    simp only [newValueItems, pure, EM.pure, Res.ok.injEq] at e
    obtain ⟨rfl, rfl⟩ := e
    exact ⟨HeapExt.refl _, [], rfl, rfl, by simp⟩
  | j :: js, s, s1, cells, hpl, e => by
    rw [newValueItems, EM.bind_eq_ok] at e
    obtain ⟨v, sv, h0, e⟩ := e
    rw [EM.bind_eq_ok] at e
    obtain ⟨c, sc, h1, e⟩ := e
    rw [EM.bind_eq_ok] at e
    obtain ⟨cs, sb, h2, e⟩ := e
    have e' : Res.ok (c :: cs) sb = Res.ok cells s1 := e
    cases e'
    obtain ⟨hext, hrep⟩ := newValueJson_spec j s v sv (hpl j (by simp)) h0
    obtain ⟨e1, g1⟩ := newCell_good s sv v j hext hrep c sc h1
    obtain ⟨e2, Z, rfl, rfl, gz⟩ := newValueItems_spec js sc _ cs (fun x hx => hpl x (by simp [hx])) h2
    refine ⟨e1.trans e2, (c, j) :: Z, rfl, rfl, ?_⟩
    intro z hz
    rcases List.mem_cons.1 hz with rfl | hz
    · exact g1.lift e2
    · exact gz z hz
theorem newValueMembers_spec : ∀ (members : List (Bytes × JVal)) (s s1 : St)
    (cells : List (Bytes × CellId)), (∀ kv ∈ members, kv.2.Plain) →
    newValueMembers members s = .ok cells s1 →
    HeapExt s.heap s1.heap ∧ ∃ Z : List (Bytes × (CellId × JVal)),
      cells = Z.map (fun z => (z.1, z.2.1)) ∧ members = Z.map (fun z => (z.1, z.2.2)) ∧
      ∀ z ∈ Z, GoodCell s1 z.2.1 z.2.2
  | [], s, s1, cells, _, e => by
    simp only [newValueMembers, pure, EM.pure, Res.ok.injEq] at e
    obtain ⟨rfl, rfl⟩ := e
    exact ⟨HeapExt.refl _, [], rfl, rfl, by simp⟩
  | (k, j) :: ms, s, s1, cells, hpl, e => by
    rw [newValueMembers, EM.bind_eq_ok] at e
    obtain ⟨v, sv, h0, e⟩ := e
    rw [EM.bind_eq_ok] at e
    obtain ⟨c, sc, h1, e⟩ := e
    rw [EM.bind_eq_ok] at e
    obtain ⟨cs, sb, h2, e⟩ := e
    have e' : Res.ok ((k, c) :: cs) sb = Res.ok cells s1 := e
    cases e'
    obtain ⟨hext, hrep⟩ := newValueJson_spec j s v sv (hpl (k, j) (by simp)) h0
    obtain ⟨e1, g1⟩ := newCell_good s sv v j hext hrep c sc h1
    obtain ⟨e2, Z, rfl, hrest, gz⟩ :=
      newValueMembers_spec ms sc _ cs (fun x hx => hpl x (by simp [hx])) h2
    refine ⟨e1.trans e2, (k, (c, j)) :: Z, by simp, by simp [hrest], ?_⟩
    intro z hz
    rcases List.mem_cons.1 hz with rfl | hz
    · exact g1.lift e2
    · exact gz z hz
end

theorem newValueJson_toJValTop (j : JVal) (hj : j.Plain) (s s' : St) (v : Val)
    (e : newValueJson j s = .ok v s') : toJValTop s'.heap v = .ok j.norm := by
  obtain ⟨_, hrep⟩ := newValueJson_spec j s v s' hj e
  obtain ⟨m, hm⟩ := toJVal_of_reprB hrep hj [] false (by simp) (by simp)
  exact toJValTop_of_fuel _ m v _ hm

mutual
theorem newValueJson_succeeds : ∀ (j : JVal) (s : St), ∃ v s', newValueJson j s = .ok v s'
  | .null, s => ⟨_, _, rfl⟩
  | .bool _, s => ⟨_, _, rfl⟩
  | .str _, s => ⟨_, _, rfl⟩
  | .num _, s => ⟨_, _, rfl⟩
  | .arr items, s => by
    obtain ⟨cells, s1, hm⟩ := newValueItems_succeeds items s
    rw [newValueJson]
    exact ⟨_, _, (EM.bind_eq_ok _ _ _ _ _).2 ⟨cells, s1, hm, rfl⟩⟩
  | .obj members, s => by
    obtain ⟨cells, s1, hm⟩ := newValueMembers_succeeds members s
    rw [newValueJson]
    exact ⟨_, _, (EM.bind_eq_ok _ _ _ _ _).2 ⟨cells, s1, hm, rfl⟩⟩
theorem newValueItems_succeeds : ∀ (items : List JVal) (s : St),
    ∃ cells s1, newValueItems items s = .ok cells s1
  | [], s => ⟨_, _, rfl⟩
  | j :: js, s => by
    obtain ⟨v, sv, h0⟩ := newValueJson_succeeds j s
    obtain ⟨cs, sb, h2⟩ := newValueItems_succeeds js { sv with heap := (sv.heap.alloc v).2 }
    rw [newValueItems]
    refine ⟨_, _, (EM.bind_eq_ok _ _ _ _ _).2 ⟨v, sv, h0, (EM.bind_eq_ok _ _ _ _ _).2
      ⟨_, _, rfl, (EM.bind_eq_ok _ _ _ _ _).2 ⟨cs, sb, h2, rfl⟩⟩⟩⟩
theorem newValueMembers_succeeds : ∀ (members : List (Bytes × JVal)) (s : St),
    ∃ cells s1, newValueMembers members s = .ok cells s1
  | [], s => ⟨_, _, rfl⟩
  | (k, j) :: ms, s => by
    obtain ⟨v, sv, h0⟩ := newValueJson_succeeds j s
    obtain ⟨cs, sb, h2⟩ := newValueMembers_succeeds ms { sv with heap := (sv.heap.alloc v).2 }
    rw [newValueMembers]
    refine ⟨_, _, (EM.bind_eq_ok _ _ _ _ _).2 ⟨v, sv, h0, (EM.bind_eq_ok _ _ _ _ _).2
      ⟨_, _, rfl, (EM.bind_eq_ok _ _ _ _ _).2 ⟨cs, sb, h2, rfl⟩⟩⟩⟩
end

end Jqawk
