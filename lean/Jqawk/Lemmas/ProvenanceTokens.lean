/-
  Provenance of positions (C12): the tokens stored in an AST.

  `Expr.tokens kw`, `Stmt.tokens kw`, `Program.tokens`: every token field of every node.  With
  `kw = false` the keyword tokens of statements (`{`, `print`, `break`, `continue`, `next`,
  `exit`) are left out: the evaluator never takes a position from them (`Program.blameTokens`),
  and the implicit `print` of a body-less rule carries the zero token, not a token of the text.
-/
import Jqawk.Model.Parser

namespace Jqawk

def kwTok (kw : Bool) (t : Token) : List Token := if kw then [t] else []

mutual
def Expr.tokens (kw : Bool) : Expr → List Token
  | .lit t => [t]
  | .ident t => [t]
  | .arr t items => t :: tokensEs kw items
  | .obj t items => t :: tokensKVs kw items
  | .unary e op _ => op :: e.tokens kw
  | .binary l r op => op :: (l.tokens kw ++ r.tokens kw)
  | .call f args => f.tokens kw ++ tokensEs kw args
  | .match_ t v cases => t :: (v.tokens kw ++ tokensCases kw cases)
def tokensEs (kw : Bool) : List Expr → List Token
  | [] => []
  | e :: es => e.tokens kw ++ tokensEs kw es
def tokensKVs (kw : Bool) : List (Bytes × Expr) → List Token
  | [] => []
  | (_, e) :: es => e.tokens kw ++ tokensKVs kw es
def tokensCases (kw : Bool) : List MatchCase → List Token
  | [] => []
  | (.mk pats body) :: cs => tokensEs kw pats ++ body.tokens kw ++ tokensCases kw cs
def Stmt.tokens (kw : Bool) : Stmt → List Token
  | .block t body => kwTok kw t ++ tokensSs kw body
  | .print t args => kwTok kw t ++ tokensEs kw args
  | .expr e => e.tokens kw
  | .ret none => []
  | .ret (some e) => e.tokens kw
  | .brk t => kwTok kw t
  | .cont t => kwTok kw t
  | .next t => kwTok kw t
  | .exit t => kwTok kw t
  | .if_ c b none => c.tokens kw ++ b.tokens kw
  | .if_ c b (some e) => c.tokens kw ++ b.tokens kw ++ e.tokens kw
  | .while_ c b => c.tokens kw ++ b.tokens kw
  | .for_ pre c post b => pre.tokens kw ++ c.tokens kw ++ post.tokens kw ++ b.tokens kw
  | .forIn id idx iter b => id :: (idx.toList ++ (iter.tokens kw ++ b.tokens kw))
def tokensSs (kw : Bool) : List Stmt → List Token
  | [] => []
  | s :: ss => s.tokens kw ++ tokensSs kw ss
end

def Rule.tokens (kw : Bool) (r : Rule) : List Token :=
  (match r.pattern with | none => [] | some e => e.tokens kw) ++ r.body.tokens kw

def FuncDef.tokens (kw : Bool) (f : FuncDef) : List Token := f.ident :: f.body.tokens kw

def Program.tokens (p : Program) : List Token :=
  p.rules.flatMap (Rule.tokens true) ++ p.functions.flatMap (FuncDef.tokens true)

/-- the tokens the evaluator can take an error position from: all but the keyword tokens of
    statements -/
def Program.blameTokens (p : Program) : List Token :=
  p.rules.flatMap (Rule.tokens false) ++ p.functions.flatMap (FuncDef.tokens false)

def TokOK (G : Nat → Prop) (l : List Token) : Prop := ∀ t ∈ l, G t.pos

section
variable {G : Nat → Prop} {kw : Bool}

@[simp] theorem TokOK_nil : TokOK G [] := by intro t h; cases h
@[simp] theorem TokOK_cons (t : Token) (l : List Token) : TokOK G (t :: l) ↔ G t.pos ∧ TokOK G l := by
  simp [TokOK]
@[simp] theorem TokOK_append (a b : List Token) : TokOK G (a ++ b) ↔ TokOK G a ∧ TokOK G b := by
  simp only [TokOK, List.mem_append]
  exact ⟨fun h => ⟨fun t ht => h t (.inl ht), fun t ht => h t (.inr ht)⟩,
    fun h t ht => ht.elim (h.1 t) (h.2 t)⟩
theorem TokOK_kwTok (t : Token) (h : G t.pos) : TokOK G (kwTok kw t) := by
  unfold kwTok; split <;> simp [h]
@[simp] theorem TokOK_kwTok_true (t : Token) : TokOK G (kwTok true t) ↔ G t.pos := by
  simp [kwTok]
@[simp] theorem TokOK_kwTok_false (t : Token) : TokOK G (kwTok false t) := by
  simp [kwTok]
@[simp] theorem TokOK_toList (o : Option Token) : TokOK G o.toList ↔ ∀ t, o = some t → G t.pos := by
  cases o <;> simp [TokOK]

theorem TokOK.mono {G' : Nat → Prop} (h : ∀ p, G p → G' p) {l : List Token} (hl : TokOK G l) :
    TokOK G' l := fun t ht => h _ (hl t ht)

theorem tokensEs_eq_flatMap (l : List Expr) : tokensEs kw l = l.flatMap (Expr.tokens kw) := by
  induction l with
  | nil => rfl
  | cons e es ih => rw [tokensEs, List.flatMap_cons, ih]

theorem tokensSs_eq_flatMap (l : List Stmt) : tokensSs kw l = l.flatMap (Stmt.tokens kw) := by
  induction l with
  | nil => rfl
  | cons e es ih => rw [tokensSs, List.flatMap_cons, ih]

theorem tokensKVs_eq_flatMap (l : List (Bytes × Expr)) :
    tokensKVs kw l = l.flatMap fun kv => kv.2.tokens kw := by
  induction l with
  | nil => rfl
  | cons e es ih => rw [tokensKVs, List.flatMap_cons, ih]

theorem tokensCases_eq_flatMap (l : List MatchCase) :
    tokensCases kw l = l.flatMap fun c => tokensEs kw c.1 ++ c.2.tokens kw := by
  induction l with
  | nil => rfl
  | cons e es ih => cases e; rw [tokensCases, List.flatMap_cons, ih, List.append_assoc]

theorem TokOK_flatMap_reverse {α : Type} (f : α → List Token) (l : List α) :
    TokOK G (l.reverse.flatMap f) ↔ TokOK G (l.flatMap f) := by
  simp only [TokOK, List.mem_flatMap, List.mem_reverse]

@[simp] theorem TokOK_tokensEs_reverse (l : List Expr) :
    TokOK G (tokensEs kw l.reverse) ↔ TokOK G (tokensEs kw l) := by
  simp only [tokensEs_eq_flatMap, TokOK_flatMap_reverse]
@[simp] theorem TokOK_tokensSs_reverse (l : List Stmt) :
    TokOK G (tokensSs kw l.reverse) ↔ TokOK G (tokensSs kw l) := by
  simp only [tokensSs_eq_flatMap, TokOK_flatMap_reverse]
@[simp] theorem TokOK_tokensKVs_reverse (l : List (Bytes × Expr)) :
    TokOK G (tokensKVs kw l.reverse) ↔ TokOK G (tokensKVs kw l) := by
  simp only [tokensKVs_eq_flatMap, TokOK_flatMap_reverse]
@[simp] theorem TokOK_tokensCases_reverse (l : List MatchCase) :
    TokOK G (tokensCases kw l.reverse) ↔ TokOK G (tokensCases kw l) := by
  simp only [tokensCases_eq_flatMap, TokOK_flatMap_reverse]

theorem Expr.token_mem (kw : Bool) : ∀ e : Expr, e.token ∈ e.tokens kw
  | .lit _ | .ident _ | .arr _ _ | .obj _ _ | .unary _ _ _ | .match_ _ _ _ => List.mem_cons_self
  | .binary l _ _ => List.mem_cons_of_mem _ (List.mem_append_left _ (Expr.token_mem kw l))
  | .call f _ => List.mem_append_left _ (Expr.token_mem kw f)

theorem TokOK.token {e : Expr} (h : TokOK G (e.tokens kw)) : G e.token.pos :=
  h _ (Expr.token_mem kw e)

end

end Jqawk
