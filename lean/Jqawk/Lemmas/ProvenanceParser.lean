/-
  Provenance of positions, parser side (C12).

  `PM.Prov G Rq P last m`: in the parser program `m`, started when the lexer's last answer was
  `last`, whatever tokens with offsets in `G` the lexer answers,
    * every `fail` carries an offset in `G`,
    * `Regex()` is only requested when the tag of the last answer satisfies `Rq`,
    * every result satisfies `P` (which also sees the last answer).
  `PProv` is the same for the state-passing layer, with the invariant "the parser's current
  token is the lexer's last answer".  The induction over the 14 mutually recursive parser
  functions (`allProv`) has the architecture of `Lemmas/ParserClosed.lean`: every token stored
  in the AST and the current token carry offsets in `G`.
-/
import Jqawk.Lemmas.PM
import Jqawk.Lemmas.ProvenanceLex
import Jqawk.Lemmas.ProvenanceTokens
import Jqawk.Lemmas.ParserCases
import Jqawk.Lemmas.Ite

namespace Jqawk

namespace PM

section
variable {α β : Type} (G : Nat → Prop) (Rq : Tag → Prop)

def Prov (P : Token → α → Prop) : Token → PM α → Prop
  | last, .pure a => P last a
  | _, .fail e => G e.pos
  | _, .oof => True
  | _, .next k => ∀ t nl, G t.pos → Prov P t (k t nl)
  | last, .regex k => Rq last.tag ∧ ∀ t, G t.pos → Prov P t (k t)

variable {G Rq}

theorem Prov.mono {P Q : Token → α → Prop} {m : PM α} {last : Token} (h : Prov G Rq P last m)
    (hpq : ∀ l a, P l a → Q l a) : Prov G Rq Q last m := by
  induction m generalizing last with
  | pure a => exact hpq _ a h
  | fail e => exact h
  | oof => trivial
  | next k ih => exact fun t nl ht => ih t nl (h t nl ht)
  | regex k ih => exact ⟨h.1, fun t ht => ih t (h.2 t ht)⟩

theorem prov_bind_iff (P : Token → β → Prop) (m : PM α) (f : α → PM β) (last : Token) :
    Prov G Rq P last (m.bind f) ↔ Prov G Rq (fun l a => Prov G Rq P l (f a)) last m := by
  induction m generalizing last with
  | pure a => rfl
  | fail e => rfl
  | oof => rfl
  | next k ih => simp only [PM.bind, Prov, ih]
  | regex k ih => simp only [PM.bind, Prov, ih]

end

theorem run_prov {α : Type} {G : Nat → Prop} {Rq : Tag → Prop} {src : Bytes}
    (hG : ∀ t, Prov.IsTokenOf Rq src t → G t.pos) {P : Token → α → Prop} {m : PM α}
    {last : Token} {s : LexState} (hl : Prov.Lexed Rq src last s) (h : PM.Prov G Rq P last m) :
    match m.run s with
    | .ok a => ∃ l, P l a
    | .syntaxErr e => G e.pos ∨ Prov.IsLexErrOf Rq src e
    | .oof => True := by
  induction m generalizing last s with
  | pure a => exact ⟨last, h⟩
  | fail e => exact .inl h
  | oof => trivial
  | next k ih =>
    simp only [PM.run]
    have hn := Prov.nextNN_lexed (s.rest.length + 1) hl false (Nat.lt_succ_self _)
    cases hr : Lexer.nextNN (s.rest.length + 1) s false with
    | error e => rw [hr] at hn; exact .inr hn
    | ok r =>
      obtain ⟨t, nl, s'⟩ := r
      rw [hr] at hn
      exact ih t nl hn.1 (h t nl (hG t hn.2))
  | regex k ih =>
    simp only [PM.run]
    cases hr : Lexer.regex s with
    | error e => exact .inr ⟨last, s, hl, .inr ⟨h.1, hr⟩⟩
    | ok r =>
      obtain ⟨t, s'⟩ := r
      exact ih t (hl.regex h.1 hr) (h.2 t (hG t ⟨last, s, s', hl, .inr ⟨h.1, hr⟩⟩))

end PM

def PProv (G : Nat → Prop) (Rq : Tag → Prop) {α : Type} (Q : α × PS → Prop) (m : P α) (ps : PS) :
    Prop :=
  PM.Prov G Rq (fun last r => last = r.2.cur ∧ Q r) ps.cur (m ps)

namespace PProv
open Parser
variable {α β : Type} {G : Nat → Prop} {Rq : Tag → Prop}

theorem mono {Q Q' : α × PS → Prop} {m : P α} {ps : PS} (h : PProv G Rq Q m ps)
    (hq : ∀ r, Q r → Q' r) : PProv G Rq Q' m ps :=
  PM.Prov.mono h (fun _ r hr => ⟨hr.1, hq r hr.2⟩)

theorem bind {Q : β × PS → Prop} {m : P α} {f : α → P β} {ps : PS}
    (h : PProv G Rq (fun r => PProv G Rq Q (f r.1) r.2) m ps) : PProv G Rq Q (m >>= f) ps := by
  show PM.Prov G Rq _ ps.cur ((m ps).bind _)
  rw [PM.prov_bind_iff]
  refine PM.Prov.mono h ?_
  rintro l r ⟨rfl, hr⟩
  exact hr

theorem pure {Q : α × PS → Prop} {a : α} {ps : PS} (h : Q (a, ps)) :
    PProv G Rq Q (Pure.pure a : P α) ps := ⟨rfl, h⟩

theorem fail {Q : α × PS → Prop} {pos : Nat} {msg : String} {ps : PS} (h : G pos) :
    PProv G Rq Q (Parser.fail pos msg : P α) ps := h

theorem oof {Q : α × PS → Prop} {ps : PS} : PProv G Rq Q (Parser.oof : P α) ps := trivial

theorem ite {Q : α × PS → Prop} {c : Prop} [Decidable c] {a b : P α} {ps : PS}
    (ha : c → PProv G Rq Q a ps) (hb : ¬c → PProv G Rq Q b ps) :
    PProv G Rq Q (if c then a else b) ps :=
  ite_elim (P := fun m => PProv G Rq Q m ps) ha hb

theorem after {P' : α × PS → Prop} {Q : β × PS → Prop} {m : P α} {f : α → P β} {ps : PS}
    (h : PProv G Rq P' m ps) (k : ∀ {a ps'}, P' (a, ps') → PProv G Rq Q (f a) ps') :
    PProv G Rq Q (m >>= f) ps :=
  bind (h.mono fun _ hr => k hr)

/-! The rules below are for an action followed by the rest of the program, `act >>= f`. -/

variable {Q : β × PS → Prop} {ps : PS}

theorem get {f : PS → P β} (h : PProv G Rq Q (f ps) ps) :
    PProv G Rq Q (MonadState.get >>= f) ps := bind ⟨rfl, h⟩

theorem modify {f : Unit → P β} {g : PS → PS} (hc : (g ps).cur = ps.cur)
    (h : PProv G Rq Q (f ()) (g ps)) : PProv G Rq Q (_root_.modify g >>= f) ps :=
  bind ⟨hc.symm, h⟩

theorem setDidEnd {f : Unit → P β} {b : Bool} (h : PProv G Rq Q (f ()) { ps with didEnd := b }) :
    PProv G Rq Q (Parser.setDidEnd b >>= f) ps := bind ⟨rfl, h⟩

theorem curTag {f : Tag → P β} (h : PProv G Rq Q (f ps.cur.tag) ps) :
    PProv G Rq Q (Parser.curTag >>= f) ps := bind ⟨rfl, h⟩

theorem atEnd {f : Bool → P β} (h : PProv G Rq Q (f (ps.cur.tag == .eof)) ps) :
    PProv G Rq Q (Parser.atEnd >>= f) ps := bind ⟨rfl, h⟩

theorem advance {f : Unit → P β}
    (h : ∀ {t nl}, G t.pos → PProv G Rq Q (f ()) { ps with prev := ps.cur, cur := t, didEnd := nl }) :
    PProv G Rq Q (Parser.advance >>= f) ps := bind fun _ _ ht => ⟨rfl, h ht⟩

theorem consume {f : Unit → P β} {tag : Tag} (hcur : G ps.cur.pos)
    (h : ∀ {t nl}, ps.cur.tag = tag → G t.pos →
      PProv G Rq Q (f ()) { ps with prev := ps.cur, cur := t, didEnd := nl }) :
    PProv G Rq Q (Parser.consume tag >>= f) ps := by
  unfold Parser.consume
  refine bind (get ?_)
  show PProv G Rq _ (if (ps.cur.tag == tag) = true then Parser.advance
    else Parser.fail ps.cur.pos "expected token") ps
  exact ite (fun hc _ _ ht => ⟨rfl, h (by simpa using hc) ht⟩) fun _ => hcur

theorem consumeOf {f : Unit → P β} {tags : List Tag} (hcur : G ps.cur.pos)
    (h : ∀ {t nl}, ps.cur.tag ∈ tags → G t.pos →
      PProv G Rq Q (f ()) { ps with prev := ps.cur, cur := t, didEnd := nl }) :
    PProv G Rq Q (Parser.consumeOf tags >>= f) ps := by
  unfold Parser.consumeOf
  refine bind (get ?_)
  show PProv G Rq _ (if tags.contains ps.cur.tag = true then Parser.advance
    else Parser.fail ps.cur.pos "expected one of") ps
  exact ite (fun hc _ _ ht => ⟨rfl, h (by simpa using hc) ht⟩) fun _ => hcur

theorem consumeIgnore {f : Unit → P β} {tag : Tag} (hcur : G ps.cur.pos)
    (h : ∀ {ps'}, G ps'.cur.pos → PProv G Rq Q (f ()) ps') :
    PProv G Rq Q (Parser.consumeIgnore tag >>= f) ps := by
  unfold Parser.consumeIgnore
  refine bind (get ?_)
  show PProv G Rq _ (if (ps.cur.tag == tag) = true then Parser.advance else Pure.pure ()) ps
  exact ite (fun _ _ _ ht => ⟨rfl, h ht⟩) fun _ => pure (h hcur)

/-- `atStatementEnd` leaves the state alone or advances once -/
theorem atStatementEnd {f : Bool → P β} (hcur : G ps.cur.pos)
    (h : ∀ {b ps'}, G ps'.cur.pos → PProv G Rq Q (f b) ps') :
    PProv G Rq Q (Parser.atStatementEnd >>= f) ps := by
  unfold Parser.atStatementEnd
  refine bind (get ?_)
  show PProv G Rq _ (if ps.didEnd = true then Pure.pure true else
    match ps.cur.tag with
    | .rcurly => Pure.pure true
    | .semiColon => (do Parser.advance; Pure.pure true)
    | _ => Pure.pure false : P Bool) ps
  refine ite (fun _ => pure (h hcur)) fun _ => ?_
  split
  · exact pure (h hcur)
  · exact advance fun ht => pure (h ht)
  · exact pure (h hcur)

theorem regexPrefix {Q : Expr × PS → Prop} (hq : Rq ps.cur.tag)
    (h : ∀ {tok t nl}, G tok.pos → G t.pos →
      Q (.lit tok, { ps with prev := tok, cur := t, didEnd := nl })) :
    PProv G Rq Q Parser.regexPrefix ps :=
  ⟨hq, fun _ htok _ _ ht => ⟨rfl, h htok ht⟩⟩

end PProv


end Jqawk

namespace Jqawk
open Parser

def PvPost (G : Nat → Prop) {α : Type} (tok : α → List Token) (r : α × PS) : Prop :=
  G r.2.cur.pos ∧ TokOK G (tok r.1)

def TblRq (Rq : Tag → Prop) (tbl : RuleTable) : Prop :=
  ∀ tag, (lookupRule tbl tag).pre = some .regex → Rq tag

variable (G : Nat → Prop) (Rq : Tag → Prop) (kw : Bool)

/-- the induction hypothesis at fuel `n`: started with a current token at an offset in `G`, each
    function satisfies `PProv`, ends at such a token, and every token of its result is at an
    offset in `G`.  The loops ask the same of their accumulator, `infixLoop`/`infixFn` of the left
    operand; `prefixFn` asks that `Regex()` is allowed at the current tag when its rule is `regex`. -/
structure AllProv (tbl : RuleTable) (n : Nat) : Prop where
  statement : ∀ ps, G ps.cur.pos → PProv G Rq (PvPost G (Stmt.tokens kw)) (statement tbl n) ps
  loopBody : ∀ ps, G ps.cur.pos → PProv G Rq (PvPost G (Stmt.tokens kw)) (loopBody tbl n) ps
  block : ∀ ps, G ps.cur.pos → PProv G Rq (PvPost G (Stmt.tokens kw)) (block tbl n) ps
  blockLoop : ∀ acc ps, G ps.cur.pos → TokOK G (tokensSs kw acc) →
    PProv G Rq (PvPost G (tokensSs kw)) (blockLoop tbl n acc) ps
  printStatement : ∀ ps, G ps.cur.pos →
    PProv G Rq (PvPost G (Stmt.tokens kw)) (printStatement tbl n) ps
  printLoop : ∀ acc ps, G ps.cur.pos → TokOK G (tokensEs kw acc) →
    PProv G Rq (PvPost G (fun r : List Expr × Bool => tokensEs kw r.1)) (printLoop tbl n acc) ps
  expressionWithPrec : ∀ prec ps, G ps.cur.pos →
    PProv G Rq (PvPost G (Expr.tokens kw)) (expressionWithPrec tbl n prec) ps
  infixLoop : ∀ prec lhs ps, G ps.cur.pos → TokOK G (lhs.tokens kw) →
    PProv G Rq (PvPost G (Expr.tokens kw)) (infixLoop tbl n prec lhs) ps
  prefixFn : ∀ pk ps, G ps.cur.pos → (pk = .regex → Rq ps.cur.tag) →
    PProv G Rq (PvPost G (Expr.tokens kw)) (prefixFn tbl n pk) ps
  exprList : ∀ endTag acc ps, G ps.cur.pos → TokOK G (tokensEs kw acc) →
    PProv G Rq (PvPost G (tokensEs kw)) (exprList tbl n endTag acc) ps
  objectLoop : ∀ acc ps, G ps.cur.pos → TokOK G (tokensKVs kw acc) →
    PProv G Rq (PvPost G (tokensKVs kw)) (objectLoop tbl n acc) ps
  matchCases : ∀ acc ps, G ps.cur.pos → TokOK G (tokensCases kw acc) →
    PProv G Rq (PvPost G (tokensCases kw)) (matchCases tbl n acc) ps
  matchPats : ∀ acc ps, G ps.cur.pos → TokOK G (tokensEs kw acc) →
    PProv G Rq (PvPost G (tokensEs kw)) (matchPats tbl n acc) ps
  infixFn : ∀ ik lhs ps, G ps.cur.pos → TokOK G (lhs.tokens kw) →
    PProv G Rq (PvPost G (Expr.tokens kw)) (infixFn tbl n ik lhs) ps

variable {G Rq kw} {tbl : RuleTable} {n : Nat}

theorem PProv.call {α β : Type} {tok : α → List Token} {Q : β × PS → Prop} {m : P α} {f : α → P β}
    {ps : PS} (h : PProv G Rq (PvPost G tok) m ps)
    (k : ∀ {a ps'}, G ps'.cur.pos → TokOK G (tok a) → PProv G Rq Q (f a) ps') :
    PProv G Rq Q (m >>= f) ps :=
  .after h fun hr => k hr.1 hr.2

section tactics
set_option hygiene false

/-- the leaves the traversals leave open: the tokens of a node built from parts whose tokens are
    known (needs the section variable `kw`) -/
macro "prov_close" : tactic => `(tactic| first
  | assumption
  | (simp_all [-List.reverse_cons, PvPost, Expr.tokens, Stmt.tokens, tokensEs, tokensSs,
      tokensKVs, tokensCases, TokOK_kwTok, rewriteCompound]; done))

end tactics

/-! The proofs follow the program text, one rule per action; `hG` is the fact that the current
    token is at an offset in `G`; the token facts of the leaves are closed by `prov_close`. -/

theorem prefixFn_prov (ih : AllProv G Rq kw tbl n) (pk : PrefixKind) (ps : PS)
    (hG : G ps.cur.pos) (hrq : pk = .regex → Rq ps.cur.tag) :
    PProv G Rq (PvPost G (Expr.tokens kw)) (prefixFn tbl (n + 1) pk) ps := by
  unfold prefixFn
  cases pk
  case literal => exact .advance fun hG' => .get <| .pure ⟨hG', by prov_close⟩
  case regex => exact .regexPrefix (hrq rfl) fun ht hG' => ⟨hG', by prov_close⟩
  case identifier =>
    exact .get <| .ite (fun _ => .advance fun hG' => .get <|
      .pure ⟨hG', by prov_close⟩) fun _ => .fail hG
  case array =>
    exact .consume hG fun _ hG' => .get <|
      .call (ih.exprList _ [] _ hG' TokOK_nil) fun hG'' hi => .pure ⟨hG'', by prov_close⟩
  case object =>
    exact .consume hG fun _ hG' => .get <|
      .call (ih.objectLoop [] _ hG' TokOK_nil) fun hG'' hi => .consume hG'' fun _ hG₃ =>
      .pure ⟨hG₃, by prov_close⟩
  case group =>
    exact .consume hG fun _ hG' => .call (ih.expressionWithPrec _ _ hG') fun hG'' he =>
      .consume hG'' fun _ hG₃ => .pure ⟨hG₃, he⟩
  case unary =>
    exact .advance fun hG' => .get <|
      .call (ih.expressionWithPrec _ _ hG') fun hG'' he =>
      .ite (fun _ => .fail (TokOK.token (kw := kw) he)) fun _ => .pure ⟨hG'', by prov_close⟩
  case match_ =>
    exact .consume hG fun _ hG₁ => .get <| .consume hG₁ fun _ hG₂ =>
      .call (ih.expressionWithPrec _ _ hG₂) fun hG₃ hv => .consume hG₃ fun _ hG₄ =>
      .consume hG₄ fun _ hG₅ => .call (ih.matchCases [] _ hG₅ TokOK_nil) fun hG₆ hc =>
      .consume hG₆ fun _ hG₇ => .setDidEnd <| .pure ⟨hG₇, by prov_close⟩


theorem infixFn_prov (ih : AllProv G Rq kw tbl n) (ik : InfixKind) (lhs : Expr) (ps : PS)
    (hG : G ps.cur.pos) (hl : TokOK G (lhs.tokens kw)) :
    PProv G Rq (PvPost G (Expr.tokens kw)) (infixFn tbl (n + 1) ik lhs) ps := by
  unfold infixFn
  cases ik
  case computedMember =>
    exact .get <| .consume hG fun _ hG₁ =>
      .call (ih.expressionWithPrec _ _ hG₁) fun hG₂ he => .consume hG₂ fun _ hG₃ =>
      .pure ⟨hG₃, by prov_close⟩
  case member =>
    exact .consume hG fun _ hG₁ => .get <| .consume hG₁ fun _ hG₂ =>
      .get <| .pure ⟨hG₂, by prov_close⟩
  case call =>
    exact .consume hG fun _ hG₁ => .call (ih.exprList _ [] _ hG₁ TokOK_nil) fun hG₂ ha =>
      .pure ⟨hG₂, by prov_close⟩
  case postfixOp =>
    exact .ite (fun _ => .fail (TokOK.token (kw := kw) hl)) fun _ => .advance fun hG₁ =>
      .get <| .pure ⟨hG₁, by prov_close⟩
  case binary =>
    exact .advance fun hG₁ => .get <|
      .call (ih.expressionWithPrec _ _ hG₁) fun hG₂ he => .pure ⟨hG₂, by prov_close⟩
  case is =>
    exact .consume hG fun _ hG₁ => .get <| .consumeOf hG₁ fun _ hG₂ =>
      .get <| .pure ⟨hG₂, by prov_close⟩
  case assign =>
    exact .ite (fun _ => .fail (TokOK.token (kw := kw) hl)) fun _ => .advance fun hG₁ =>
      .get <| .call (ih.expressionWithPrec _ _ hG₁) fun hG₂ he =>
      .ite (fun _ => .pure ⟨hG₂, by prov_close⟩) fun _ => .pure ⟨hG₂, by prov_close⟩

theorem statement_prov (ih : AllProv G Rq kw tbl n) (ps : PS) (hG : G ps.cur.pos) :
    PProv G Rq (PvPost G (Stmt.tokens kw)) (statement tbl (n + 1)) ps := by
  unfold statement
  refine .setDidEnd <| .get ?_
  dsimp only
  generalize ps.cur.tag = tg
  split
  · exact ih.printStatement _ hG
  · exact .ite (fun _ => .fail hG) fun _ => .consume hG fun _ hG₁ => 
      .atStatementEnd hG₁ fun hG₂ =>
      .ite (fun _ => .call (ih.expressionWithPrec _ _ hG₂) fun hG₃ he => .pure ⟨hG₃, by prov_close⟩)
        fun _ => .setDidEnd <| .pure ⟨hG₂, by prov_close⟩
  · exact .consume hG fun _ hG₁ => .consume hG₁ fun _ hG₂ =>
      .call (ih.expressionWithPrec _ _ hG₂) fun hG₃ hc => .consume hG₃ fun _ hG₄ =>
      .call (ih.statement _ hG₄) fun hG₅ hb => .curTag <| .ite
        (fun _ => .consume hG₅ fun _ hG₆ => .call (ih.statement _ hG₆) fun hG₇ he =>
          .pure ⟨hG₇, by prov_close⟩)
        fun _ => .pure ⟨hG₅, by prov_close⟩
  · exact .consume hG fun _ hG₁ => .consume hG₁ fun _ hG₂ =>
      .call (ih.expressionWithPrec _ _ hG₂) fun hG₃ hc => .consume hG₃ fun _ hG₄ =>
      .call (ih.loopBody _ hG₄) fun hG₅ hb => .pure ⟨hG₅, by prov_close⟩
  · -- the `.for_` arm: `for ( pre`, then one of the two loop forms
    refine .consume hG fun _ hG₁ => .consume hG₁ fun _ hG₂ =>
      .call (ih.expressionWithPrec _ _ hG₂) fun {_ ps₁} hG₃ hpre => .curTag <|
      Parser.statement.match_1_cases (C := fun m : P Stmt => PProv G Rq _ m ps₁)
        (fun id hid _ => ?_) ?_
    · subst hid
      exact .after (P' := fun r => G r.2.cur.pos ∧ ∀ t, r.1 = some t → G t.pos)
        (.ite (fun _ => .consume hG₃ fun _ hG₄ => .consume hG₄ fun _ hG₅ =>
            .get <| .pure ⟨hG₅, by prov_close⟩)
          fun _ => .pure ⟨hG₃, nofun⟩)
        fun ⟨hG₄, hidx⟩ => .consumeIgnore hG₄ fun hG₅ =>
        .call (ih.expressionWithPrec _ _ hG₅) fun hG₆ hi => .consume hG₆ fun _ hG₇ =>
        .call (ih.loopBody _ hG₇) fun hG₈ hb => .pure ⟨hG₈, by prov_close⟩
    · exact .consume hG₃ fun _ hG₄ => .call (ih.expressionWithPrec _ _ hG₄) fun hG₅ hc =>
        .consume hG₅ fun _ hG₆ => .call (ih.expressionWithPrec _ _ hG₆) fun hG₇ hp =>
        .consume hG₇ fun _ hG₈ => .call (ih.loopBody _ hG₈) fun hG₉ hb =>
        .pure ⟨hG₉, by prov_close⟩
  · exact ih.block _ hG
  · exact .ite (fun _ => .fail hG) fun _ => .consume hG fun _ hG₁ => .get <|
      .pure ⟨hG₁, by prov_close⟩
  · exact .ite (fun _ => .fail hG) fun _ => .consume hG fun _ hG₁ => .get <|
      .pure ⟨hG₁, by prov_close⟩
  · exact .consume hG fun _ hG₁ => .get <| .pure ⟨hG₁, by prov_close⟩
  · exact .consume hG fun _ hG₁ => .get <| .pure ⟨hG₁, by prov_close⟩
  · exact .call (ih.expressionWithPrec _ _ hG) fun hG₁ he => .pure ⟨hG₁, by prov_close⟩

theorem allProv (G : Nat → Prop) (Rq : Tag → Prop) (kw : Bool) (tbl : RuleTable)
    (hT : TblRq Rq tbl) : ∀ n, AllProv G Rq kw tbl n
  | 0 => by constructor <;> intros <;> exact PProv.oof
  | n + 1 =>
    have ih := allProv G Rq kw tbl hT n
    { statement := statement_prov ih
      loopBody := fun ps hG => by
        unfold loopBody
        exact .get <| .modify rfl <| .call (ih.statement _ hG) fun hG₁ hb =>
          .modify rfl <| .pure ⟨hG₁, hb⟩
      block := fun ps hG => by
        unfold block
        exact .consume hG fun _ hG₁ => .get <|
          .call (ih.blockLoop [] _ hG₁ TokOK_nil) fun hG₂ hb => .consume hG₂ fun _ hG₃ =>
          .setDidEnd <| .pure ⟨hG₃, by prov_close⟩
      blockLoop := fun acc ps hG hacc => by
        unfold blockLoop
        exact .curTag <| .ite (fun _ => .pure ⟨hG, by prov_close⟩) fun _ =>
          .call (ih.statement _ hG) fun hG₁ hs => .atStatementEnd hG₁ fun hG₂ =>
          .ite (fun _ => .get <| .fail hG₂) fun _ => ih.blockLoop _ _ hG₂ (by prov_close)
      printStatement := fun ps hG => by
        unfold printStatement
        exact .consume hG fun _ hG₁ => .get <|
          .call (ih.printLoop [] _ hG₁ TokOK_nil) fun {a _} hG₂ ha => by
          cases a
          exact .atStatementEnd hG₂ fun hG₃ =>
            .ite (fun _ => .setDidEnd <| .pure ⟨hG₃, by prov_close⟩)
              fun _ => .pure ⟨hG₃, by prov_close⟩
      printLoop := fun acc ps hG hacc => by
        unfold printLoop
        exact .atStatementEnd hG fun hG₁ => .ite (fun _ => .pure ⟨hG₁, by prov_close⟩) fun _ =>
          .call (ih.expressionWithPrec _ _ hG₁) fun hG₂ he => .curTag <| .ite
            (fun _ => .consume hG₂ fun _ hG₃ => ih.printLoop _ _ hG₃ (by prov_close))
            fun _ => .pure ⟨hG₂, by prov_close⟩
      expressionWithPrec := fun prec ps hG => by
        unfold expressionWithPrec
        refine .get ?_
        have hT' := hT ps.cur.tag
        generalize (lookupRule tbl ps.cur.tag).pre = pre at hT'
        cases pre with
        | none => exact .fail hG
        | some pk =>
          exact .call (ih.prefixFn pk _ hG fun e => hT' (e ▸ rfl)) fun hG₁ hx =>
            ih.infixLoop _ _ _ hG₁ hx
      infixLoop := fun prec lhs ps hG hl => by
        unfold infixLoop
        refine .get <| .ite (fun _ => ?_) fun _ => .pure ⟨hG, hl⟩
        generalize (lookupRule tbl ps.cur.tag).inf = inf
        cases inf with
        | none => exact .fail hG
        | some ik => exact .call (ih.infixFn ik lhs _ hG hl) fun hG₁ hx => ih.infixLoop _ _ _ hG₁ hx
      prefixFn := prefixFn_prov ih
      exprList := fun endTag acc ps hG hacc => by
        unfold exprList
        exact .curTag <| .ite
          (fun _ => .consume hG fun _ hG₁ => .pure ⟨hG₁, by prov_close⟩) fun _ =>
          .call (ih.expressionWithPrec _ _ hG) fun hG₁ he => .curTag <| .ite
            (fun _ => .consume hG₁ fun _ hG₂ => ih.exprList _ _ _ hG₂ (by prov_close))
            fun _ => .consume hG₁ fun _ hG₂ => .pure ⟨hG₂, by prov_close⟩
      objectLoop := fun acc ps hG hacc => by
        unfold objectLoop
        exact .curTag <| .ite (fun _ => .pure ⟨hG, by prov_close⟩) fun _ =>
          .consumeOf hG fun _ hG₁ => .get <| .consume hG₁ fun _ hG₂ =>
          .call (ih.expressionWithPrec _ _ hG₂) fun hG₃ hv => .curTag <| .ite
            (fun _ => .consume hG₃ fun _ hG₄ => ih.objectLoop _ _ hG₄ (by prov_close))
            fun _ => ih.objectLoop _ _ hG₃ (by prov_close)
      matchCases := fun acc ps hG hacc => by
        unfold matchCases
        exact .curTag <| .ite (fun _ => .pure ⟨hG, by prov_close⟩) fun _ =>
          .call (ih.matchPats [] _ hG TokOK_nil) fun hG₁ hp => .consume hG₁ fun _ hG₂ =>
          .curTag <|
          -- the body of a case is a statement or an expression
          .call (tok := Stmt.tokens kw)
            (.ite (fun _ => ih.statement _ hG₂)
              fun _ => .call (ih.expressionWithPrec _ _ hG₂) fun hG₃ he => .pure ⟨hG₃, by prov_close⟩)
            fun hG₃ hb => .curTag <| .ite
              (fun _ => .advance fun hG₄ => ih.matchCases _ _ hG₄ (by prov_close))
              fun _ => ih.matchCases _ _ hG₃ (by prov_close)
      matchPats := fun acc ps hG hacc => by
        unfold matchPats
        exact .atEnd <| .ite (fun _ => .pure ⟨hG, by prov_close⟩) fun _ =>
          .call (ih.expressionWithPrec _ _ hG) fun hG₁ he => .curTag <| .ite
            (fun _ => .pure ⟨hG₁, by prov_close⟩)
            fun _ => .consume hG₁ fun _ hG₂ => ih.matchPats _ _ hG₂ (by prov_close)
      infixFn := infixFn_prov ih }

/-- what the parser establishes for a rule: the tokens of the pattern and of the body carry
    offsets in `G` — or the body is the implicit `print` of a body-less rule, which carries the
    zero token -/
def RuleOK (G : Nat → Prop) (kw : Bool) (r : Rule) : Prop :=
  (∀ e, r.pattern = some e → TokOK G (e.tokens kw)) ∧
  (TokOK G (r.body.tokens kw) ∨ r.body = .print Token.zero [])

def FuncOK (G : Nat → Prop) (kw : Bool) (f : FuncDef) : Prop :=
  G f.ident.pos ∧ TokOK G (f.body.tokens kw)

def ProgOK (G : Nat → Prop) (kw : Bool) (p : Program) : Prop :=
  (∀ r ∈ p.rules, RuleOK G kw r) ∧ (∀ f ∈ p.functions, FuncOK G kw f)

theorem parseRule_prov (ih : AllProv G Rq kw tbl n) (ps : PS) (hG : G ps.cur.pos) :
    PProv G Rq (fun r => G r.2.cur.pos ∧ RuleOK G kw r.1) (parseRule tbl n) ps := by
  unfold parseRule
  -- first the kind and the pattern, then the body
  refine .curTag <| .after
    (P' := fun r : (RuleKind × Option Expr) × PS =>
      G r.2.cur.pos ∧ ∀ e, r.1.2 = some e → TokOK G (e.tokens kw)) ?_
    fun {a _} ⟨hG₁, hp⟩ => by
      cases a
      exact .curTag <| .ite
        (fun _ => .call (ih.block _ hG₁) fun hG₂ hb => .pure ⟨hG₂, hp, .inl hb⟩)
        fun _ => .pure ⟨hG₁, hp, .inr rfl⟩
  generalize ps.cur.tag = tg
  split
  iterate 4 exact .consume hG fun _ hG₁ => .pure ⟨hG₁, nofun⟩
  · exact .pure ⟨hG, nofun⟩
  · exact .call (ih.expressionWithPrec _ _ hG) fun hG₁ he =>
      .pure ⟨hG₁, fun _ h => Option.some.inj h ▸ he⟩

theorem funcArgs_prov : ∀ (n : Nat) (acc : List Bytes) (ps : PS), G ps.cur.pos →
    PProv G Rq (fun r => G r.2.cur.pos) (funcArgs n acc) ps
  | 0, _, _, _ => PProv.oof
  | n + 1, acc, ps, hG => by
    unfold funcArgs
    exact .curTag <| .ite (fun _ => .pure hG) fun _ => .consume hG fun _ hG₁ =>
      .get <| .curTag <| .ite
        (fun _ => .consume hG₁ fun _ hG₂ => funcArgs_prov n _ _ hG₂)
        fun _ => funcArgs_prov n _ _ hG₁

theorem parseFunction_prov (ih : AllProv G Rq kw tbl n) (ps : PS) (hG : G ps.cur.pos) :
    PProv G Rq (fun r => G r.2.cur.pos ∧ FuncOK G kw r.1) (parseFunction tbl n) ps := by
  unfold parseFunction
  exact .get <| .modify rfl <| .consume hG fun _ hG₁ =>
    .consume hG₁ fun _ hG₂ => .get <| .consume hG₂ fun _ hG₃ =>
    .after (funcArgs_prov n [] _ hG₃) fun hG₄ => .consume hG₄ fun _ hG₅ =>
    .call (ih.block _ hG₅) fun hG₆ hb => .modify rfl <| .pure ⟨hG₆, hG₁, hb⟩

theorem parseTop_prov (hT : TblRq Rq tbl) : ∀ (n : Nat) (rules : List Rule) (fns : List FuncDef)
    (ps : PS), G ps.cur.pos → (∀ r ∈ rules, RuleOK G kw r) → (∀ f ∈ fns, FuncOK G kw f) →
    PProv G Rq (fun r => ProgOK G kw r.1) (parseTop tbl n rules fns) ps
  | 0, _, _, _, _, _, _ => PProv.oof
  | n + 1, rules, fns, ps, hG, hrules, hfns => by
    have ih := allProv G Rq kw tbl hT n
    unfold parseTop
    exact .atEnd <| .ite
      (fun _ => .pure ⟨by simpa using hrules, by simpa using hfns⟩) fun _ => .curTag <| .ite
      (fun _ => .after (parseFunction_prov ih _ hG) fun ⟨hG₁, hf⟩ =>
        parseTop_prov hT n _ _ _ hG₁ hrules (List.forall_mem_cons.mpr ⟨hf, hfns⟩))
      fun _ => .after (parseRule_prov ih _ hG) fun ⟨hG₁, hr⟩ =>
        parseTop_prov hT n _ _ _ hG₁ (List.forall_mem_cons.mpr ⟨hr, hrules⟩) hfns

theorem parseProgram_prov (hT : TblRq Rq tbl) (n : Nat) :
    PProv G Rq (fun r => ProgOK G kw r.1) (parseProgram tbl n) PS.init := by
  unfold parseProgram
  exact .advance fun hG => parseTop_prov hT n _ _ _ hG (by simp) (by simp)

theorem parseExpression_prov (hT : TblRq Rq tbl) (n : Nat) :
    PProv G Rq (fun r => TokOK G (r.1.tokens kw)) (parseExpression tbl n) PS.init := by
  unfold parseExpression
  exact .advance fun hG =>
    .call ((allProv G Rq kw tbl hT n).expressionWithPrec _ _ hG) fun hG₁ he =>
    .consume hG₁ fun _ _ => .pure he

open Prov in
/-- provenance for `Parse()`: run on the text `src`, the parser ends with a program all of
    whose tokens carry token offsets of `src`, or with a syntax error at a token offset of
    `src`, or with a lexical error of `src`. -/
theorem parseProgramSrc_prov (Rq : Tag → Prop) (kw : Bool) (tbl : RuleTable) (hT : TblRq Rq tbl)
    (src : Bytes) :
    match parseProgramSrc tbl src with
    | .ok prog => ProgOK (TokenStart Rq src) kw prog
    | .syntaxErr e => TokenStart Rq src e.pos ∨ IsLexErrOf Rq src e
    | .oof => True := by
  unfold parseProgramSrc
  have h := PM.run_prov (G := TokenStart Rq src) (Rq := Rq) (src := src)
    (fun t ht => ⟨t, ht, rfl⟩) Lexed.init
    (parseProgram_prov (G := TokenStart Rq src) (kw := kw) hT (parserFuel src))
  revert h
  cases (parseProgram tbl (parserFuel src) PS.init).run (LexState.init src) with
  | ok r => rintro ⟨_, _, h⟩; exact h
  | syntaxErr e => exact id
  | oof => exact id

open Prov in
/-- provenance for `ParseExpression()` (selectors) -/
theorem parseExpressionSrc_prov (Rq : Tag → Prop) (kw : Bool) (tbl : RuleTable) (hT : TblRq Rq tbl)
    (src : Bytes) :
    match parseExpressionSrc tbl src with
    | .ok e => TokOK (TokenStart Rq src) (e.tokens kw)
    | .syntaxErr e => TokenStart Rq src e.pos ∨ IsLexErrOf Rq src e
    | .oof => True := by
  unfold parseExpressionSrc
  have h := PM.run_prov (G := TokenStart Rq src) (Rq := Rq) (src := src)
    (fun t ht => ⟨t, ht, rfl⟩) Lexed.init
    (parseExpression_prov (G := TokenStart Rq src) (kw := kw) hT (parserFuel src))
  revert h
  cases (parseExpression tbl (parserFuel src) PS.init).run (LexState.init src) with
  | ok r => rintro ⟨_, _, h⟩; exact h
  | syntaxErr e => exact id
  | oof => exact id

theorem tblRq_true (tbl : RuleTable) : TblRq (fun _ => True) tbl := fun _ _ => trivial

theorem tblRq_expected : TblRq Prov.AfterSlash expectedRuleTable := by
  intro tag
  unfold Prov.AfterSlash
  cases tag <;> decide

theorem nextNN_noToken {src : Bytes} {s1 : LexState}
    (h : Lexer.next (LexState.init src) = .ok (⟨.eof, 0, []⟩, s1)) (f : Nat) :
    Lexer.nextNN (f + 1) (LexState.init src) false = .ok (⟨.eof, 0, []⟩, false, s1) := by
  simp only [Lexer.nextNN, h]
  rfl

theorem parseProgramSrc_noToken (tbl : RuleTable) (src : Bytes) (h : Prov.NoToken src) :
    parseProgramSrc tbl src = .ok ⟨[], []⟩ := by
  obtain ⟨s1, h1⟩ := h
  have hf : parserFuel src = (8 * src.length + 63) + 1 := rfl
  unfold parseProgramSrc parseProgram
  rw [hf]
  show (match PM.run (PM.next fun t nl =>
      parseTop tbl (8 * src.length + 63 + 1) [] []
        { PS.init with prev := PS.init.cur, cur := t, didEnd := nl }) (LexState.init src) with
    | .ok (p, _) => ParseRes.ok p
    | .syntaxErr e => .syntaxErr e
    | .oof => .oof) = _
  simp only [PM.run]
  have := nextNN_noToken h1 (LexState.init src).rest.length
  rw [this]
  rfl

theorem expressionWithPrec_no_prefix (tbl : RuleTable) (n prec : Nat) (ps : PS)
    (h : (lookupRule tbl ps.cur.tag).pre = none) :
    expressionWithPrec tbl (n + 1) prec ps = .fail ⟨ps.cur.pos, "unexpected token"⟩ := by
  unfold expressionWithPrec
  rw [P.bind_eq_of_pure get _ ps ps ps rfl]
  simp only [h]
  rfl

theorem parseExpressionSrc_noToken_err (tbl : RuleTable) (hE : (lookupRule tbl .eof).pre = none)
    (src : Bytes) (h : Prov.NoToken src) :
    parseExpressionSrc tbl src = .syntaxErr ⟨0, "unexpected token"⟩ := by
  obtain ⟨s1, h1⟩ := h
  have hf : parserFuel src = (8 * src.length + 63) + 1 := rfl
  unfold parseExpressionSrc parseExpression
  rw [hf]
  show (match PM.run (PM.next fun t nl =>
      ((do
        let e ← expressionWithPrec tbl (8 * src.length + 63 + 1) Prec.assign
        consume .eof
        return e : P Expr)
        { PS.init with prev := PS.init.cur, cur := t, didEnd := nl })) (LexState.init src) with
    | .ok (p, _) => ParseRes.ok p
    | .syntaxErr e => .syntaxErr e
    | .oof => .oof) = _
  simp only [PM.run]
  have := nextNN_noToken h1 (LexState.init src).rest.length
  rw [this]
  dsimp only
  rw [P.bind_eq_of_fail _ _ _ _ (expressionWithPrec_no_prefix tbl _ _ _ hE)]
  rfl

theorem parseExpressionSrc_noToken (tbl : RuleTable) (hE : (lookupRule tbl .eof).pre = none)
    (src : Bytes) (h : Prov.NoToken src) : ∃ e, parseExpressionSrc tbl src = .syntaxErr e :=
  ⟨_, parseExpressionSrc_noToken_err tbl hE src h⟩

end Jqawk
