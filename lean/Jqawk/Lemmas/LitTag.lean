/-
  Literal tokens: the literal tags (`litTag`, Model/WF.lean) as a case distinction, and the three
  ways the value of a literal token (`Spec.litValue`, the literal clause of `evalExpr`) can go.
-/
import Jqawk.Model.WF
import Jqawk.Spec.Match

namespace Jqawk

theorem litTag_cases {tg : Tag} (h : litTag tg = true) :
    tg = .str ∨ tg = .ident ∨ tg = .regex ∨ tg = .num ∨ tg = .true_ ∨ tg = .false_ ∨ tg = .null := by
  unfold litTag at h
  split at h
  · exact .inl rfl
  · exact .inr (.inl rfl)
  · exact .inr (.inr (.inl rfl))
  · exact .inr (.inr (.inr (.inl rfl)))
  · exact .inr (.inr (.inr (.inr (.inl rfl))))
  · exact .inr (.inr (.inr (.inr (.inr (.inl rfl)))))
  · exact .inr (.inr (.inr (.inr (.inr (.inr rfl)))))
  · cases h

/-- a value; a runtime error AT the token (a bad escape, a number that does not parse); a panic,
    only for a token that is no literal token -/
theorem litValue_cases (t : Token) :
    (∃ v, Spec.litValue t = .ok v) ∨ (∃ m, Spec.litValue t = .error (.runtime t.pos m)) ∨
    (litTag t.tag = false ∧ ∃ m, Spec.litValue t = .error (.panic m)) := by
  unfold Spec.litValue
  split
  · split
    · exact .inr (.inl ⟨_, rfl⟩)
    · exact .inl ⟨_, rfl⟩
  · split
    · exact .inr (.inl ⟨_, rfl⟩)
    · exact .inl ⟨_, rfl⟩
  · exact .inl ⟨_, rfl⟩
  · split
    · exact .inr (.inl ⟨_, rfl⟩)
    · exact .inl ⟨_, rfl⟩
  · exact .inl ⟨_, rfl⟩
  · exact .inl ⟨_, rfl⟩
  · exact .inl ⟨_, rfl⟩
  · refine .inr (.inr ⟨?_, _, rfl⟩)
    generalize t.tag = tg at *
    cases tg <;> first | rfl | exact absurd rfl ‹_›

end Jqawk
