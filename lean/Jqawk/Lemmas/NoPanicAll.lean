/-
  Panic freedom (C01), part 4: the mutual induction over all evaluator functions.

  For a program whose function bodies are well-formed (`wfB`, part of what the parser guarantees:
  `parse_wf`) and whose functions are all known to the region (`P.F ≤ prog.functions.length`), no evaluator function —
  at any fuel, from any state satisfying the invariant, on well-formed syntax and arguments inside
  the region — ends in `Err.panic`; the invariant holds again afterwards and every cell handed
  out lies in the region.
-/
import Jqawk.Lemmas.NoPanicEval
import Jqawk.Lemmas.Shaped
import Jqawk.Lemmas.LitTag
import Jqawk.Lemmas.EvalNodes


namespace Jqawk

variable {P : Region}

def ItemOK (P : Region) (it : Option Val × (CellId ⊕ (Val × Option CellId))) : Prop :=
  (∀ iv, it.1 = some iv → GoodV P iv) ∧
  (match it.2 with
   | .inl c => P.N ≤ c
   | .inr (v, mc) => GoodV P v ∧ OptReg P mc)

structure AllNP (P : Region) (prog : Program) (n : Nat) : Prop where
  expr : ∀ e, e.wfB = true → NP P (KSet P) (evalExpr prog n e) (InR P)
  objItems : ∀ pos items acc, wfKVs items = true → RegM P acc →
    NP P (KSet P) (evalObjItems prog n pos items acc) (RegM P)
  exprList : ∀ es c, wfEs es = true → NP P (KSet P) (evalExprList prog n es c) (RegL P)
  matchCases : ∀ pos v cs, wfCases cs = true → P.N ≤ v →
    NP P (KSet P) (evalMatchCases prog n pos v cs) (InR P)
  caseMatch : ∀ v ps, wfEs ps = true → P.N ≤ v → NP P (KSet P) (evalCaseMatch prog n v ps) (OptRegM P)
  arrayCaseMatch : ∀ v ps, wfEs ps = true → P.N ≤ v →
    NP P (KSet P) (evalArrayCaseMatch prog n v ps) (OptRegM P)
  matchElems : ∀ cs ps acc, wfEs ps = true → RegL P cs → RegM P acc →
    NP P (KSet P) (Jqawk.matchElems prog n cs ps acc) (OptRegM P)
  call : ∀ pos f args, P.N ≤ f → RegL P args → NP P (KSet P) (callFunction prog n pos f args) (InR P)
  unary : ∀ e op p, e.wfB = true → NP P (KSet P) (evalUnary prog n e op p) (InR P)
  binary : ∀ l r op, l.wfB = true → r.wfB = true → NP P (KSet P) (evalBinary prog n l r op) (InR P)
  stmt : ∀ st, st.wfB = true → NP P (KSet P) (evalStmt prog n st) Tr
  block : ∀ sts, wfSs sts = true → NP P (KSet P) (evalBlock prog n sts) Tr
  whileL : ∀ c b, c.wfB = true → b.wfB = true → NP P (KSet P) (whileLoop prog n c b) Tr
  forL : ∀ c p b, c.wfB = true → p.wfB = true → b.wfB = true → NP P (KSet P) (forLoop prog n c p b) Tr
  forInL : ∀ l il b items, b.wfB = true → (∀ it ∈ items, ItemOK P it) →
    NP P (KSet P) (forInLoop prog n l il b items) Tr

/-- `$` is bound while rule code runs, so `getIdentifier` hands out a region cell -/
theorem NP.getIdentifier (prog : Program) (t : Token) :
    NP P (KSet P) (Jqawk.getIdentifier prog t) (InR P) := by
  unfold Jqawk.getIdentifier
  split
  · refine NP.bind NP.getSt (fun s hs => ?_)
    split
    · rename_i c hc
      obtain ⟨c', h1, h2⟩ := hs.rr
      rw [hc] at h1; cases h1
      exact NP.pure h2
    · exact NP.throwRt _ _
  · refine NP.bind (NP.getVariable _) (fun r hr => ?_)
    split
    · exact NP.pure hr
    · exact NP.throwRt _ _

theorem binaryOp_good {op : Tag} {l r v : Val} (h : binaryOp op l r = .val v) : GoodV P v := by
  rcases binaryOp_val h with ⟨_, rfl⟩ | ⟨_, rfl⟩ | ⟨_, rfl⟩ <;> trivial

theorem allNP_zero (P : Region) (prog : Program) : AllNP P prog 0 := by
  constructor <;> intros <;> unfold_eval <;> exact NP.oof

theorem allNP_succ (prog : Program) (hF : P.F ≤ prog.functions.length)
    (hwf : ∀ f ∈ prog.functions, f.body.wfB = true) (n : Nat) (ih : AllNP P prog n) :
    AllNP P prog (n + 1) := by
  constructor
  case expr =>
    intro e he
    unfold evalExpr
    cases e with
    | lit t =>
      simp only [Expr.wfB, Expr.nodeOK] at he
      dsimp only
      rcases litTag_cases he with ht | ht | ht | ht | ht | ht | ht <;> rw [ht] <;> dsimp only
      -- string, identifier and number literals may fail to decode; the others are constants
      case inl | inr.inl | inr.inr.inr.inl =>
        split
        · exact NP.throwRt _ _
        · exact NP.newCell trivial
      all_goals exact NP.newCell trivial
    | ident t => exact NP.getIdentifier _ _
    | arr t items =>
      exact NP.bind (ih.exprList _ _ he) (fun cells hcells =>
        NP.bind (NP.allocArrM (by simpa using hcells)) (fun a ha => NP.newCell ha))
    | obj t items =>
      exact NP.bind (ih.objItems _ _ _ he RegM.nil) (fun ms hms =>
        NP.bind (NP.allocObjM hms) (fun o ho => NP.newCell ho))
    | unary e op p =>
      simp only [Expr.wfB, Bool.and_eq_true] at he
      exact ih.unary _ _ _ he.2
    | binary l r op =>
      simp only [Expr.wfB, Bool.and_eq_true] at he
      exact ih.binary _ _ _ he.1.2 he.2
    | call f args =>
      simp only [Expr.wfB, Bool.and_eq_true] at he
      exact NP.bind (ih.expr _ he.1) (fun fc hfc =>
        NP.bind (ih.exprList _ _ he.2) (fun cs hcs => ih.call _ _ _ hfc hcs))
    | match_ t v cases =>
      simp only [Expr.wfB, Bool.and_eq_true] at he
      exact NP.bind (ih.expr _ he.1) (fun c hc => ih.matchCases _ _ _ he.2 hc)
  case objItems =>
    intro pos items acc h hacc
    cases items with
    | nil => unfold evalObjItems; exact NP.pure hacc
    | cons kv rest =>
      obtain ⟨k, e⟩ := kv
      simp only [wfKVs, Bool.and_eq_true] at h
      unfold evalObjItems
      refine NP.bind (ih.expr _ h.1) (fun v hv => NP.bind (NP.newCell trivial) (fun cell hcell =>
        NP.bind (NP.copyValue hv hcell) (fun r hr => ?_)))
      split
      · exact NP.throwRt _ _
      · exact ih.objItems _ _ _ h.2 (hacc.objInsert _ hr)
  case exprList =>
    intro es c h
    cases es with
    | nil => unfold evalExprList; exact NP.pure RegL.nil
    | cons e rest =>
      simp only [wfEs, Bool.and_eq_true] at h
      obtain ⟨h1, h2⟩ := h
      unfold evalExprList
      refine NP.bind (ih.expr _ h1) (fun v hv => ?_)
      refine NP.bind (R1 := InR P) ?_ (fun c hc => NP.bind (ih.exprList _ _ h2) (fun cs hcs => NP.pure ?_))
      · split
        · refine NP.bind (NP.newCell trivial) (fun fresh hfresh => NP.bind (NP.copyValue hv hfresh)
            (fun r hr => ?_))
          split
          · exact NP.throwRt _ _
          · exact NP.pure hr
        · exact NP.pure hv
      · intro d hd
        rcases List.mem_cons.mp hd with hd | hd
        · subst hd; exact hc
        · exact hcs d hd
  case matchCases =>
    intro pos v cs h hv
    cases cs with
    | nil => unfold evalMatchCases; exact NP.newCell trivial
    | cons c rest =>
      obtain ⟨pats, body⟩ := c
      simp only [wfCases, Bool.and_eq_true] at h
      unfold evalMatchCases
      refine NP.bind (ih.caseMatch _ _ h.1.1 hv) (fun r hr => ?_)
      split
      · exact ih.matchCases _ _ _ h.2 hv
      · apply NP.framed
        refine NP.bind (NP.bindAll hr) (fun _ _ => ?_)
        split
        · exact ih.expr _ (by simpa [Stmt.wfB] using h.1.2)
        · exact NP.bind (ih.stmt _ h.1.2) (fun _ _ => NP.newCell trivial)
  case caseMatch =>
    intro v ps h hv
    cases ps with
    | nil => unfold evalCaseMatch; exact NP.pure trivial
    | cons p rest =>
      simp only [wfEs, Bool.and_eq_true] at h
      have hrest := ih.caseMatch v rest h.2 hv
      unfold evalCaseMatch
      cases p with
      | lit t =>
        dsimp only
        refine NP.bind (ih.expr _ h.1) (fun cv hcv => NP.bind (NP.readCell hv) (fun x _ =>
          NP.bind (NP.readCell hcv) (fun y _ => ?_)))
        split
        · exact hrest
        · split
          · exact NP.throwRt _ _
          · split
            · exact NP.pure RegM.nil
            · exact hrest
      | arr t items =>
        dsimp only
        refine NP.bind (ih.arrayCaseMatch _ _ (by simpa [Expr.wfB] using h.1) hv) (fun r hr => ?_)
        split
        · exact NP.pure hr
        · exact hrest
      | ident t =>
        refine NP.pure ?_
        intro kc hkc
        simp only [List.mem_singleton] at hkc
        subst hkc; exact hv
      | _ => exact NP.throwRt _ _
  case arrayCaseMatch =>
    intro v ps h hv
    unfold evalArrayCaseMatch
    refine NP.bind (NP.readCell hv) (fun x hx => ?_)
    split
    · rename_i a
      refine NP.bind NP.getHeap (fun hp hh => ?_)
      dsimp only
      split
      · exact NP.pure trivial
      · exact ih.matchElems _ _ _ h (hh.arrs a hx) RegM.nil
    · exact NP.pure trivial
  case matchElems =>
    intro cs ps acc h hcs hacc
    cases cs with
    | nil => unfold Jqawk.matchElems; exact NP.pure hacc
    | cons c cs =>
      cases ps with
      | nil => unfold Jqawk.matchElems; exact NP.pure hacc
      | cons p ps =>
        simp only [wfEs, Bool.and_eq_true] at h
        obtain ⟨h1, h2⟩ := h
        have h3 : wfEs [p] = true := by simp [wfEs, h1]
        have hc : P.N ≤ c := hcs c (List.mem_cons_self ..)
        have hcs' : RegL P cs := fun x hx => hcs x (List.mem_cons_of_mem _ hx)
        unfold Jqawk.matchElems
        refine NP.bind (ih.caseMatch _ _ h3 hc) (fun r hr => ?_)
        split
        · exact NP.pure trivial
        · rename_i nb
          exact ih.matchElems _ _ _ h2 hcs' (RegM.foldInsert hr hacc)
  case call =>
    intro pos f args hf hargs
    unfold callFunction
    refine NP.bind (NP.readCell hf) (fun fv hfv => NP.bind NP.getHeap (fun h hh => ?_))
    have hvals : GoodVs P (args.map h.get) := by
      intro v hv
      obtain ⟨c, hc, rfl⟩ := List.mem_map.mp hv
      exact hh.cells c (hargs c hc)
    dsimp only
    split
    · rename_i nf binding sp
      have hthis : ∀ v, binding.map h.get = some v → GoodV P v := by
        intro v hv
        cases binding with
        | none => cases hv
        | some b => cases hv; exact hh.cells b hfv.1
      refine NP.bind (NP.callNative nf hvals hthis) (fun r hr => ?_)
      split
      · exact NP.throwRt _ _
      · exact NP.newCell hr
      · exact NP.newCell trivial
    · rename_i i
      have hi : i < prog.functions.length := Nat.lt_of_lt_of_le hfv.1 hF
      split
      · rename_i hnone
        exact absurd (List.getElem?_eq_none_iff.mp hnone) (Nat.not_le_of_lt hi)
      · rename_i fd hfd
        have hbody : fd.body.wfB = true := hwf fd (List.mem_of_getElem? hfd)
        apply NP.framed
        exact NP.bind (NP.bindParams _ hvals) (fun _ _ =>
          NP.bind (NP.catchReturn (ih.stmt _ hbody)) (fun rv hrv => NP.newCell hrv))
    · exact NP.throwRt _ _
  case unary =>
    intro e op p h
    unfold evalUnary
    refine NP.bind (ih.expr e h) (fun val hval => NP.bind (NP.readCell hval) (fun v _ => ?_))
    split
    case h_4 | h_5 => -- `++`, `--` (`h_k`: the k-th alternative of the `match` on `op.tag`)
      refine NP.bind (NP.newCell trivial) (fun nc hnc =>
        NP.bind (NP.evalAssignment _ hval hnc) (fun a ha => ?_))
      split
      · exact NP.newCell trivial
      · exact NP.bind (NP.readCell ha) (fun w hw => NP.newCell hw)
    case h_6 => exact NP.throwRt _ _ -- any other operator
    all_goals exact NP.newCell trivial
  case binary =>
    intro l r op hl hr
    unfold evalBinary
    refine NP.bind (ih.expr l hl) (fun left hleft => ?_)
    have truthyR : NP P (KSet P) (do
        let right ← evalExpr prog n r
        newCell (.bool (← readCell right).truthy)) (InR P) :=
      NP.bind (ih.expr r hr) (fun right hright =>
        NP.bind (NP.readCell hright) (fun _ _ => NP.newCell trivial))
    split
    · refine NP.bind (NP.readCell hleft) (fun v _ => ?_)
      split
      · exact truthyR
      · exact NP.newCell trivial
    · refine NP.bind (NP.readCell hleft) (fun v _ => ?_)
      split
      · exact NP.newCell trivial
      · exact truthyR
    · split
      · exact NP.bind (NP.readCell hleft) (fun _ _ => NP.newCell trivial)
      · exact NP.throwRt _ _
    · refine NP.bind (ih.expr r hr) (fun right hright => ?_)
      split
      · exact NP.memberStep _ hleft hright
      · exact NP.memberStep _ hleft hright
      · exact NP.evalAssignment _ hleft hright
      · split
        · refine NP.bind (NP.readCell hleft) (fun lv _ => NP.bind (NP.readCell hright) (fun rv _ => ?_))
          split
          · exact NP.newCell (binaryOp_good ‹_›)
          · exact NP.throwRt _ _
          · exact NP.throwUnmodelled _
        · exact NP.throwRt _ _
  case stmt =>
    intro st h
    unfold evalStmt
    cases st with
    | block t body => simp only [Stmt.wfB] at h; exact ih.block _ h
    | print t args =>
      simp only [Stmt.wfB] at h
      dsimp only
      refine NP.bind (ih.exprList _ _ h) (fun cells hcells => NP.bind NP.getSt (fun s hs => ?_))
      split
      · obtain ⟨c, hc, _⟩ := hs.rr
        split
        · rename_i hnone; rw [hc] at hnone; cases hnone
        · split
          · exact NP.oof
          · exact NP.emit _
      · split
        · exact NP.oof
        · exact NP.emit _
    | expr e =>
      simp only [Stmt.wfB] at h; dsimp only
      exact NP.bind (ih.expr _ h) (fun _ _ => NP.pure trivial)
    | ret e =>
      cases e with
      | none => dsimp only; exact NP.bind (NP.setReturnVal trivial) (fun _ _ => NP.throwSig _)
      | some e =>
        simp only [Stmt.wfB] at h; dsimp only
        exact NP.bind (ih.expr _ h) (fun c hc => NP.bind (NP.setReturnVal hc) (fun _ _ => NP.throwSig _))
    | brk t => exact NP.throwSig _
    | cont t => exact NP.throwSig _
    | next t => exact NP.throwSig _
    | exit t => exact NP.throwSig _
    | if_ c b els =>
      cases els with
      | none =>
        simp only [Stmt.wfB, Bool.and_eq_true] at h
        dsimp only
        refine NP.bind (ih.expr _ h.1) (fun cell hcell => NP.bind (NP.readCell hcell) (fun v _ => ?_))
        split
        · exact ih.stmt _ h.2
        · exact NP.pure trivial
      | some eb =>
        simp only [Stmt.wfB, Bool.and_eq_true] at h
        dsimp only
        refine NP.bind (ih.expr _ h.1.1) (fun cell hcell => NP.bind (NP.readCell hcell) (fun v _ => ?_))
        split
        · exact ih.stmt _ h.1.2
        · exact ih.stmt _ h.2
    | while_ c b =>
      simp only [Stmt.wfB, Bool.and_eq_true] at h
      obtain ⟨h1, h2⟩ := h
      dsimp only; exact ih.whileL _ _ h1 h2
    | for_ pre c post b =>
      simp only [Stmt.wfB, Bool.and_eq_true] at h
      obtain ⟨⟨⟨h0, h1⟩, h2⟩, h3⟩ := h
      dsimp only
      exact NP.bind (ih.expr _ h0) (fun _ _ => ih.forL _ _ _ h1 h2 h3)
    | forIn id idx iter b =>
      simp only [Stmt.wfB, Bool.and_eq_true] at h
      obtain ⟨h1, h2⟩ := h
      dsimp only
      refine NP.bind (R1 := InR P) ?_ (fun loc hloc => NP.bind (R1 := OptReg P) ?_ (fun il hil =>
        NP.bind (ih.expr _ h1) (fun iterable hit => NP.bind NP.getHeap (fun hp hh => ?_))))
      · refine NP.bind (NP.getVariable _) (fun r hr => ?_)
        split
        · exact NP.pure hr
        · exact NP.throwRt _ _
      · split
        · exact NP.pure trivial
        · refine NP.bind (NP.getVariable _) (fun r hr => ?_)
          split
          · exact NP.pure hr
          · exact NP.throwRt _ _
      · have hiv := hh.cells iterable hit
        split
        · rename_i a heq
          rw [heq] at hiv
          refine ih.forInL _ _ _ _ h2 ?_
          intro it hmem
          obtain ⟨ci, hci, rfl⟩ := List.mem_map.mp hmem
          obtain ⟨c, i⟩ := ci
          exact ⟨fun _ hx => (by cases hx; trivial), hh.arrs a hiv c (List.fst_mem_of_mem_zipIdx hci)⟩
        · rename_i o heq
          rw [heq] at hiv
          refine ih.forInL _ _ _ _ h2 ?_
          intro it hmem
          obtain ⟨kc, hkc, rfl⟩ := List.mem_map.mp hmem
          obtain ⟨k, c⟩ := kc
          exact ⟨fun _ hx => (by cases hx), trivial, (hh.objs o hiv).sortByKey (k, c) hkc⟩
        · refine ih.forInL _ _ _ _ h2 ?_
          intro it hmem
          obtain ⟨kc, hkc, rfl⟩ := List.mem_map.mp hmem
          obtain ⟨off, rn⟩ := kc
          exact ⟨fun _ hx => (by cases hx; trivial), trivial, trivial⟩
        · exact NP.throwRt _ _
  case block =>
    intro sts h
    cases sts with
    | nil => unfold evalBlock; exact NP.pure trivial
    | cons st rest =>
      simp only [wfSs, Bool.and_eq_true] at h
      unfold evalBlock
      exact NP.bind (ih.stmt _ h.1) (fun _ _ => ih.block _ h.2)
  case whileL =>
    intro c b hc hb
    unfold whileLoop
    refine NP.bind (ih.expr _ hc) (fun cell hcell => NP.bind (NP.readCell hcell) (fun v _ => ?_))
    split
    · exact NP.loopIter (ih.stmt _ hb) (ih.whileL _ _ hc hb) trivial
    · exact NP.pure trivial
  case forL =>
    intro c p b hc hp hb
    unfold forLoop
    refine NP.bind (ih.expr _ hc) (fun cell hcell => NP.bind (NP.readCell hcell) (fun v _ => ?_))
    split
    · exact NP.loopIter (ih.stmt _ hb)
        (NP.bind (ih.expr _ hp) (fun _ _ => ih.forL _ _ _ hc hp hb)) trivial
    · exact NP.pure trivial
  case forInL =>
    intro l il b items hb hit
    cases items with
    | nil => unfold forInLoop; exact NP.pure trivial
    | cons it rest =>
      obtain ⟨iv, item⟩ := it
      have h0 := hit _ (List.mem_cons_self ..)
      have hrest : ∀ it ∈ rest, ItemOK P it := fun x hx => hit x (List.mem_cons_of_mem _ hx)
      unfold forInLoop
      have t2 := NP.loopIter (ih.stmt _ hb) (ih.forInL l il b rest hb hrest) trivial
      cases item with
      | inl c =>
        have t3 := NP.bind (NP.readCell (h0.2 : P.N ≤ c)) (fun w hw =>
          NP.bind (NP.writeCell l hw) (fun _ _ => t2))
        cases il with
        | none => exact t3
        | some ic =>
          cases iv with
          | none => exact t3
          | some x => exact NP.bind (NP.writeCell ic (h0.1 x rfl)) (fun _ _ => t3)
      | inr vm =>
        obtain ⟨v, mc⟩ := vm
        have t3 := NP.bind (NP.writeCell l (h0.2.1 : GoodV P v)) (fun _ _ => t2)
        cases il with
        | none => exact t3
        | some ic =>
          cases iv with
          | some x => exact NP.bind (NP.writeCell ic (h0.1 x rfl)) (fun _ _ => t3)
          | none =>
            cases mc with
            | none => exact t3
            | some mc =>
              exact NP.bind (NP.readCell (h0.2.2 : P.N ≤ mc)) (fun w hw =>
                NP.bind (NP.writeCell ic hw) (fun _ _ => t3))

/-- **The no-panic invariant of the evaluator**: every evaluator function, at every fuel. -/
theorem allNP (P : Region) (prog : Program) (hF : P.F ≤ prog.functions.length)
    (hwf : ∀ f ∈ prog.functions, f.body.wfB = true) : ∀ n, AllNP P prog n
  | 0 => allNP_zero P prog
  | n + 1 => allNP_succ prog hF hwf n (allNP P prog hF hwf n)

end Jqawk
