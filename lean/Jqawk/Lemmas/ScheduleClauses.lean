/-
  Consequences of the schedule specification `Spec/Schedule.lean` (C02).
  For ANY primitive steps: the end of the run (`exit`, an error) at any position of any layer is
  the end of the whole schedule (`rules_over` … `schedule_over_input`); `next` is local to one
  element; the roots of a value come in selector order (`SelectsTo`).
  For the model's primitives (`modelPrims`): the model's result read off the schedule
  (`runProgram_of_over`), what `$`, `$index` and `$file` are bound to, and `next` never reaching
  the top of the schedule.
-/
import Jqawk.Lemmas.Schedule
import Jqawk.Lemmas.Heap


namespace Jqawk.Sched
open Jqawk

theorem bind_fine_inv {α β : Type} {m : Run α} {k : α → Run β} {s s' : St} {b : β}
    (h : (m >>= k) s = .fine b s') : ∃ a s1, m s = .fine a s1 ∧ k a s1 = .fine b s' := by
  rw [bind_def] at h
  cases hm : m s with
  | fine a s1 => exact ⟨a, s1, rfl, by rw [hm] at h; exact h⟩
  | _ => rw [hm] at h; cases h

variable (P : Prims) (R : RuleSets)


def hitSpec (r : Rule) : Run Bool :=
  match r.pattern with
  | none => pure true
  | some p => P.test p

theorem ruleSpec_def (r : Rule) :
    ruleSpec P r = (hitSpec P r >>= fun hit => if hit then P.exec r.body else pure ()) := by
  unfold ruleSpec hitSpec
  rfl

theorem ruleSpec_hit (r : Rule) (s s1 : St) (h : hitSpec P r s = .fine true s1) :
    ruleSpec P r s = P.exec r.body s1 := by
  rw [ruleSpec_def, bind_fine h]; rfl

theorem ruleSpec_miss (r : Rule) (s s1 : St) (h : hitSpec P r s = .fine false s1) :
    ruleSpec P r s = .fine () s1 := by
  rw [ruleSpec_def, bind_fine h]; rfl

theorem runRulesSpec_fine (rules : List Rule) (s s' : St)
    (h : each rules (ruleSpec P) s = .fine () s') : runRulesSpec P rules s = .fine () s' :=
  uptoNext_fine h

theorem rules_next (pre post : List Rule) (r : Rule) (s s1 s2 : St)
    (hpre : each pre (ruleSpec P) s = .fine () s1) (hr : ruleSpec P r s1 = .next s2) :
    runRulesSpec P (pre ++ r :: post) s = .fine () s2 :=
  uptoNext_next (each_next pre post r _ s s1 s2 hpre hr)

theorem rules_over (pre post : List Rule) (r : Rule) (s s1 s2 : St) (o : Outcome)
    (hpre : each pre (ruleSpec P) s = .fine () s1) (hr : ruleSpec P r s1 = .over o s2) :
    runRulesSpec P (pre ++ r :: post) s = .over o s2 :=
  uptoNext_over (each_over pre post r _ s s1 s2 o hpre hr)


theorem elementSpec_def (rules : List Rule) (cell : CellId) (i : Nat) :
    elementSpec P rules (cell, i) =
      (P.setDollar cell >>= fun _ => P.setIndex i >>= fun _ => runRulesSpec P rules) := rfl

theorem elementsSpec_array (rules : List Rule) (root : CellId) (cells : List CellId) (s s0 : St)
    (he : P.elements root s = .fine (some cells) s0) :
    elementsSpec P rules root s = each cells.zipIdx (elementSpec P rules) s0 := by
  unfold elementsSpec
  rw [bind_fine he]

theorem elementsSpec_other (rules : List Rule) (root : CellId) (s s0 : St)
    (he : P.elements root s = .fine none s0) :
    elementsSpec P rules root s = (P.setDollar root >>= fun _ => runRulesSpec P rules) s0 := by
  unfold elementsSpec
  rw [bind_fine he]

theorem next_local_to_element (rules pre post : List Rule) (r : Rule) (hrules : rules = pre ++ r :: post)
    (cell : CellId) (i : Nat) (more : List (CellId × Nat)) (s sa sb s1 s2 : St)
    (hd : P.setDollar cell s = .fine () sa) (hi : P.setIndex i sa = .fine () sb)
    (hpre : each pre (ruleSpec P) sb = .fine () s1) (hr : ruleSpec P r s1 = .next s2) :
    each ((cell, i) :: more) (elementSpec P rules) s = each more (elementSpec P rules) s2 := by
  apply each_fine_step
  rw [elementSpec_def, bind_fine hd, bind_fine hi, hrules]
  exact rules_next P pre post r sb s1 s2 hpre hr

theorem elements_over (rules : List Rule) (root : CellId) (cells : List CellId)
    (pre post : List (CellId × Nat)) (ci : CellId × Nat) (hcells : cells.zipIdx = pre ++ ci :: post)
    (s s0 s1 s2 : St) (o : Outcome)
    (he : P.elements root s = .fine (some cells) s0)
    (hpre : each pre (elementSpec P rules) s0 = .fine () s1)
    (hx : elementSpec P rules ci s1 = .over o s2) :
    elementsSpec P rules root s = .over o s2 := by
  rw [elementsSpec_array P rules root cells s s0 he, hcells]
  exact each_over pre post ci _ s0 s1 s2 o hpre hx


theorem rootSpec_def (root : CellId) :
    rootSpec P R root = (P.read root >>= fun selected =>
      specialSpec P (pure root) R.beginFile >>= fun _ =>
      P.setRoot root >>= fun _ =>
      elementsSpec P R.pattern root >>= fun _ =>
      specialSpec P (P.fresh selected) R.endFile) := rfl

theorem root_over_beginFile (root : CellId) (s s0 s1 : St) (v : Val) (o : Outcome)
    (hv : P.read root s = .fine v s0)
    (hb : specialSpec P (pure root) R.beginFile s0 = .over o s1) :
    rootSpec P R root s = .over o s1 := by
  rw [rootSpec_def, bind_fine hv, bind_over _ hb]

theorem root_over_pattern (root : CellId) (s s0 s1 s2 s3 : St) (v : Val) (o : Outcome)
    (hv : P.read root s = .fine v s0)
    (hb : specialSpec P (pure root) R.beginFile s0 = .fine () s1)
    (hr : P.setRoot root s1 = .fine () s2)
    (hp : elementsSpec P R.pattern root s2 = .over o s3) :
    rootSpec P R root s = .over o s3 := by
  rw [rootSpec_def, bind_fine hv, bind_fine hb, bind_fine hr, bind_over _ hp]

theorem root_in_order (root : CellId) (s s0 s1 s2 s3 : St) (v : Val)
    (hv : P.read root s = .fine v s0)
    (hb : specialSpec P (pure root) R.beginFile s0 = .fine () s1)
    (hr : P.setRoot root s1 = .fine () s2)
    (hp : elementsSpec P R.pattern root s2 = .fine () s3) :
    rootSpec P R root s = specialSpec P (P.fresh v) R.endFile s3 := by
  rw [rootSpec_def, bind_fine hv, bind_fine hb, bind_fine hr, bind_fine hp]

theorem special_over (dollar : Run CellId) (pre post : List Rule) (r : Rule) (s s1 s2 : St)
    (o : Outcome) (hpre : specialSpec P dollar pre s = .fine () s1)
    (hr : specialRuleSpec P dollar r s1 = .over o s2) :
    specialSpec P dollar (pre ++ r :: post) s = .over o s2 :=
  each_over pre post r _ s s1 s2 o hpre hr

theorem special_next (dollar : Run CellId) (r : Rule) (rest : List Rule) (s s0 s1 s2 : St)
    (c : CellId) (hd : dollar s = .fine c s0) (hs : P.setDollar c s0 = .fine () s1)
    (hb : P.exec r.body s1 = .next s2) :
    specialSpec P dollar (r :: rest) s = specialSpec P dollar rest s2 := by
  apply each_fine_step
  show (dollar >>= fun c => P.setDollar c >>= fun _ => uptoNext () (P.exec r.body)) s = _
  rw [bind_fine hd, bind_fine hs]
  exact uptoNext_next hb


/-- `SelectsTo v sels s roots s'`: evaluating the selectors in the order given, from `s`, yields
    the roots `roots` — one per selector, in selector order, none for a selector that executed
    `next` — and leaves `s'` -/
inductive SelectsTo (v : JVal) : List Bytes → St → List CellId → St → Prop
  | nil (s : St) : SelectsTo v [] s [] s
  | root {sel : Bytes} {rest : List Bytes} {s s1 s2 : St} {c : CellId} {cs : List CellId} :
      P.select sel v s = .fine c s1 → SelectsTo v rest s1 cs s2 →
      SelectsTo v (sel :: rest) s (c :: cs) s2
  | skip {sel : Bytes} {rest : List Bytes} {s s1 s2 : St} {cs : List CellId} :
      P.select sel v s = .next s1 → SelectsTo v rest s1 cs s2 →
      SelectsTo v (sel :: rest) s cs s2

theorem selectAll_cons (v : JVal) (sel : Bytes) (rest : List Bytes) :
    selectAll P v (sel :: rest) = (do
      let root? ← uptoNext none (do let c ← P.select sel v; pure (some c))
      let roots ← selectAll P v rest
      pure (match root? with
        | some c => c :: roots
        | none => roots)) := rfl

theorem selectAll_fine_iff (v : JVal) (sels : List Bytes) (s s' : St) (roots : List CellId) :
    selectAll P v sels s = .fine roots s' ↔ SelectsTo P v sels s roots s' := by
  induction sels generalizing s roots with
  | nil =>
    constructor
    · intro h
      cases h
      exact .nil _
    · intro h
      cases h
      rfl
  | cons sel rest ih =>
    rw [selectAll_cons]
    simp only [bind_def, uptoNext]
    constructor
    · intro h
      cases hs : P.select sel v s with
      | fine c s1 =>
        rw [hs] at h
        simp only [pure_def] at h
        cases hr : selectAll P v rest s1 with
        | fine cs s2 =>
          rw [hr] at h
          simp only [Ended.fine.injEq] at h
          obtain ⟨rfl, rfl⟩ := h
          exact .root hs ((ih s1 cs).mp hr)
        | next s2 => rw [hr] at h; cases h
        | over o s2 => rw [hr] at h; cases h
        | oof => rw [hr] at h; cases h
      | next s1 =>
        rw [hs] at h
        simp only at h
        cases hr : selectAll P v rest s1 with
        | fine cs s2 =>
          rw [hr] at h
          simp only [pure_def, Ended.fine.injEq] at h
          obtain ⟨rfl, rfl⟩ := h
          exact .skip hs ((ih s1 cs).mp hr)
        | next s2 => rw [hr] at h; cases h
        | over o s2 => rw [hr] at h; cases h
        | oof => rw [hr] at h; cases h
      | over o s1 => rw [hs] at h; cases h
      | oof => rw [hs] at h; cases h
    · intro h
      cases h with
      | root hs hrest =>
        rw [hs]
        simp only [pure_def]
        rw [(ih _ _).mpr hrest]
      | skip hs hrest =>
        rw [hs]
        simp only
        rw [(ih _ _).mpr hrest]
        rfl

theorem selectAll_over (v : JVal) (pre post : List Bytes) (sel : Bytes) (s s1 s2 : St)
    (roots : List CellId) (o : Outcome)
    (hpre : SelectsTo P v pre s roots s1) (hsel : P.select sel v s1 = .over o s2) :
    selectAll P v (pre ++ sel :: post) s = .over o s2 := by
  induction hpre with
  | nil s =>
    show selectAll P v (sel :: post) s = _
    rw [selectAll_cons]
    simp only [bind_def, uptoNext, hsel]
  | root hs _ ih =>
    rw [List.cons_append, selectAll_cons]
    simp only [bind_def, uptoNext, hs, pure_def, ih hsel]
  | skip hs _ ih =>
    rw [List.cons_append, selectAll_cons]
    simp only [bind_def, uptoNext, hs, ih hsel]


theorem value_over (sels : List Bytes) (file : InputFile) (v : JVal) (pre post : List CellId)
    (root : CellId) (s s0 s1 s2 s3 : St) (o : Outcome)
    (hf : P.setFile file.name s = .fine () s0)
    (hroots : rootsSpec P sels v s0 = .fine (pre ++ root :: post) s1)
    (hpre : each pre (rootSpec P R) s1 = .fine () s2)
    (hx : rootSpec P R root s2 = .over o s3) :
    valueSpec P R sels file v s = .over o s3 := by
  rw [valueSpec_def, bind_fine hf, bind_fine hroots]
  exact each_over pre post root _ s1 s2 s3 o hpre hx

theorem file_over (sels : List Bytes) (file : InputFile) (pre post : List JVal) (v : JVal)
    (clean : Bool) (hvals : P.values file = (pre ++ v :: post, clean)) (s s1 s2 : St) (o : Outcome)
    (hpre : each pre (valueSpec P R sels file) s = .fine () s1)
    (hx : valueSpec P R sels file v s1 = .over o s2) :
    fileSpec P R sels file s = .over o s2 := by
  rw [fileSpec_eq, hvals]
  exact bind_over _ (each_over pre post v _ s s1 s2 o hpre hx)

theorem file_fault (sels : List Bytes) (file : InputFile) (vals : List JVal)
    (hvals : P.values file = (vals, false)) (s s1 : St)
    (hv : each vals (valueSpec P R sels file) s = .fine () s1) :
    fileSpec P R sels file s = .over (.jsonErr file.name) s1 := by
  rw [fileSpec_eq, hvals]
  exact (bind_fine hv).trans rfl

theorem scheduleSpec_def (sels : List Bytes) (files : List InputFile) :
    scheduleSpec P R sels files = (specialSpec P (P.fresh (.nil none)) R.begin_ >>= fun _ =>
      each files (fileSpec P R sels) >>= fun _ => specialSpec P (P.fresh (.nil none)) R.end_) := rfl

theorem schedule_over_begin (sels : List Bytes) (files : List InputFile) (s s1 : St) (o : Outcome)
    (hb : specialSpec P (P.fresh (.nil none)) R.begin_ s = .over o s1) :
    scheduleSpec P R sels files s = .over o s1 := by
  rw [scheduleSpec_def, bind_over _ hb]

theorem schedule_over_input (sels : List Bytes) (pre post : List InputFile) (f : InputFile)
    (s s1 s2 s3 : St) (o : Outcome)
    (hb : specialSpec P (P.fresh (.nil none)) R.begin_ s = .fine () s1)
    (hpre : each pre (fileSpec P R sels) s1 = .fine () s2)
    (hx : fileSpec P R sels f s2 = .over o s3) :
    scheduleSpec P R sels (pre ++ f :: post) s = .over o s3 := by
  rw [scheduleSpec_def, bind_fine hb, bind_over _ (each_over pre post f _ s1 s2 s3 o hpre hx)]

theorem schedule_end_last (sels : List Bytes) (files : List InputFile) (s s1 s2 : St)
    (hb : specialSpec P (P.fresh (.nil none)) R.begin_ s = .fine () s1)
    (hin : each files (fileSpec P R sels) s1 = .fine () s2) :
    scheduleSpec P R sels files s = specialSpec P (P.fresh (.nil none)) R.end_ s2 := by
  rw [scheduleSpec_def, bind_fine hb, bind_fine hin]


variable (prog : Program) (src : Bytes) (tbl : RuleTable)

theorem eq_of_agree {a b : RunResult} (h : Agree a b) (hb : b.outcome ≠ .oof) : a = b := by
  rcases h with h | h
  · exact h
  · exact absurd h.2 hb

theorem runProgram_of_over (sels : List Bytes) (files : List InputFile) (o : Outcome) (s' : St)
    (ho : o ≠ .oof)
    (h : scheduleSpec (modelPrims prog src tbl) (rulesByKind prog) sels files
          (newEvaluator prog Heap.empty [] 0) = .over o s') :
    runProgram prog src tbl sels files = finishRun o s' := by
  have ha := runProgram_agrees prog src tbl sels files
  unfold runSpec at ha
  rw [h] at ha
  exact eq_of_agree ha ho

theorem runProgram_of_fine (sels : List Bytes) (files : List InputFile) (s' : St)
    (h : scheduleSpec (modelPrims prog src tbl) (rulesByKind prog) sels files
          (newEvaluator prog Heap.empty [] 0) = .fine () s') :
    runProgram prog src tbl sels files = finishRun .ok s' := by
  have ha := runProgram_agrees prog src tbl sels files
  unfold runSpec at ha
  rw [h] at ha
  exact eq_of_agree ha (by intro h'; cases h')


theorem element_bindings (cell : CellId) (i : Nat) (s : St) (f : Frame) (fs : List Frame)
    (hf : s.frames = f :: fs) :
    ∃ s', ((modelPrims prog src tbl).setDollar cell >>= fun _ =>
            (modelPrims prog src tbl).setIndex i) s = .fine () s' ∧
      s'.ruleRoot = some cell ∧
      ∃ ic, lookupFrames s'.frames b!"$index" = some ic ∧ s'.heap.get ic = .num (F64.ofNat i) := by
  refine ⟨{ s with ruleRoot := some cell,
                    heap := (s.heap.alloc (.num (F64.ofNat i))).2,
                    frames := Frame.mk f.name (objInsert f.locals (b!"$index")
                                  (s.heap.alloc (.num (F64.ofNat i))).1) :: fs }, ?_, ?_⟩
  · simp only [bind_def, modelPrims, lift_def]
    simp only [modifySt, bind, EM.bind, newCell, setLocal, hf]
  · refine ⟨rfl, s.heap.cells.size, ?_, ?_⟩
    · simp [lookupFrames, objLookup_objInsert, Heap.alloc]
    · exact Heap.get_push_new _ _

theorem file_binding (name : Bytes) (s : St) (f : Frame) (hf : s.frames = [f]) :
    ∃ s', (modelPrims prog src tbl).setFile name s = .fine () s' ∧
      ∃ c, lookupFrames s'.frames b!"$file" = some c ∧ s'.heap.get c = .str name none := by
  refine ⟨_, lift_ok src (setFile_model name s), s.heap.cells.size, ?_, ?_⟩
  · simp [hf, setLastFrame, lookupFrames, objLookup_objInsert, Heap.alloc]
  · exact Heap.get_push_new _ _


theorem liftFlow_no_next {m : EM Flow} (h : NoSig .next m) (s s' : St) :
    liftFlow src m s ≠ .next s' := by
  rw [liftFlow_def, lift_def]
  cases hm : m s with
  | ok fl s1 => cases fl <;> simp
  | err e s1 =>
    cases e with
    | sig g =>
      cases g with
      | next => exact absurd hm (h s s1)
      | _ => simp
    | _ => simp
  | oof => simp

theorem ofStep_no_next (r : StepRes) (s' : St) : ofStep r ≠ .next s' := by
  cases r with
  | done s => simp [ofStep]
  | finished o s => cases o <;> simp [ofStep]

/-- `next` never reaches the top of the schedule of the model: the `next` line of `report` is dead -/
theorem schedule_never_next (sels : List Bytes) (files : List InputFile) (s s' : St) :
    scheduleSpec (modelPrims prog src tbl) (rulesByKind prog) sels files s ≠ .next s' := by
  have hfresh : (modelPrims prog src tbl).fresh (.nil none) = lift src (newCell (.nil none)) := rfl
  have hsp : ∀ rules s s', specialSpec (modelPrims prog src tbl)
      ((modelPrims prog src tbl).fresh (.nil none)) rules s ≠ .next s' := by
    intro rules s s'
    rw [hfresh, ← evalSpecialRules_eq_spec]
    exact liftFlow_no_next src (evalSpecialRules_no_sig prog .next (Or.inl rfl) _ (NoSig.newCell _ _) _) s s'
  rw [scheduleSpec_def]
  simp only [bind_def]
  cases hb : specialSpec (modelPrims prog src tbl) ((modelPrims prog src tbl).fresh (.nil none))
      (rulesByKind prog).begin_ s with
  | fine u s1 =>
    simp only
    rw [← processFiles_eq_spec]
    cases hf : ofStep (processFiles prog src tbl sels files s1) with
    | fine u s2 => exact hsp _ _ _
    | next s2 => exact absurd hf (ofStep_no_next _ _)
    | over o s2 => simp
    | oof => simp
  | next s1 => exact absurd hb (hsp _ _ _)
  | over o s1 => simp
  | oof => simp

end Jqawk.Sched
