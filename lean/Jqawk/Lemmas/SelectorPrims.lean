/-
  Renaming of cell ids (C14): the member step and assignment with `createSpeculative` in the two
  runs.
-/
import Jqawk.Lemmas.SelectorSim
import Jqawk.Lemmas.SelectorForms
import Jqawk.Lemmas.CreateSpec
import Jqawk.Lemmas.BlameSites


namespace Jqawk
namespace Sel

variable {X : XCtx}

theorem keyOf_renV (σ : Nat → Nat) (v : Val) : keyOf (renV σ v) = keyOf v := by cases v <;> rfl

theorem SimW.memberStep (wf : X.WF) {w w0 w1 : Nat} (pos : Nat) {la lb ra rb : CellId}
    (hl : CellR X.toCtx w0 la lb) (hw0 : w0 ≤ w) (hr : CellR X.toCtx w1 ra rb) (hw1 : w1 ≤ w) :
    SimW X w (CellR X.toCtx) (Jqawk.memberStep pos la ra) (Jqawk.memberStep pos lb rb) := by
  rw [memberStep_eq, memberStep_eq]
  refine SimW.readCell_bind hr hw1 (fun w2 rva rvb hw2 hrv => ?_)
  refine SimW.readCell_bind hl (Nat.le_trans hw0 hw2) (fun w3 lva lvb hw3 hlv => ?_)
  have hl3 : LiveC X.toCtx w3 lb := hl.2.mono (Nat.le_trans hw0 (Nat.le_trans hw2 hw3))
  obtain ⟨rfl, _⟩ := hl
  rw [hlv.kind]
  by_cases hk : (lvb.kind == Kind.unknown) = true
  · simp only [hk]
    rw [hrv.1, keyOf_renV]
    exact SimW.newCell wf (va := .nil (some ⟨X.σ lb, keyOf rvb⟩)) (vb := .nil (some ⟨lb, keyOf rvb⟩))
      ⟨rfl, hl3⟩ (Nat.le_refl _)
  · simp only [hk]
    apply SimW.getHeap_bind
    intro hA hB hh hw4
    obtain ⟨hgm, hgl⟩ := getMember_rel hh (hlv.2.mono hw4) rvb
    rw [hlv.1, hrv.1, hgm]
    have hl4 : LiveC X.toCtx hB.cells.size lb := hl3.mono hw4
    cases hg : getMember hB lvb rvb with
    | error m => exact SimW.throwRt _ _
    | ok mem =>
      simp only [Except.map]
      cases mem with
      | missing =>
        simp only [renMember, memberFound, keyOf_renV]
        exact SimW.newCell wf (va := .nil (some ⟨X.σ lb, keyOf rvb⟩)) (vb := .nil (some ⟨lb, keyOf rvb⟩))
          ⟨rfl, hl4⟩ (Nat.le_refl _)
      | method f =>
        simp only [renMember, memberFound, str_renV]
        exact SimW.newCell wf (va := .native f (some (X.σ lb)) (some ⟨X.σ lb, .str rvb.str!⟩))
          (vb := .native f (some lb) (some ⟨lb, .str rvb.str!⟩)) ⟨rfl, hl4, hl4⟩ (Nat.le_refl _)
      | char c x =>
        cases c with
        | none =>
          simp only [renMember, memberFound]
          exact SimW.newCell wf (va := .nil (some ⟨X.σ lb, .num x⟩)) (vb := .nil (some ⟨lb, .num x⟩))
            ⟨rfl, hl4⟩ (Nat.le_refl _)
        | some ch =>
          simp only [renMember, memberFound]
          exact SimW.newCell wf (va := .str ch (some ⟨X.σ lb, .num x⟩)) (vb := .str ch (some ⟨lb, .num x⟩))
            ⟨rfl, hl4⟩ (Nat.le_refl _)
      | cell c =>
        have hc : CellR X.toCtx hB.cells.size (X.σ c) c := ⟨rfl, hgl c hg⟩
        have hv := hh.get hc (Nat.le_refl _)
        simp only [renMember, memberFound]
        rw [hv.1]
        cases hcv : hB.get c with
        | native f b sp =>
          simp only [renV_native, str_renV]
          exact SimW.newCell wf (va := .native f (some (X.σ lb)) (some ⟨X.σ lb, .str rvb.str!⟩))
            (vb := .native f (some lb) (some ⟨lb, .str rvb.str!⟩)) ⟨rfl, hl4, hl4⟩ (Nat.le_refl _)
        | _ => exact SimW.pure hc (Nat.le_refl _)


theorem SimW.newContainer {w : Nat} (b : Bool) :
    SimW X w (ValR X.toCtx) (Jqawk.newContainer b) (Jqawk.newContainer b) := by
  unfold Jqawk.newContainer
  cases b with
  | true =>
    simp only [↓reduceIte]
    exact SimW.allocArr_bind (ArrR.empty _ 0) (Nat.zero_le _) (fun _ _ _ hv => SimW.pure hv (Nat.le_refl _))
  | false =>
    simp only [Bool.false_eq_true, ↓reduceIte]
    exact SimW.allocObj_bind (MemR.nil 0) (Nat.zero_le _) (fun _ _ _ hv => SimW.pure hv (Nat.le_refl _))

theorem SimW.setMemberM (wf : X.WF) {w w0 w1 : Nat} {ta tb : Val} (ht : ValR X.toCtx w0 ta tb) (hw0 : w0 ≤ w)
    (m : Val) {ca cb : CellId} (hc : CellR X.toCtx w1 ca cb) (hw1 : w1 ≤ w) :
    SimW X w (ExR (CellR X.toCtx)) (Jqawk.setMemberM ta (renV X.σ m) ca) (Jqawk.setMemberM tb m cb) := by
  intro sA sB hs hw
  unfold Jqawk.setMemberM
  have h := setMember_rel wf.core hs.heap (ht.2.mono (Nat.le_trans hw0 hw)) m
    (hc.mono (Nat.le_trans hw1 hw)) (Nat.le_refl _)
  rw [ht.1]
  revert h
  generalize setMember sA.heap (renV X.σ tb) (renV X.σ m) ca = rA
  generalize setMember sB.heap tb m cb = rB
  intro h
  cases rA with
  | error e =>
    cases rB with
    | error e' => exact ⟨Nat.le_refl _, h, hs⟩
    | ok p => exact h.elim
  | ok p =>
    obtain ⟨c1, h1⟩ := p
    cases rB with
    | error e' => exact h.elim
    | ok q =>
      obtain ⟨c2, h2⟩ := q
      obtain ⟨hle, hcr, hr⟩ := h
      exact ⟨hle, hcr, hs.withHeap hr hle⟩

theorem renV_keyVal (k : Key) : renV X.σ (keyVal k) = keyVal k := by cases k <;> rfl

theorem specOf_renV (v : Val) : specOf (renV X.σ v) = renSpec X.σ (specOf v) := by cases v <;> rfl

theorem specOf_live {w : Nat} {v : Val} (h : LiveV X.toCtx w v) : SpecLive X.toCtx w (specOf v) := by
  cases v <;> first | exact h | exact h.2 | trivial

theorem SimW.createSpeculative (wf : X.WF) : ∀ (nA nB : Nat) {w w0 : Nat} {ca cb : CellId},
    CellR X.toCtx w0 ca cb → w0 ≤ w →
    SimW X w (ExR (CellR X.toCtx)) (Jqawk.createSpeculative nA ca) (Jqawk.createSpeculative nB cb)
  | 0, _, _, _, _, _, _, _ => by unfold Jqawk.createSpeculative; exact SimW.oof
  | _ + 1, 0, _, _, _, _, _, _ => by
    unfold Jqawk.createSpeculative
    exact SimW.oofR
  | nA + 1, nB + 1, w, w0, ca, cb, hc, hw0 => by
    rw [createSpeculative_eq, createSpeculative_eq]
    refine SimW.readCell_bind hc hw0 (fun w1 sva svb hw1 hsv => ?_)
    rw [hsv.1, specOf_renV]
    have hsl := specOf_live hsv.2
    cases hsp : specOf svb with
    | none => exact SimW.throwPanic _
    | some spec =>
      rw [hsp] at hsl
      simp only [renSpec_some]
      have hpar : CellR X.toCtx w1 (X.σ spec.parent) spec.parent := ⟨rfl, hsl⟩
      refine SimW.readCell_bind hpar (Nat.le_refl _) (fun w2 pva pvb hw2 hpv => ?_)
      have hc2 : CellR X.toCtx w2 ca cb := hc.mono (Nat.le_trans hw0 (Nat.le_trans hw1 hw2))
      have hpar2 : CellR X.toCtx w2 (X.σ spec.parent) spec.parent := hpar.mono hw2
      have hkv := SimW.setMemberM wf (w := w2) hpv (Nat.le_refl _) (keyVal spec.key) hc2 (Nat.le_refl _)
      rw [renV_keyVal] at hkv
      obtain ⟨rfl, hpl⟩ := hpv
      cases pvb with
      | nil sp =>
        cases sp with
        | none =>
          exact SimW.pureAll fun _ => rfl
        | some sr =>
          simp only [renV_nil, renSpec_some]
          refine SimW.bind (SimW.newCell wf (va := .nil (some ⟨X.σ sr.parent, sr.key⟩)) (vb := .nil (some sr))
            ⟨rfl, hpl⟩ (Nat.le_refl _)) (fun w3 pca pcb hw3 hpc => ?_)
          refine SimW.bind (SimW.createSpeculative wf nA nB hpc (Nat.le_refl _)) (fun w4 ra rb hw4 hr => ?_)
          refine hr.byCases (fun m => SimW.pureAll fun _ => rfl) (fun npa npb hnp => ?_)
          dsimp only
          refine SimW.bind (SimW.newContainer _) (fun w5 noa nob hw5 hno => ?_)
          refine SimW.bind (SimW.writeCell wf hnp hw5 hno (Nat.le_refl _)) (fun w6 _ _ hw6 _ => ?_)
          refine SimW.bind (SimW.writeCell wf hpar2 (Nat.le_trans hw3 (Nat.le_trans hw4 (Nat.le_trans hw5 hw6)))
            hno hw6) (fun w7 _ _ hw7 _ => ?_)
          have := SimW.setMemberM wf (w := w7) hno (Nat.le_trans hw6 hw7) (keyVal spec.key) hc2
            (Nat.le_trans hw3 (Nat.le_trans hw4 (Nat.le_trans hw5 (Nat.le_trans hw6 hw7))))
          rw [renV_keyVal] at this
          exact this
      | unknown =>
        simp only [renV_unknown]
        refine SimW.bind (SimW.newContainer _) (fun w5 noa nob hw5 hno => ?_)
        refine SimW.bind (SimW.writeCell wf hpar2 hw5 hno (Nat.le_refl _)) (fun w6 _ _ hw6 _ => ?_)
        have := SimW.setMemberM wf (w := w6) hno hw6 (keyVal spec.key) hc2 (Nat.le_trans hw5 hw6)
        rw [renV_keyVal] at this
        exact this
      | _ => exact hkv

open BlameSites (needsCreate) in
theorem needsCreate_renV (v : Val) : needsCreate (renV X.σ v) = needsCreate v := by
  cases v <;> first | rfl | (rename_i sp; cases sp <;> rfl)

open BlameSites (needsCreate) in
theorem SimW.evalAssignment (wf : X.WF) {w w0 w1 : Nat} (pos : Nat) {la lb ra rb : CellId}
    (hl : CellR X.toCtx w0 la lb) (hw0 : w0 ≤ w) (hr : CellR X.toCtx w1 ra rb) (hw1 : w1 ≤ w) :
    SimW X w (CellR X.toCtx) (Jqawk.evalAssignment pos la ra) (Jqawk.evalAssignment pos lb rb) := by
  intro sA sB hs hw
  rw [BlameSites.evalAssignment_eq, BlameSites.evalAssignment_eq,
    (hs.heap.get hl (Nat.le_trans hw0 hw)).1, needsCreate_renV]
  refine SimW.bind (VR1 := CellR X.toCtx) ?_ (fun w3 ta tb hw3 ht => ?_) sA sB hs hw
  · cases needsCreate (sB.heap.get lb) with
    | false => exact SimW.pure hl hw0
    | true =>
      simp only [↓reduceIte]
      apply SimW.getHeap_bind
      intro hA hB hh hw4
      exact SimW.bind (SimW.createSpeculative wf _ _ hl (Nat.le_trans hw0 hw4))
        (fun w5 _ _ _ hr' => SimW.exResult hr' pos (fun _ _ h => SimW.pure h (Nat.le_refl _)))
  · exact SimW.bind (SimW.copyValue wf hr (Nat.le_trans hw1 hw3) ht (Nat.le_refl _))
      (fun w4 _ _ _ hr' => SimW.exResult hr' pos (fun _ _ h => SimW.pure h (Nat.le_refl _)))
end Sel
end Jqawk
