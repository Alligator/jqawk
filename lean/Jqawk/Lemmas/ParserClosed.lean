/-
  What the parser builds.  Two families of predicates, on expressions and on statements, indexed
  by the parser's `inLoop` / `inFn` flags, are *closed* (`ParseClosed`) when they contain every
  node the parser constructs from parts they contain, given the facts the parser has checked at
  that point.  Every function of the mutual block returns trees in such a pair of families and
  leaves the two flags as it found them (`allClosed`); so does the top level (`parseTop_closed`).
  Scoping (ParserScope), well-formedness (ParserWF) and known operators (ParserOps) are instances.
-/
import Jqawk.Lemmas.PMAll
import Jqawk.Lemmas.ParserCases

namespace Jqawk
open Parser

/-- `E l f` and `S l f` contain what the parser builds with `inLoop = l`, `inFn = f`.  `R` holds of
    the tokens `Lexer.Regex()` answers with, `Pre t k` / `Inf t k` of the tags at which the rule
    table may dispatch to the prefix / infix rule `k`. -/
structure ParseClosed (R : Token → Prop) (Pre : Tag → PrefixKind → Prop)
    (Inf : Tag → InfixKind → Prop) (E : Bool → Bool → Expr → Prop)
    (S : Bool → Bool → Stmt → Prop) : Prop where
  lit : ∀ {l f t}, Pre t.tag .literal → E l f (.lit t)
  regex : ∀ {l f t}, R t → E l f (.lit t)
  ident : ∀ {l f} t, E l f (.ident t)
  arr : ∀ {l f} {items : List Expr} t, (∀ e ∈ items, E l f e) → E l f (.arr t items)
  obj : ∀ {l f} {items : List (Bytes × Expr)} t, (∀ kv ∈ items, E l f kv.2) →
    E l f (.obj t items)
  unary : ∀ {l f e op}, Pre op.tag .unary →
    ((op.tag == .plusPlus || op.tag == .minusMinus) && !assignable e) = false →
    E l f e → E l f (.unary e op false)
  match_ : ∀ {l f v} {cases : List MatchCase} t, E l f v →
    (∀ c ∈ cases, (∀ p ∈ c.1, E l f p) ∧ S l f c.2) → E l f (.match_ t v cases)
  index : ∀ {l f a e op}, op.tag = .lsquare → E l f a → E l f e → E l f (.binary a e op)
  member : ∀ {l f a op id}, op.tag = .dot → id.tag = .ident → E l f a →
    E l f (.binary a (.lit id) op)
  call : ∀ {l f a} {args : List Expr}, E l f a → (∀ e ∈ args, E l f e) → E l f (.call a args)
  postfixOp : ∀ {l f a op}, Inf op.tag .postfixOp → assignable a = true → E l f a →
    E l f (.unary a op true)
  binary : ∀ {l f a e op}, Inf op.tag .binary → E l f a → E l f e → E l f (.binary a e op)
  is : ∀ {l f a op} rhs, op.tag = .is → E l f a → E l f (.binary a (.ident rhs) op)
  assign : ∀ {l f a e op}, Inf op.tag .assign → isCompound op.tag = false →
    assignable a = true → E l f a → E l f e → E l f (.binary a e op)
  compound : ∀ {l f a e op}, Inf op.tag .assign → isCompound op.tag = true →
    assignable a = true → E l f a → E l f e → E l f (rewriteCompound a e op)
  print : ∀ {l f} {args : List Expr} t, (∀ e ∈ args, E l f e) → S l f (.print t args)
  ret : ∀ {l e}, E l true e → S l true (.ret (some e))
  retNone : ∀ {l}, S l true (.ret none)
  if_ : ∀ {l f c b}, E l f c → S l f b → S l f (.if_ c b none)
  ifElse : ∀ {l f c b e}, E l f c → S l f b → S l f e → S l f (.if_ c b (some e))
  while_ : ∀ {l f c b}, E l f c → S true f b → S l f (.while_ c b)
  forIn : ∀ {l f iter b} id idx, E l f iter → S true f b → S l f (.forIn id idx iter b)
  for_ : ∀ {l f pre c post b}, E l f pre → E l f c → E l f post → S true f b →
    S l f (.for_ pre c post b)
  block : ∀ {l f} {body : List Stmt} t, (∀ s ∈ body, S l f s) → S l f (.block t body)
  brk : ∀ {f} t, S true f (.brk t)
  cont : ∀ {f} t, S true f (.cont t)
  next : ∀ {l f} t, S l f (.next t)
  exit : ∀ {l f} t, S l f (.exit t)
  expr : ∀ {l f e}, E l f e → S l f (.expr e)

def KeepsFlags {α : Type} (X : Bool → Bool → α → Prop) (l f : Bool) (r : α × PS) : Prop :=
  r.2.inLoop = l ∧ r.2.inFn = f ∧ X l f r.1

section
variable (R : Token → Prop) (Pre : Tag → PrefixKind → Prop) (Inf : Tag → InfixKind → Prop)
  (E : Bool → Bool → Expr → Prop) (S : Bool → Bool → Stmt → Prop)

/-- the induction hypothesis at fuel `n`: started with flags `l`, `f`, each function keeps the
    flags and returns a tree in the families.  `loopBody` returns a statement of `S true f`; the
    loops ask the same of their accumulator, `infixLoop`/`infixFn` of the left operand;
    `prefixFn`/`infixFn` ask that the table may dispatch to their rule at the current tag. -/
structure AllClosed (tbl : RuleTable) (n : Nat) : Prop where
  statement : ∀ ps {l f}, ps.inLoop = l → ps.inFn = f →
    PM.AllR R (KeepsFlags S l f) (statement tbl n ps)
  loopBody : ∀ ps {l f}, ps.inLoop = l → ps.inFn = f →
    PM.AllR R (KeepsFlags (fun _ f s => S true f s) l f) (loopBody tbl n ps)
  block : ∀ ps {l f}, ps.inLoop = l → ps.inFn = f → PM.AllR R (KeepsFlags S l f) (block tbl n ps)
  blockLoop : ∀ acc ps {l f}, ps.inLoop = l → ps.inFn = f → (∀ s ∈ acc, S l f s) →
    PM.AllR R (KeepsFlags (fun l f r => ∀ s ∈ r, S l f s) l f) (blockLoop tbl n acc ps)
  printStatement : ∀ ps {l f}, ps.inLoop = l → ps.inFn = f →
    PM.AllR R (KeepsFlags S l f) (printStatement tbl n ps)
  printLoop : ∀ acc ps {l f}, ps.inLoop = l → ps.inFn = f → (∀ e ∈ acc, E l f e) →
    PM.AllR R (KeepsFlags (fun l f r => ∀ e ∈ r.1, E l f e) l f) (printLoop tbl n acc ps)
  expressionWithPrec : ∀ prec ps {l f}, ps.inLoop = l → ps.inFn = f →
    PM.AllR R (KeepsFlags E l f) (expressionWithPrec tbl n prec ps)
  infixLoop : ∀ prec lhs ps {l f}, ps.inLoop = l → ps.inFn = f → E l f lhs →
    PM.AllR R (KeepsFlags E l f) (infixLoop tbl n prec lhs ps)
  prefixFn : ∀ pk ps {l f}, ps.inLoop = l → ps.inFn = f → Pre ps.cur.tag pk →
    PM.AllR R (KeepsFlags E l f) (prefixFn tbl n pk ps)
  exprList : ∀ endTag acc ps {l f}, ps.inLoop = l → ps.inFn = f → (∀ e ∈ acc, E l f e) →
    PM.AllR R (KeepsFlags (fun l f r => ∀ e ∈ r, E l f e) l f) (exprList tbl n endTag acc ps)
  objectLoop : ∀ acc ps {l f}, ps.inLoop = l → ps.inFn = f → (∀ kv ∈ acc, E l f kv.2) →
    PM.AllR R (KeepsFlags (fun l f r => ∀ kv ∈ r, E l f kv.2) l f) (objectLoop tbl n acc ps)
  matchCases : ∀ acc ps {l f}, ps.inLoop = l → ps.inFn = f →
    (∀ c ∈ acc, (∀ p ∈ c.1, E l f p) ∧ S l f c.2) →
    PM.AllR R (KeepsFlags (fun l f r => ∀ c ∈ r, (∀ p ∈ c.1, E l f p) ∧ S l f c.2) l f)
      (matchCases tbl n acc ps)
  matchPats : ∀ acc ps {l f}, ps.inLoop = l → ps.inFn = f → (∀ e ∈ acc, E l f e) →
    PM.AllR R (KeepsFlags (fun l f r => ∀ e ∈ r, E l f e) l f) (matchPats tbl n acc ps)
  infixFn : ∀ ik lhs ps {l f}, ps.inLoop = l → ps.inFn = f → Inf ps.cur.tag ik → E l f lhs →
    PM.AllR R (KeepsFlags E l f) (infixFn tbl n ik lhs ps)

end

theorem forall_mem_reverse {α : Type} {p : α → Prop} {l : List α} (h : ∀ x ∈ l, p x) :
    ∀ x ∈ l.reverse, p x :=
  fun x hx => h x (List.mem_reverse.mp hx)

theorem forall_mem_cons_of {α : Type} {p : α → Prop} {a : α} {l : List α} (ha : p a)
    (h : ∀ x ∈ l, p x) : ∀ x ∈ a :: l, p x :=
  List.forall_mem_cons.mpr ⟨ha, h⟩

theorem not_not_eq_true {b : Bool} (h : ¬(!b) = true) : b = true := by simpa using h

theorem PM.AllR.call {α β : Type} {R : Token → Prop} {X : Bool → Bool → α → Prop} {m : P α}
    {g : α → P β} {Q : β × PS → Prop} {ps : PS} {l f : Bool}
    (h : PM.AllR R (KeepsFlags X l f) (m ps))
    (k : ∀ {a ps'}, ps'.inLoop = l → ps'.inFn = f → X l f a → PM.AllR R Q (g a ps')) :
    PM.AllR R Q ((m >>= g) ps) :=
  .after h fun _ _ ⟨hl, hf, hx⟩ => k hl hf hx

section steps
variable {R : Token → Prop} {Pre : Tag → PrefixKind → Prop} {Inf : Tag → InfixKind → Prop}
  {E : Bool → Bool → Expr → Prop} {S : Bool → Bool → Stmt → Prop} {tbl : RuleTable} {n : Nat}
  (H : ParseClosed R Pre Inf E S) (ih : AllClosed R Pre Inf E S tbl n)
include H ih

/-! The proofs follow the program text, one rule of Lemmas/PMAll.lean per action; `hl`, `hf` are the
    flag facts of the latest parser state (the actions between two calls do not touch the flags,
    so the facts fit the states in between as they are). -/

omit H in
theorem expr_closed {β : Type} {Q : β × PS → Prop} {k : Expr → P β} {prec : Nat} {ps : PS} {l f : Bool}
    (hl : ps.inLoop = l) (hf : ps.inFn = f)
    (h : ∀ {e ps'}, ps'.inLoop = l → ps'.inFn = f → E l f e → PM.AllR R Q (k e ps')) :
    PM.AllR R Q ((expressionWithPrec tbl n prec >>= k) ps) :=
  .call (ih.expressionWithPrec _ _ hl hf) h

theorem prefixFn_closed (pk : PrefixKind) (ps : PS) (l f : Bool) (hl : ps.inLoop = l)
    (hf : ps.inFn = f) (hpk : Pre ps.cur.tag pk) :
    PM.AllR R (KeepsFlags E l f) (prefixFn tbl (n + 1) pk ps) := by
  unfold prefixFn
  cases pk
  case literal => exact .advance <| .get <| .ret ⟨hl, hf, H.lit hpk⟩
  case regex => exact .regexPrefix fun hR => ⟨hl, hf, H.regex hR⟩
  case identifier =>
    exact .get <| .ite (fun _ => .advance <| .get <| .ret ⟨hl, hf, H.ident _⟩)
      fun _ => .failed
  case array =>
    exact .consume _ fun _ => .get <|
      .call (ih.exprList _ [] _ hl hf (List.forall_mem_nil _)) fun hl hf hi =>
      .ret ⟨hl, hf, H.arr _ hi⟩
  case object =>
    exact .consume _ fun _ => .get <|
      .call (ih.objectLoop [] _ hl hf (List.forall_mem_nil _)) fun hl hf hi =>
      .consume _ fun _ => .ret ⟨hl, hf, H.obj _ hi⟩
  case group =>
    exact .consume _ fun _ => .call (ih.expressionWithPrec _ _ hl hf) fun hl hf he => .consume _ fun _ => .ret ⟨hl, hf, he⟩
  case unary =>
    exact .advance <| .get <| .call (ih.expressionWithPrec _ _ hl hf) fun hl hf he => .ite (fun _ => .failed)
      fun hn => .ret ⟨hl, hf, H.unary hpk (Bool.eq_false_iff.mpr hn) he⟩
  case match_ =>
    exact .consume _ fun _ => .get <| .consume _ fun _ =>
      .call (ih.expressionWithPrec _ _ hl hf) fun hl hf hv =>
      .consume _ fun _ => .consume _ fun _ =>
      .call (ih.matchCases [] _ hl hf (List.forall_mem_nil _)) fun hl hf hc =>
      .consume _ fun _ => .setDidEnd _ <| .ret ⟨hl, hf, H.match_ _ hv hc⟩

theorem infixFn_closed (ik : InfixKind) (lhs : Expr) (ps : PS) (l f : Bool) (hl : ps.inLoop = l)
    (hf : ps.inFn = f) (hik : Inf ps.cur.tag ik) (hlhs : E l f lhs) :
    PM.AllR R (KeepsFlags E l f) (infixFn tbl (n + 1) ik lhs ps) := by
  unfold infixFn
  cases ik
  case computedMember =>
    exact .get <| .consume _ fun hc => .call (ih.expressionWithPrec _ _ hl hf) fun hl hf he => .consume _ fun _ => .ret ⟨hl, hf, H.index hc hlhs he⟩
  case member =>
    exact .consume _ fun hc => .get <| .consume _ fun hi => .get <|
      .ret ⟨hl, hf, H.member hc hi hlhs⟩
  case call =>
    exact .consume _ fun _ =>
      .call (ih.exprList _ [] _ hl hf (List.forall_mem_nil _)) fun hl hf ha =>
      .ret ⟨hl, hf, H.call hlhs ha⟩
  case postfixOp =>
    exact .ite (fun _ => .failed) fun hn => .advance <| .get <|
      .ret ⟨hl, hf, H.postfixOp hik (not_not_eq_true hn) hlhs⟩
  case binary =>
    exact .advance <| .get <| .call (ih.expressionWithPrec _ _ hl hf) fun hl hf he => .ret ⟨hl, hf, H.binary hik hlhs he⟩
  case is =>
    exact .consume _ fun hc => .get <| .consumeOf _ fun _ => .get <|
      .ret ⟨hl, hf, H.is _ hc hlhs⟩
  case assign =>
    exact .ite (fun _ => .failed) fun hn => .advance <| .get <|
      .call (ih.expressionWithPrec _ _ hl hf) fun hl hf he =>
      .ite (fun hc => .ret ⟨hl, hf, H.compound hik hc (not_not_eq_true hn) hlhs he⟩)
        fun hc => .ret ⟨hl, hf, H.assign hik (Bool.eq_false_iff.mpr hc) (not_not_eq_true hn) hlhs he⟩

theorem statement_closed (ps : PS) (l f : Bool) (hl : ps.inLoop = l) (hf : ps.inFn = f) :
    PM.AllR R (KeepsFlags S l f) (statement tbl (n + 1) ps) := by
  have expr {β Q k ps} := @expr_closed R Pre Inf E S tbl n ih β Q k Prec.assign ps l f
  unfold statement
  refine .setDidEnd _ <| .get ?_
  dsimp only
  generalize ps.cur.tag = tg
  split
  · exact ih.printStatement _ hl hf
  · refine .ite (fun _ => .failed) fun hn => ?_
    obtain rfl : f = true := hf ▸ not_not_eq_true hn
    exact .consume _ fun _ => .atStatementEnd <|
      .ite (fun _ => expr hl hf fun hl hf he => .ret ⟨hl, hf, H.ret he⟩)
        fun _ => .setDidEnd _ <| .ret ⟨hl, hf, H.retNone⟩
  · exact .consume _ fun _ => .consume _ fun _ => expr hl hf fun hl hf hc =>
      .consume _ fun _ => .call (ih.statement _ hl hf) fun hl hf hb =>
      .curTag <| .ite
        (fun _ => .consume _ fun _ => .call (ih.statement _ hl hf) fun hl hf he =>
          .ret ⟨hl, hf, H.ifElse hc hb he⟩)
        fun _ => .ret ⟨hl, hf, H.if_ hc hb⟩
  · exact .consume _ fun _ => .consume _ fun _ => expr hl hf fun hl hf hc =>
      .consume _ fun _ => .call (ih.loopBody _ hl hf) fun hl hf hb =>
      .ret ⟨hl, hf, H.while_ hc hb⟩
  · refine .consume _ fun _ => .consume _ fun _ => expr hl hf fun {_ ps₁} hl hf hpre =>
      .curTag <| Parser.statement.match_1_cases
        (C := fun m : P Stmt => PM.AllR R (KeepsFlags S l f) (m ps₁)) (fun id _ _ => ?_) ?_
    · -- `for (id [, idx] in iter) body`
      have rest : ∀ {idx} {ps : PS}, ps.inLoop = l → ps.inFn = f → PM.AllR R (KeepsFlags S l f) ((do
          let iter ← expressionWithPrec tbl n Prec.assign
          consume .rparen
          let body ← loopBody tbl n
          return .forIn id idx iter body : P Stmt) ps) :=
        fun hl hf => expr hl hf fun hl hf hi => .consume _ fun _ =>
          .call (ih.loopBody _ hl hf) fun hl hf hb => .ret ⟨hl, hf, H.forIn _ _ hi hb⟩
      exact .after (P := fun r => r.2.inLoop = l ∧ r.2.inFn = f)
        (.ite (fun _ => .consume _ fun _ => .consume _ fun _ => .get <| .ret ⟨hl, hf⟩)
          fun _ => .ret ⟨hl, hf⟩)
        fun _ _ ⟨hl, hf⟩ => .consumeIgnore _ (rest hl hf) (rest hl hf)
    · exact .consume _ fun _ => expr hl hf fun hl hf hc => .consume _ fun _ =>
        expr hl hf fun hl hf hp => .consume _ fun _ =>
        .call (ih.loopBody _ hl hf) fun hl hf hb => .ret ⟨hl, hf, H.for_ hpre hc hp hb⟩
  · exact ih.block _ hl hf
  · refine .ite (fun _ => .failed) fun hn => ?_
    obtain rfl : l = true := hl ▸ not_not_eq_true hn
    exact .consume _ fun _ => .get <| .ret ⟨hl, hf, H.brk _⟩
  · refine .ite (fun _ => .failed) fun hn => ?_
    obtain rfl : l = true := hl ▸ not_not_eq_true hn
    exact .consume _ fun _ => .get <| .ret ⟨hl, hf, H.cont _⟩
  · exact .consume _ fun _ => .get <| .ret ⟨hl, hf, H.next _⟩
  · exact .consume _ fun _ => .get <| .ret ⟨hl, hf, H.exit _⟩
  · exact expr hl hf fun hl hf he => .ret ⟨hl, hf, H.expr he⟩

end steps

/-- every function of the mutual block, at every fuel, returns trees in a closed pair of families
    and keeps the two flags -/
theorem allClosed {R : Token → Prop} {Pre : Tag → PrefixKind → Prop} {Inf : Tag → InfixKind → Prop}
    {E : Bool → Bool → Expr → Prop} {S : Bool → Bool → Stmt → Prop} {tbl : RuleTable}
    (hPre : ∀ t k, (lookupRule tbl t).pre = some k → Pre t k)
    (hInf : ∀ t k, (lookupRule tbl t).inf = some k → Inf t k)
    (H : ParseClosed R Pre Inf E S) : ∀ n, AllClosed R Pre Inf E S tbl n
  | 0 => by constructor <;> intros <;> exact trivial
  | n + 1 =>
    have ih := allClosed hPre hInf H n
    have expr {β Q k prec ps l f} := @expr_closed R Pre Inf E S tbl n ih β Q k prec ps l f
    { statement := statement_closed H ih
      loopBody := fun ps l f hl hf => by
        unfold loopBody
        exact .get <| .modify _ <| .call (ih.statement _ rfl hf) fun _ hf hb =>
          .modify _ <| .ret ⟨hl, hf, hb⟩
      block := fun ps l f hl hf => by
        unfold block
        exact .consume _ fun _ => .get <|
          .call (ih.blockLoop [] _ hl hf (List.forall_mem_nil _)) fun hl hf hb =>
          .consume _ fun _ => .setDidEnd _ <| .ret ⟨hl, hf, H.block _ hb⟩
      blockLoop := fun acc ps l f hl hf hacc => by
        unfold blockLoop
        exact .curTag <| .ite (fun _ => .ret ⟨hl, hf, forall_mem_reverse hacc⟩) fun _ =>
          .call (ih.statement _ hl hf) fun hl hf hs => .atStatementEnd <|
          .ite (fun _ => .get .failed) fun _ => ih.blockLoop _ _ hl hf (forall_mem_cons_of hs hacc)
      printStatement := fun ps l f hl hf => by
        unfold printStatement
        exact .consume _ fun _ => .get <|
          .after (ih.printLoop [] _ hl hf (List.forall_mem_nil _)) fun (_, _) _ ⟨hl, hf, ha⟩ =>
          .atStatementEnd <|
          .ite (fun _ => .setDidEnd _ <| .ret ⟨hl, hf, H.print _ ha⟩) fun _ => .ret ⟨hl, hf, H.print _ ha⟩
      printLoop := fun acc ps l f hl hf hacc => by
        unfold printLoop
        exact .atStatementEnd <| .ite (fun _ => .ret ⟨hl, hf, forall_mem_reverse hacc⟩)
          fun _ => expr hl hf fun hl hf he => .curTag <| .ite
            (fun _ => .consume _ fun _ => ih.printLoop _ _ hl hf (forall_mem_cons_of he hacc))
            fun _ => .ret ⟨hl, hf, forall_mem_reverse (forall_mem_cons_of he hacc)⟩
      expressionWithPrec := fun prec ps l f hl hf => by
        unfold expressionWithPrec
        refine .get ?_
        generalize h : (lookupRule tbl ps.cur.tag).pre = pre
        cases pre with
        | none => exact .failed
        | some pk =>
          exact .call (ih.prefixFn pk _ hl hf (hPre _ _ h)) fun hl hf hx =>
            ih.infixLoop _ _ _ hl hf hx
      infixLoop := fun prec lhs ps l f hl hf hlhs => by
        unfold infixLoop
        refine .get <| .ite (fun _ => ?_) fun _ => .ret ⟨hl, hf, hlhs⟩
        generalize h : (lookupRule tbl ps.cur.tag).inf = inf
        cases inf with
        | none => exact .failed
        | some ik =>
          exact .call (ih.infixFn ik lhs _ hl hf (hInf _ _ h) hlhs) fun hl hf hx =>
            ih.infixLoop _ _ _ hl hf hx
      prefixFn := prefixFn_closed H ih
      exprList := fun endTag acc ps l f hl hf hacc => by
        unfold exprList
        exact .curTag <| .ite
          (fun _ => .consume _ fun _ => .ret ⟨hl, hf, forall_mem_reverse hacc⟩)
          fun _ => expr hl hf fun hl hf he => .curTag <| .ite
            (fun _ => .consume _ fun _ => ih.exprList _ _ _ hl hf (forall_mem_cons_of he hacc))
            fun _ => .consume _ fun _ =>
              .ret ⟨hl, hf, forall_mem_reverse (forall_mem_cons_of he hacc)⟩
      objectLoop := fun acc ps l f hl hf hacc => by
        unfold objectLoop
        exact .curTag <| .ite (fun _ => .ret ⟨hl, hf, forall_mem_reverse hacc⟩) fun _ =>
          .consumeOf _ fun _ => .get <| .consume _ fun _ => expr hl hf fun hl hf hv =>
          .curTag <| .ite
            (fun _ => .consume _ fun _ => ih.objectLoop _ _ hl hf (forall_mem_cons_of hv hacc))
            fun _ => ih.objectLoop _ _ hl hf (forall_mem_cons_of hv hacc)
      matchCases := fun acc ps l f hl hf hacc => by
        unfold matchCases
        exact .curTag <| .ite (fun _ => .ret ⟨hl, hf, forall_mem_reverse hacc⟩) fun _ =>
          .after (ih.matchPats [] _ hl hf (List.forall_mem_nil _)) fun pats _ ⟨hl, hf, hp⟩ =>
          .consume _ fun _ => .curTag <|
          -- the body of a case is a statement or an expression
          .after (P := KeepsFlags S l f)
            (.ite (fun _ => ih.statement _ hl hf)
              fun _ => expr hl hf fun hl hf he => .ret ⟨hl, hf, H.expr he⟩)
            fun body _ ⟨hl, hf, hb⟩ => .curTag <|
          have hc := forall_mem_cons_of (a := MatchCase.mk pats body) ⟨hp, hb⟩ hacc
          .ite (fun _ => .advance <| ih.matchCases _ _ hl hf hc)
            fun _ => ih.matchCases _ _ hl hf hc
      matchPats := fun acc ps l f hl hf hacc => by
        unfold matchPats
        exact .atEnd <| .ite (fun _ => .ret ⟨hl, hf, forall_mem_reverse hacc⟩) fun _ =>
          expr hl hf fun hl hf he => .curTag <| .ite
            (fun _ => .ret ⟨hl, hf, forall_mem_reverse (forall_mem_cons_of he hacc)⟩)
            fun _ => .consume _ fun _ => ih.matchPats _ _ hl hf (forall_mem_cons_of he hacc)
      infixFn := infixFn_closed H ih }

/-! ### the top level -/

section top
variable {R : Token → Prop} {Pre : Tag → PrefixKind → Prop} {Inf : Tag → InfixKind → Prop}
  {E : Bool → Bool → Expr → Prop} {S : Bool → Bool → Stmt → Prop} {tbl : RuleTable} {n : Nat}

/-- what the parser establishes for a program: outside of loops and functions for patterns and
    rule bodies, outside of loops but inside a function for function bodies -/
def ProgIn (E : Bool → Bool → Expr → Prop) (S : Bool → Bool → Stmt → Prop) (p : Program) : Prop :=
  (∀ r ∈ p.rules, S false false r.body ∧ ∀ e, r.pattern = some e → E false false e) ∧
  ∀ fn ∈ p.functions, S false true fn.body

theorem parseRule_closed (H : ParseClosed R Pre Inf E S) (ih : AllClosed R Pre Inf E S tbl n)
    (ps : PS) (l f : Bool) (hl : ps.inLoop = l) (hf : ps.inFn = f) :
    PM.AllR R (KeepsFlags (fun l f r => S l f r.body ∧ ∀ e, r.pattern = some e → E l f e) l f)
      (parseRule tbl n ps) := by
  unfold parseRule
  -- first the kind and the pattern, then the body
  refine .curTag <| .after
    (P := KeepsFlags (fun l f (r : RuleKind × Option Expr) => ∀ e, r.2 = some e → E l f e) l f) ?_
    fun (_, _) _ ⟨hl, hf, hp⟩ => .curTag <| .ite
      (fun _ => .call (ih.block _ hl hf) fun hl hf hb => .ret ⟨hl, hf, hb, hp⟩)
      fun _ => .ret ⟨hl, hf, H.print _ (List.forall_mem_nil _), hp⟩
  generalize ps.cur.tag = tg
  split
  iterate 4 exact .consume _ fun _ => .ret ⟨hl, hf, nofun⟩
  · exact .ret ⟨hl, hf, nofun⟩
  · exact expr_closed ih hl hf fun hl hf he => .ret ⟨hl, hf, fun _ h => Option.some.inj h ▸ he⟩

theorem funcArgs_flags : ∀ (n : Nat) (acc : List Bytes) (ps : PS) (l f : Bool),
    ps.inLoop = l → ps.inFn = f →
    PM.AllR R (KeepsFlags (fun _ _ _ => True) l f) (funcArgs n acc ps)
  | 0, _, _, _, _, _, _ => trivial
  | n + 1, acc, ps, l, f, hl, hf => by
    unfold funcArgs
    exact .curTag <| .ite (fun _ => .ret ⟨hl, hf, trivial⟩) fun _ => .consume _ fun _ => .get <|
      .curTag <| .ite (fun _ => .consume _ fun _ => funcArgs_flags n _ _ l f hl hf)
        fun _ => funcArgs_flags n _ _ l f hl hf

theorem parseFunction_closed (ih : AllClosed R Pre Inf E S tbl n)
    (ps : PS) (l : Bool) (hl : ps.inLoop = l) :
    PM.AllR R (fun r => r.2.inLoop = l ∧ r.2.inFn = ps.inFn ∧ S l true r.1.body)
      (parseFunction tbl n ps) := by
  unfold parseFunction
  exact .get <| .modify _ <| .consume _ fun _ => .consume _ fun _ => .get <|
    .consume _ fun _ => .after (funcArgs_flags n [] _ l true hl rfl) fun _ _ ⟨hl, hf, _⟩ =>
    .consume _ fun _ => .call (ih.block _ hl hf) fun hl _ hb =>
    .modify _ <| .ret ⟨hl, rfl, hb⟩

variable (hPre : ∀ t k, (lookupRule tbl t).pre = some k → Pre t k)
  (hInf : ∀ t k, (lookupRule tbl t).inf = some k → Inf t k) (H : ParseClosed R Pre Inf E S)
include hPre hInf H

theorem parseTop_closed : ∀ (n : Nat) (rules : List Rule) (fns : List FuncDef) (ps : PS),
    ps.inLoop = false → ps.inFn = false → ProgIn E S ⟨rules, fns⟩ →
    PM.AllR R (fun r => ProgIn E S r.1) (parseTop tbl n rules fns ps)
  | 0, _, _, _, _, _, _ => trivial
  | n + 1, rules, fns, ps, hl, hf, hp => by
    have ih := allClosed hPre hInf H n
    unfold parseTop
    exact .atEnd <| .ite
      (fun _ => .ret ⟨forall_mem_reverse hp.1, forall_mem_reverse hp.2⟩) fun _ => .curTag <| .ite
      (fun _ => .after (parseFunction_closed ih ps false hl) fun _ _ hx =>
        parseTop_closed n _ _ _ hx.1 (hx.2.1.trans hf) ⟨hp.1, forall_mem_cons_of hx.2.2 hp.2⟩)
      fun _ => .after (parseRule_closed H ih ps false false hl hf) fun _ _ hx =>
        parseTop_closed n _ _ _ hx.1 hx.2.1 ⟨forall_mem_cons_of hx.2.2 hp.1, hp.2⟩

theorem parseProgram_closed (n : Nat) :
    PM.AllR R (fun r => ProgIn E S r.1) (parseProgram tbl n PS.init) := by
  unfold parseProgram
  exact .advance <|
    parseTop_closed hPre hInf H n _ _ _ rfl rfl ⟨List.forall_mem_nil _, List.forall_mem_nil _⟩

theorem parseExpression_closed (n : Nat) :
    PM.AllR R (fun r => E false false r.1) (parseExpression tbl n PS.init) := by
  unfold parseExpression
  exact .advance <|
    .after ((allClosed hPre hInf H n).expressionWithPrec _ _ rfl rfl) fun _ _ hx =>
    .consume _ fun _ => .ret hx.2.2

/-- a program that parses lies in every closed pair of families whose `R` contains the regex
    tokens (the only answers of the real lexer to `Regex()`) -/
theorem parseProgramSrc_closed (hR : ∀ t : Token, t.tag = .regex → R t) {src : Bytes}
    {prog : Program} (h : parseProgramSrc tbl src = .ok prog) : ProgIn E S prog := by
  unfold parseProgramSrc at h
  split at h
  · rename_i p ps' hrun
    cases h
    exact PM.run_allR ((parseProgram_closed hPre hInf H _).weaken hR) hrun
  · cases h
  · cases h

theorem parseExpressionSrc_closed (hR : ∀ t : Token, t.tag = .regex → R t) {src : Bytes}
    {e : Expr} (h : parseExpressionSrc tbl src = .ok e) : E false false e := by
  unfold parseExpressionSrc at h
  split at h
  · rename_i p ps' hrun
    cases h
    exact PM.run_allR ((parseExpression_closed hPre hInf H _).weaken hR) hrun
  · cases h
  · cases h

end top

end Jqawk
