/-
  Provenance of positions, lexer side (C12).

  * `Lexed Rq src last s`: the lexer states reachable from `LexState.init src` by the two
    requests the parser can make (`Next()`, and `Regex()` when the tag of the last token
    satisfies `Rq`), together with the last token produced.
  * `IsTokenOf`, `IsLexErrOf`, `TokenStart`: the tokens / lexical errors / token offsets of a text.
  * `Lexed.inv`: the state invariant (`rest` = the text from `pos` on, `tokenStart` = the offset
    of the last token, after a `/` the lexer stands just behind it).
  * `IsTokenOf.spelled`: every token of a text is spelled in the text at its offset; the EOF
    token carries the offset of the token before it (`eof_pos`).
  * `nextNN_lexed`: `Lexer.nextNN` (what `Parser.advance` asks for) with the fuel `PM.run` gives
    it never runs out of fuel and stays inside `Lexed`.
-/
import Jqawk.Lemmas.Lexer
import Jqawk.Model.Parser

namespace Jqawk

namespace Prov
open Lexer

/-! ### the lexer states the parser can reach, and the tokens of a text -/

section defs
variable (Rq : Tag → Prop) (src : Bytes)

/-- `Lexed Rq src last s`: the lexer, started on `src` and asked for `Next()` or — when the tag
    of the token it produced last satisfies `Rq` — for `Regex()`, can be in state `s` having
    produced `last` last (`Token.zero` before the first request). -/
inductive Lexed : Token → LexState → Prop
  | init : Lexed Token.zero (LexState.init src)
  | next {l : Token} {s : LexState} {t : Token} {s' : LexState} :
      Lexed l s → Lexer.next s = .ok (t, s') → Lexed t s'
  | regex {l : Token} {s : LexState} {t : Token} {s' : LexState} :
      Lexed l s → Rq l.tag → Lexer.regex s = .ok (t, s') → Lexed t s'

/-- `t` is a token of the text: the lexer produced it at some reachable state -/
def IsTokenOf (t : Token) : Prop :=
  ∃ l s s', Lexed Rq src l s ∧
    (Lexer.next s = .ok (t, s') ∨ (Rq l.tag ∧ Lexer.regex s = .ok (t, s')))

/-- `e` is a lexical error of the text: the lexer reports it at some reachable state -/
def IsLexErrOf (e : SynErr) : Prop :=
  ∃ l s, Lexed Rq src l s ∧ (Lexer.next s = .error e ∨ (Rq l.tag ∧ Lexer.regex s = .error e))

/-- `p` is the offset carried by a token of the text -/
def TokenStart (p : Nat) : Prop := ∃ t, IsTokenOf Rq src t ∧ t.pos = p

end defs

variable {Rq : Tag → Prop} {src : Bytes}

theorem Lexed.isTokenOf {l : Token} {s : LexState} (h : Lexed Rq src l s) :
    l = Token.zero ∨ IsTokenOf Rq src l := by
  cases h with
  | init => exact .inl rfl
  | next hl hn => exact .inr ⟨_, _, _, hl, .inl hn⟩
  | regex hl hq hn => exact .inr ⟨_, _, _, hl, .inr ⟨hq, hn⟩⟩

theorem IsTokenOf.lexed {t : Token} (h : IsTokenOf Rq src t) : ∃ s', Lexed Rq src t s' := by
  obtain ⟨l, s, s', hl, h | ⟨hq, h⟩⟩ := h
  · exact ⟨s', hl.next h⟩
  · exact ⟨s', hl.regex hq h⟩

theorem Lexed.weaken {Rq' : Tag → Prop} (hR : ∀ t, Rq t → Rq' t) {l : Token} {s : LexState}
    (h : Lexed Rq src l s) : Lexed Rq' src l s := by
  induction h with
  | init => exact .init
  | next _ hn ih => exact .next ih hn
  | regex _ hq hn ih => exact .regex ih (hR _ hq) hn

theorem IsTokenOf.weaken {Rq' : Tag → Prop} (hR : ∀ t, Rq t → Rq' t) {t : Token}
    (h : IsTokenOf Rq src t) : IsTokenOf Rq' src t := by
  obtain ⟨l, s, s', hl, h⟩ := h
  exact ⟨l, s, s', hl.weaken hR, h.imp_right (And.imp_left (hR _))⟩

theorem TokenStart.weaken {Rq' : Tag → Prop} (hR : ∀ t, Rq t → Rq' t) {p : Nat}
    (h : TokenStart Rq src p) : TokenStart Rq' src p := by
  obtain ⟨t, ht, hp⟩ := h
  exact ⟨t, ht.weaken hR, hp⟩

/-- what holds in every reachable lexer state: `rest` is the text from `pos` on, `pos` lies in
    the text, `tokenStart` is the offset carried by the last token (0 before the first), which
    lies at or before `pos`; and just after a `/` token the lexer stands right behind that byte -/
structure LexInv (src : Bytes) (l : Token) (s : LexState) : Prop where
  rest : s.rest = src.drop s.pos
  pos_le : s.pos ≤ src.length
  ts : s.tokenStart = l.pos
  ts_le : l.pos ≤ s.pos
  slash : l.tag = .divide → l.pos + 1 = s.pos ∧ src[l.pos]? = some 47

theorem drop_eq_cons_getElem? {α : Type} {l : List α} {n : Nat} {a : α} {as : List α}
    (h : l.drop n = a :: as) : l[n]? = some a := by
  have := congrArg List.head? h
  simpa [List.head?_drop] using this

theorem drop_advance {α : Type} {l w r : List α} {n : Nat} (h : l.drop n = w ++ r)
    (hn : n ≤ l.length) : l.drop (n + w.length) = r ∧ n + w.length ≤ l.length := by
  refine ⟨by rw [← List.drop_drop, h, List.drop_left], ?_⟩
  have := congrArg List.length h
  rw [List.length_drop, List.length_append] at this
  exact Nat.add_le_of_le_sub' hn (this ▸ Nat.le_add_right _ _)

theorem LexInv.next {l : Token} {s : LexState} (hi : LexInv src l s) {t : Token} {s' : LexState}
    (hn : Lexer.next s = .ok (t, s')) : LexInv src t s' := by
  obtain ⟨ws, r, h1, h⟩ := next_spelled s t s' hn
  obtain ⟨hd, hle⟩ := drop_advance (hi.rest.symm.trans h1) hi.pos_le
  rcases h with ⟨rfl, rfl, rfl⟩ | ⟨_, hsp⟩
  · exact ⟨hd.symm, hle, rfl, Nat.le_trans (hi.ts.symm ▸ hi.ts_le) (Nat.le_add_right _ _),
      fun h => by cases h⟩
  · obtain ⟨⟨w, _, hr, hpos, _, hp2⟩, hts⟩ := hsp.consumed
    obtain ⟨hd', hle'⟩ := drop_advance (hd.trans hr) hle
    refine ⟨by rw [hpos]; exact hd'.symm, hpos ▸ hle', hts, hp2, fun hdv => ?_⟩
    obtain ⟨hp, hpos', hr'⟩ := hsp.divide hdv
    exact ⟨by rw [hp, hpos'], by rw [hp]; exact drop_eq_cons_getElem? (hd.trans hr')⟩

theorem LexInv.regex {l : Token} {s : LexState} (hi : LexInv src l s) {t : Token} {s' : LexState}
    (hn : Lexer.regex s = .ok (t, s')) : LexInv src t s' := by
  obtain ⟨body, rest', h1, _, rfl, rfl⟩ := (regex_ok_iff s t s').mp hn
  have h1' : src.drop s.pos = (body ++ [47]) ++ rest' := by
    rw [← hi.rest, h1, List.append_assoc]; rfl
  obtain ⟨hd, hle⟩ := drop_advance h1' hi.pos_le
  rw [List.length_append, List.length_singleton, ← Nat.add_assoc] at hd hle
  exact ⟨hd.symm, hle, rfl,
    Nat.succ_le_succ (Nat.le_trans (hi.ts.symm ▸ hi.ts_le) (Nat.le_add_right _ _)), fun h => by cases h⟩

theorem Lexed.inv {l : Token} {s : LexState} (h : Lexed Rq src l s) : LexInv src l s := by
  induction h with
  | init => exact ⟨rfl, Nat.zero_le _, rfl, Nat.le_refl _, fun h => by cases h⟩
  | next _ hn ih => exact ih.next hn
  | regex _ _ hn ih => exact ih.regex hn

/-! ### every token of a text is spelled in the text -/

/-- the token `t` is written in `src` at the offset it carries: its lexeme stands there (for a
    string: between two equal quotes, the first just before the offset; for a regex literal:
    between two slashes) -/
def SpelledIn (src : Bytes) (t : Token) : Prop :=
  match t.tag with
  | .eof => True
  | .str => ∃ q, (q = 39 ∨ q = 34) ∧ 1 ≤ t.pos ∧ src[t.pos - 1]? = some q ∧ q ∉ t.text ∧
      ∃ rest, src.drop t.pos = t.text ++ q :: rest
  | .regex => 1 ≤ t.pos ∧ src[t.pos - 1]? = some 47 ∧ (47 : UInt8) ∉ t.text ∧
      ∃ rest, src.drop t.pos = t.text ++ 47 :: rest
  | _ => t.lexeme ≠ [] ∧ ∃ rest, src.drop t.pos = t.lexeme ++ rest

theorem SpelledIn.pos_lt {t : Token} (h : SpelledIn src t) (hne : t.tag ≠ .eof) :
    t.pos < src.length := by
  have key : ∀ w : Bytes, src.drop t.pos = w → w ≠ [] → t.pos < src.length :=
    fun w hw hne => Nat.lt_of_not_le fun hle => hne (hw ▸ List.drop_eq_nil_of_le hle)
  unfold SpelledIn at h
  split at h
  · contradiction
  · obtain ⟨q, _, _, _, _, rest, hr⟩ := h
    exact key _ hr (List.append_ne_nil_of_right_ne_nil _ (List.cons_ne_nil _ _))
  · obtain ⟨_, _, _, rest, hr⟩ := h
    exact key _ hr (List.append_ne_nil_of_right_ne_nil _ (List.cons_ne_nil _ _))
  · obtain ⟨hl, rest, hr⟩ := h
    exact key _ hr (List.append_ne_nil_of_left_ne_nil hl _)

theorem spelledIn_of_next {l : Token} {s : LexState} (hi : LexInv src l s) {t : Token}
    {s' : LexState} (hn : Lexer.next s = .ok (t, s')) : SpelledIn src t := by
  obtain ⟨ws, r, h1, h⟩ := next_spelled s t s' hn
  obtain ⟨hd, _⟩ := drop_advance (hi.rest.symm.trans h1) hi.pos_le
  rcases h with ⟨_, rfl, _⟩ | ⟨_, ⟨h1, h2, h3, hp, hlne, hr', _, _⟩ | ⟨htag, q, hq, hnq, hr', hp, _, _⟩⟩
  · trivial
  · unfold SpelledIn
    split
    · rename_i heq; exact absurd heq h2
    · rename_i heq; exact absurd heq h1
    · rename_i heq; exact absurd heq h3
    · exact ⟨hlne, s'.rest, by rw [hp, hd, hr']⟩
  · unfold SpelledIn
    rw [htag]
    refine ⟨q, hq, hp ▸ Nat.le_add_left _ _, ?_, hnq, s'.rest, ?_⟩
    · rw [hp, Nat.add_sub_cancel]
      exact drop_eq_cons_getElem? (hd.trans hr')
    · rw [hp, ← List.drop_drop, hd, hr']; rfl

/-- the condition under which the parser of the real rule table asks for `Regex()` -/
def AfterSlash (t : Tag) : Prop := t = .divide

theorem spelledIn_of_regex {l : Token} {s : LexState} (hi : LexInv src l s) (hl : l.tag = .divide)
    {t : Token} {s' : LexState} (hn : Lexer.regex s = .ok (t, s')) : SpelledIn src t := by
  obtain ⟨body, rest', h1, hnb, rfl, rfl⟩ := (regex_ok_iff s t s').mp hn
  obtain ⟨hs1, hs2⟩ := hi.slash hl
  unfold SpelledIn
  dsimp only
  rw [hi.ts]
  refine ⟨Nat.le_add_left _ _, by rw [Nat.add_sub_cancel]; exact hs2, hnb, rest', ?_⟩
  rw [hs1, ← hi.rest, h1]

/-- **every token of a text is spelled in the text at the offset it carries** (regex literals
    only when `Regex()` is requested just after a `/`, as the real rule table does) -/
theorem IsTokenOf.spelled {t : Token} (h : IsTokenOf AfterSlash src t) : SpelledIn src t := by
  obtain ⟨l, s, s', hl, h | ⟨hq, h⟩⟩ := h
  · exact spelledIn_of_next hl.inv h
  · exact spelledIn_of_regex hl.inv hq h

/-- whatever the `Regex()` discipline: every token other than a regex literal is spelled in
    the text at its offset -/
theorem IsTokenOf.spelled_any {t : Token} (h : IsTokenOf Rq src t) (hr : t.tag ≠ .regex) :
    SpelledIn src t := by
  obtain ⟨l, s, s', hl, h | ⟨_, h⟩⟩ := h
  · exact spelledIn_of_next hl.inv h
  · obtain ⟨_, _, _, _, rfl, _⟩ := (regex_ok_iff s t s').mp h
    exact absurd rfl hr

theorem IsTokenOf.pos_le {t : Token} (h : IsTokenOf Rq src t) : t.pos ≤ src.length := by
  obtain ⟨s', hl⟩ := h.lexed
  exact Nat.le_trans hl.inv.ts_le hl.inv.pos_le

theorem TokenStart.le {p : Nat} (h : TokenStart Rq src p) : p ≤ src.length := by
  obtain ⟨t, ht, rfl⟩ := h; exact ht.pos_le

/-- the text holds no token at all (only blanks, CRs, tabs and comments): the very first
    answer of the lexer is EOF -/
def NoToken (src : Bytes) : Prop :=
  ∃ s1, Lexer.next (LexState.init src) = .ok (⟨.eof, 0, []⟩, s1)

/-- the offset of the last token is one at which a token other than EOF is written, or it is 0
    and either nothing has been asked yet or the text holds no token at all -/
def LastPos (Rq : Tag → Prop) (src : Bytes) (l : Token) (s : LexState) : Prop :=
  (∃ t, IsTokenOf Rq src t ∧ t.tag ≠ .eof ∧ t.pos = l.pos) ∨
  (l.pos = 0 ∧ (s = LexState.init src ∨ (s.rest = [] ∧ NoToken src)))

/-- **the EOF token carries the offset of the token produced before it**: Go's `tokenStart`
    field is not advanced at the end of the text.  One EOF answer, given what is known of the
    state it is produced in. -/
theorem LastPos.eof {l : Token} {s : LexState} (hl : Lexed Rq src l s) (ih : LastPos Rq src l s)
    {t : Token} {s' : LexState} (hn : Lexer.next s = .ok (t, s')) (he : t.tag = .eof) :
    s'.rest = [] ∧
    ((∃ t', IsTokenOf Rq src t' ∧ t'.tag ≠ .eof ∧ t'.pos = t.pos) ∨ (t.pos = 0 ∧ NoToken src)) := by
  obtain ⟨rfl, hr⟩ := next_eof hn he
  refine ⟨hr, ?_⟩
  dsimp only
  rw [hl.inv.ts]
  rcases ih with ih | ⟨h0, rfl | ⟨_, hno⟩⟩
  · exact .inl ih
  · exact .inr ⟨h0, _, hn⟩
  · exact .inr ⟨h0, hno⟩

theorem Lexed.last_pos {l : Token} {s : LexState} (h : Lexed Rq src l s) : LastPos Rq src l s := by
  induction h with
  | init => exact .inr ⟨rfl, .inl rfl⟩
  | @next l s t s' hl hn ih =>
    by_cases he : t.tag = .eof
    · obtain ⟨hr, h⟩ := ih.eof hl hn he
      exact h.imp_right (And.imp_right fun hno => .inr ⟨hr, hno⟩)
    · exact .inl ⟨t, ⟨_, _, _, hl, .inl hn⟩, he, rfl⟩
  | @regex l s t s' hl hq hn ih =>
    refine .inl ⟨t, ⟨_, _, _, hl, .inr ⟨hq, hn⟩⟩, ?_, rfl⟩
    obtain ⟨_, _, _, _, rfl, _⟩ := (regex_ok_iff s t s').mp hn
    nofun

theorem IsTokenOf.eof_pos {t : Token} (h : IsTokenOf Rq src t) (he : t.tag = .eof) :
    (∃ t', IsTokenOf Rq src t' ∧ t'.tag ≠ .eof ∧ t'.pos = t.pos) ∨ (t.pos = 0 ∧ NoToken src) := by
  obtain ⟨l, s, s', hl, h' | ⟨_, h'⟩⟩ := h
  · exact (hl.last_pos.eof hl h' he).2
  · obtain ⟨_, _, _, _, rfl, _⟩ := (regex_ok_iff s t s').mp h'
    cases he

/-- **what a token offset means**: a token other than EOF is written there (`SpelledIn`), or
    the offset is 0 and the text holds no token at all -/
theorem TokenStart.real' {p : Nat} (h : TokenStart Rq src p) :
    (∃ t, IsTokenOf Rq src t ∧ t.tag ≠ .eof ∧ t.pos = p) ∨ (p = 0 ∧ NoToken src) := by
  obtain ⟨t, ht, rfl⟩ := h
  by_cases he : t.tag = .eof
  · exact ht.eof_pos he
  · exact .inl ⟨t, ht, he, rfl⟩

theorem TokenStart.real {p : Nat} (h : TokenStart Rq src p) :
    p = 0 ∨ ∃ t, IsTokenOf Rq src t ∧ t.tag ≠ .eof ∧ t.pos = p :=
  h.real'.symm.imp_left And.left

/-! ### lexical errors -/

/-- the offset of a lexical error lies in the text; it is the offset of the illegal byte, or
    the offset just behind the opening quote of a string that is never closed, or — for a regex
    literal that is never closed — the offset of the token before it (the `/`) -/
theorem IsLexErrOf.pos {e : SynErr} (h : IsLexErrOf Rq src e) :
    e.pos ≤ src.length ∧
    ((e.msg = "unexpected character" ∧ ∃ c, src[e.pos]? = some c) ∨
     (e.msg = "unexpected EOF while reading string" ∧
       ∃ q, (q = 39 ∨ q = 34) ∧ 1 ≤ e.pos ∧ src[e.pos - 1]? = some q ∧ q ∉ src.drop e.pos) ∨
     (e.msg = "unexpected EOF while reading regex" ∧
       (TokenStart Rq src e.pos ∨ (e.pos = 0 ∧ Rq Tag.eof)))) := by
  obtain ⟨l, s, hl, h | ⟨hq, h⟩⟩ := h
  · obtain ⟨ws, c, cs, h1, h2⟩ := next_error_eq s e h
    obtain ⟨hd, hle⟩ := drop_advance (hl.inv.rest.symm.trans h1) hl.inv.pos_le
    obtain ⟨_, hle1⟩ := drop_advance (w := [c]) hd hle
    have hc := drop_eq_cons_getElem? hd
    rcases h2 with rfl | ⟨hq, hn, rfl⟩
    · exact ⟨hle, .inl ⟨rfl, c, hc⟩⟩
    · refine ⟨hle1, .inr (.inl ⟨rfl, c, hq, Nat.le_add_left _ _, ?_, ?_⟩)⟩
      · dsimp only; rw [Nat.add_sub_cancel]; exact hc
      · dsimp only; rw [← List.drop_drop, hd]; exact hn
  · obtain ⟨_, rfl⟩ := (regex_error_iff s e).mp h
    dsimp only
    rw [hl.inv.ts]
    refine ⟨Nat.le_trans hl.inv.ts_le hl.inv.pos_le, .inr (.inr ⟨rfl, ?_⟩)⟩
    rcases hl.isTokenOf with rfl | ht
    · exact .inr ⟨rfl, hq⟩
    · exact .inl ⟨l, ht, rfl⟩

/-- `nextNN` with more fuel than bytes left never runs out of fuel; its answer is a token or a
    lexical error of the text, and the lexer stays in a reachable state -/
theorem nextNN_lexed (f : Nat) {l : Token} {s : LexState} (hl : Lexed Rq src l s) (nl : Bool)
    (hf : s.rest.length < f) :
    match Lexer.nextNN f s nl with
    | .ok (t, _, s') => Lexed Rq src t s' ∧ IsTokenOf Rq src t
    | .error e => IsLexErrOf Rq src e := by
  induction f generalizing l s nl with
  | zero => exact absurd hf (Nat.not_lt_zero _)
  | succ f ih =>
    unfold Lexer.nextNN
    cases hn : Lexer.next s with
    | error e => exact ⟨l, s, hl, .inl hn⟩
    | ok r =>
      obtain ⟨t, s'⟩ := r
      dsimp only
      by_cases htag : (t.tag == Tag.newline) = true
      · rw [if_pos htag]
        have hne : t.tag ≠ .eof := by
          intro h; rw [h] at htag; cases htag
        exact ih (hl.next hn) true
          (Nat.lt_of_lt_of_le (next_progress s t s' hn hne) (Nat.le_of_lt_succ hf))
      · rw [if_neg htag]
        exact ⟨hl.next hn, ⟨l, s, s', hl, .inl hn⟩⟩

end Prov

end Jqawk
