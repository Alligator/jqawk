/-
  The two orders the `sort` method uses — `f64Le` on numbers (NaN smallest) and `Bytes.le` on
  strings — are total and transitive: what the merge sort of Lemmas/Arr.lean needs of them.
-/
import Jqawk.Model.Natives
import Jqawk.Lemmas.Order

namespace Jqawk

/-! `f64Le` is Go's `cmp.Compare(x, y) ≤ 0` -/

theorem f64Le_iff (x y : F64) :
    f64Le x y = true ↔ x.isNaN = true ∨ (y.isNaN = false ∧ x.key ≤ y.key) := by
  simp only [f64Le, F64.le]
  cases x.isNaN <;> cases y.isNaN <;> simp

theorem f64Le_total (x y : F64) : (f64Le x y || f64Le y x) = true := by
  rw [Bool.or_eq_true, f64Le_iff, f64Le_iff]
  cases hx : x.isNaN
  · cases hy : y.isNaN
    · exact (Int.le_total x.key y.key).imp (fun h => .inr ⟨rfl, h⟩) (fun h => .inr ⟨rfl, h⟩)
    · exact .inr (.inl rfl)
  · exact .inl (.inl rfl)

theorem f64Le_trans (x y z : F64) (h1 : f64Le x y = true) (h2 : f64Le y z = true) :
    f64Le x z = true := by
  rw [f64Le_iff] at *
  rcases h1 with h | ⟨hy, h1⟩
  · exact .inl h
  · rcases h2 with h | ⟨hz, h2⟩
    · rw [hy] at h; cases h
    · exact .inr ⟨hz, Int.le_trans h1 h2⟩

theorem Bytes.cmp_self (a : Bytes) : Bytes.cmp a a = .eq :=
  Bytes.cmp_refl a

theorem Bytes.le_total_bool (a b : Bytes) : (Bytes.le a b || Bytes.le b a) = true :=
  Bool.or_eq_true .. ▸ Bytes.le_total a b

end Jqawk
