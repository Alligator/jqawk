/-
  Renaming of cell ids (C14): the rule driver in two runs from related states — `evalRules`, the
  pattern-rule loop, the BEGINFILE/ENDFILE loops, the conversion of a decoded JSON value.
-/
import Jqawk.Lemmas.SelectorEval


namespace Jqawk
namespace Sel

variable {X : XCtx}

theorem SimW.ruleFlow {w : Nat} {mA mB : EM Unit} (hm : SimW X w EqR mA mB) :
    SimW X w EqR (Jqawk.ruleFlow mA) (Jqawk.ruleFlow mB) := by
  intro sA sB hs hw
  unfold Jqawk.ruleFlow
  refine (hm sA sB hs hw).byCases (fun _ => trivial) (fun _ => RR.oofR ..) (fun _ _ _ _ h1 _ h3 => ⟨h1, rfl, h3⟩)
    (fun e sA1 sB1 h1 h3 h4 => ?_)
  cases e with
  | sig g =>
    cases g with
    | next => exact ⟨h1, rfl, h3⟩
    | exit => exact ⟨h1, rfl, h3⟩
    | _ => exact ⟨h1, rfl, h3, h4⟩
  | _ => exact ⟨h1, rfl, h3, h4⟩

theorem SimW.catchExit {w : Nat} {mA mB : EM Unit} (hm : SimW X w EqR mA mB) :
    SimW X w EqR (Jqawk.catchExit mA) (Jqawk.catchExit mB) := by
  intro sA sB hs hw
  unfold Jqawk.catchExit
  refine (hm sA sB hs hw).byCases (fun _ => trivial) (fun _ => RR.oofR ..) (fun _ _ _ _ h1 _ h3 => ⟨h1, rfl, h3⟩)
    (fun e sA1 sB1 h1 h3 h4 => ?_)
  cases e with
  | sig g =>
    cases g with
    | exit => exact ⟨h1, rfl, h3⟩
    | _ => exact ⟨h1, rfl, h3, h4⟩
  | _ => exact ⟨h1, rfl, h3, h4⟩

theorem SimW.setRuleRoot {w w0 : Nat} {ca cb : CellId} (h : CellR X.toCtx w0 ca cb) (hw0 : w0 ≤ w) :
    SimW X w EqR (modifySt fun s => { s with ruleRoot := some ca }) (modifySt fun s => { s with ruleRoot := some cb }) := by
  intro sA sB hs hw
  exact ⟨Nat.le_refl _, rfl, { hs with ruleRoot := fun _ => h.mono (Nat.le_trans hw0 hw) }⟩

theorem SimW.setRoot {w w0 : Nat} {ca cb : CellId} (h : CellR X.toCtx w0 ca cb) (hw0 : w0 ≤ w) :
    SimW X w EqR (modifySt fun s => { s with root := some ca }) (modifySt fun s => { s with root := some cb }) := by
  intro sA sB hs hw
  exact ⟨Nat.le_refl _, rfl, { hs with root := fun _ => h.mono (Nat.le_trans hw0 hw) }⟩

def rulesOK (X : XCtx) (rules : List Rule) : Prop :=
  ∀ r ∈ rules, idsS X.allowD X.allow r.body = true ∧ ∀ p, r.pattern = some p → idsE X.allowD X.allow p = true

theorem sim_evalRules (g : GoodX X) : ∀ (rules : List Rule) (w : Nat), rulesOK X rules →
    SimW X w EqR (evalRules X.progA rules) (evalRules X.progB rules)
  | [], w, _ => by unfold evalRules; exact SimW.same _
  | rule :: rest, w, hr => by
    have hrule := hr rule (List.mem_cons_self ..)
    have hrest : rulesOK X rest := fun r hm => hr r (List.mem_cons_of_mem _ hm)
    unfold evalRules
    refine SimW.bind (VR1 := EqR) ?_ (fun w1 ma mb hw1 hm => ?_)
    · cases hp : rule.pattern with
      | none => exact SimW.same _
      | some p =>
        dsimp only
        refine SimW.catchSig .next (fun _ => rfl) ?_
        refine SimW.bind ((allSim evalFuel evalFuel).expr g w p (hrule.2 p hp)) (fun w2 ca cb hw2 hc => ?_)
        refine SimW.readCell_bind hc (Nat.le_refl _) (fun w3 va vb hw3 hv => ?_)
        rw [hv.truthy]
        exact SimW.same _
    · cases hm
      cases ma with
      | none => exact SimW.same _
      | some isMatch =>
        dsimp only
        cases isMatch with
        | false => exact sim_evalRules g rest w1 hrest
        | true =>
          simp only [Bool.not_true, Bool.false_eq_true, ↓reduceIte]
          refine SimW.bind (VR1 := EqR) (SimW.catchSig .next (fun _ => rfl) ?_) (fun w2 ma mb hw2 hm => ?_)
          · exact SimW.bind ((allSim evalFuel evalFuel).stmt g w1 rule.body hrule.1)
              (fun w3 _ _ _ _ => SimW.same _)
          · cases hm
            cases ma with
            | true => exact sim_evalRules g rest w2 hrest
            | false => exact SimW.same _

theorem sim_evalElems (g : GoodX X) (hbase : X.baseA = [] ∧ X.baseB = []) (rules : List Rule)
    (hr : rulesOK X rules) : ∀ (ia ib : List CellId) (k : Nat) (w w0 : Nat), ListCellR X.toCtx w0 ia ib → w0 ≤ w →
    SimW X w EqR (evalElems X.progA rules ia k) (evalElems X.progB rules ib k) := by
  intro ia ib k w w0 hi hw0
  obtain ⟨rfl, hl⟩ := hi
  induction ib generalizing k w with
  | nil => unfold evalElems; exact SimW.same _
  | cons c cs ih =>
    simp only [List.map_cons]
    unfold evalElems
    have hc : CellR X.toCtx w0 (X.σ c) c := ⟨rfl, hl c (List.mem_cons_self ..)⟩
    refine SimW.bind (SimW.setRuleRoot hc hw0) (fun w1 _ _ hw1 _ => ?_)
    refine SimW.bind (SimW.newScalar g.wf) (fun w2 xa xb hw2 hx => ?_)
    refine SimW.bind (SimW.setLocal (.inr hbase) _ hx (Nat.le_refl _)) (fun w3 _ _ hw3 _ => ?_)
    refine SimW.bind (sim_evalRules g rules w3 hr) (fun w4 _ _ hw4 _ => ?_)
    exact ih (k + 1) w4 (Nat.le_trans hw0 (Nat.le_trans hw1 (Nat.le_trans hw2 (Nat.le_trans hw3 hw4))))
      (fun x hx => hl x (List.mem_cons_of_mem _ hx))

theorem sim_patternRoot (htr : X.trackRoot = true) (rules : List Rule) (w : Nat)
    (helems : ∀ (ia ib : List CellId) (w w0 : Nat), ListCellR X.toCtx w0 ia ib → w0 ≤ w →
      SimW X w EqR (evalElems X.progA rules ia 0) (evalElems X.progB rules ib 0))
    (hroot : ∀ (ca cb : CellId) (w : Nat), CellR X.toCtx w ca cb →
      SimW X w EqR
        (modifySt (fun s => { s with ruleRoot := some ca }) >>= fun _ => evalRules X.progA rules)
        (modifySt (fun s => { s with ruleRoot := some cb }) >>= fun _ => evalRules X.progB rules)) :
    SimW X w EqR (evalPatternRules X.progA rules) (evalPatternRules X.progB rules) := by
  unfold evalPatternRules
  apply SimW.getSt_bind
  intro sA sB hs hw
  refine (hs.root htr).byCases (SimW.same _) (fun ra rb hc => ?_)
  have hv := hs.heap.get hc (Nat.le_refl _)
  dsimp only
  rw [hv.1]
  cases hgb : sB.heap.get rb with
  | arr a =>
    rw [hgb] at hv
    simp only [renV_arr]
    exact helems _ _ _ _ (hs.heap.arrs a hv.2).toList (Nat.le_refl _)
  | _ =>
    simp only [renV_str, renV_nil, renV_native, renV_bool, renV_num, renV_obj, renV_fn, renV_regex, renV_unknown]
    exact hroot ra rb _ hc

/-- the pattern rules in a context whose `allowD` is left as it is; the runs of `-r` go through
    `sim_evalPatternRules_withD`, where `$` is set before each rule and need not be related before -/
theorem sim_evalPatternRules (g : GoodX X) (hbase : X.baseA = [] ∧ X.baseB = []) (htr : X.trackRoot = true)
    (rules : List Rule) (hr : rulesOK X rules) (w : Nat) :
    SimW X w EqR (evalPatternRules X.progA rules) (evalPatternRules X.progB rules) :=
  sim_patternRoot htr rules w (fun ia ib => sim_evalElems g hbase rules hr ia ib 0)
    (fun _ _ _ hc => SimW.bind (SimW.setRuleRoot hc (Nat.le_refl _)) (fun w1 _ _ _ _ => sim_evalRules g rules w1 hr))

theorem sim_specialRules {mkA mkB : EM CellId} {w0 : Nat}
    (hmk : ∀ w, w0 ≤ w → SimW X w (CellR X.toCtx) mkA mkB) :
    ∀ (rules : List Rule) (w : Nat), w0 ≤ w →
    (∀ r ∈ rules, ∀ (ca cb : CellId) (w : Nat), CellR X.toCtx w ca cb →
      SimW X w EqR
        (modifySt (fun s => { s with ruleRoot := some ca }) >>= fun _ =>
          Jqawk.ruleFlow (evalStmt X.progA evalFuel r.body))
        (modifySt (fun s => { s with ruleRoot := some cb }) >>= fun _ =>
          Jqawk.ruleFlow (evalStmt X.progB evalFuel r.body))) →
    SimW X w EqR (evalSpecialRules X.progA mkA rules) (evalSpecialRules X.progB mkB rules)
  | [], w, _, _ => by unfold evalSpecialRules; exact SimW.same _
  | rule :: rest, w, hw, hr => by
    unfold evalSpecialRules
    refine SimW.bind (hmk w hw) (fun w1 ca cb hw1 hc => ?_)
    rw [EM.bind_assoc', EM.bind_assoc']
    refine SimW.bind (hr rule (List.mem_cons_self ..) ca cb w1 hc) (fun w3 fa fb hw3 hf => ?_)
    cases hf
    cases fa with
    | exit => exact SimW.same _
    | continue_ =>
      exact sim_specialRules hmk rest w3 (Nat.le_trans hw (Nat.le_trans hw1 hw3))
        (fun r hm => hr r (List.mem_cons_of_mem _ hm))

/-- the runs of `-r` go through `sim_evalSpecialRules_withD` -/
theorem sim_evalSpecialRules (g : GoodX X) {mkA mkB : EM CellId}
    (hmk : ∀ w, SimW X w (CellR X.toCtx) mkA mkB) : ∀ (rules : List Rule) (w : Nat),
    (∀ r ∈ rules, idsS X.allowD X.allow r.body = true) →
    SimW X w EqR (evalSpecialRules X.progA mkA rules) (evalSpecialRules X.progB mkB rules) :=
  fun rules w hr => sim_specialRules (w0 := 0) (fun w _ => hmk w) rules w (Nat.zero_le _)
    (fun r hm _ _ _ hc => SimW.bind (SimW.setRuleRoot hc (Nat.le_refl _))
      (fun w2 _ _ _ _ => SimW.ruleFlow ((allSim evalFuel evalFuel).stmt g w2 r.body (hr r hm))))

theorem foldInsert_nil {K : Ctx} {w : Nat} {ma mb : List (Bytes × CellId)} (h : MemR K w ma mb) :
    MemR K w (ma.foldl (fun m kc => objInsert m kc.1 kc.2) []) (mb.foldl (fun m kc => objInsert m kc.1 kc.2) []) :=
  MemR.foldInsert h (MemR.nil w)

mutual
theorem sim_newValueJson (wf : X.WF) : ∀ (j : JVal) (w : Nat),
    SimW X w (ValR X.toCtx) (newValueJson j) (newValueJson j)
  | .null, w => by unfold newValueJson; exact SimW.pure (ValR.scalar 0) (Nat.zero_le _)
  | .bool b, w => by unfold newValueJson; exact SimW.pure (ValR.scalar 0) (Nat.zero_le _)
  | .num lit, w => by unfold newValueJson; exact SimW.pure (ValR.scalar 0) (Nat.zero_le _)
  | .str s, w => by unfold newValueJson; exact SimW.pure (ValR.scalar 0) (Nat.zero_le _)
  | .arr items, w => by
    unfold newValueJson
    refine SimW.bind (sim_newValueItems wf items w) (fun w1 ca cb hw1 hc => ?_)
    exact SimW.allocArr_bind (ArrR.ofList hc) (Nat.le_refl _) (fun _ _ _ hv => SimW.pure hv (Nat.le_refl _))
  | .obj members, w => by
    unfold newValueJson
    refine SimW.bind (sim_newValueMembers wf members w) (fun w1 ca cb hw1 hc => ?_)
    exact SimW.allocObj_bind (foldInsert_nil hc) (Nat.le_refl _) (fun _ _ _ hv => SimW.pure hv (Nat.le_refl _))
theorem sim_newValueItems (wf : X.WF) : ∀ (js : List JVal) (w : Nat),
    SimW X w (ListCellR X.toCtx) (newValueItems js) (newValueItems js)
  | [], w => by unfold newValueItems; exact SimW.pure (ListCellR.nil 0) (Nat.zero_le _)
  | j :: js, w => by
    unfold newValueItems
    refine SimW.bind (sim_newValueJson wf j w) (fun w1 va vb hw1 hv => ?_)
    refine SimW.bind (SimW.newCell wf hv (Nat.le_refl _)) (fun w2 ca cb hw2 hc => ?_)
    refine SimW.bind (sim_newValueItems wf js w2) (fun w3 csa csb hw3 hcs => ?_)
    exact SimW.pure (VR := ListCellR X.toCtx) (ListCellR.cons (hc.mono hw3) hcs) (Nat.le_refl _)
theorem sim_newValueMembers (wf : X.WF) : ∀ (ms : List (Bytes × JVal)) (w : Nat),
    SimW X w (MemR X.toCtx) (newValueMembers ms) (newValueMembers ms)
  | [], w => by unfold newValueMembers; exact SimW.pure (MemR.nil 0) (Nat.zero_le _)
  | (k, j) :: ms, w => by
    unfold newValueMembers
    refine SimW.bind (sim_newValueJson wf j w) (fun w1 va vb hw1 hv => ?_)
    refine SimW.bind (SimW.newCell wf hv (Nat.le_refl _)) (fun w2 ca cb hw2 hc => ?_)
    refine SimW.bind (sim_newValueMembers wf ms w2) (fun w3 csa csb hw3 hcs => ?_)
    refine SimW.pure (VR := MemR X.toCtx) (a := (k, ca) :: csa) (b := (k, cb) :: csb) (w0 := w3) ?_ (Nat.le_refl _)
    obtain ⟨rfl, hl⟩ := hcs
    obtain ⟨rfl, hb⟩ := hc
    refine ⟨rfl, ?_⟩
    intro kc hkc
    rcases List.mem_cons.mp hkc with e | e
    · subst e; exact hb.mono hw3
    · exact hl kc e
end

/-! ### `$` is set before every rule: the driver itself does not need it related -/

def XCtx.withD (X : XCtx) : XCtx := { X with allowD := true }

theorem SR.dropD {sA sB : St} (h : SR X.withD sA sB) : SR X sA sB :=
  { h with ruleRoot := fun _ => h.ruleRoot rfl }

theorem RR.dropD {α : Type} {VR : Nat → α → α → Prop} {w0 : Nat} {rA rB : Res α}
    (h : RR X.withD VR w0 rA rB) : RR X VR w0 rA rB := by
  cases rA <;> cases rB <;> first
    | trivial
    | exact h.elim
    | exact ⟨h.1, h.2.1, h.2.2.dropD⟩
    | exact ⟨h.1, h.2.1, h.2.2.1.dropD, h.2.2.2⟩

theorem SimW.enterRule {α : Type} {VR : Nat → α → α → Prop} {w w0 : Nat} {ca cb : CellId}
    (hc : CellR X.toCtx w0 ca cb) (hw0 : w0 ≤ w) {mA mB : EM α} (hm : SimW X.withD w VR mA mB) :
    SimW X w VR
      (modifySt (fun s => { s with ruleRoot := some ca }) >>= fun _ => mA)
      (modifySt (fun s => { s with ruleRoot := some cb }) >>= fun _ => mB) := by
  intro sA sB hs hw
  have hs' : SR X.withD { sA with ruleRoot := some ca } { sB with ruleRoot := some cb } :=
    { hs with ruleRoot := fun _ => hc.mono (Nat.le_trans hw0 hw) }
  exact (hm _ _ hs' hw).dropD

theorem WF_withD (wf : X.WF) : X.withD.WF := ⟨wf.core, wf.baseLen, wf.base⟩

theorem sim_evalElems_withD (g : GoodX X.withD) (hbase : X.baseA = [] ∧ X.baseB = []) (rules : List Rule)
    (hr : rulesOK X.withD rules) (ia ib : List CellId) (k : Nat) (w w0 : Nat)
    (hi : ListCellR X.toCtx w0 ia ib) (hw0 : w0 ≤ w) :
    SimW X w EqR (evalElems X.progA rules ia k) (evalElems X.progB rules ib k) := by
  obtain ⟨rfl, hl⟩ := hi
  cases ib with
  | nil => unfold evalElems; exact SimW.same _
  | cons c cs =>
    simp only [List.map_cons]
    unfold evalElems
    have hc : CellR X.toCtx w0 (X.σ c) c := ⟨rfl, hl c (List.mem_cons_self ..)⟩
    refine SimW.enterRule hc hw0 ?_
    refine SimW.bind (SimW.newScalar g.wf) (fun w2 xa xb hw2 hx => ?_)
    refine SimW.bind (SimW.setLocal (X := X.withD) (.inr hbase) _ hx (Nat.le_refl _)) (fun w3 _ _ hw3 _ => ?_)
    refine SimW.bind (sim_evalRules g rules w3 hr) (fun w4 _ _ hw4 _ => ?_)
    exact sim_evalElems g hbase rules hr _ _ (k + 1) w4 w0 ⟨rfl, fun x hx => hl x (List.mem_cons_of_mem _ hx)⟩
      (Nat.le_trans hw0 (Nat.le_trans hw2 (Nat.le_trans hw3 hw4)))

theorem sim_evalPatternRules_withD (g : GoodX X.withD) (hbase : X.baseA = [] ∧ X.baseB = [])
    (htr : X.trackRoot = true) (rules : List Rule) (hr : rulesOK X.withD rules) (w : Nat) :
    SimW X w EqR (evalPatternRules X.progA rules) (evalPatternRules X.progB rules) :=
  sim_patternRoot htr rules w (fun ia ib => sim_evalElems_withD g hbase rules hr ia ib 0)
    (fun _ _ _ hc => SimW.enterRule hc (Nat.le_refl _) (sim_evalRules g rules _ hr))

theorem sim_evalSpecialRules_withD (g : GoodX X.withD) {mkA mkB : EM CellId} {w0 : Nat}
    (hmk : ∀ w, w0 ≤ w → SimW X w (CellR X.toCtx) mkA mkB) (rules : List Rule) (w : Nat) (hw : w0 ≤ w)
    (hr : ∀ r ∈ rules, idsS true X.allow r.body = true) :
    SimW X w EqR (evalSpecialRules X.progA mkA rules) (evalSpecialRules X.progB mkB rules) :=
  sim_specialRules hmk rules w hw (fun r hm _ _ w1 hc => SimW.enterRule hc (Nat.le_refl _)
    (SimW.ruleFlow ((allSim evalFuel evalFuel).stmt g w1 r.body (hr r hm))))

end Sel
end Jqawk
