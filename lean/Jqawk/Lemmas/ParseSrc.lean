/-
  The model's top-level parse functions in terms of runs of the parser programs:
  `parseProgramSrc tbl src = .ok p` iff the run with the model's fuel ends in `p`; and a successful
  run with any larger fuel is the model's answer, since the model's fuel suffices
  (Lemmas/ParserFuel.lean) and more fuel changes nothing (Lemmas/ParserMono.lean).
-/
import Jqawk.Lemmas.ParserFuel
import Jqawk.Lemmas.ParserMono

namespace Jqawk

variable {tbl : RuleTable} {src : Bytes}

theorem parseProgramSrc_ok_iff {p : Program} : parseProgramSrc tbl src = .ok p ↔
    ∃ st, (Parser.parseProgram tbl (parserFuel src) PS.init).run (LexState.init src) = .ok (p, st) := by
  unfold parseProgramSrc
  generalize (Parser.parseProgram tbl (parserFuel src) PS.init).run (LexState.init src) = r
  cases r with
  | ok r => exact ⟨fun h => ⟨r.2, by cases h; rfl⟩, fun ⟨_, h⟩ => by cases h; rfl⟩
  | syntaxErr e => exact ⟨fun h => (by cases h), fun ⟨_, h⟩ => (by cases h)⟩
  | oof => exact ⟨fun h => (by cases h), fun ⟨_, h⟩ => (by cases h)⟩

theorem parseExpressionSrc_ok_iff {e : Expr} : parseExpressionSrc tbl src = .ok e ↔
    ∃ st, (Parser.parseExpression tbl (parserFuel src) PS.init).run (LexState.init src) = .ok (e, st) := by
  unfold parseExpressionSrc
  generalize (Parser.parseExpression tbl (parserFuel src) PS.init).run (LexState.init src) = r
  cases r with
  | ok r => exact ⟨fun h => ⟨r.2, by cases h; rfl⟩, fun ⟨_, h⟩ => by cases h; rfl⟩
  | syntaxErr e => exact ⟨fun h => (by cases h), fun ⟨_, h⟩ => (by cases h)⟩
  | oof => exact ⟨fun h => (by cases h), fun ⟨_, h⟩ => (by cases h)⟩

theorem parserFuel_ge (src : Bytes) : 3 * (LexState.init src).rest.length + 3 ≤ parserFuel src := by
  show 3 * src.length + 3 ≤ 8 * src.length + 64
  omega

theorem parseProgramSrc_of_run (hE : ParserFuel.EofRule tbl) {n : Nat} (hn : parserFuel src ≤ n)
    {p : Program} {st : PS}
    (h : (Parser.parseProgram tbl n PS.init).run (LexState.init src) = .ok (p, st)) :
    parseProgramSrc tbl src = .ok p := by
  have hne := (ParserFuel.parseProgram_tot hE _ _ (parserFuel_ge src)).run_ne_oof
  rw [parseProgramSrc_ok_iff, ParserMono.parseProgram_run_mono tbl _ n hn PS.init _ hne]
  exact ⟨st, h⟩

end Jqawk
