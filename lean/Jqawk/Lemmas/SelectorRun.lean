/-
  `-r E` versus `BEGINFILE { $ = E }` (C14): whole runs — the values of a file one after the
  other, the ENDFILE rules (whose `$` is a detached copy: context `Kdrop`), the files, the END
  rules, and the start from the identity renaming `Kid`.
-/
import Jqawk.Lemmas.SelectorStep
import Jqawk.Lemmas.ShapedDriver
import Jqawk.Lemmas.Invariant


namespace Jqawk
namespace Sel

/-! ### the number of frames is the same after every driver step -/

theorem setLastFrame_length (fr : List Frame) (name : Bytes) (c : CellId) :
    (setLastFrame fr name c).length = fr.length := by
  induction fr with
  | nil => rfl
  | cons f fs ih =>
    cases fs with
    | nil => rfl
    | cons g gs =>
      show (f :: setLastFrame (g :: gs) name c).length = _
      rw [List.length_cons, ih]; rfl

def FLres {α : Type} (s : St) : Res α → Prop
  | .ok _ s' => s'.frames.length = s.frames.length
  | .err _ s' => s'.frames.length = s.frames.length
  | .oof => True

def FL {α : Type} (m : EM α) : Prop := ∀ s, FLres s (m s)

namespace FL

theorem pure {α : Type} (a : α) : FL (Pure.pure a : EM α) := fun _ => rfl

theorem handle {α β : Type} {m : EM α} {onOk : α → EM β} {onSig : Sig → Option (EM β)} (hm : FL m)
    (hok : ∀ a, FL (onOk a)) (hsig : ∀ g k, onSig g = some k → FL k) : FL (Jqawk.handle m onOk onSig) := by
  have trans : ∀ {s s1 : St} {r : Res β}, s1.frames.length = s.frames.length → FLres s1 r → FLres s r := by
    intro s s1 r h1 h
    cases r <;> first | trivial | exact Eq.trans h h1
  intro s
  unfold Jqawk.handle
  have h := hm s
  cases hr : m s with
  | oof => trivial
  | ok a s1 => rw [hr] at h; exact trans h (hok a s1)
  | err e s1 =>
    rw [hr] at h
    cases e with
    | sig g =>
      dsimp only
      cases hk : onSig g with
      | none => exact h
      | some k => exact trans h (hsig g k hk s1)
    | _ => exact h

theorem of_safe {α : Type} {m : EM α} (h : Safe m) : FL m := by
  intro s
  have := h s
  cases hr : m s with
  | ok a s' => rw [hr] at this; exact this.1.frames.length
  | err e s' =>
    rw [hr] at this
    cases e with
    | runtime p m => exact this.1.frames.length
    | sig g => exact this.1.frames.length
    | panic m => exact this.frames.length
    | unmodelled m => exact this.frames.length
  | oof => trivial

theorem ruleFlow {m : EM Unit} (hm : FL m) : FL (Jqawk.ruleFlow m) := by
  rw [ruleFlow_eq_handle]
  refine handle hm (fun _ => pure _) (fun g k hg => ?_)
  cases g <;> cases hg <;> exact pure _

theorem framed {α : Type} (name : Bytes) (pos : Nat) (body : EM α) : FL (Jqawk.framed name pos body) := by
  intro s
  rw [framed_eq]
  split
  · exact rfl
  · unfold Jqawk.withFrames
    split <;> first | exact rfl | trivial

/-- the driver's writes do not change the number of frames either -/
theorem of_shaped {D : Prop} {G : Nat → Prop} {S : Sig → Prop} {α : Type} {m : EM α}
    (h : Shaped D G S m) : FL m := by
  induction h with
  | handle _ _ _ _ ihm ihok ihsig => exact handle ihm ihok ihsig
  | framed name _ _ _ => exact framed name _ _
  | setRoots d f hf => exact fun s => by show (f s).frames.length = _; rw [hf s]
  | setGlobal d name c => exact fun s => setLastFrame_length _ _ _
  | _ => exact of_safe (by simp only [eval_rule])

/-- the reading of a `Shaped` fact about the driver that has no hypothesis left -/
theorem of_shaped_top {α : Type} {m : EM α} (h : Shaped True (fun _ => True) (fun _ => True) m) : FL m :=
  of_shaped h

theorem evalRules (prog : Program) (rules : List Rule) : FL (Jqawk.evalRules prog rules) :=
  of_shaped_top (.evalRules prog.fnTok_top (.all fun _ => .inr trivial) rules fun r _ => .all (fun _ => .inr trivial) r)

theorem evalElems (prog : Program) (rules : List Rule) (items : List CellId) (k : Nat) :
    FL (Jqawk.evalElems prog rules items k) :=
  of_shaped_top (.evalElems prog.fnTok_top (.all fun _ => .inr trivial) trivial rules
    (fun r _ => .all (fun _ => .inr trivial) r) items k)

theorem evalPatternRules (prog : Program) (rules : List Rule) : FL (Jqawk.evalPatternRules prog rules) :=
  of_shaped_top (.evalPatternRules prog.fnTok_top (.all fun _ => .inr trivial) trivial rules
    fun r _ => .all (fun _ => .inr trivial) r)

theorem bind {α β : Type} {m : EM α} {f : α → EM β} (hm : FL m) (hf : ∀ a, FL (f a)) : FL (m >>= f) := by
  rw [bind_eq_handle]
  exact handle hm hf (fun _ _ h => nomatch h)

theorem catchSig {α : Type} (g : Sig) (d : α) {m : EM α} (hm : FL m) : FL (Jqawk.catchSig g d m) := by
  rw [catchSig_eq_handle]
  refine handle hm pure (fun g' k hg => ?_)
  split at hg <;> cases hg
  exact pure d

/-- (for any `mk`, which `Shaped.evalSpecialRules` does not cover) -/
theorem evalSpecialRules (prog : Program) {mk : EM CellId} (hmk : FL mk) : ∀ rules : List Rule,
    FL (Jqawk.evalSpecialRules prog mk rules)
  | [] => by unfold Jqawk.evalSpecialRules; exact pure _
  | rule :: rest => by
    unfold Jqawk.evalSpecialRules
    refine bind hmk (fun c => bind (fun s => rfl) (fun _ =>
      bind (ruleFlow (of_safe ((allSafe prog evalFuel).stmt _))) (fun fl => ?_)))
    split
    · exact pure _
    · exact evalSpecialRules prog hmk rest

end FL


/-- `processRoot` for a program without ENDFILE rules, with the list of BEGINFILE rules as a parameter -/
def processMid (prog : Program) (rootCell : CellId) (bf : List Rule) : EM Flow := do
  match (← evalSpecialRules prog (pure rootCell) bf) with
  | .exit => return .exit
  | .continue_ =>
    modifySt fun s => { s with root := some rootCell }
    match (← catchExit (evalPatternRules prog (rulesOf prog .pattern))) with
    | .exit => return .exit
    | .continue_ => return .continue_

theorem processRoot_eq (prog : Program) (c : CellId) :
    processRoot prog c = (do
      let rv ← readCell c
      match (← processMid prog c (rulesOf prog .beginFile)) with
      | .exit => pure .exit
      | .continue_ => evalSpecialRules prog (newCell rv) (rulesOf prog .endFile)) := by
  funext s
  simp only [processRoot, processMid, bind, EM.bind, readCell, pure]
  generalize evalSpecialRules prog (EM.pure c) (rulesOf prog RuleKind.beginFile) s = r
  cases r with
  | oof => rfl
  | err e s1 => rfl
  | ok fl s1 =>
    cases fl with
    | exit => rfl
    | continue_ =>
      simp only [EM.bind, modifySt]
      generalize catchExit (evalPatternRules prog (rulesOf prog .pattern)) { s1 with root := some c } = r2
      cases r2 with
      | oof => rfl
      | err e s2 => rfl
      | ok fl2 s2 => cases fl2 <;> rfl

theorem valueB_eq (prog : Program) (T : SelTok) (E : Expr) (v : JVal) :
    (do let val ← newValueJson v
        let c ← newCell val
        processRoot (withSel prog T E) c) =
    (do let r ← ruleStep (withSel prog T E) T E v
        match r.2.2 with
        | .exit => pure .exit
        | .continue_ =>
          match (← processMid (withSel prog T E) r.1 (rulesOf prog .beginFile)) with
          | .exit => pure .exit
          | .continue_ => evalSpecialRules (withSel prog T E) (newCell r.2.1) (rulesOf prog .endFile)) := by
  have hef' : rulesOf (withSel prog T E) .endFile = rulesOf prog .endFile :=
    rulesOf_withSel_other prog T E .endFile (by decide)
  have hpat' : rulesOf (withSel prog T E) .pattern = rulesOf prog .pattern :=
    rulesOf_withSel_other prog T E .pattern (by decide)
  funext s
  simp only [processRoot, processMid, rulesOf_withSel_bf, hef', hpat', ruleStep, bind, EM.bind, pure, EM.pure]
  cases newValueJson v s with
  | oof => rfl
  | err e s1 => rfl
  | ok val s1 =>
    dsimp only
    have hget : (s1.heap.alloc val).2.get (s1.heap.alloc val).1 = val := by
      show (s1.heap.alloc val).2.get s1.heap.cells.size = val
      rw [Heap.get_alloc]; simp
    simp only [Jqawk.newCell, readCell, hget, evalSpecialRules, selRule, bind, EM.bind, pure, EM.pure, modifySt]
    generalize Jqawk.ruleFlow (evalStmt (withSel prog T E) evalFuel (ruleBody T E))
      { s1 with heap := (s1.heap.alloc val).2, ruleRoot := some (s1.heap.alloc val).1 } = r
    cases r with
    | oof => rfl
    | err e s3 => rfl
    | ok fl s3 =>
      cases fl with
      | exit => rfl
      | continue_ =>
        simp only [EM.bind]
        generalize evalSpecialRules (withSel prog T E) (EM.pure (s1.heap.alloc val).1)
          (rulesOf prog RuleKind.beginFile) s3 = r2
        cases r2 with
        | oof => rfl
        | err e s4 => rfl
        | ok fl2 s4 =>
          cases fl2 with
          | exit => rfl
          | continue_ =>
            simp only [EM.bind, modifySt]
            generalize catchExit (evalPatternRules (withSel prog T E) (rulesOf prog RuleKind.pattern))
              { s4 with root := some (s1.heap.alloc val).1 } = r3
            cases r3 with
            | oof => rfl
            | err e s5 => rfl
            | ok fl3 s5 => cases fl3 <;> rfl

theorem FL.processMid (prog : Program) (c : CellId) (bf : List Rule) : FL (Sel.processMid prog c bf) := by
  unfold Sel.processMid
  refine FL.bind (FL.evalSpecialRules prog (FL.pure c) bf) (fun fl => ?_)
  split
  · exact FL.pure _
  · refine FL.bind (fun s => rfl) (fun _ => FL.bind (FL.of_shaped (Shaped.catchExit (D := True)
      (.evalPatternRules prog.fnTok_top (.all fun _ => .inr (.inr trivial)) trivial _
        fun r _ => .all (fun _ => .inr (.inr trivial)) r))) (fun fl2 => ?_))
    split <;> exact FL.pure _

theorem sim_processMid {K : Ctx} (wf : K.WF) (bf : List Rule) (hpat : rulesOf K.progA .pattern = rulesOf K.progB .pattern)
    {w w0 : Nat} {ra rb : CellId} (hc : CellR K w0 ra rb) (hw0 : w0 ≤ w) :
    SimW (mainX K) w EqR (processMid K.progA ra bf) (processMid K.progB rb bf) := by
  have g := mainX_good wf
  unfold processMid
  refine SimW.bind (VR1 := EqR) (sim_evalSpecialRules_withD g (mkA := pure ra) (mkB := pure rb) (w0 := w0)
    (fun w' hw' => SimW.pure hc hw') bf w hw0 (fun r _ => idsS_all r.body)) (fun w1 fa fb hw1 hf => ?_)
  · cases hf
    cases fa with
    | exit => exact SimW.pure (VR := EqR) (w0 := 0) rfl (Nat.zero_le _)
    | continue_ =>
      dsimp only
      refine SimW.bind (SimW.setRoot hc (Nat.le_trans hw0 hw1)) (fun w2 _ _ hw2 _ => ?_)
      refine SimW.bind (VR1 := EqR) (SimW.catchExit ?_) (fun w3 fa fb hw3 hf => ?_)
      · have := sim_evalPatternRules_withD g ⟨rfl, rfl⟩ rfl (rulesOf K.progA .pattern)
          (fun r _ => ⟨idsS_all r.body, fun p _ => idsE_all p⟩) w2
        rw [← hpat]
        exact this
      · cases hf
        cases fa <;> exact SimW.pure (VR := EqR) (w0 := 0) rfl (Nat.zero_le _)

theorem f2_setLastFrame {K : Ctx} {w : Nat} {l1 l2 : List Frame} (h : F2 (FrameR K w) l1 l2) (name : Bytes)
    {a b : CellId} (hc : CellR K w a b) :
    F2 (FrameR K w) (setLastFrame l1 name a) (setLastFrame l2 name b) := by
  induction h with
  | nil => exact .nil
  | @cons f g fs gs h1 h2 ih =>
    cases h2 with
    | nil => exact .cons (MemR.objInsert h1 name hc) .nil
    | @cons f' g' fs' gs' h3 h4 => exact .cons h1 ih

/-- the per-value prologue of `processFile`: `$file` is set in the root frame -/
def setFile (name : Bytes) : EM Unit := do
  let c ← newCell (.str name none)
  setGlobal b!"$file" c

theorem sim_setFile {K : Ctx} (wf : K.WF) (name : Bytes) (w : Nat) :
    SimW (mainX K) w EqR (setFile name) (setFile name) := by
  unfold setFile
  refine SimW.bind (SimW.newScalar (mainX_wf wf)) (fun w1 ca cb hw1 hc => ?_)
  intro sA sB hs hw
  obtain ⟨mfA, mfB, eA, eB, hf2, hin⟩ := hs.frames
  have eA' : sA.frames = mfA := by rw [eA]; exact List.append_nil _
  have eB' : sB.frames = mfB := by rw [eB]; exact List.append_nil _
  refine ⟨Nat.le_refl _, rfl, ⟨hs.heap, ?_, hs.ruleRoot, hs.root, hs.out, hs.faults⟩⟩
  refine ⟨setLastFrame mfA b!"$file" ca, setLastFrame mfB b!"$file" cb, ?_, ?_,
    f2_setLastFrame hf2 _ (hc.mono hw), fun h => by cases h⟩
  · show setLastFrame sA.frames _ _ = _ ++ []
    rw [eA', List.append_nil]
  · show setLastFrame sB.frames _ _ = _ ++ []
    rw [eB', List.append_nil]

theorem FL.setFile (name : Bytes) : FL (Sel.setFile name) :=
  .of_shaped_top (.bind (.newCell _) fun _ => .setGlobal trivial _ _)

theorem BInv.step {progB : Program} {α : Type} {m : EM α} {R : α → Prop}
    (hm : ∀ h0, BP (P3 progB) h0 b0m KAny m R) {s : St} (h : BInv progB s) :
    match m s with
    | .ok a s' => BInv progB s' ∧ R a
    | .err _ s' => BInv progB s'
    | .oof => True := by
  obtain ⟨h0, inv, e0, e1, e2⟩ := h
  exact BPres.byCases (hm h0 s inv) trivial (fun _ _ h1 h2 => ⟨⟨h0, h1, e0, e1, e2⟩, h2⟩)
    (fun _ _ h1 => ⟨h0, h1, e0, e1, e2⟩)

theorem BInv.init (progB : Program) (hok : okProg progB = true) :
    BInv progB (newEvaluator progB Heap.empty [] 0) := by
  obtain ⟨inv, e0, e1, e2⟩ := newEvaluator_invB progB hok
  exact ⟨_, inv, e0, e1, e2⟩

/-- the builtins of run B are intact, if the selector may call them -/
def BJ (ub : Bool) (progB : Program) (s : St) : Prop := ub = true → BInv progB s

theorem BJ.step {ub : Bool} {α : Type} {m : EM α} {R : α → Prop} {s : St} (h : BJ ub progB s)
    (hm : ub = true → ∀ h0, BP (P3 progB) h0 b0m KAny m R) {a : α} {s' : St} (e : m s = .ok a s') :
    BJ ub progB s' ∧ (ub = true → R a) := by
  have key : ub = true → BInv progB s' ∧ R a := fun hu => by
    have := BInv.step (hm hu) (h hu)
    rw [e] at this
    exact this
  exact ⟨fun hu => (key hu).1, fun hu => (key hu).2⟩

/-- some renaming relates the two main evaluators (it changes with every selector); run B is at
    the top level and, if `ub` (the selector may call builtins), its builtins are intact -/
def MainRel (ub : Bool) (prog progB : Program) (sA sB : St) : Prop :=
  (∃ K : Ctx, K.WF ∧ K.a0 = 0 ∧ K.o0 = 0 ∧ K.progA = prog ∧ K.progB = progB ∧ SR (mainX K) sA sB) ∧
    sB.frames.length = 1 ∧ BJ ub progB sB

theorem SR.output {X : XCtx} {sA sB : St} (h : SR X sA sB) : sA.output = sB.output := by
  unfold St.output; rw [h.out]

theorem SR.rootJson {K : Ctx} {sA sB : St} (h : SR (mainX K) sA sB) : getRootJson sA = getRootJson sB := by
  unfold getRootJson
  have hr := h.root rfl
  cases hra : sA.root with
  | none =>
    cases hrb : sB.root with
    | none => rfl
    | some _ => rw [hra, hrb] at hr; exact hr.elim
  | some ra =>
    cases hrb : sB.root with
    | none => rw [hra, hrb] at hr; exact hr.elim
    | some rb =>
      rw [hra, hrb] at hr
      dsimp only
      rw [toJValTop_rel h.heap (h.heap.get hr (Nat.le_refl _)) (Nat.le_refl _)]

/-- how a step of the two main evaluators ends: no claim if either is out of fuel; else the same
    error in related states, or the same result and related main evaluators again -/
def StepOut (ub : Bool) (prog progB : Program) {α : Type} : Res α → Res α → Prop
  | .oof, _ => True
  | .ok _ _, .oof => True
  | .err _ _, .oof => True
  | .ok a sA', .ok b sB' => a = b ∧ MainRel ub prog progB sA' sB'
  | .err eA sA', .err eB sB' => eA = eB ∧ ∃ K : Ctx, SR (mainX K) sA' sB'
  | .ok _ _, .err _ _ => False
  | .err _ _, .ok _ _ => False

variable {ub : Bool} {prog progB : Program}

theorem StepOut.oofR {α : Type} (a : Res α) : StepOut ub prog progB a .oof := by cases a <;> trivial

@[elab_as_elim]
theorem StepOut.byCases {α : Type} {M : Res α → Res α → Prop} {rA rB : Res α} (h : StepOut ub prog progB rA rB)
    (oofA : ∀ r, M .oof r) (oofB : ∀ r, M r .oof)
    (ok : ∀ a sA' sB', MainRel ub prog progB sA' sB' → M (.ok a sA') (.ok a sB'))
    (err : ∀ e sA' sB' (K : Ctx), SR (mainX K) sA' sB' → M (.err e sA') (.err e sB')) : M rA rB := by
  cases rA with
  | oof => exact oofA _
  | ok a sA' =>
    cases rB with
    | oof => exact oofB _
    | ok b sB' => obtain ⟨rfl, h2⟩ := h; exact ok _ _ _ h2
    | err _ _ => exact False.elim h
  | err e sA' =>
    cases rB with
    | oof => exact oofB _
    | ok _ _ => exact False.elim h
    | err e' sB' => obtain ⟨rfl, K, h2⟩ := h; exact err _ _ _ K h2

theorem StepOut.of_RR {α : Type} {K : Ctx} (wf : K.WF) (h0 : K.a0 = 0) (h0' : K.o0 = 0) (hKA : K.progA = prog)
    (hKB : K.progB = progB) {w0 : Nat} {rA rB : Res α} (h : RR (mainX K) EqR w0 rA rB)
    (hfl : ∀ a s', rB = .ok a s' → s'.frames.length = 1) (hJ : ∀ a s', rB = .ok a s' → BJ ub progB s') :
    StepOut ub prog progB rA rB := by
  revert hfl hJ
  refine h.byCases (fun _ _ _ => trivial) (fun _ _ _ => StepOut.oofR _)
    (fun a sA' b sB' _ he hs hfl hJ => ⟨he, ⟨K, wf, h0, h0', hKA, hKB, hs⟩, hfl _ _ rfl, hJ _ _ rfl⟩)
    (fun e sA' sB' _ hs _ _ _ => ⟨rfl, K, hs⟩)

theorem MainRel.step {α : Type} {mA mB : EM α} {sA sB : St} (h : MainRel ub prog progB sA sB)
    (hsim : ∀ K : Ctx, K.WF → K.progA = prog → K.progB = progB → SimW (mainX K) sB.heap.cells.size EqR mA mB)
    (hfl : FL mB) (hJ : ∀ a s', mB sB = .ok a s' → BJ ub progB s') : StepOut ub prog progB (mA sA) (mB sB) := by
  obtain ⟨⟨K, wf, h0, h0', hKA, hKB, hs⟩, hlen, _⟩ := h
  refine StepOut.of_RR wf h0 h0' hKA hKB (hsim K wf hKA hKB sA sB hs (Nat.le_refl _)) (fun a s' e => ?_) hJ
  have := hfl sB
  rw [e] at this
  exact this.trans hlen

theorem StepOut.withJ {α : Type} {rA rB : Res α} (h : StepOut false prog progB rA rB)
    (hJ : ∀ a s', rB = .ok a s' → BJ ub progB s') : StepOut ub prog progB rA rB := by
  revert hJ
  exact h.byCases (fun _ _ => trivial) (fun _ _ => StepOut.oofR _)
    (fun a sA' sB' hrel hJ => ⟨rfl, hrel.1, hrel.2.1, hJ _ _ rfl⟩) (fun e _ _ K hs _ => ⟨rfl, K, hs⟩)

/-! ### ENDFILE rules: `$` is a detached copy, different in the two runs, that nothing reads -/

/-- the context after each run allocated one cell the other run has no counterpart for -/
def Kdrop (K : Ctx) (g : Nat) : Ctx := { K with D := fun i => K.D i ∧ i ≠ g, m := g + 1 }

theorem Kdrop_wf {K : Ctx} (wf : K.WF) {g : Nat} (hm : K.m ≤ g) : (Kdrop K g).WF := by
  refine ⟨?_, wf.inj, ?_, ?_⟩
  · intro i hi
    have hi' : g + 1 ≤ i := hi
    exact wf.shift i (by omega)
  · intro i hi
    have hi' : g + 1 ≤ i := hi
    exact ⟨wf.up i (by omega), by omega⟩
  · intro i hi
    have hi' : i < g + 1 := hi
    show K.σ i < g + 1 + K.d
    have := wf.σ_lt (w := g + 1) hi' (by omega)
    exact this

theorem Kdrop_trans {K : Ctx} {g : Nat} : Trans K (Kdrop K g) g (g + 1) := by
  refine ⟨?_, fun _ h => h, fun _ h => h, fun _ h => h⟩
  intro c hc
  have hc2 : c < g := hc.2
  exact ⟨rfl, ⟨hc.1, Nat.ne_of_lt hc2⟩, Nat.lt_succ_of_lt hc2⟩

theorem Froz.drop {K : Ctx} (wf : K.WF) {hA hB : Heap} (f : Froz K hA hB) {g : Nat} (hg : K.fz ≤ g)
    (hgA : K.fzA ≤ g + K.d) (hm : K.m ≤ g) : Froz (Kdrop K g) hA hB := by
  refine ⟨f.fzB, f.fzA, f.aA, f.aB, f.oA, f.oB, ?_, ?_, f.arrB, f.arrA, f.objB, f.objA⟩
  · intro i hi hd
    have hi' : i < K.fz := hi
    refine f.cellB i hi' (fun hD => hd ⟨hD, ?_⟩)
    omega
  · intro j hj hd
    have hj' : j < K.fzA := hj
    refine f.cellA j hj' (fun i hD e => ?_)
    by_cases hig : i = g
    · subst hig
      have := wf.shift i hm
      omega
    · exact hd i ⟨hD, hig⟩ e

/-- both runs allocate a cell for the detached `$`; the two cells hold unrelated values and drop
    out of the relation -/
theorem SR.garbage {K : Ctx} (wf : K.WF) {sA sB : St} (hs : SR (mainX K) sA sB) (vA vB : Val) :
    SR (mainX (Kdrop K sB.heap.cells.size))
      { sA with heap := (sA.heap.alloc vA).2, ruleRoot := some (sA.heap.alloc vA).1 }
      { sB with heap := (sB.heap.alloc vB).2, ruleRoot := some (sB.heap.alloc vB).1 } := by
  have tr := Kdrop_trans (K := K) (g := sB.heap.cells.size)
  have hszc : sA.heap.cells.size = sB.heap.cells.size + K.d := hs.heap.szc
  have hfz : Froz (Kdrop K sB.heap.cells.size) (sA.heap.alloc vA).2 (sB.heap.alloc vB).2 :=
    (hs.heap.froz.alloc vA vB).drop wf hs.heap.froz.fzB (by have h1 : K.fzA ≤ sA.heap.cells.size := hs.heap.froz.fzA; omega) hs.heap.mle
  refine ⟨⟨?_, ?_, hs.heap.sza, hs.heap.ale, hs.heap.szo, hs.heap.ole, ?_, ?_, ?_, hfz⟩, ?_, (fun h => by cases h), ?_,
    hs.out, hs.faults⟩
  · show (sA.heap.alloc vA).2.cells.size = (sB.heap.alloc vB).2.cells.size + K.d
    rw [Heap.size_alloc, Heap.size_alloc, hszc]; omega
  · show sB.heap.cells.size + 1 ≤ (sB.heap.alloc vB).2.cells.size
    rw [Heap.size_alloc]; exact Nat.le_refl _
  · intro i hi
    show ValR _ (sB.heap.alloc vB).2.cells.size ((sA.heap.alloc vA).2.get (K.σ i)) ((sB.heap.alloc vB).2.get i)
    rw [Heap.size_alloc] at hi ⊢
    have hi1 : K.D i ∧ i ≠ sB.heap.cells.size := hi.1
    have hi2 : i < sB.heap.cells.size + 1 := hi.2
    have hlt : i < sB.heap.cells.size := Nat.lt_of_le_of_ne (Nat.le_of_lt_succ hi2) hi1.2
    have hσ : K.σ i < sA.heap.cells.size := by
      rw [hszc]; exact wf.σ_lt hlt hs.heap.mle
    rw [Heap.get_alloc, Heap.get_alloc]
    simp only [Nat.ne_of_lt hσ, hi1.2, ↓reduceIte]
    exact tr.valR (hs.heap.cells i ⟨hi1.1, hlt⟩)
  · intro k hk
    show ArrR _ (sB.heap.alloc vB).2.cells.size (sA.heap.arr k) (sB.heap.arr k)
    rw [Heap.size_alloc]
    exact tr.arrR (hs.heap.arrs k hk)
  · intro k hk
    show MemR _ (sB.heap.alloc vB).2.cells.size (sA.heap.obj k) (sB.heap.obj k)
    rw [Heap.size_alloc]
    exact tr.memR (hs.heap.objs k hk)
  · obtain ⟨mfA, mfB, eA, eB, hf2, hin⟩ := hs.frames
    refine ⟨mfA, mfB, eA, eB, ?_, hin⟩
    show F2 (FrameR _ (sB.heap.alloc vB).2.cells.size) mfA mfB
    rw [Heap.size_alloc]
    exact tr.frames hf2
  · intro _
    show OptCellR _ (sB.heap.alloc vB).2.cells.size sA.root sB.root
    rw [Heap.size_alloc]
    exact tr.optCellR (hs.root rfl)

/-- ENDFILE rules and the functions they may call do not read `$` -/
def EndOK (prog : Program) : Prop :=
  (∀ r ∈ rulesOf prog .endFile, idsS false (fun _ => true) r.body = true) ∧
  (rulesOf prog .endFile ≠ [] → ∀ f ∈ prog.functions, idsS false (fun _ => true) f.body = true)

theorem endfile_rel (hfun : prog.functions = progB.functions)
    (hfns : ∀ f ∈ prog.functions, idsS false (fun _ => true) f.body = true) :
    ∀ (ef : List Rule), (∀ r ∈ ef, idsS false (fun _ => true) r.body = true) →
    ∀ (vA vB : Val) (sA sB : St), MainRel false prog progB sA sB →
    StepOut false prog progB (evalSpecialRules prog (newCell vA) ef sA)
      (evalSpecialRules progB (newCell vB) ef sB)
  | [], _, vA, vB, sA, sB, h => by
    show StepOut _ prog progB (.ok Flow.continue_ sA) (.ok Flow.continue_ sB)
    exact ⟨rfl, h⟩
  | rule :: rest, hr, vA, vB, sA, sB, h => by
    obtain ⟨⟨K, wf, h0, h0', hKA, hKB, hs⟩, hlen, _⟩ := h
    have wf' := Kdrop_wf wf (g := sB.heap.cells.size) hs.heap.mle
    have hs' := hs.garbage wf vA vB
    have g : GoodX (mainX (Kdrop K sB.heap.cells.size)) := by
      refine ⟨mainX_wf wf', fun i f hf _ => hfns f ?_⟩
      have : prog.functions[i]? = some f := by
        have e : (Kdrop K sB.heap.cells.size).progA = prog := hKA
        rw [← e]; exact hf
      exact List.mem_of_getElem? this
    have hsim := SimW.ruleFlow ((allSim evalFuel evalFuel).stmt g (sB.heap.cells.size + 1) rule.body
      (hr rule (List.mem_cons_self ..))) _ _ hs' (by show _ ≤ (sB.heap.alloc vB).2.cells.size; rw [Heap.size_alloc]; exact Nat.le_refl _)
    have hfl := FL.ruleFlow (FL.of_safe ((allSafe progB evalFuel).stmt rule.body))
      { sB with heap := (sB.heap.alloc vB).2, ruleRoot := some (sB.heap.alloc vB).1 }
    have eA : (mainX (Kdrop K sB.heap.cells.size)).progA = prog := hKA
    have eB : (mainX (Kdrop K sB.heap.cells.size)).progB = progB := hKB
    rw [eA, eB] at hsim
    have h1 := StepOut.of_RR (ub := false) wf' h0 h0' hKA hKB hsim
      (fun a s' e => by rw [e] at hfl; exact hfl.trans hlen) (fun _ _ _ h => Bool.noConfusion h)
    simp only [evalSpecialRules, bind, EM.bind, Jqawk.newCell, modifySt]
    refine h1.byCases (fun _ => trivial) (fun _ => StepOut.oofR _) (fun fl sA' sB' hrel => ?_)
      (fun e sA' sB' K' hs2 => ⟨rfl, K', hs2⟩)
    cases fl with
    | exit => exact ⟨rfl, hrel⟩
    | continue_ =>
      exact endfile_rel hfun hfns rest (fun r hm => hr r (List.mem_cons_of_mem _ hm)) vA vB sA' sB' hrel

theorem endfile_rel_of_endOK (hfun : prog.functions = progB.functions) (hend : EndOK prog)
    (vA vB : Val) (sA sB : St) (h : MainRel false prog progB sA sB) :
    StepOut false prog progB (evalSpecialRules prog (newCell vA) (rulesOf prog .endFile) sA)
      (evalSpecialRules progB (newCell vB) (rulesOf prog .endFile) sB) := by
  by_cases hnil : rulesOf prog .endFile = []
  · rw [hnil]
    exact ⟨rfl, h⟩
  · exact endfile_rel hfun (hend.2 hnil) _ hend.1 vA vB sA sB h

def Kid (prog progB : Program) : Ctx :=
  { σ := id, D := fun _ => True, a0 := 0, o0 := 0, m := 0, d := 0, progA := prog, progB := progB }

theorem Kid_wf (prog progB : Program) : (Kid prog progB).WF :=
  ⟨fun _ _ => rfl, fun _ _ h => h, fun _ _ => trivial, fun i h => absurd h (Nat.not_lt_zero i)⟩

theorem renV_id (v : Val) : renV id v = v := by
  cases v with
  | str s sp => cases sp <;> rfl
  | nil sp => cases sp <;> rfl
  | native f b sp => cases b <;> cases sp <;> rfl
  | _ => rfl

theorem renM_id (m : List (Bytes × CellId)) : renM id m = m := by
  unfold renM
  have : m.map (fun kc => (kc.1, id kc.2)) = m.map id := List.map_congr_left (fun kc _ => rfl)
  rw [this, List.map_id]

/-- the state `NewEvaluator` builds: no containers, plain cells, locals allocated -/
structure InitOK (prog progB : Program) (frames : List (Bytes × CellId)) (h : Heap) : Prop where
  plain : ∀ i, Val.plain (h.get i)
  arrs : h.arrs = #[]
  objs : h.objs = #[]
  locals : LiveM (Kid prog progB) h.cells.size frames

theorem InitOK.add {prog progB : Program} {L : List (Bytes × CellId)} {h : Heap} (ok : InitOK prog progB L h)
    (name : Bytes) {v : Val} (hv : Val.plain v) :
    InitOK prog progB (objInsert L name (h.alloc v).1) (h.alloc v).2 := by
  refine ⟨?_, ok.arrs, ok.objs, ?_⟩
  · intro i
    rw [Heap.get_alloc]
    split
    · exact hv
    · exact ok.plain i
  · rw [Heap.size_alloc]
    exact (ok.locals.mono (Nat.le_succ _)).objInsert name ⟨trivial, Nat.lt_succ_self _⟩

theorem initFold_ok {prog progB : Program} (l : List (FuncDef × Nat)) :
    ∀ (st : List (Bytes × CellId) × Heap), InitOK prog progB st.1 st.2 →
      InitOK prog progB
        (l.foldl (fun st (fi : FuncDef × Nat) =>
          (objInsert st.1 fi.1.ident.text (st.2.alloc (.fn fi.2)).1, (st.2.alloc (.fn fi.2)).2)) st).1
        (l.foldl (fun st (fi : FuncDef × Nat) =>
          (objInsert st.1 fi.1.ident.text (st.2.alloc (.fn fi.2)).1, (st.2.alloc (.fn fi.2)).2)) st).2 := by
  induction l with
  | nil => intro st h; exact h
  | cons fi rest ih =>
    intro st h
    simp only [List.foldl_cons]
    exact ih _ (h.add fi.1.ident.text trivial)

theorem newEvaluator_init (prog progB : Program) :
    ∃ L, (newEvaluator prog Heap.empty [] 0).frames = [⟨b!"<root>", L⟩] ∧
      InitOK prog progB L (newEvaluator prog Heap.empty [] 0).heap := by
  have h0 : InitOK prog progB [] Heap.empty :=
    ⟨fun i => by simp [Heap.get, Heap.empty, Val.plain], rfl, rfl, fun _ h => by cases h⟩
  have h3 := ((h0.add b!"printf" (v := .native .printf none none) ⟨rfl, rfl⟩).add b!"json"
    (v := .native .json none none) ⟨rfl, rfl⟩).add b!"num" (v := .native .num none none) ⟨rfl, rfl⟩
  have h4 := initFold_ok (prog := prog) (progB := progB) prog.functions.zipIdx (_, _) h3
  exact ⟨_, rfl, h4⟩

theorem mainRel_init (prog : Program) (T : SelTok) (E : Expr)
    (hJ : BJ ub (withSel prog T E) (newEvaluator (withSel prog T E) Heap.empty [] 0)) :
    MainRel ub prog (withSel prog T E) (newEvaluator prog Heap.empty [] 0)
      (newEvaluator (withSel prog T E) Heap.empty [] 0) := by
  have e : newEvaluator (withSel prog T E) Heap.empty [] 0 = newEvaluator prog Heap.empty [] 0 := rfl
  rw [e] at hJ ⊢
  obtain ⟨L, hfr, ok⟩ := newEvaluator_init prog (withSel prog T E)
  refine ⟨⟨Kid prog (withSel prog T E), Kid_wf _ _, rfl, rfl, rfl, rfl, ?_⟩, by rw [hfr]; rfl, hJ⟩
  have hfn : ∀ i : Nat, prog.functions[i]? = (withSel prog T E).functions[i]? := fun _ => rfl
  refine ⟨⟨rfl, Nat.zero_le _, rfl, Nat.zero_le _, rfl, Nat.zero_le _, ?_, ?_, ?_, Froz.trivial rfl rfl rfl rfl⟩, ?_,
    (fun h => by cases h), (fun _ => trivial), rfl, rfl⟩
  · intro i _
    show ValR _ _ ((newEvaluator prog Heap.empty [] 0).heap.get (id i)) _
    exact valR_plain_main rfl rfl rfl (ok.plain i) _
  · intro k _
    have : (newEvaluator prog Heap.empty [] 0).heap.arr k = #[] := by
      simp only [Heap.arr, ok.arrs]; rfl
    rw [this]; exact ArrR.empty _ _
  · intro k _
    have : (newEvaluator prog Heap.empty [] 0).heap.obj k = [] := by
      simp only [Heap.obj, ok.objs]; rfl
    rw [this]; exact MemR.nil _
  · refine ⟨_, _, (List.append_nil _).symm, (List.append_nil _).symm, ?_, fun h => by cases h⟩
    rw [hfr]
    exact F2.cons ⟨(renM_id L).symm, ok.locals⟩ F2.nil

/-- same class of outcome, same message; a runtime error in the selector is reported against
    the selector text by one run and against the program text by the other -/
def OutcomeRel (sel src : Bytes) : Outcome → Outcome → Prop
  | .ok, .ok => True
  | .runtimeErr s p m, .runtimeErr s' p' m' => m = m' ∧ ((s = s' ∧ p = p') ∨ (s = sel ∧ s' = src))
  | .jsonErr f, .jsonErr f' => f = f'
  | .sentinel g, .sentinel g' => g = g'
  | .panic m, .panic m' => m = m'
  | .unmodelled m, .unmodelled m' => m = m'
  | _, _ => False

theorem OutcomeRel.errOutcome (sel src : Bytes) (e : Err) :
    OutcomeRel sel src (Jqawk.errOutcome src e) (Jqawk.errOutcome src e) := by
  cases e with
  | runtime p m => exact ⟨rfl, .inl ⟨rfl, rfl⟩⟩
  | sig g => exact rfl
  | panic m => exact rfl
  | unmodelled m => exact rfl

/-- an out-of-fuel outcome makes no claim -/
def FinRel (sel src : Bytes) (oA : Outcome) (sA : St) (oB : Outcome) (sB : St) : Prop :=
  oA = .oof ∨ oB = .oof ∨
    (OutcomeRel sel src oA oB ∧ sA.output = sB.output ∧ (oA = .ok → getRootJson sA = getRootJson sB))

def StepRel (ub : Bool) (prog progB : Program) (sel src : Bytes) : StepRes → StepRes → Prop
  | .done sA, .done sB => MainRel ub prog progB sA sB
  | .finished oA sA, .finished oB sB => FinRel sel src oA sA oB sB
  | .finished oA _, .done _ => oA = .oof
  | .done _, .finished oB _ => oB = .oof

theorem StepRel.oofL (sel src : Bytes) (s : St) (b : StepRes) :
    StepRel ub prog progB sel src (.finished .oof s) b := by
  cases b with
  | done _ => exact rfl
  | finished _ _ => exact .inl rfl

theorem StepRel.oofR (sel src : Bytes) (a : StepRes) (s : St) :
    StepRel ub prog progB sel src a (.finished .oof s) := by
  cases a with
  | done _ => exact rfl
  | finished _ _ => exact .inr (.inl rfl)

@[elab_as_elim]
theorem StepRel.byCases {sel src : Bytes} {M : StepRes → StepRes → Prop} {a b : StepRes}
    (h : StepRel ub prog progB sel src a b) (oofA : ∀ s b, M (.finished .oof s) b)
    (oofB : ∀ a s, M a (.finished .oof s))
    (done : ∀ sA sB, MainRel ub prog progB sA sB → M (.done sA) (.done sB))
    (fin : ∀ oA sA oB sB, FinRel sel src oA sA oB sB → M (.finished oA sA) (.finished oB sB)) : M a b := by
  cases a with
  | done sA =>
    cases b with
    | done sB => exact done _ _ h
    | finished oB sB => cases h; exact oofB _ _
  | finished oA sA =>
    cases b with
    | done sB => cases h; exact oofA _ _
    | finished oB sB => exact fin _ _ _ _ h

theorem FinRel.of_SR (sel src : Bytes) {K : Ctx} {sA sB : St} (h : SR (mainX K) sA sB) {oA oB : Outcome}
    (ho : OutcomeRel sel src oA oB) : FinRel sel src oA sA oB sB :=
  .inr (.inr ⟨ho, h.output, fun _ => h.rootJson⟩)

theorem processRoots_single (prog : Program) (c : CellId) (s : St) :
    processRoots prog [c] s =
      match processRoot prog c s with
      | .ok fl s' => .ok fl s'
      | .err e s' => .err e s'
      | .oof => .oof := by
  simp only [processRoots, bind, EM.bind, pure]
  cases processRoot prog c s with
  | oof => rfl
  | err e s' => rfl
  | ok fl s' => cases fl <;> rfl

theorem MainRel.fin (sel src : Bytes) {sA sB : St} (h : MainRel ub prog progB sA sB) {oA oB : Outcome}
    (ho : OutcomeRel sel src oA oB) : FinRel sel src oA sA oB sB := by
  obtain ⟨⟨K, _, _, _, _, _, hs⟩, _⟩ := h
  exact FinRel.of_SR sel src hs ho

@[elab_as_elim]
theorem JRel.byCases {sel : Bytes} {M : ((Outcome × St) ⊕ (Except Sig CellId × St)) → Res (CellId × Val × Flow) → Prop}
    {a : (Outcome × St) ⊕ (Except Sig CellId × St)} {b : Res (CellId × Val × Flow)} (h : JRel prog progB sel a b)
    (oofB : ∀ a, M a .oof) (oofA : ∀ s b, M (.inl (.oof, s)) b)
    (ok : ∀ (r c : CellId) (vb : Val) (sA' sB' : St) (K' : Ctx), K'.WF → K'.a0 = 0 → K'.o0 = 0 →
      K'.progA = prog → K'.progB = progB → SR (mainX K') sA' sB' → sB'.frames.length = 1 →
      CellR K' sB'.heap.cells.size r c → M (.inr (.ok r, sA')) (.ok (c, vb, .continue_) sB'))
    (err : ∀ (oA : Outcome) (e : Err) (sA' sB' : St), OutErr sel oA e → sA'.out = sB'.out →
      M (.inl (oA, sA')) (.err e sB')) : M a b := by
  cases h with
  | oofB a => exact oofB a
  | oofA s b => exact oofA s b
  | ok r c vb sA' sB' K' wf h0 h0' hA hB hs hlen hc => exact ok r c vb sA' sB' K' wf h0 h0' hA hB hs hlen hc
  | err oA e sA' sB' ho hout => exact err oA e sA' sB' ho hout

/-! ### run B keeps its builtins (needed when the selector calls them) -/

theorem withSel_ok (prog : Program) (T : SelTok) (E : Expr) (hwf : prog.wfB = true) (hok : okProg prog = true)
    (hwfE : E.wfB = true) (hokE : okE E = true) (hT : isB T.dtok.text = false) :
    (withSel prog T E).wfB = true ∧ okProg (withSel prog T E) = true ∧
      (ruleBody T E).wfB = true ∧ okS (ruleBody T E) = true := by
  have hb : (ruleBody T E).wfB = true := by
    simp [ruleBody, Stmt.wfB, wfSs, Expr.wfB, Expr.nodeOK, T.he, Parser.assignable, Parser.isCompound, hwfE]
  have hob : okS (ruleBody T E) = true := by
    simp [ruleBody, okS, okSs, okE, hT, hokE]
  refine ⟨?_, ?_, hb, hob⟩
  · simp only [Program.wfB, Bool.and_eq_true] at hwf ⊢
    refine ⟨?_, hwf.2⟩
    show (selRule T E :: prog.rules).all Rule.wfB = true
    simp only [List.all_cons, Bool.and_eq_true]
    exact ⟨by simp [Rule.wfB, selRule, hb], hwf.1⟩
  · simp only [okProg, Bool.and_eq_true] at hok ⊢
    refine ⟨?_, hok.2⟩
    show (selRule T E :: prog.rules).all okRule = true
    simp only [List.all_cons, Bool.and_eq_true]
    exact ⟨by simp [okRule, selRule, hob], hok.1⟩

section unary
variable {P : Region} {h0 : Heap} {b0 : Bytes → Option CellId}
variable (progB : Program) (hF : P.F ≤ progB.functions.length) (hwf : progB.wfB = true)
  (hok : okProg progB = true)
include hF hwf hok

theorem BP.ruleStep (T : SelTok) (E : Expr) (hb : (ruleBody T E).wfB = true) (hob : okS (ruleBody T E) = true)
    (v : JVal) :
    BP P h0 b0 KAny (Sel.ruleStep progB T E v) (fun r => P.N ≤ r.1 ∧ GoodV P r.2.1) := by
  unfold Sel.ruleStep
  refine BP.bind (BP.newValueJson v) (fun val hval => BP.bind (BP.newCell hval) (fun c hc => ?_))
  refine BP.enter KSup.any hc ?_
  exact BP.bind (BP.ruleFlow ((allBP P h0 b0 progB hF (Program.wfB_functions hwf) (okProg_functions hok)
    evalFuel).stmt _ hb hob)) (fun fl _ => BP.pure ⟨hc, hval⟩)

theorem BP.processMid (c : CellId) (hc : P.N ≤ c) (bf : List Rule) (hsub : ∀ r ∈ bf, r ∈ progB.rules) :
    BP P h0 b0 KAny (Sel.processMid progB c bf) Tr := by
  unfold Sel.processMid
  refine BP.bind (BP.evalSpecialRules progB hF hwf hok KSup.any _ (fun K' => BP.pure hc) bf hsub) (fun fl _ => ?_)
  split
  · exact BP.pure trivial
  · refine BP.bind (BP.setRoot (c := some c) hc) (fun _ _ => BP.bind (BP.catchExit
      (BP.evalPatternRules progB hF hwf hok KSup.any _ (rulesOf_sub progB _))) (fun fl2 _ => ?_))
    split <;> exact BP.pure trivial

end unary

section Files

variable (prog : Program) (T : SelTok) (E : Expr) (ub : Bool) (hE : selX (fun k => ub && isB k) E = true)
  (hwfE : E.wfB = true)
  (hub : ub = true → prog.wfB = true ∧ okProg prog = true ∧ okE E = true ∧ isB T.dtok.text = false)
  (tbl : RuleTable) (sel : Bytes)
  (hparse : parseExpressionSrc tbl sel = .ok E) (src : Bytes) (hef : EndOK prog)

include hwfE hub in
theorem special_rel (k : RuleKind) (hk : k ≠ .beginFile) {sA sB : St}
    (h : MainRel ub prog (withSel prog T E) sA sB) :
    StepOut ub prog (withSel prog T E)
      (evalSpecialRules prog (newCell (.nil none)) (rulesOf prog k) sA)
      (evalSpecialRules (withSel prog T E) (newCell (.nil none)) (rulesOf (withSel prog T E) k) sB) := by
  rw [rulesOf_withSel_other prog T E k hk]
  refine h.step (fun K wf hKA hKB => ?_) (FL.evalSpecialRules _ (FL.of_safe (Safe.newCell _)) _)
    (fun _ _ e => (h.2.2.step (R := Tr) (fun hu h0 => ?_) e).1)
  · have := sim_evalSpecialRules_withD (X := mainX K) (mainX_good wf) (mkA := newCell (.nil none))
      (mkB := newCell (.nil none)) (w0 := 0) (fun w _ => SimW.newScalar (mainX_wf wf)) (rulesOf prog k)
      sB.heap.cells.size (Nat.zero_le _) (fun r _ => idsS_all r.body)
    rw [show (mainX K).progA = prog from hKA, show (mainX K).progB = withSel prog T E from hKB] at this
    exact this
  · have hp := withSel_ok prog T E (hub hu).1 (hub hu).2.1 hwfE (hub hu).2.2.1 (hub hu).2.2.2
    exact BP.evalSpecialRules (withSel prog T E) (Nat.le_refl _) hp.1 hp.2.1 KSup.any (newCell (.nil none))
      (fun K' => BP.newCell trivial) (rulesOf prog k)
      (fun r hr => List.mem_cons_of_mem _ (rulesOf_sub prog _ r hr))

include hE hwfE hub hparse hef in
theorem processFile_rel (file : InputFile) : ∀ (fuel : Nat) (data : Bytes) (sA sB : St),
    MainRel ub prog (withSel prog T E) sA sB →
    StepRel ub prog (withSel prog T E) sel src
      (processFile prog src tbl [sel] file fuel data sA)
      (processFile (withSel prog T E) src tbl [] file fuel data sB)
  | 0, _, _, _, _ => by unfold processFile; exact StepRel.oofL ..
  | fuel + 1, data, sA, sB, hrel => by
    -- the program of run B satisfies what the invariant needs
    have hpB : ub = true → (withSel prog T E).wfB = true ∧ okProg (withSel prog T E) = true ∧
        (ruleBody T E).wfB = true ∧ okS (ruleBody T E) = true := fun hu =>
      withSel_ok prog T E (hub hu).1 (hub hu).2.1 hwfE (hub hu).2.2.1 (hub hu).2.2.2
    have hsubB : ∀ k, ∀ r ∈ rulesOf prog k, r ∈ (withSel prog T E).rules :=
      fun k r hr => List.mem_cons_of_mem _ (rulesOf_sub prog k r hr)
    unfold processFile
    cases hd : Json.decodeOne numOk data file.tail with
    | eof => exact hrel
    | error => exact hrel.fin sel src rfl
    | needMore => exact hrel.fin sel src rfl
    | value v rest =>
      dsimp only
      rw [show (do let c ← newCell (.str file.name none); setGlobal b!"$file" c : EM Unit) = setFile file.name
        from rfl]
      have h1 := hrel.step (mA := setFile file.name) (mB := setFile file.name)
        (fun K wf _ _ => sim_setFile wf file.name _) (FL.setFile file.name)
        (fun _ _ e => (hrel.2.2.step (fun _ h0 => BP.setFile file.name) e).1)
      refine h1.byCases (fun _ => StepRel.oofL ..) (fun _ => StepRel.oofR ..) (fun _ s1A s1B hrel1 => ?_)
        (fun e _ _ K hs1 => FinRel.of_SR sel src hs1 (OutcomeRel.errOutcome sel src e))
      obtain ⟨⟨K, wf, h0, h0', hKA, hKB, hs1⟩, hlen1, hJ1⟩ := hrel1
      dsimp only
      simp only [List.isEmpty_cons, List.isEmpty_nil, Bool.false_eq_true, ↓reduceIte]
      have hj := junction prog T E ub hE hwfE tbl sel hparse v wf h0 h0' hKA hKB hs1 hlen1
        (fun hu => ⟨hJ1 hu, (hpB hu).1, (hpB hu).2.1, (hub hu).2.2.1⟩)
      have hJR := fun r s' (e : ruleStep (withSel prog T E) T E v s1B = .ok r s') =>
        hJ1.step (fun hu h0 => BP.ruleStep (P := P3 (withSel prog T E)) (h0 := h0) (b0 := b0m) (withSel prog T E)
          (Nat.le_refl _) (hpB hu).1 (hpB hu).2.1 T E (hpB hu).2.2.1 (hpB hu).2.2.2 v) e
      obtain ⟨vB, sBv, eB1, _, _⟩ := conv_ok v s1B
      have hvb := congrFun (valueB_eq prog T E v) s1B
      simp only [bind, EM.bind, eB1, Jqawk.newCell] at hvb ⊢
      simp only [evalSelectors, processRoots_single]
      rw [hvb]
      revert hJR
      refine hj.byCases (fun _ _ => StepRel.oofR ..) (fun _ _ _ => StepRel.oofL ..)
        (fun r c vb sA' sB' K' wf' h0K h0K' hKA' hKB' hs' hlen' hc hJR => ?_)
        (fun oA e sA' sB' ho hout _ => ?_)
      · obtain ⟨hJ', hR⟩ := hJR _ _ rfl
        have hsim := sim_processMid wf' (rulesOf prog .beginFile)
          (by rw [hKA', hKB', rulesOf_withSel_other prog T E .pattern (by decide)])
          hc (Nat.le_refl _) sA' sB' hs' (Nat.le_refl _)
        rw [hKA', hKB'] at hsim
        have h3 := StepOut.of_RR (ub := ub) wf' h0K h0K' hKA' hKB' hsim
          (fun a s' e => by
            have := FL.processMid (withSel prog T E) c (rulesOf prog .beginFile) sB'
            rw [e] at this
            exact this.trans hlen')
          (fun a s' e => (hJ'.step (fun hu h0 => BP.processMid (P := P3 (withSel prog T E)) (h0 := h0) (b0 := b0m)
            (withSel prog T E) (Nat.le_refl _) (hpB hu).1 (hpB hu).2.1 c (hR hu).1 (rulesOf prog .beginFile)
            (hsubB _)) e).1)
        simp only [List.reverse_cons, List.reverse_nil, List.nil_append, processRoots_single,
          processRoot_eq prog, bind, EM.bind, readCell]
        refine h3.byCases (fun _ => StepRel.oofL ..) (fun _ => StepRel.oofR ..) (fun fl s3A s3B hrel3 => ?_)
          (fun e _ _ K3 hs3 => FinRel.of_SR sel src hs3 (OutcomeRel.errOutcome sel src e))
        cases fl with
        | exit => exact hrel3.fin sel src trivial
        | continue_ =>
          dsimp only
          have h4 := (endfile_rel_of_endOK (prog := prog) (progB := withSel prog T E) rfl hef (sA'.heap.get r) vb s3A s3B
            ⟨hrel3.1, hrel3.2.1, fun h => Bool.noConfusion h⟩).withJ (ub := ub)
            (fun a s' e => (hrel3.2.2.step (fun hu h0 => BP.evalSpecialRules (P := P3 (withSel prog T E))
              (h0 := h0) (b0 := b0m) (withSel prog T E) (Nat.le_refl _) (hpB hu).1 (hpB hu).2.1 KSup.any
              (newCell vb) (fun K' => BP.newCell (hR hu).2) (rulesOf prog .endFile) (hsubB _)) e).1)
          refine h4.byCases (fun _ => StepRel.oofL ..) (fun _ => StepRel.oofR ..) (fun g s4A s4B hrel4 => ?_)
            (fun e _ _ K4 hs4 => FinRel.of_SR sel src hs4 (OutcomeRel.errOutcome sel src e))
          cases g with
          | exit => exact hrel4.fin sel src trivial
          | continue_ => exact processFile_rel file fuel rest s4A s4B hrel4
      · refine .inr (.inr ⟨?_, by unfold St.output; rw [hout], ?_⟩)
        · cases oA <;> cases e <;> first
            | exact ho.elim
            | exact ⟨ho.2, .inr ⟨ho.1, rfl⟩⟩
            | exact ho
        · intro h; subst h; cases e <;> exact ho.elim

include hE hwfE hub hparse hef in
theorem processFiles_rel : ∀ (files : List InputFile) (sA sB : St),
    MainRel ub prog (withSel prog T E) sA sB →
    StepRel ub prog (withSel prog T E) sel src
      (processFiles prog src tbl [sel] files sA) (processFiles (withSel prog T E) src tbl [] files sB)
  | [], sA, sB, h => h
  | f :: rest, sA, sB, h => by
    unfold processFiles
    refine (processFile_rel prog T E ub hE hwfE hub tbl sel hparse src hef f (f.data.length + 2) f.data sA sB
      h).byCases (fun _ _ => StepRel.oofL ..) (fun _ _ => StepRel.oofR ..)
      (fun sA' sB' h1 => processFiles_rel rest sA' sB' h1) (fun _ _ _ _ h1 => h1)

def RunRel (sel src : Bytes) (rA rB : RunResult) : Prop :=
  rA.outcome = .oof ∨ rB.outcome = .oof ∨
    (OutcomeRel sel src rA.outcome rB.outcome ∧ rA.out = rB.out ∧
      (rA.outcome = .ok → rA.st.bind getRootJson = rB.st.bind getRootJson))

theorem RunRel.finish {sel src : Bytes} {oA oB : Outcome} {sA sB : St} (h : FinRel sel src oA sA oB sB) :
    RunRel sel src (finishRun oA sA) (finishRun oB sB) := by
  rcases h with h | h | ⟨h1, h2, h3⟩
  · exact .inl h
  · exact .inr (.inl h)
  · exact .inr (.inr ⟨h1, h2, fun e => by
      show (some sA).bind getRootJson = (some sB).bind getRootJson
      simp only [Option.bind_some]; exact h3 e⟩)

include hwfE hub in
theorem runEnd_rel {sA sB : St} (h : MainRel ub prog (withSel prog T E) sA sB) :
    RunRel sel src (runEnd prog src sA) (runEnd (withSel prog T E) src sB) := by
  unfold runEnd
  exact (special_rel prog T E ub hwfE hub .end_ (by decide) h).byCases (fun _ => .inl rfl)
    (fun _ => .inr (.inl rfl)) (fun _ _ _ hrel => RunRel.finish (hrel.fin sel src trivial))
    (fun e _ _ K hs => RunRel.finish (FinRel.of_SR sel src hs (OutcomeRel.errOutcome sel src e)))

include hE hwfE hub hparse hef in
theorem runFiles_rel (files : List InputFile) {sA sB : St}
    (h : MainRel ub prog (withSel prog T E) sA sB) :
    RunRel sel src (runFiles prog src tbl [sel] files sA) (runFiles (withSel prog T E) src tbl [] files sB) := by
  unfold runFiles
  exact (processFiles_rel prog T E ub hE hwfE hub tbl sel hparse src hef files sA sB h).byCases
    (fun _ _ => .inl rfl) (fun _ _ => .inr (.inl rfl))
    (fun _ _ h1 => runEnd_rel prog T E ub hwfE hub sel src h1) (fun _ _ _ _ h1 => RunRel.finish h1)

include hE hwfE hub hparse hef in
/-- **`-r E` against `BEGINFILE { $ = E }`, whole runs** -/
theorem runProgram_rel (files : List InputFile) :
    RunRel sel src (runProgram prog src tbl [sel] files)
      (runProgram (withSel prog T E) src tbl [] files) := by
  unfold runProgram
  have h0 : MainRel ub prog (withSel prog T E) _ _ := mainRel_init prog T E (fun hu =>
    BInv.init (withSel prog T E)
      (withSel_ok prog T E (hub hu).1 (hub hu).2.1 hwfE (hub hu).2.2.1 (hub hu).2.2.2).2.1)
  refine (special_rel prog T E ub hwfE hub .begin_ (by decide) h0).byCases (fun _ => .inl rfl)
    (fun _ => .inr (.inl rfl)) (fun fl _ _ hrel => ?_)
    (fun e _ _ K hs => RunRel.finish (FinRel.of_SR sel src hs (OutcomeRel.errOutcome sel src e)))
  cases fl with
  | exit => exact RunRel.finish (hrel.fin sel src trivial)
  | continue_ => exact runFiles_rel prog T E ub hE hwfE hub tbl sel hparse src hef files hrel

end Files
end Sel
end Jqawk
