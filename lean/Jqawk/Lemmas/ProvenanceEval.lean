/-
  Provenance of positions, evaluator side (C12): every runtime error the evaluator raises
  carries the offset of a token of the construct being evaluated, or of a token of the body of a
  function of the program.  `RtPos G m`: every runtime error `m` can end with carries an offset
  in `G`: what `Shaped D G S m` says about positions (`RtPos.of_shaped`); `allRt` is `allShaped`
  with every signal allowed, field by field.
-/
import Jqawk.Lemmas.ShapedEval


namespace Jqawk

def RtPos (G : Nat → Prop) {α : Type} (m : EM α) : Prop :=
  ∀ s pos msg s', m s = .err (.runtime pos msg) s' → G pos

namespace RtPos
variable {G : Nat → Prop}

/-- the one rule for the control combinators (`Lemmas/EvalSteps.lean`) -/
theorem handle {α β : Type} {m : EM α} {onOk : α → EM β} {onSig : Sig → Option (EM β)}
    (hm : RtPos G m) (hok : ∀ a, RtPos G (onOk a)) (hsig : ∀ g k, onSig g = some k → RtPos G k) :
    RtPos G (Jqawk.handle m onOk onSig) := by
  intro s pos msg s' h
  unfold Jqawk.handle at h
  split at h
  · exact hok _ _ _ _ _ h
  · split at h
    · exact hsig _ _ ‹_› _ _ _ _ h
    · cases h
  · cases h; exact hm _ _ _ _ ‹_›
  · cases h

theorem bind {α β : Type} {m : EM α} {f : α → EM β} (hm : RtPos G m)
    (hf : ∀ a, RtPos G (f a)) : RtPos G (m >>= f) :=
  bind_eq_handle m f ▸ handle hm hf (fun _ _ h => nomatch h)

/-- a shaped computation raises runtime errors only at positions in `G` -/
theorem of_shaped {D : Prop} {S : Sig → Prop} {α : Type} {m : EM α} (h : Shaped D G S m) : RtPos G m :=
  fun _ _ _ _ he => h.errs he

/-- the reading of a `Shaped` fact about a computation that is not part of the driver -/
theorem of_quiet {α : Type} {m : EM α} (h : Shaped False G (fun _ => True) m) : RtPos G m := of_shaped h

theorem pure {α : Type} (a : α) : RtPos G (Pure.pure a : EM α) := of_quiet (.pure a)

theorem modifySt (f : St → St) : RtPos G (Jqawk.modifySt f) := by intro s pos msg s' h; cases h

theorem pushFrame (name : Bytes) : RtPos G (Jqawk.pushFrame name) := by
  intro s pos msg s' h
  unfold Jqawk.pushFrame at h
  split at h <;> cases h

theorem copyValue (a b : CellId) : RtPos G (Jqawk.copyValue a b) := of_quiet (.copyValue a b)
theorem createSpeculative (n : Nat) (c : CellId) : RtPos G (Jqawk.createSpeculative n c) :=
  of_quiet (.createSpeculative n c)

theorem memberStep {pos : Nat} (hp : G pos) (l r : CellId) : RtPos G (Jqawk.memberStep pos l r) :=
  of_quiet (.memberStep hp l r)

theorem evalAssignment {pos : Nat} (hp : G pos) (l r : CellId) :
    RtPos G (Jqawk.evalAssignment pos l r) := of_quiet (.evalAssignment hp l r)

theorem withFrames {α : Type} (saved : List Frame) {m : EM α} (hm : RtPos G m) :
    RtPos G (Jqawk.withFrames saved m) := by
  intro s pos msg s' h
  unfold Jqawk.withFrames at h
  split at h <;> cases h
  exact hm _ _ _ _ ‹_›

theorem loopIter {body k : EM Unit} (hb : RtPos G body) (hk : RtPos G k) :
    RtPos G (Jqawk.loopIter body k) :=
  loopIter_eq_handle body k ▸ handle hb (fun _ => hk) (by
    intro g k' h; cases g <;> cases h <;> first | exact pure _ | exact hk)

theorem catchReturn {body : EM Unit} (hb : RtPos G body) : RtPos G (Jqawk.catchReturn body) :=
  catchReturn_eq_handle body ▸ handle hb (fun _ => pure _) (by
    intro g k h; cases g <;> cases h; intro s pos msg s' h; cases h)

theorem catchSig {α : Type} (g : Sig) (d : α) {m : EM α} (hm : RtPos G m) :
    RtPos G (Jqawk.catchSig g d m) :=
  catchSig_eq_handle g d m ▸ handle hm pure (by intro g' k h; split at h <;> cases h; exact pure _)

end RtPos

structure AllRt (G : Nat → Prop) (prog : Program) (n : Nat) : Prop where
  expr : ∀ e, TokOK G (e.tokens false) → RtPos G (evalExpr prog n e)
  objItems : ∀ pos items acc, G pos → TokOK G (tokensKVs false items) →
    RtPos G (evalObjItems prog n pos items acc)
  exprList : ∀ es c, TokOK G (tokensEs false es) → RtPos G (evalExprList prog n es c)
  matchCases : ∀ pos v cs, G pos → TokOK G (tokensCases false cs) →
    RtPos G (evalMatchCases prog n pos v cs)
  caseMatch : ∀ v ps, TokOK G (tokensEs false ps) → RtPos G (evalCaseMatch prog n v ps)
  arrayCaseMatch : ∀ v ps, TokOK G (tokensEs false ps) → RtPos G (evalArrayCaseMatch prog n v ps)
  matchElems : ∀ cs ps acc, TokOK G (tokensEs false ps) → RtPos G (Jqawk.matchElems prog n cs ps acc)
  call : ∀ pos f args, G pos → RtPos G (callFunction prog n pos f args)
  unary : ∀ e op p, TokOK G (e.tokens false) → G op.pos → RtPos G (evalUnary prog n e op p)
  binary : ∀ l r op, TokOK G (l.tokens false) → TokOK G (r.tokens false) → G op.pos →
    RtPos G (evalBinary prog n l r op)
  stmt : ∀ st, TokOK G (st.tokens false) → RtPos G (evalStmt prog n st)
  block : ∀ sts, TokOK G (tokensSs false sts) → RtPos G (evalBlock prog n sts)
  whileL : ∀ c b, TokOK G (c.tokens false) → TokOK G (b.tokens false) →
    RtPos G (whileLoop prog n c b)
  forL : ∀ c p b, TokOK G (c.tokens false) → TokOK G (p.tokens false) → TokOK G (b.tokens false) →
    RtPos G (forLoop prog n c p b)
  forInL : ∀ l il b items, TokOK G (b.tokens false) → RtPos G (forInLoop prog n l il b items)

/-- **every runtime error carries the offset of a token of the construct evaluated or of a
    function body** — at any fuel, from any state -/
theorem allRt (G : Nat → Prop) (prog : Program) (hfn : prog.FnTok G) (n : Nat) : AllRt G prog n :=
  have h : AllShaped False G (fun _ => True) prog n := allShaped hfn n _ fun _ _ _ _ => .inr trivial
  have loop : ∀ {b : Sig → Bool}, Conf (InLoop fun _ => True) b := fun _ _ => .inr trivial
  { expr e := fun hG => .of_shaped (h.expr e .top hG)
    objItems pos items acc := fun hp hG => .of_shaped (h.objItems pos items acc hp .top hG)
    exprList es c := fun hG => .of_shaped (h.exprList es c .top hG)
    matchCases pos v cs := fun hp hG => .of_shaped (h.matchCases pos v cs hp .top hG)
    caseMatch v ps := fun hG => .of_shaped (h.caseMatch v ps .top hG)
    arrayCaseMatch v ps := fun hG => .of_shaped (h.arrayCaseMatch v ps .top hG)
    matchElems cs ps acc := fun hG => .of_shaped (h.matchElems cs ps acc .top hG)
    call pos f args := fun hp => .of_shaped (h.call pos f args hp)
    unary e op p := fun hG hop => .of_shaped (h.unary e op p .top hG hop)
    binary l r op := fun hl hr hop => .of_shaped (h.binary l r op .top .top hl hr hop)
    stmt st := fun hG => .of_shaped (h.stmt st .top hG)
    block sts := fun hG => .of_shaped (h.block sts .top hG)
    whileL c b := fun hc hb => .of_shaped (h.whileL c b .top loop hc hb)
    forL c p b := fun hc hp hb => .of_shaped (h.forL c p b .top .top loop hc hp hb)
    forInL l il b items := fun hb => .of_shaped (h.forInL l il b items loop hb) }

end Jqawk
