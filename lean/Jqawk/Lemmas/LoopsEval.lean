/-
  C07: the evaluator's loops are instances of the loop specification (`Spec/Loops.lean`).
  `whileLoop` / `forLoop` are `repeatN` of the `while` / `for` round, `forInLoop` is `iterateN`
  of "bind the loop variables, run the body", at every fuel; with fuel monotonicity
  (`Lemmas/LoopsMono.lean`) the fuel-free characterisations follow.
-/
import Jqawk.Lemmas.Loops


namespace Jqawk.Spec
open Jqawk

variable (prog : Program)


theorem evalStmt_le (st : Stmt) {n m : Nat} (h : n ≤ m) : EMLe (evalStmt prog n st) (evalStmt prog m st) :=
  emle_le (fun k => evalStmt prog k st) (fun k => (allMono prog k).stmt st) h

theorem evalExpr_le (e : Expr) {n m : Nat} (h : n ≤ m) : EMLe (evalExpr prog n e) (evalExpr prog m e) :=
  emle_le (fun k => evalExpr prog k e) (fun k => (allMono prog k).expr e) h

theorem callFunction_le (pos : Nat) (f : CellId) (args : List CellId) {n m : Nat} (h : n ≤ m) :
    EMLe (callFunction prog n pos f args) (callFunction prog m pos f args) :=
  emle_le (fun k => callFunction prog k pos f args) (fun k => (allMono prog k).call pos f args) h

/-- an expression evaluated for its effects only (`for` initialiser and post-expression) -/
def effectOnly (m : EM CellId) : EM Unit := do
  let _ ← m
  pure ()

theorem effectOnly_mono {m m' : EM CellId} (h : EMLe m m') : EMLe (effectOnly m) (effectOnly m') :=
  EMLe.bind h (fun _ => EMLe.refl _)

def whileRoundAt (n : Nat) (c : Expr) (body : Stmt) : EM Bool :=
  whileRound (truthyOf (evalExpr prog n c)) (evalStmt prog n body)

def forRoundAt (n : Nat) (c post : Expr) (body : Stmt) : EM Bool :=
  forRound (truthyOf (evalExpr prog n c)) (evalStmt prog n body) (effectOnly (evalExpr prog n post))

theorem whileRoundAt_mono (c : Expr) (body : Stmt) (n : Nat) :
    EMLe (whileRoundAt prog n c body) (whileRoundAt prog (n + 1) c body) :=
  whileRound_mono (truthyOf_mono ((allMono prog n).expr c)) ((allMono prog n).stmt body)

theorem forRoundAt_mono (c post : Expr) (body : Stmt) (n : Nat) :
    EMLe (forRoundAt prog n c post body) (forRoundAt prog (n + 1) c post body) :=
  forRound_mono (truthyOf_mono ((allMono prog n).expr c)) ((allMono prog n).stmt body)
    (effectOnly_mono ((allMono prog n).expr post))


theorem whileLoop_eq_repeatN (c : Expr) (body : Stmt) (n : Nat) :
    whileLoop prog n c body = repeatN (fun k => whileRoundAt prog k c body) n := by
  induction n with
  | zero => unfold whileLoop repeatN; rfl
  | succ n ih =>
    funext s
    unfold whileLoop repeatN
    rw [← ih]
    simp only [whileRoundAt, whileRound, truthyOf, bind, EM.bind, readCell, pure, EM.pure]
    cases evalExpr prog n c s with
    | ok cell s1 =>
      dsimp only
      cases (s1.heap.get cell).truthy with
      | true =>
        simp only [↓reduceIte]
        rw [loopIter_eq]
        unfold bodyRound
        cases outcome (evalStmt prog n body s1) <;> rfl
      | false => rfl
    | err e s1 => rfl
    | oof => rfl

theorem forLoop_eq_repeatN (c post : Expr) (body : Stmt) (n : Nat) :
    forLoop prog n c post body = repeatN (fun k => forRoundAt prog k c post body) n := by
  induction n with
  | zero => unfold forLoop repeatN; rfl
  | succ n ih =>
    funext s
    unfold forLoop repeatN
    rw [← ih]
    simp only [forRoundAt, forRound, truthyOf, effectOnly, bind, EM.bind, readCell, pure, EM.pure]
    cases evalExpr prog n c s with
    | ok cell s1 =>
      dsimp only
      cases (s1.heap.get cell).truthy with
      | true =>
        simp only [↓reduceIte, loopIter_eq, EM.bind, bodyRound]
        cases outcome (evalStmt prog n body s1) with
        | continue_ s2 =>
          simp only [↓reduceIte, EM.bind, EM.pure]
          cases evalExpr prog n post s2 <;> rfl
        | stop s2 => rfl
        | abort e s2 => rfl
        | oof => rfl
      | false => rfl
    | err e s1 => rfl
    | oof => rfl

theorem whileLoop_sound (c : Expr) (body : Stmt) (n : Nat) (s : St) (r : Res Unit)
    (h : whileLoop prog n c body s = r) (hr : r ≠ .oof) : Repeats (whileRoundAt prog n c body) s r := by
  rw [whileLoop_eq_repeatN] at h
  exact repeatN_sound _ (whileRoundAt_mono prog c body) n s r h hr

theorem whileLoop_complete (c : Expr) (body : Stmt) (m : Nat) (s : St) (r : Res Unit)
    (h : Repeats (whileRoundAt prog m c body) s r) : ∃ n, whileLoop prog n c body s = r := by
  obtain ⟨n, hn⟩ := repeatN_complete _ (whileRoundAt_mono prog c body) m s r h
  exact ⟨n, by rw [whileLoop_eq_repeatN]; exact hn⟩

theorem forLoop_sound (c post : Expr) (body : Stmt) (n : Nat) (s : St) (r : Res Unit)
    (h : forLoop prog n c post body s = r) (hr : r ≠ .oof) :
    Repeats (forRoundAt prog n c post body) s r := by
  rw [forLoop_eq_repeatN] at h
  exact repeatN_sound _ (forRoundAt_mono prog c post body) n s r h hr

theorem forLoop_complete (c post : Expr) (body : Stmt) (m : Nat) (s : St) (r : Res Unit)
    (h : Repeats (forRoundAt prog m c post body) s r) : ∃ n, forLoop prog n c post body s = r := by
  obtain ⟨n, hn⟩ := repeatN_complete _ (forRoundAt_mono prog c post body) m s r h
  exact ⟨n, by rw [forLoop_eq_repeatN]; exact hn⟩

/-- explicit fuel: `k` rounds at fuel `m` need loop fuel `m + k + 1` -/
theorem whileLoop_of_rounds (c : Expr) (body : Stmt) (m k : Nat) (s sk : St) (r : Res Unit)
    (hk : Rounds (whileRoundAt prog m c body) k s sk) (hf : FinalRound (whileRoundAt prog m c body) sk r)
    (n : Nat) (hn : m + k < n) : whileLoop prog n c body s = r := by
  rw [whileLoop_eq_repeatN]
  exact repeatN_of_rounds _ (whileRoundAt_mono prog c body) m k s sk r hk hf n hn

theorem forLoop_of_rounds (c post : Expr) (body : Stmt) (m k : Nat) (s sk : St) (r : Res Unit)
    (hk : Rounds (forRoundAt prog m c post body) k s sk)
    (hf : FinalRound (forRoundAt prog m c post body) sk r)
    (n : Nat) (hn : m + k < n) : forLoop prog n c post body s = r := by
  rw [forLoop_eq_repeatN]
  exact repeatN_of_rounds _ (forRoundAt_mono prog c post body) m k s sk r hk hf n hn


theorem forInLoop_eq_iterateN (loc : CellId) (il : Option CellId) (body : Stmt) (n : Nat)
    (items : List RawItem) :
    forInLoop prog n loc il body items =
      iterateN (fun k it => do bindRaw loc il it; evalStmt prog k body) n items := by
  induction n generalizing items with
  | zero => unfold forInLoop iterateN; rfl
  | succ n ih =>
    cases items with
    | nil => unfold forInLoop iterateN; rfl
    | cons it rest =>
      rw [forInLoop_succ_cons, ih rest]
      funext s
      simp only [iterateN, bind, EM.bind]
      cases hb : bindRaw loc il it s with
      | ok a s1 =>
        dsimp only
        rw [loopIter_eq]
      | err e s1 =>
        dsimp only
        -- binding never fails with break / continue
        have : e ≠ .sig .brk ∧ e ≠ .sig .cont := by
          obtain ⟨iv, item⟩ := it
          unfold bindRaw at hb
          simp only [bind] at hb
          repeat' (split at hb <;> try cases hb)
        have ho : outcome (Res.err e s1 : Res Unit) = .abort e s1 :=
          (outcome_abort_iff _ _ _).mpr ⟨rfl, this.1, this.2⟩
        rw [ho]
      | oof => rfl

theorem forInStep_mono (loc : CellId) (il : Option CellId) (body : Stmt) (k : Nat) (it : RawItem) :
    EMLe (do bindRaw loc il it; evalStmt prog k body) (do bindRaw loc il it; evalStmt prog (k + 1) body) :=
  EMLe.bind (EMLe.refl _) (fun _ => (allMono prog k).stmt body)

theorem forInLoop_le_iterate (n : Nat) (loc : CellId) (il : Option CellId) (body : Stmt)
    (items : List RawItem) :
    EMLe (forInLoop prog n loc il body items)
      (iterate (fun it => do bindRaw loc il it; evalStmt prog n body) items) := by
  rw [forInLoop_eq_iterateN]
  exact iterateN_sound (fun k it => do bindRaw loc il it; evalStmt prog k body)
    (forInStep_mono prog loc il body) n items

def arrayItems (cells : List CellId) : List RawItem :=
  cells.zipIdx.map fun (c, i) => (some (Val.num (F64.ofNat i)), Sum.inl c)
def objectItems (members : List (Bytes × CellId)) : List RawItem :=
  (sortByKey members).map fun (k, c) => (none, Sum.inr (Val.str k none, some c))
def stringItems (s : Bytes) : List RawItem :=
  (utf8Runes s).map fun (off, r) =>
    (some (Val.num (F64.ofNat off)), Sum.inr (Val.str (utf8Encode r) none, none))

/-- the header of for-in: the loop variables, then the iterable (evaluated once), then the
    items it holds at that moment -/
def forInHeader (evalE : Expr → EM CellId) (id : Token) (idx : Option Token) (iter : Expr) :
    EM (CellId × Option CellId × List RawItem) := do
  let loc ← loopVar id.pos id.text
  let il ← (match idx with
    | none => pure none
    | some it => do let c ← loopVar id.pos it.text; pure (some c) : EM (Option CellId))
  let iterable ← evalE iter
  let h ← getHeap
  match h.get iterable with
  | .arr a => pure (loc, il, arrayItems (h.arr a).toList)
  | .obj o => pure (loc, il, objectItems (h.obj o))
  | .str s _ => pure (loc, il, stringItems s)
  | _ => throwRt iter.token.pos "not iterable"

theorem evalStmt_forIn (n : Nat) (id : Token) (idx : Option Token) (iter : Expr) (body : Stmt) :
    evalStmt prog (n + 1) (.forIn id idx iter body) = (do
      let hd ← forInHeader (evalExpr prog n) id idx iter
      forInLoop prog n hd.1 hd.2.1 body hd.2.2) := by
  funext s
  unfold evalStmt forInHeader loopVar arrayItems objectItems stringItems
  simp only [bind, EM.bind, pure, getHeap]
  cases getVariable id.text s with
  | ok r1 s1 =>
    cases r1 with
    | ok loc =>
      simp only [EM.pure]
      cases idx with
      | none =>
        simp only [EM.pure]
        cases evalExpr prog n iter s1 with
        | ok it s2 => dsimp only; cases s2.heap.get it <;> rfl
        | err e s2 => rfl
        | oof => rfl
      | some itok =>
        simp only [EM.pure, EM.bind]
        cases getVariable itok.text s1 with
        | ok r2 s2 =>
          cases r2 with
          | ok il =>
            simp only [EM.pure]
            cases evalExpr prog n iter s2 with
            | ok it s3 => dsimp only; cases s3.heap.get it <;> rfl
            | err e s3 => rfl
            | oof => rfl
          | error m => rfl
        | err e s2 => rfl
        | oof => rfl
    | error m => rfl
  | err e s1 => rfl
  | oof => rfl

theorem iterate_map {ι κ : Type} (f : ι → κ) (step : κ → EM Unit) (l : List ι) :
    iterate step (l.map f) = iterate (fun x => step (f x)) l := by
  induction l with
  | nil => rfl
  | cons x xs ih => funext s; simp only [List.map_cons, iterate, ih]

theorem bindRaw_array (loc : CellId) (il : Option CellId) (ci : CellId × Nat) :
    bindRaw loc il (some (Val.num (F64.ofNat ci.2)), Sum.inl ci.1) = bindArrayItem loc il ci := by
  funext s; cases il <;> rfl

theorem bindRaw_object (loc : CellId) (il : Option CellId) (kv : Bytes × CellId) :
    bindRaw loc il (none, Sum.inr (Val.str kv.1 none, some kv.2)) = bindObjectItem loc il kv := by
  funext s; cases il <;> rfl

theorem bindRaw_string (loc : CellId) (il : Option CellId) (p : Nat × Nat) :
    bindRaw loc il (some (Val.num (F64.ofNat p.1)), Sum.inr (Val.str (utf8Encode p.2) none, none))
      = bindStringItem loc il p := by
  funext s; cases il <;> rfl

theorem iterate_arrayItems (body : EM Unit) (loc : CellId) (il : Option CellId) (cells : List CellId) :
    iterate (fun it => do bindRaw loc il it; body) (arrayItems cells) = forInArray body loc il cells := by
  unfold arrayItems forInArray
  rw [iterate_map]
  congr 1; funext ci; rw [bindRaw_array]

theorem iterate_objectItems (body : EM Unit) (loc : CellId) (il : Option CellId)
    (members : List (Bytes × CellId)) :
    iterate (fun it => do bindRaw loc il it; body) (objectItems members)
      = forInObject body loc il members := by
  unfold objectItems forInObject
  rw [iterate_map]
  congr 1; funext kv; rw [bindRaw_object]

theorem iterate_stringItems (body : EM Unit) (loc : CellId) (il : Option CellId) (str : Bytes) :
    iterate (fun it => do bindRaw loc il it; body) (stringItems str) = forInString body loc il str := by
  unfold stringItems forInString
  rw [iterate_map]
  congr 1; funext p; rw [bindRaw_string]

theorem forInStmt_eq (evalE : Expr → EM CellId) (evalS : Stmt → EM Unit) (id : Token)
    (idx : Option Token) (iter : Expr) (body : Stmt) :
    forInStmt evalE evalS id idx iter body = (do
      let hd ← forInHeader evalE id idx iter
      iterate (fun it => do bindRaw hd.1 hd.2.1 it; evalS body) hd.2.2) := by
  funext s
  unfold forInStmt forInHeader
  simp only [bind, EM.bind, pure, getHeap]
  cases loopVar id.pos id.text s with
  | ok loc s1 =>
    simp only []
    cases idx with
    | none =>
      simp only [EM.pure]
      cases evalE iter s1 with
      | ok it s3 =>
        simp only []
        cases s3.heap.get it <;>
          first
            | rfl
            | (simp only [EM.pure]; exact (congrFun (iterate_arrayItems _ _ _ _) _).symm)
            | (simp only [EM.pure]; exact (congrFun (iterate_objectItems _ _ _ _) _).symm)
            | (simp only [EM.pure]; exact (congrFun (iterate_stringItems _ _ _ _) _).symm)
      | err e s3 => rfl
      | oof => rfl
    | some itok =>
      simp only [EM.bind]
      cases loopVar id.pos itok.text s1 with
      | ok c s2 =>
        simp only [EM.pure]
        cases evalE iter s2 with
        | ok it s3 =>
          simp only []
          cases s3.heap.get it <;>
            first
              | rfl
              | (simp only [EM.pure]; exact (congrFun (iterate_arrayItems _ _ _ _) _).symm)
              | (simp only [EM.pure]; exact (congrFun (iterate_objectItems _ _ _ _) _).symm)
              | (simp only [EM.pure]; exact (congrFun (iterate_stringItems _ _ _ _) _).symm)
        | err e s3 => rfl
        | oof => rfl
      | err e s2 => rfl
      | oof => rfl
  | err e s1 => rfl
  | oof => rfl

theorem forInHeader_mono (id : Token) (idx : Option Token) (iter : Expr) (n : Nat) :
    EMLe (forInHeader (evalExpr prog n) id idx iter) (forInHeader (evalExpr prog (n + 1)) id idx iter) := by
  unfold forInHeader
  refine EMLe.bind (EMLe.refl _) (fun loc => EMLe.bind (EMLe.refl _) (fun il =>
    EMLe.bind ((allMono prog n).expr iter) (fun it => EMLe.refl _)))

theorem forIn_sound (n : Nat) (id : Token) (idx : Option Token) (iter : Expr) (body : Stmt) :
    EMLe (evalStmt prog (n + 1) (.forIn id idx iter body))
      (forInStmt (evalExpr prog n) (evalStmt prog n) id idx iter body) := by
  rw [evalStmt_forIn, forInStmt_eq]
  exact EMLe.bind (EMLe.refl _) (fun hd => forInLoop_le_iterate prog n hd.1 hd.2.1 body hd.2.2)

theorem forIn_complete (m : Nat) (id : Token) (idx : Option Token) (iter : Expr) (body : Stmt)
    (s : St) (r : Res Unit)
    (h : forInStmt (evalExpr prog m) (evalStmt prog m) id idx iter body s = r) (hr : r ≠ .oof) :
    ∃ n0, ∀ n, n0 ≤ n → evalStmt prog n (.forIn id idx iter body) s = r := by
  rw [forInStmt_eq] at h
  change EM.bind _ _ s = r at h
  unfold EM.bind at h
  cases hh : forInHeader (evalExpr prog m) id idx iter s with
  | ok hd s1 =>
    rw [hh] at h
    replace h : iterate (fun it => do bindRaw hd.1 hd.2.1 it; evalStmt prog m body) hd.2.2 s1 = r := h
    refine ⟨m + hd.2.2.length + 2, fun n hn => ?_⟩
    obtain ⟨n', rfl⟩ : ∃ n', n = n' + 1 := ⟨n - 1, by omega⟩
    rw [evalStmt_forIn]
    simp only [bind, EM.bind]
    have hle : EMLe (forInHeader (evalExpr prog m) id idx iter) (forInHeader (evalExpr prog n') id idx iter) :=
      emle_le (fun k => forInHeader (evalExpr prog k) id idx iter)
        (fun k => forInHeader_mono prog id idx iter k) (by omega)
    rw [hle.eq_of_ne_oof (by rw [hh]; simp), hh]
    simp only []
    rw [forInLoop_eq_iterateN]
    have := iterateN_complete (fun k it => do bindRaw hd.1 hd.2.1 it; evalStmt prog k body)
      (forInStep_mono prog hd.1 hd.2.1 body) m hd.2.2 n' (by omega)
    rw [← h]
    exact this.eq_of_ne_oof (by rw [h]; exact hr)
  | err e s1 =>
    rw [hh] at h
    replace h : Res.err e s1 = r := h
    refine ⟨m + 1, fun n hn => ?_⟩
    obtain ⟨n', rfl⟩ : ∃ n', n = n' + 1 := ⟨n - 1, by omega⟩
    rw [evalStmt_forIn]
    simp only [bind, EM.bind]
    have hle : EMLe (forInHeader (evalExpr prog m) id idx iter) (forInHeader (evalExpr prog n') id idx iter) :=
      emle_le (fun k => forInHeader (evalExpr prog k) id idx iter)
        (fun k => forInHeader_mono prog id idx iter k) (by omega)
    rw [hle.eq_of_ne_oof (by rw [hh]; simp), hh]
    exact h
  | oof => rw [hh] at h; exact absurd h.symm hr


theorem utf8DecodeHead_ascii (b : UInt8) (rest : Bytes) (h : b < 0x80) :
    utf8DecodeHead (b :: rest) = (b.toNat, 1) := by
  simp [utf8DecodeHead, h]

theorem utf8Encode_ascii (b : UInt8) (h : b < 0x80) : utf8Encode b.toNat = [b] := by
  have hb : b.toNat < 128 := by simpa [UInt8.lt_iff_toNat_lt] using h
  unfold utf8Encode
  have h1 : ¬ (b.toNat > 0x10FFFF || (0xD800 ≤ b.toNat && b.toNat ≤ 0xDFFF)) = true := by
    simp; omega
  simp only [h1]
  simp
  intro h2; omega

theorem utf8Runes_go_ascii (s : Bytes) (h : ∀ b ∈ s, b < 0x80) (fuel off : Nat) (hf : s.length ≤ fuel) :
    utf8Runes.go fuel s off = (s.zipIdx off).map (fun p => (p.2, p.1.toNat)) := by
  induction s generalizing fuel off with
  | nil => cases fuel <;> simp [utf8Runes.go]
  | cons b rest ih =>
    obtain ⟨fuel', rfl⟩ : ∃ f, fuel = f + 1 := ⟨fuel - 1, by simp at hf; omega⟩
    have hb := h b (by simp)
    simp only [utf8Runes.go, utf8DecodeHead_ascii b rest hb, List.drop_one, List.tail_cons,
      List.zipIdx_cons, List.map_cons]
    rw [ih (fun x hx => h x (by simp [hx])) fuel' (off + 1) (by simp at hf; omega)]

theorem utf8Runes_ascii (s : Bytes) (h : ∀ b ∈ s, b < 0x80) :
    utf8Runes s = s.zipIdx.map (fun p => (p.2, p.1.toNat)) :=
  utf8Runes_go_ascii s h s.length 0 (Nat.le_refl _)

end Jqawk.Spec
