/-
  C06, finite clause: vocabulary for the statements about pairs and triples of operators (atoms,
  operator tokens, the documented grouping as a tiny reference function) and the enumeration of
  `Tag` by constructor index.
-/
import Jqawk.Lemmas.PrattSrc

namespace Jqawk.C06
open Jqawk

/-- A statement about all tags follows from its check on the 63 constructors, enumerated by their
    index (`Tag.ofNat`, `Tag.ofNat_ctorIdx` come with the derived `DecidableEq Tag`; the type has no
    `Fintype`-style instance in core). -/
theorem forall_tag {P : Tag → Prop} (h : ∀ n < 63, P (Tag.ofNat n)) (t : Tag) : P t :=
  Tag.ofNat_ctorIdx t ▸ h t.ctorIdx (by cases t <;> decide)

/-- the 15 binary operators whose right operand is an expression
    (`is` takes a type name and is treated separately) -/
def ops : List Tag :=
  [.multiply, .divide, .percent, .plus, .minus, .equalEqual, .bangEqual, .lessThan, .lessEqual,
   .greaterThan, .greaterEqual, .tilde, .bangTilde, .ampAmp, .pipePipe]

def assignOps : List Tag := [.equal, .plusEqual, .minusEqual, .multiplyEqual, .divideEqual]

def prec (t : Tag) : Nat := (lookupRule expectedRuleTable t).prec

/-- an operator token; `pos` tells occurrences of the same operator apart -/
def op (t : Tag) (pos : Nat) : Token := ⟨t, pos, []⟩

/-- identifier tokens (the atoms `a b c d` are distinct identifiers at positions 0 2 4 6) -/
def idTok (name : Bytes) (pos : Nat) : Token := ⟨.ident, pos, name⟩
def ta : Token := idTok b!"a" 0
def tb : Token := idTok b!"b" 2
def tc : Token := idTok b!"c" 4
def td : Token := idTok b!"d" 6
def ea : Expr := .ident ta
def eb : Expr := .ident tb
def ec : Expr := .ident tc
def ed : Expr := .ident td

def bin (o : Token) (x y : Expr) : Expr := .binary x y o

/-- documented grouping of `x o₁ y o₂ z`: the tighter operator groups first, equal levels group
    left to right -/
def group2 (x y z : Expr) (o₁ o₂ : Token) : Expr :=
  if prec o₁.tag ≥ prec o₂.tag then bin o₂ (bin o₁ x y) z else bin o₁ x (bin o₂ y z)

/-- documented grouping of `a o₁ b o₂ c o₃ d` (`ea … ed` are the atoms as expressions): the root
    is the rightmost operator of the lowest level; both sides group by the same rule -/
def group3 (o₁ o₂ o₃ : Token) : Expr :=
  let m := min (prec o₁.tag) (min (prec o₂.tag) (prec o₃.tag))
  if prec o₃.tag = m then bin o₃ (group2 ea eb ec o₁ o₂) ed
  else if prec o₂.tag = m then bin o₂ (bin o₁ ea eb) (bin o₃ ec ed)
  else bin o₁ ea (group2 eb ec ed o₂ o₃)

def parseDump (ts : List Token) : Option Bytes := (parseToks ts).dump

def PairsFor (o₁ : Tag) : Prop :=
  ∀ o₂ ∈ ops, parseDump [ta, op o₁ 1, tb, op o₂ 3, tc] = some (dumpExpr (group2 ea eb ec (op o₁ 1) (op o₂ 3)))

instance (o : Tag) : Decidable (PairsFor o) := by unfold PairsFor; infer_instance

end Jqawk.C06
