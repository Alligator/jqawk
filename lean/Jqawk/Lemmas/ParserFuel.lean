/-
  C13: the parser never runs out of fuel.

  Fuel bounds the DEPTH of the call stack of the 14 mutually recursive parser functions (loops
  are recursive calls too, so every loop iteration costs one unit).  The measure
  `mu ps ls` = number of unread bytes of the lexer state + 1 if the current token is not EOF
  never increases, and strictly decreases whenever a non-EOF token is consumed (`advance`,
  `Lexer.regex`).  Every chain of nested calls of length 3 consumes a token (the worst cycles are
  `statement → block → blockLoop → statement` on `{{{…` and
  `expressionWithPrec → prefixFn → exprList → expressionWithPrec` on `[[[…`), so fuel
  `3 * mu + c_f` suffices for function `f` (`AllTot`), hence `3 * src.length + 3` for a whole
  program — well below `parserFuel src = 8 * src.length + 64`.

  The invariant is phrased with `Tot m ls Q`: the program `m`, run against the real lexer from
  state `ls`, does not end in `.oof`, and if it succeeds with result `a` in lexer state `ls'`
  then `Q a ls'`; moreover a failure leaf never carries the message `"fuel"`, so that a reported
  syntax error is never the out-of-fuel error of newline skipping either (`Tot.run_err`).
-/
import Jqawk.Lemmas.Layout
import Jqawk.Lemmas.NewlineTexts
import Jqawk.Lemmas.ParserCases
import Jqawk.Lemmas.Ite

namespace Jqawk
namespace ParserFuel
open Parser

theorem next_le (s : LexState) (t : Token) (s' : LexState) (h : Lexer.next s = .ok (t, s')) :
    s'.rest.length ≤ s.rest.length := by
  obtain ⟨pre, hp⟩ := Nl.next_suffix s t s' h
  rw [hp]; simp

theorem nextNN_progress (f : Nat) (s : LexState) (nl₀ : Bool) (t : Token) (nl : Bool) (s' : LexState)
    (h : Lexer.nextNN f s nl₀ = .ok (t, nl, s')) :
    s'.rest.length ≤ s.rest.length ∧ (t.tag ≠ .eof → s'.rest.length < s.rest.length) := by
  obtain ⟨⟨pre, hp⟩, _, hlt⟩ := Lexer.nextNN_suffix f s nl₀ t nl s' h
  exact ⟨by rw [hp]; simp, hlt⟩

theorem regex_progress (s : LexState) (t : Token) (s' : LexState) (h : Lexer.regex s = .ok (t, s')) :
    s'.rest.length < s.rest.length ∧ t.tag = .regex := by
  unfold Lexer.regex at h
  split at h
  · cases h
  · rename_i body r' hsc
    simp only [Except.ok.injEq, Prod.mk.injEq] at h
    obtain ⟨rfl, rfl⟩ := h
    obtain ⟨hb, _⟩ := (Lexer.scanTo_some_iff 47 s.rest body r').mp hsc
    refine ⟨?_, rfl⟩
    dsimp only
    rw [hb]; simp; omega

theorem nextNN_error_msg (f : Nat) (s : LexState) (nl : Bool) (e : SynErr) (hf : s.rest.length < f)
    (h : Lexer.nextNN f s nl = .error e) : e.msg ≠ "fuel" := by
  obtain ⟨s₁, h₁⟩ := Lexer.nextNN_error f s nl e hf h
  obtain ⟨_, _, _, _, h2⟩ := Prov.next_error_eq s₁ e h₁
  rcases h2 with rfl | ⟨_, _, rfl⟩ <;> (dsimp only; decide)

/-- the fuel `PM.run` gives to newline skipping always suffices: the answer is never the model's
    out-of-fuel error of `nextNN` -/
theorem nextNN_never_fuel (f : Nat) (s : LexState) (nl : Bool) (hf : s.rest.length < f) :
    Lexer.nextNN f s nl ≠ .error ⟨0, "fuel"⟩ :=
  fun h => nextNN_error_msg f s nl _ hf h rfl

theorem regex_error_msg (s : LexState) (e : SynErr) (h : Lexer.regex s = .error e) :
    e.msg ≠ "fuel" := by
  unfold Lexer.regex at h
  split at h
  · injection h with h; subst h; dsimp only; decide
  · cases h

def mu (ps : PS) (ls : LexState) : Nat := ls.rest.length + (if ps.cur.tag = .eof then 0 else 1)

def Tot {α : Type} : PM α → LexState → (α → LexState → Prop) → Prop
  | .pure a, ls, Q => Q a ls
  | .fail e, _, _ => e.msg ≠ "fuel"
  | .oof, _, _ => False
  | .next k, ls, Q =>
    match Lexer.nextNN (ls.rest.length + 1) ls false with
    | .error _ => True
    | .ok (t, nl, ls') => Tot (k t nl) ls' Q
  | .regex k, ls, Q =>
    match Lexer.regex ls with
    | .error _ => True
    | .ok (t, ls') => Tot (k t) ls' Q

variable {α β : Type}

theorem Tot.mono {Q Q' : α → LexState → Prop} {m : PM α} {ls : LexState} (h : Tot m ls Q)
    (hq : ∀ a ls', Q a ls' → Q' a ls') : Tot m ls Q' := by
  induction m generalizing ls with
  | pure a => exact hq _ _ h
  | fail e => exact h
  | oof => exact h
  | next k ih =>
    simp only [Tot] at h ⊢
    split
    · trivial
    · rename_i t nl ls' heq
      rw [heq] at h
      exact ih _ _ h
  | regex k ih =>
    simp only [Tot] at h ⊢
    split
    · trivial
    · rename_i t ls' heq
      rw [heq] at h
      exact ih _ h

theorem Tot.bind {Q : β → LexState → Prop} {m : PM α} {f : α → PM β} {ls : LexState}
    (h : Tot m ls (fun a ls' => Tot (f a) ls' Q)) : Tot (m.bind f) ls Q := by
  induction m generalizing ls with
  | pure a => exact h
  | fail e => exact h
  | oof => exact h
  | next k ih =>
    simp only [PM.bind, Tot] at h ⊢
    split
    · trivial
    · rename_i t nl ls' heq
      rw [heq] at h
      exact ih _ _ h
  | regex k ih =>
    simp only [PM.bind, Tot] at h ⊢
    split
    · trivial
    · rename_i t ls' heq
      rw [heq] at h
      exact ih _ h

theorem Tot.run_ne_oof {Q : α → LexState → Prop} {m : PM α} {ls : LexState} (h : Tot m ls Q) :
    m.run ls ≠ .oof := by
  induction m generalizing ls with
  | pure a => intro e; cases e
  | fail e => intro e; cases e
  | oof => exact absurd h (by simp [Tot])
  | next k ih =>
    simp only [Tot] at h
    simp only [PM.run]
    split
    · intro e; cases e
    · rename_i t nl ls' heq
      rw [heq] at h
      exact ih _ _ h
  | regex k ih =>
    simp only [Tot] at h
    simp only [PM.run]
    split
    · intro e; cases e
    · rename_i t ls' heq
      rw [heq] at h
      exact ih _ h

theorem Tot.run_err {Q : α → LexState → Prop} {m : PM α} {ls : LexState} (h : Tot m ls Q)
    {e : SynErr} (hr : m.run ls = .syntaxErr e) : e.msg ≠ "fuel" := by
  induction m generalizing ls with
  | pure a => cases hr
  | fail e' => simp only [PM.run, ParseRes.syntaxErr.injEq] at hr; subst hr; exact h
  | oof => cases hr
  | next k ih =>
    simp only [Tot] at h
    simp only [PM.run] at hr
    split at hr
    · rename_i e' heq
      simp only [ParseRes.syntaxErr.injEq] at hr; subst hr
      exact nextNN_error_msg _ _ _ _ (Nat.lt_succ_self _) heq
    · rename_i t nl ls' heq
      rw [heq] at h
      exact ih _ _ h hr
  | regex k ih =>
    simp only [Tot] at h
    simp only [PM.run] at hr
    split at hr
    · rename_i e' heq
      simp only [ParseRes.syntaxErr.injEq] at hr; subst hr
      exact regex_error_msg _ _ heq
    · rename_i t ls' heq
      rw [heq] at h
      exact ih _ h hr

/-! One rule per action, each for the action followed by the rest of the program (`act >>= f`); the
  rest is proved for the state the action leaves, of which only the measure is known.  The `Lt`
  rules record the strict decrease; they apply when the token consumed is known not to be EOF. -/

namespace Tot
variable {Q : β × PS → LexState → Prop} {f : α → P β} {ps : PS} {ls : LexState}

theorem seq {m : P α} (h : Tot (m ps) ls (fun r ls' => Tot (f r.1 r.2) ls' Q)) :
    Tot ((m >>= f) ps) ls Q := by
  show Tot ((m ps).bind _) ls Q
  exact Tot.bind h

theorem ret {Q : α × PS → LexState → Prop} {a : α} (h : Q (a, ps) ls) :
    Tot ((pure a : P α) ps) ls Q := h

theorem retLe {a : α} {B : Nat} (h : mu ps ls ≤ B := by omega) :
    Tot ((pure a : P α) ps) ls (fun r ls' => mu r.2 ls' ≤ B) := h

theorem retLt {a : α} {B : Nat} (h : mu ps ls + 1 ≤ B := by omega) :
    Tot ((pure a : P α) ps) ls (fun r ls' => mu r.2 ls' + 1 ≤ B) := h

theorem failed {Q : α × PS → LexState → Prop} {pos : Nat} {msg : String}
    (hmsg : msg ≠ "fuel" := by decide) : Tot ((Parser.fail pos msg : P α) ps) ls Q := hmsg

theorem ite {Q : α × PS → LexState → Prop} {c : Prop} [Decidable c] {a b : P α}
    (ha : c → Tot (a ps) ls Q) (hb : ¬c → Tot (b ps) ls Q) :
    Tot ((if c then a else b) ps) ls Q :=
  ite_elim (P := fun m : P α => Tot (m ps) ls Q) ha hb

/-- `C` is the fuel condition of the call; like the arithmetic of the leaves it is an auto-param
    closed by `omega` -/
theorem callLe {m : P α} {C : Prop} (h : C → Tot (m ps) ls (fun r ls' => mu r.2 ls' ≤ mu ps ls))
    (k : ∀ {a ps' ls'}, mu ps' ls' ≤ mu ps ls → Tot (f a ps') ls' Q) (hC : C := by omega) :
    Tot ((m >>= f) ps) ls Q :=
  seq ((h hC).mono fun _ _ hr => k hr)

theorem callLt {m : P α} {C : Prop}
    (h : C → Tot (m ps) ls (fun r ls' => mu r.2 ls' + 1 ≤ mu ps ls))
    (k : ∀ {a ps' ls'}, mu ps' ls' + 1 ≤ mu ps ls → Tot (f a ps') ls' Q) (hC : C := by omega) :
    Tot ((m >>= f) ps) ls Q :=
  seq ((h hC).mono fun _ _ hr => k hr)

theorem tail {Q Q' : α × PS → LexState → Prop} {m : PM (α × PS)} {C : Prop}
    (h : C → Tot m ls Q') (hq : ∀ r ls', Q' r ls' → Q r ls' := by intros; omega)
    (hC : C := by omega) : Tot m ls Q :=
  (h hC).mono hq

theorem get {f : PS → P β} (h : Tot (f ps ps) ls Q) : Tot ((get >>= f) ps) ls Q := seq h

theorem modify {f : Unit → P β} (g : PS → PS) (h : ∀ {ps'}, mu ps' ls = mu ps ls → Tot (f () ps') ls Q)
    (hg : (g ps).cur = ps.cur := by rfl) : Tot ((modify g >>= f) ps) ls Q :=
  seq (h (by unfold mu; rw [hg]))

theorem setDidEnd {f : Unit → P β} (b : Bool)
    (h : ∀ {ps'}, mu ps' ls = mu ps ls → Tot (f () ps') ls Q) :
    Tot ((setDidEnd b >>= f) ps) ls Q := seq (h rfl)

theorem curTag {f : Tag → P β} (h : Tot (f ps.cur.tag ps) ls Q) :
    Tot ((curTag >>= f) ps) ls Q := seq h

theorem atEnd {f : Bool → P β} (h : Tot (f (ps.cur.tag == .eof) ps) ls Q) :
    Tot ((atEnd >>= f) ps) ls Q := seq h

theorem advance_rule {Q : Unit × PS → LexState → Prop}
    (h : ∀ ps' ls', mu ps' ls' + (if ps.cur.tag = .eof then 0 else 1) ≤ mu ps ls → Q ((), ps') ls') :
    Tot (advance ps) ls Q := by
  unfold advance
  simp only [Tot]
  split
  · trivial
  · rename_i t nl ls' heq
    obtain ⟨h1, h2⟩ := nextNN_progress _ _ _ _ _ _ heq
    apply h
    unfold mu
    dsimp only
    by_cases ht : t.tag = .eof
    · rw [if_pos ht]; omega
    · rw [if_neg ht]; have := h2 ht; omega

theorem advanceLe {f : Unit → P β}
    (h : ∀ {ps' ls'}, mu ps' ls' ≤ mu ps ls → Tot (f () ps') ls' Q) :
    Tot ((advance >>= f) ps) ls Q :=
  seq (advance_rule fun _ _ hle => h (Nat.le_of_add_right_le hle))

theorem advanceLt {f : Unit → P β} (hc : ps.cur.tag ≠ .eof)
    (h : ∀ {ps' ls'}, mu ps' ls' + 1 ≤ mu ps ls → Tot (f () ps') ls' Q) :
    Tot ((advance >>= f) ps) ls Q :=
  seq (advance_rule fun _ _ hle => h (by rwa [if_neg hc] at hle))

theorem consume_rule {f : Unit → P β} (tag : Tag)
    (h : ps.cur.tag = tag → Tot ((advance >>= f) ps) ls Q) : Tot ((consume tag >>= f) ps) ls Q := by
  unfold consume
  show Tot (((if (ps.cur.tag == tag) = true then advance else Parser.fail ps.cur.pos "expected token")
    >>= f) ps) ls Q
  by_cases hc : ps.cur.tag = tag
  · rw [if_pos (by simpa using hc)]; exact h hc
  · rw [if_neg (by simpa using hc)]; exact (by decide : "expected token" ≠ "fuel")

theorem consumeLe {f : Unit → P β} (tag : Tag)
    (h : ∀ {ps' ls'}, ps.cur.tag = tag → mu ps' ls' ≤ mu ps ls → Tot (f () ps') ls' Q) :
    Tot ((consume tag >>= f) ps) ls Q :=
  consume_rule tag fun hc => advanceLe (h hc)

theorem consumeLt {f : Unit → P β} (tag : Tag)
    (h : ∀ {ps' ls'}, ps.cur.tag = tag → mu ps' ls' + 1 ≤ mu ps ls → Tot (f () ps') ls' Q)
    (htag : tag ≠ .eof := by decide) : Tot ((consume tag >>= f) ps) ls Q :=
  consume_rule tag fun hc => advanceLt (hc ▸ htag) (h hc)

theorem consumeOfLt {f : Unit → P β} (tags : List Tag)
    (h : ∀ {ps' ls'}, ps.cur.tag ∈ tags → mu ps' ls' + 1 ≤ mu ps ls → Tot (f () ps') ls' Q)
    (htags : Tag.eof ∉ tags := by decide) : Tot ((consumeOf tags >>= f) ps) ls Q := by
  unfold consumeOf
  show Tot (((if tags.contains ps.cur.tag = true then advance
    else Parser.fail ps.cur.pos "expected one of") >>= f) ps) ls Q
  by_cases hc : ps.cur.tag ∈ tags
  · rw [if_pos (by simpa using hc)]
    exact advanceLt (by intro e; rw [e] at hc; exact htags hc) (h hc)
  · rw [if_neg (by simpa using hc)]; exact (by decide : "expected one of" ≠ "fuel")

theorem consumeIgnore {f : Unit → P β} (tag : Tag)
    (h : ∀ {ps' ls'}, mu ps' ls' ≤ mu ps ls → Tot (f () ps') ls' Q) :
    Tot ((consumeIgnore tag >>= f) ps) ls Q := by
  unfold Parser.consumeIgnore
  show Tot (((if (ps.cur.tag == tag) = true then advance else pure ()) >>= f) ps) ls Q
  split
  · exact advanceLe h
  · exact seq (h (Nat.le_refl _))

theorem atStatementEnd {f : Bool → P β}
    (h : ∀ {b ps' ls'}, mu ps' ls' ≤ mu ps ls → Tot (f b ps') ls' Q) :
    Tot ((atStatementEnd >>= f) ps) ls Q := by
  refine seq ?_
  rw [Nl.ase_eval]
  split
  · exact h (Nat.le_refl _)
  · split
    · exact h (Nat.le_refl _)
    · split
      · exact Tot.bind (advance_rule fun _ _ hle => h (Nat.le_of_add_right_le hle))
      · exact h (Nat.le_refl _)

/-- `regex` prefix: `Lexer.Regex()` consumes at least the closing `/`, and the `advance` that
    follows consumes the regex token -/
theorem regexPrefix {Q : Expr × PS → LexState → Prop}
    (h : ∀ {e ps' ls'}, mu ps' ls' + 1 ≤ mu ps ls → Q (e, ps') ls') : Tot (regexPrefix ps) ls Q := by
  unfold Parser.regexPrefix
  simp only [Tot]
  split
  · trivial
  · rename_i tok ls₁ heq
    obtain ⟨h1, h2⟩ := regex_progress _ _ _ heq
    refine advanceLt (by dsimp only; rw [h2]; decide) fun hlt => h ?_
    have : mu { ps with cur := tok } ls₁ ≤ mu ps ls := by
      unfold mu; dsimp only; rw [h2]; simp only [reduceCtorEq, if_false]; omega
    omega

end Tot

/-- the requirement on the rule table: the EOF token has neither a prefix nor an infix rule
    (otherwise the Go parser itself could loop at the end of the text: `advance` at EOF yields
    EOF again) -/
def EofRule (tbl : RuleTable) : Prop :=
  (lookupRule tbl .eof).pre = none ∧ (lookupRule tbl .eof).inf = none

instance (tbl : RuleTable) : Decidable (EofRule tbl) := by unfold EofRule; infer_instance

/-- with fuel `n ≥ 3 * mu + c_f`, function `f` is not out of fuel and does not increase the
    measure (`+ 1`: it consumes at least one token) -/
structure AllTot (tbl : RuleTable) (n : Nat) : Prop where
  statement : ∀ ps ls, 3 * mu ps ls + 3 ≤ n →
    Tot (statement tbl n ps) ls (fun r ls' => mu r.2 ls' + 1 ≤ mu ps ls)
  loopBody : ∀ ps ls, 3 * mu ps ls + 4 ≤ n →
    Tot (loopBody tbl n ps) ls (fun r ls' => mu r.2 ls' + 1 ≤ mu ps ls)
  block : ∀ ps ls, 3 * mu ps ls + 2 ≤ n →
    Tot (block tbl n ps) ls (fun r ls' => mu r.2 ls' + 1 ≤ mu ps ls)
  blockLoop : ∀ acc ps ls, 3 * mu ps ls + 4 ≤ n →
    Tot (blockLoop tbl n acc ps) ls (fun r ls' => mu r.2 ls' ≤ mu ps ls)
  printStatement : ∀ ps ls, 3 * mu ps ls + 2 ≤ n →
    Tot (printStatement tbl n ps) ls (fun r ls' => mu r.2 ls' + 1 ≤ mu ps ls)
  printLoop : ∀ acc ps ls, 3 * mu ps ls + 3 ≤ n →
    Tot (printLoop tbl n acc ps) ls (fun r ls' => mu r.2 ls' ≤ mu ps ls)
  expressionWithPrec : ∀ prec ps ls, 3 * mu ps ls + 2 ≤ n →
    Tot (expressionWithPrec tbl n prec ps) ls (fun r ls' => mu r.2 ls' + 1 ≤ mu ps ls)
  infixLoop : ∀ prec lhs ps ls, 3 * mu ps ls + 2 ≤ n →
    Tot (infixLoop tbl n prec lhs ps) ls (fun r ls' => mu r.2 ls' ≤ mu ps ls)
  prefixFn : ∀ pk ps ls, ps.cur.tag ≠ .eof → 3 * mu ps ls + 1 ≤ n →
    Tot (prefixFn tbl n pk ps) ls (fun r ls' => mu r.2 ls' + 1 ≤ mu ps ls)
  exprList : ∀ endTag acc ps ls, 3 * mu ps ls + 3 ≤ n →
    Tot (exprList tbl n endTag acc ps) ls (fun r ls' => mu r.2 ls' ≤ mu ps ls)
  objectLoop : ∀ acc ps ls, 3 * mu ps ls + 3 ≤ n →
    Tot (objectLoop tbl n acc ps) ls (fun r ls' => mu r.2 ls' ≤ mu ps ls)
  matchCases : ∀ acc ps ls, 3 * mu ps ls + 4 ≤ n →
    Tot (matchCases tbl n acc ps) ls (fun r ls' => mu r.2 ls' ≤ mu ps ls)
  matchPats : ∀ acc ps ls, 3 * mu ps ls + 3 ≤ n →
    Tot (matchPats tbl n acc ps) ls (fun r ls' => mu r.2 ls' ≤ mu ps ls)
  infixFn : ∀ ik lhs ps ls, ps.cur.tag ≠ .eof → 3 * mu ps ls + 1 ≤ n →
    Tot (infixFn tbl n ik lhs ps) ls (fun r ls' => mu r.2 ls' + 1 ≤ mu ps ls)

variable {tbl : RuleTable} {n : Nat}

/-! The proofs follow the program text, one rule per action; every fuel side condition and every
    leaf is linear arithmetic over the measure facts collected on the way. -/

theorem prefixFn_step (ih : AllTot tbl n) (pk : PrefixKind) (ps : PS) (ls : LexState)
    (hcur : ps.cur.tag ≠ .eof) (hn : 3 * mu ps ls + 1 ≤ n + 1) :
    Tot (prefixFn tbl (n + 1) pk ps) ls (fun r ls' => mu r.2 ls' + 1 ≤ mu ps ls) := by
  unfold prefixFn
  cases pk
  case literal => exact .advanceLt hcur fun h => .get <| .retLt h
  case regex => exact .regexPrefix fun h => h
  case identifier =>
    exact .get <| .ite (fun _ => .advanceLt hcur fun h => .get <| .retLt h) fun _ => .failed
  case array =>
    exact .consumeLt _ fun _ _ => .get <| .callLe (ih.exprList _ _ _ _) fun _ =>
      .retLt
  case object =>
    exact .consumeLt _ fun _ _ => .get <| .callLe (ih.objectLoop _ _ _) fun _ =>
      .consumeLt _ fun _ _ => .retLt
  case group =>
    exact .consumeLt _ fun _ _ => .callLt (ih.expressionWithPrec _ _ _) fun _ =>
      .consumeLt _ fun _ _ => .retLt
  case unary =>
    exact .advanceLt hcur fun _ => .get <| .callLt (ih.expressionWithPrec _ _ _) fun _ =>
      .ite (fun _ => .failed) fun _ => .retLt
  case match_ =>
    exact .consumeLt _ fun _ _ => .get <| .consumeLt _ fun _ _ =>
      .callLt (ih.expressionWithPrec _ _ _) fun _ => .consumeLt _ fun _ _ =>
      .consumeLt _ fun _ _ => .callLe (ih.matchCases _ _ _) fun _ =>
      .consumeLt _ fun _ _ => .setDidEnd _ fun _ => .retLt

theorem infixFn_step (ih : AllTot tbl n) (ik : InfixKind) (lhs : Expr) (ps : PS) (ls : LexState)
    (hcur : ps.cur.tag ≠ .eof) (hn : 3 * mu ps ls + 1 ≤ n + 1) :
    Tot (infixFn tbl (n + 1) ik lhs ps) ls (fun r ls' => mu r.2 ls' + 1 ≤ mu ps ls) := by
  unfold infixFn
  cases ik
  case computedMember =>
    exact .get <| .consumeLt _ fun _ _ => .callLt (ih.expressionWithPrec _ _ _) fun _ =>
      .consumeLt _ fun _ _ => .retLt
  case member =>
    exact .consumeLt _ fun _ _ => .get <| .consumeLt _ fun _ _ => .get <| .retLt
  case call =>
    exact .consumeLt _ fun _ _ => .callLe (ih.exprList _ _ _ _) fun _ => .retLt
  case postfixOp =>
    exact .ite (fun _ => .failed) fun _ => .advanceLt hcur fun h => .get <| .retLt h
  case binary =>
    exact .advanceLt hcur fun _ => .get <| .callLt (ih.expressionWithPrec _ _ _) fun _ =>
      .retLt
  case is =>
    exact .consumeLt _ fun _ _ => .get <| .consumeOfLt _ fun _ _ => .get <| .retLt
  case assign =>
    exact .ite (fun _ => .failed) fun _ => .advanceLt hcur fun _ => .get <|
      .callLt (ih.expressionWithPrec _ _ _) fun _ =>
      .ite (fun _ => .retLt) fun _ => .retLt

theorem statement_step (ih : AllTot tbl n) (ps : PS) (ls : LexState) (hn : 3 * mu ps ls + 3 ≤ n + 1) :
    Tot (statement tbl (n + 1) ps) ls (fun r ls' => mu r.2 ls' + 1 ≤ mu ps ls) := by
  unfold statement
  refine .setDidEnd _ fun {s} h₀ => .get ?_
  generalize s.cur.tag = tg
  split
  · exact .tail (ih.printStatement _ _)
  · exact .ite (fun _ => .failed) fun _ => .consumeLt _ fun _ _ => .atStatementEnd fun _ =>
      .ite (fun _ => .callLt (ih.expressionWithPrec _ _ _) fun _ => .retLt)
        fun _ => .setDidEnd _ fun _ => .retLt
  · exact .consumeLt _ fun _ _ => .consumeLt _ fun _ _ =>
      .callLt (ih.expressionWithPrec _ _ _) fun _ => .consumeLt _ fun _ _ =>
      .callLt (ih.statement _ _) fun _ => .curTag <| .ite
        (fun _ => .consumeLt _ fun _ _ => .callLt (ih.statement _ _) fun _ =>
          .retLt)
        fun _ => .retLt
  · exact .consumeLt _ fun _ _ => .consumeLt _ fun _ _ =>
      .callLt (ih.expressionWithPrec _ _ _) fun _ => .consumeLt _ fun _ _ =>
      .callLt (ih.loopBody _ _) fun _ => .retLt
  · -- the `.for_` arm: `for ( pre`, then one of the two loop forms
    refine .consumeLt _ fun _ _ => .consumeLt _ fun _ _ =>
      .callLt (ih.expressionWithPrec _ _ _) fun {_ ps₁ ls₁} _ => .curTag <|
      Parser.statement.match_1_cases (C := fun m : P Stmt => Tot (m ps₁) ls₁ _) (fun id _ _ => ?_) ?_
    · exact .callLe
        (fun _ => .ite (fun _ => .consumeLt _ fun _ _ => .consumeLt _ fun _ _ => .get <| .retLe)
          fun _ => .retLe)
        (fun _ => .consumeIgnore _ fun _ => .callLt (ih.expressionWithPrec _ _ _) fun _ =>
          .consumeLt _ fun _ _ => .callLt (ih.loopBody _ _) fun _ => .retLt) trivial
    · exact .consumeLt _ fun _ _ => .callLt (ih.expressionWithPrec _ _ _) fun _ =>
        .consumeLt _ fun _ _ => .callLt (ih.expressionWithPrec _ _ _) fun _ =>
        .consumeLt _ fun _ _ => .callLt (ih.loopBody _ _) fun _ => .retLt
  · exact .tail (ih.block _ _)
  · exact .ite (fun _ => .failed) fun _ => .consumeLt _ fun _ _ => .get <| .retLt
  · exact .ite (fun _ => .failed) fun _ => .consumeLt _ fun _ _ => .get <| .retLt
  · exact .consumeLt _ fun _ _ => .get <| .retLt
  · exact .consumeLt _ fun _ _ => .get <| .retLt
  · exact .callLt (ih.expressionWithPrec _ _ _) fun _ => .retLt

theorem allTot (hT : EofRule tbl) : ∀ n, AllTot tbl n
  | 0 => by constructor <;> intros <;> omega
  | n + 1 =>
    have ih := allTot hT n
    { statement := statement_step ih
      loopBody := fun ps ls hn => by
        unfold loopBody
        exact .get <| .modify _ fun _ => .callLt (ih.statement _ _) fun _ =>
          .modify _ fun _ => .retLt
      block := fun ps ls hn => by
        unfold block
        exact .consumeLt _ fun _ _ => .get <| .callLe (ih.blockLoop _ _ _) fun _ =>
          .consumeLt _ fun _ _ => .setDidEnd _ fun _ => .retLt
      blockLoop := fun acc ps ls hn => by
        unfold blockLoop
        exact .curTag <| .ite (fun _ => .retLe) fun _ =>
          .callLt (ih.statement _ _) fun _ => .atStatementEnd fun _ =>
          .ite (fun _ => .get .failed) fun _ =>
          .tail (ih.blockLoop _ _ _)
      printStatement := fun ps ls hn => by
        unfold printStatement
        exact .consumeLt _ fun _ _ => .get <| .callLe (ih.printLoop _ _ _) fun {a _ _} _ => by
          cases a
          exact .atStatementEnd fun _ =>
            .ite (fun _ => .setDidEnd _ fun _ => .retLt) fun _ => .retLt
      printLoop := fun acc ps ls hn => by
        unfold printLoop
        exact .atStatementEnd fun _ => .ite (fun _ => .retLe) fun _ =>
          .callLt (ih.expressionWithPrec _ _ _) fun _ => .curTag <| .ite
            (fun _ => .consumeLt _ fun _ _ => .tail (ih.printLoop _ _ _))
            fun _ => .retLe
      expressionWithPrec := fun prec ps ls hn => by
        unfold expressionWithPrec
        refine .get ?_
        generalize hpre : (lookupRule tbl ps.cur.tag).pre = pre
        cases pre with
        | none => exact .failed
        | some pk =>
          have hcur : ps.cur.tag ≠ .eof := fun e => by rw [e, hT.1] at hpre; cases hpre
          exact .callLt (ih.prefixFn _ _ _ hcur) fun _ =>
            .tail (ih.infixLoop _ _ _ _)
      infixLoop := fun prec lhs ps ls hn => by
        unfold infixLoop
        refine .get <| .ite (fun _ => ?_) fun _ => .retLe
        generalize hinf : (lookupRule tbl ps.cur.tag).inf = inf
        cases inf with
        | none => exact .failed
        | some ik =>
          have hcur : ps.cur.tag ≠ .eof := fun e => by rw [e, hT.2] at hinf; cases hinf
          exact .callLt (ih.infixFn _ _ _ _ hcur) fun _ =>
            .tail (ih.infixLoop _ _ _ _)
      prefixFn := prefixFn_step ih
      exprList := fun endTag acc ps ls hn => by
        unfold exprList
        exact .curTag <| .ite (fun _ => .consumeLe _ fun _ _ => .retLe) fun _ =>
          .callLt (ih.expressionWithPrec _ _ _) fun _ => .curTag <| .ite
            (fun _ => .consumeLt _ fun _ _ =>
              .tail (ih.exprList _ _ _ _))
            fun _ => .consumeLe _ fun _ _ => .retLe
      objectLoop := fun acc ps ls hn => by
        unfold objectLoop
        exact .curTag <| .ite (fun _ => .retLe) fun _ => .consumeOfLt _ fun _ _ =>
          .get <| .consumeLt _ fun _ _ => .callLt (ih.expressionWithPrec _ _ _) fun _ =>
          .curTag <| .ite
            (fun _ => .consumeLt _ fun _ _ =>
              .tail (ih.objectLoop _ _ _))
            fun _ => .tail (ih.objectLoop _ _ _)
      matchCases := fun acc ps ls hn => by
        unfold matchCases
        exact .curTag <| .ite (fun _ => .retLe) fun _ =>
          .callLe (ih.matchPats _ _ _) fun _ => .consumeLt _ fun _ _ => .curTag <|
          -- the body of a case is a statement or an expression
          .callLt
            (fun _ => .ite (fun _ => ih.statement _ _ (by omega))
              fun _ => .callLt (ih.expressionWithPrec _ _ _) fun h => .retLt h)
            (fun _ => .curTag <| .ite (fun _ => .advanceLe fun _ => .tail (ih.matchCases _ _ _))
              fun _ => .tail (ih.matchCases _ _ _)) trivial
      matchPats := fun acc ps ls hn => by
        unfold matchPats
        exact .atEnd <| .ite (fun _ => .retLe) fun _ =>
          .callLt (ih.expressionWithPrec _ _ _) fun _ => .curTag <| .ite
            (fun _ => .retLe)
            fun _ => .consumeLt _ fun _ _ =>
              .tail (ih.matchPats _ _ _)
      infixFn := infixFn_step ih }

theorem parseRule_tot (ih : AllTot tbl n) (ps : PS) (ls : LexState)
    (hn : 3 * mu ps ls + 2 ≤ n) :
    Tot (parseRule tbl n ps) ls (fun r ls' => mu r.2 ls' + 1 ≤ mu ps ls) := by
  -- the body: a block if the current token is `{` (as it is for a rule without pattern)
  have rest : ∀ {kind pat ps' ls'}, mu ps' ls' ≤ mu ps ls →
      (mu ps' ls' + 1 ≤ mu ps ls ∨ ps'.cur.tag = .lcurly) → Tot ((do
        if (← curTag) == .lcurly then
          let body ← block tbl n
          return ⟨kind, pat, body⟩
        else
          return ⟨kind, pat, .print Token.zero []⟩ : P Rule) ps') ls'
        (fun r ls'' => mu r.2 ls'' + 1 ≤ mu ps ls) :=
    fun h₁ h₂ => .curTag <| .ite (fun _ => .callLt (ih.block _ _) fun _ => .retLt)
      fun hne => .retLt (h₂.resolve_right fun e => hne (by rw [e]; rfl))
  unfold parseRule
  refine .curTag <| .seq ?_
  generalize htg : ps.cur.tag = tg
  split
  iterate 4 exact .consumeLt _ fun _ h => .ret (rest (Nat.le_of_succ_le h) (.inl h))
  · exact .ret (rest (Nat.le_refl _) (.inr htg))
  · exact .callLt (ih.expressionWithPrec _ _ _) fun h => .ret (rest (Nat.le_of_succ_le h) (.inl h))

theorem funcArgs_tot : ∀ (n : Nat) (acc : List Bytes) (ps : PS) (ls : LexState),
    mu ps ls + 1 ≤ n → Tot (funcArgs n acc ps) ls (fun r ls' => mu r.2 ls' ≤ mu ps ls)
  | 0, _, _, _, hn => by omega
  | n + 1, acc, ps, ls, hn => by
    unfold funcArgs
    exact .curTag <| .ite (fun _ => .retLe) fun _ => .consumeLt _ fun _ _ => .get <|
      .curTag <| .ite
        (fun _ => .consumeLt _ fun _ _ => .tail (funcArgs_tot n _ _ _))
        fun _ => .tail (funcArgs_tot n _ _ _)

theorem parseFunction_tot (ih : AllTot tbl n) (ps : PS) (ls : LexState)
    (hn : 3 * mu ps ls + 2 ≤ n) :
    Tot (parseFunction tbl n ps) ls (fun r ls' => mu r.2 ls' + 1 ≤ mu ps ls) := by
  unfold parseFunction
  exact .get <| .modify _ fun _ => .consumeLt _ fun _ _ => .consumeLt _ fun _ _ => .get <|
    .consumeLt _ fun _ _ => .callLe (funcArgs_tot _ _ _ _) fun _ =>
    .consumeLt _ fun _ _ => .callLt (ih.block _ _) fun _ => .modify _ fun _ =>
    .retLt

theorem parseTop_tot (hT : EofRule tbl) : ∀ (n : Nat) (rules : List Rule) (fns : List FuncDef)
    (ps : PS) (ls : LexState), 3 * mu ps ls + 3 ≤ n →
    Tot (parseTop tbl n rules fns ps) ls (fun r ls' => mu r.2 ls' ≤ mu ps ls)
  | 0, _, _, _, _, hn => by omega
  | n + 1, rules, fns, ps, ls, hn => by
    have ih := allTot hT n
    unfold parseTop
    exact .atEnd <| .ite (fun _ => .retLe) fun _ => .curTag <| .ite
      (fun _ => .callLt (parseFunction_tot ih _ _) fun _ =>
        .tail (parseTop_tot hT n _ _ _ _))
      fun _ => .callLt (parseRule_tot ih _ _) fun _ =>
        .tail (parseTop_tot hT n _ _ _ _)

theorem mu_init (ls : LexState) : mu PS.init ls = ls.rest.length := rfl

theorem parseProgram_tot (hT : EofRule tbl) (n : Nat) (ls : LexState)
    (hn : 3 * ls.rest.length + 3 ≤ n) :
    Tot (parseProgram tbl n PS.init) ls (fun _ _ => True) := by
  have h0 := mu_init ls
  unfold parseProgram
  exact .advanceLe fun _ => (parseTop_tot hT _ _ _ _ _ (by omega)).mono fun _ _ _ => trivial

theorem parseExpression_tot (hT : EofRule tbl) (n : Nat) (ls : LexState)
    (hn : 3 * ls.rest.length + 2 ≤ n) :
    Tot (parseExpression tbl n PS.init) ls (fun _ _ => True) := by
  have h0 := mu_init ls
  unfold parseExpression
  exact .advanceLe fun _ => .callLt ((allTot hT n).expressionWithPrec _ _ _) fun _ =>
    .consumeLe _ fun _ _ => .ret trivial

theorem expectedRuleTable_eofRule : EofRule expectedRuleTable := by decide

end ParserFuel
end Jqawk
