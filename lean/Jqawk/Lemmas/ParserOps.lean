/-
  The parser only produces operator nodes the evaluator knows: every unary node of a parsed
  program carries one of `! + - ++ --` (`BlameSites.isUnaryTag`), every binary node one of the
  operators `evalBinary` has a case for (`BlameSites.isBinaryTag`: `&& || is . [ =`, the six
  comparisons, `+ - * / %`, `~ !~`).  So the two "unknown operator" runtime errors are not
  reachable from parsed text.  An instance of `Lemmas/ParserClosed.lean`, like `Lemmas/ParserWF.lean`.
-/
import Jqawk.Lemmas.ParserWF
import Jqawk.Lemmas.EvalNodes

namespace Jqawk
open Parser

def Expr.opKnown : Expr → Bool
  | .unary _ op _ => BlameSites.isUnaryTag op.tag
  | .binary _ _ op => BlameSites.isBinaryTag op.tag
  | _ => true

mutual
def Expr.opsB : Expr → Bool
  | .lit _ => true
  | .ident _ => true
  | .arr _ items => opsEs items
  | .obj _ items => opsKVs items
  | .unary e op p => (Expr.unary e op p).opKnown && e.opsB
  | .binary l r op => (Expr.binary l r op).opKnown && l.opsB && r.opsB
  | .call f args => f.opsB && opsEs args
  | .match_ _ v cases => v.opsB && opsCases cases
def opsEs : List Expr → Bool
  | [] => true
  | e :: es => e.opsB && opsEs es
def opsKVs : List (Bytes × Expr) → Bool
  | [] => true
  | (_, e) :: es => e.opsB && opsKVs es
def opsCases : List MatchCase → Bool
  | [] => true
  | (.mk pats body) :: cs => opsEs pats && body.opsB && opsCases cs
def Stmt.opsB : Stmt → Bool
  | .block _ body => opsSs body
  | .print _ args => opsEs args
  | .expr e => e.opsB
  | .ret none => true
  | .ret (some e) => e.opsB
  | .brk _ => true
  | .cont _ => true
  | .next _ => true
  | .exit _ => true
  | .if_ c b none => c.opsB && b.opsB
  | .if_ c b (some e) => c.opsB && b.opsB && e.opsB
  | .while_ c b => c.opsB && b.opsB
  | .for_ pre c post b => pre.opsB && c.opsB && post.opsB && b.opsB
  | .forIn _ _ iter b => iter.opsB && b.opsB
def opsSs : List Stmt → Bool
  | [] => true
  | s :: ss => s.opsB && opsSs ss
end

def Rule.opsB (r : Rule) : Bool :=
  r.body.opsB && (match r.pattern with | none => true | some e => e.opsB)

def Program.opsB (p : Program) : Bool :=
  p.rules.all Rule.opsB && p.functions.all (fun f => f.body.opsB)

theorem opsEs_iff {l : List Expr} : opsEs l = true ↔ ∀ e ∈ l, e.opsB = true := by
  induction l with
  | nil => simp [opsEs]
  | cons e es ih => simp [opsEs, ih]

theorem opsSs_iff {l : List Stmt} : opsSs l = true ↔ ∀ s ∈ l, s.opsB = true := by
  induction l with
  | nil => simp [opsSs]
  | cons e es ih => simp [opsSs, ih]

theorem opsKVs_iff {l : List (Bytes × Expr)} : opsKVs l = true ↔ ∀ kv ∈ l, kv.2.opsB = true := by
  induction l with
  | nil => simp [opsKVs]
  | cons e es ih => obtain ⟨k, v⟩ := e; simp [opsKVs, ih]

theorem opsCases_iff {l : List MatchCase} :
    opsCases l = true ↔ ∀ c ∈ l, (∀ p ∈ c.1, p.opsB = true) ∧ c.2.opsB = true := by
  induction l with
  | nil => simp [opsCases]
  | cons e es ih => obtain ⟨p, b⟩ := e; simp [opsCases, ih, opsEs_iff]

mutual
theorem Expr.opKnown_of_opsB : ∀ (e : Expr), e.opsB = true → ∀ x ∈ e.subs, x.opKnown = true
  | .lit t, h, x, hx => by
    simp only [Expr.subs, List.mem_singleton] at hx; subst hx; rfl
  | .ident t, _, x, hx => by
    simp only [Expr.subs, List.mem_singleton] at hx; subst hx; rfl
  | .arr t items, h, x, hx => by
    simp only [Expr.subs, List.mem_cons] at hx
    simp only [Expr.opsB] at h
    rcases hx with rfl | hx
    · rfl
    · exact opKnown_of_opsEs items h x hx
  | .obj t items, h, x, hx => by
    simp only [Expr.subs, List.mem_cons] at hx
    simp only [Expr.opsB] at h
    rcases hx with rfl | hx
    · rfl
    · exact opKnown_of_opsKVs items h x hx
  | .unary e op p, h, x, hx => by
    simp only [Expr.subs, List.mem_cons] at hx
    simp only [Expr.opsB, Bool.and_eq_true] at h
    rcases hx with rfl | hx
    · exact h.1
    · exact Expr.opKnown_of_opsB e h.2 x hx
  | .binary l r op, h, x, hx => by
    simp only [Expr.subs, List.mem_cons, List.mem_append] at hx
    simp only [Expr.opsB, Bool.and_eq_true] at h
    rcases hx with rfl | hx | hx
    · exact h.1.1
    · exact Expr.opKnown_of_opsB l h.1.2 x hx
    · exact Expr.opKnown_of_opsB r h.2 x hx
  | .call f args, h, x, hx => by
    simp only [Expr.subs, List.mem_cons, List.mem_append] at hx
    simp only [Expr.opsB, Bool.and_eq_true] at h
    rcases hx with rfl | hx | hx
    · rfl
    · exact Expr.opKnown_of_opsB f h.1 x hx
    · exact opKnown_of_opsEs args h.2 x hx
  | .match_ t v cases, h, x, hx => by
    simp only [Expr.subs, List.mem_cons, List.mem_append] at hx
    simp only [Expr.opsB, Bool.and_eq_true] at h
    rcases hx with rfl | hx | hx
    · rfl
    · exact Expr.opKnown_of_opsB v h.1 x hx
    · exact opKnown_of_opsCases cases h.2 x hx
termination_by structural x => x
theorem opKnown_of_opsEs : ∀ (l : List Expr), opsEs l = true → ∀ x ∈ subsEs l, x.opKnown = true
  | [], _, x, hx => by simp [subsEs] at hx
  | e :: es, h, x, hx => by
    simp only [subsEs, List.mem_append] at hx
    simp only [opsEs, Bool.and_eq_true] at h
    rcases hx with hx | hx
    · exact Expr.opKnown_of_opsB e h.1 x hx
    · exact opKnown_of_opsEs es h.2 x hx
termination_by structural x => x
theorem opKnown_of_opsKVs : ∀ (l : List (Bytes × Expr)), opsKVs l = true →
    ∀ x ∈ subsKVs l, x.opKnown = true
  | [], _, x, hx => by simp [subsKVs] at hx
  | (_, e) :: es, h, x, hx => by
    simp only [subsKVs, List.mem_append] at hx
    simp only [opsKVs, Bool.and_eq_true] at h
    rcases hx with hx | hx
    · exact Expr.opKnown_of_opsB e h.1 x hx
    · exact opKnown_of_opsKVs es h.2 x hx
termination_by structural x => x
theorem opKnown_of_opsCases : ∀ (l : List MatchCase), opsCases l = true →
    ∀ x ∈ subsCases l, x.opKnown = true
  | [], _, x, hx => by simp [subsCases] at hx
  | (.mk pats body) :: cs, h, x, hx => by
    simp only [subsCases, List.mem_append] at hx
    simp only [opsCases, Bool.and_eq_true] at h
    rcases hx with (hx | hx) | hx
    · exact opKnown_of_opsEs pats h.1.1 x hx
    · exact Stmt.opKnown_of_opsB body h.1.2 x hx
    · exact opKnown_of_opsCases cs h.2 x hx
termination_by structural x => x
theorem Stmt.opKnown_of_opsB : ∀ (s : Stmt), s.opsB = true → ∀ x ∈ s.subs, x.opKnown = true
  | .block _ body, h, x, hx => by
    simp only [Stmt.subs] at hx; simp only [Stmt.opsB] at h
    exact opKnown_of_opsSs body h x hx
  | .print _ args, h, x, hx => by
    simp only [Stmt.subs] at hx; simp only [Stmt.opsB] at h
    exact opKnown_of_opsEs args h x hx
  | .expr e, h, x, hx => by
    simp only [Stmt.subs] at hx; simp only [Stmt.opsB] at h
    exact Expr.opKnown_of_opsB e h x hx
  | .ret none, _, x, hx => by simp [Stmt.subs] at hx
  | .ret (some e), h, x, hx => by
    simp only [Stmt.subs] at hx; simp only [Stmt.opsB] at h
    exact Expr.opKnown_of_opsB e h x hx
  | .brk _, _, x, hx => by simp [Stmt.subs] at hx
  | .cont _, _, x, hx => by simp [Stmt.subs] at hx
  | .next _, _, x, hx => by simp [Stmt.subs] at hx
  | .exit _, _, x, hx => by simp [Stmt.subs] at hx
  | .if_ c b none, h, x, hx => by
    simp only [Stmt.subs, List.mem_append] at hx
    simp only [Stmt.opsB, Bool.and_eq_true] at h
    rcases hx with hx | hx
    · exact Expr.opKnown_of_opsB c h.1 x hx
    · exact Stmt.opKnown_of_opsB b h.2 x hx
  | .if_ c b (some e), h, x, hx => by
    simp only [Stmt.subs, List.mem_append] at hx
    simp only [Stmt.opsB, Bool.and_eq_true] at h
    rcases hx with (hx | hx) | hx
    · exact Expr.opKnown_of_opsB c h.1.1 x hx
    · exact Stmt.opKnown_of_opsB b h.1.2 x hx
    · exact Stmt.opKnown_of_opsB e h.2 x hx
  | .while_ c b, h, x, hx => by
    simp only [Stmt.subs, List.mem_append] at hx
    simp only [Stmt.opsB, Bool.and_eq_true] at h
    rcases hx with hx | hx
    · exact Expr.opKnown_of_opsB c h.1 x hx
    · exact Stmt.opKnown_of_opsB b h.2 x hx
  | .for_ pre c post b, h, x, hx => by
    simp only [Stmt.subs, List.mem_append] at hx
    simp only [Stmt.opsB, Bool.and_eq_true] at h
    rcases hx with ((hx | hx) | hx) | hx
    · exact Expr.opKnown_of_opsB pre h.1.1.1 x hx
    · exact Expr.opKnown_of_opsB c h.1.1.2 x hx
    · exact Expr.opKnown_of_opsB post h.1.2 x hx
    · exact Stmt.opKnown_of_opsB b h.2 x hx
  | .forIn _ _ iter b, h, x, hx => by
    simp only [Stmt.subs, List.mem_append] at hx
    simp only [Stmt.opsB, Bool.and_eq_true] at h
    rcases hx with hx | hx
    · exact Expr.opKnown_of_opsB iter h.1 x hx
    · exact Stmt.opKnown_of_opsB b h.2 x hx
termination_by structural x => x
theorem opKnown_of_opsSs : ∀ (l : List Stmt), opsSs l = true → ∀ x ∈ subsSs l, x.opKnown = true
  | [], _, x, hx => by simp [subsSs] at hx
  | s :: ss, h, x, hx => by
    simp only [subsSs, List.mem_append] at hx
    simp only [opsSs, Bool.and_eq_true] at h
    rcases hx with hx | hx
    · exact Stmt.opKnown_of_opsB s h.1 x hx
    · exact opKnown_of_opsSs ss h.2 x hx
termination_by structural x => x
end

theorem Program.opKnown_of_opsB (p : Program) (h : p.opsB = true) :
    ∀ x ∈ p.subExprs, x.opKnown = true := by
  intro x hx
  simp only [Program.opsB, Bool.and_eq_true, List.all_eq_true] at h
  simp only [Program.subExprs, List.mem_append, List.mem_flatMap] at hx
  rcases hx with ⟨r, hr, hx⟩ | ⟨f, hf, hx⟩
  · have hw := h.1 r hr
    simp only [Rule.opsB, Bool.and_eq_true] at hw
    simp only [Rule.subs, List.mem_append] at hx
    rcases hx with hx | hx
    · exact Stmt.opKnown_of_opsB _ hw.1 x hx
    · cases hp : r.pattern with
      | none => rw [hp] at hx; simp at hx
      | some e => rw [hp] at hx hw; exact Expr.opKnown_of_opsB e hw.2 x hx
  · exact Stmt.opKnown_of_opsB _ (h.2 f hf) x hx

structure TblOps (tbl : RuleTable) : Prop where
    unary : ∀ t, (lookupRule tbl t).pre = some .unary → BlameSites.isUnaryTag t = true
    post : ∀ t, (lookupRule tbl t).inf = some .postfixOp → BlameSites.isUnaryTag t = true
    binary : ∀ t, (lookupRule tbl t).inf = some .binary → BlameSites.isBinaryTag t = true
    assign : ∀ t, (lookupRule tbl t).inf = some .assign →
    isCompound t = true ∨ BlameSites.isBinaryTag t = true

theorem expectedRuleTable_ops : TblOps expectedRuleTable := by
  constructor <;> intro t <;> cases t <;> decide


theorem rewriteCompound_ops (l e : Expr) (op : Token) (hl : l.opsB = true) (he : e.opsB = true) :
    (rewriteCompound l e op).opsB = true := by
  simp only [rewriteCompound, Expr.opsB, Expr.opKnown, hl, he, Bool.and_true, Bool.and_eq_true]
  split <;> decide

structure AllOps (tbl : RuleTable) (n : Nat) : Prop where
  statement : ∀ ps, PM.AllR RegexTok (fun r => r.1.opsB = true) (statement tbl n ps)
  loopBody : ∀ ps, PM.AllR RegexTok (fun r => r.1.opsB = true) (loopBody tbl n ps)
  block : ∀ ps, PM.AllR RegexTok (fun r => r.1.opsB = true) (block tbl n ps)
  blockLoop : ∀ acc ps, opsSs acc = true →
    PM.AllR RegexTok (fun r => opsSs r.1 = true) (blockLoop tbl n acc ps)
  printStatement : ∀ ps, PM.AllR RegexTok (fun r => r.1.opsB = true) (printStatement tbl n ps)
  printLoop : ∀ acc ps, opsEs acc = true →
    PM.AllR RegexTok (fun r => opsEs r.1.1 = true) (printLoop tbl n acc ps)
  expressionWithPrec : ∀ prec ps,
    PM.AllR RegexTok (fun r => r.1.opsB = true) (expressionWithPrec tbl n prec ps)
  infixLoop : ∀ prec lhs ps, lhs.opsB = true →
    PM.AllR RegexTok (fun r => r.1.opsB = true) (infixLoop tbl n prec lhs ps)
  prefixFn : ∀ pk ps, (lookupRule tbl ps.cur.tag).pre = some pk →
    PM.AllR RegexTok (fun r => r.1.opsB = true) (prefixFn tbl n pk ps)
  exprList : ∀ endTag acc ps, opsEs acc = true →
    PM.AllR RegexTok (fun r => opsEs r.1 = true) (exprList tbl n endTag acc ps)
  objectLoop : ∀ acc ps, opsKVs acc = true →
    PM.AllR RegexTok (fun r => opsKVs r.1 = true) (objectLoop tbl n acc ps)
  matchCases : ∀ acc ps, opsCases acc = true →
    PM.AllR RegexTok (fun r => opsCases r.1 = true) (matchCases tbl n acc ps)
  matchPats : ∀ acc ps, opsEs acc = true →
    PM.AllR RegexTok (fun r => opsEs r.1 = true) (matchPats tbl n acc ps)
  infixFn : ∀ ik lhs ps, (lookupRule tbl ps.cur.tag).inf = some ik → lhs.opsB = true →
    PM.AllR RegexTok (fun r => r.1.opsB = true) (infixFn tbl n ik lhs ps)

variable {tbl : RuleTable}

theorem ops_closed (htbl : TblOps tbl) :
    ParseClosed RegexTok (fun t k => (lookupRule tbl t).pre = some k)
      (fun t k => (lookupRule tbl t).inf = some k) (fun _ _ e => e.opsB = true)
      (fun _ _ s => s.opsB = true) where
  lit _ := rfl
  regex _ := rfl
  ident _ := rfl
  arr _ h := by simpa [Expr.opsB] using opsEs_iff.mpr h
  obj _ h := by simpa [Expr.opsB] using opsKVs_iff.mpr h
  unary h _ he := by simp [Expr.opsB, Expr.opKnown, he, htbl.unary _ h]
  match_ _ hv hc := by simp [Expr.opsB, hv, opsCases_iff.mpr hc]
  index ho ha he := by simp [Expr.opsB, Expr.opKnown, ha, he, ho, BlameSites.isBinaryTag]
  member ho _ ha := by simp [Expr.opsB, Expr.opKnown, ha, ho, BlameSites.isBinaryTag]
  call ha hs := by simp [Expr.opsB, ha, opsEs_iff.mpr hs]
  postfixOp h _ ha := by simp [Expr.opsB, Expr.opKnown, ha, htbl.post _ h]
  binary h ha he := by simp [Expr.opsB, Expr.opKnown, ha, he, htbl.binary _ h]
  is _ ho ha := by simp [Expr.opsB, Expr.opKnown, ha, ho, BlameSites.isBinaryTag]
  assign h hc _ ha he := by
    simp [Expr.opsB, Expr.opKnown, ha, he, (htbl.assign _ h).resolve_left (by simp [hc])]
  compound _ _ _ ha he := rewriteCompound_ops _ _ _ ha he
  print _ h := by simpa [Stmt.opsB] using opsEs_iff.mpr h
  ret h := by simpa [Stmt.opsB] using h
  retNone := rfl
  if_ hc hb := by simp [Stmt.opsB, hc, hb]
  ifElse hc hb he := by simp [Stmt.opsB, hc, hb, he]
  while_ hc hb := by simp [Stmt.opsB, hc, hb]
  forIn _ _ hi hb := by simp [Stmt.opsB, hi, hb]
  for_ h1 h2 h3 hb := by simp [Stmt.opsB, h1, h2, h3, hb]
  block _ h := by simpa [Stmt.opsB] using opsSs_iff.mpr h
  brk _ := rfl
  cont _ := rfl
  next _ := rfl
  exit _ := rfl
  expr h := by simpa [Stmt.opsB] using h

theorem allOps (htbl : TblOps tbl) (n : Nat) : AllOps tbl n :=
  have h := allClosed (fun _ _ h => h) (fun _ _ h => h) (ops_closed htbl) n
  { statement := fun ps => (h.statement ps rfl rfl).mono fun _ hr => hr.2.2
    loopBody := fun ps => (h.loopBody ps rfl rfl).mono fun _ hr => hr.2.2
    block := fun ps => (h.block ps rfl rfl).mono fun _ hr => hr.2.2
    blockLoop := fun acc ps ha =>
      (h.blockLoop acc ps rfl rfl (opsSs_iff.mp ha)).mono fun _ hr => opsSs_iff.mpr hr.2.2
    printStatement := fun ps => (h.printStatement ps rfl rfl).mono fun _ hr => hr.2.2
    printLoop := fun acc ps ha =>
      (h.printLoop acc ps rfl rfl (opsEs_iff.mp ha)).mono fun _ hr => opsEs_iff.mpr hr.2.2
    expressionWithPrec := fun prec ps =>
      (h.expressionWithPrec prec ps rfl rfl).mono fun _ hr => hr.2.2
    infixLoop := fun prec lhs ps ha =>
      (h.infixLoop prec lhs ps rfl rfl ha).mono fun _ hr => hr.2.2
    prefixFn := fun pk ps hpk => (h.prefixFn pk ps rfl rfl hpk).mono fun _ hr => hr.2.2
    exprList := fun t acc ps ha =>
      (h.exprList t acc ps rfl rfl (opsEs_iff.mp ha)).mono fun _ hr => opsEs_iff.mpr hr.2.2
    objectLoop := fun acc ps ha =>
      (h.objectLoop acc ps rfl rfl (opsKVs_iff.mp ha)).mono fun _ hr => opsKVs_iff.mpr hr.2.2
    matchCases := fun acc ps ha =>
      (h.matchCases acc ps rfl rfl (opsCases_iff.mp ha)).mono
        fun _ hr => opsCases_iff.mpr hr.2.2
    matchPats := fun acc ps ha =>
      (h.matchPats acc ps rfl rfl (opsEs_iff.mp ha)).mono fun _ hr => opsEs_iff.mpr hr.2.2
    infixFn := fun ik lhs ps hik ha =>
      (h.infixFn ik lhs ps rfl rfl hik ha).mono fun _ hr => hr.2.2 }

theorem opsB_mk (rules : List Rule) (fns : List FuncDef) :
    Program.opsB ⟨rules, fns⟩ = (rules.all Rule.opsB && fns.all (fun f => f.body.opsB)) := rfl

theorem opsB_of_progIn {p : Program}
    (h : ProgIn (fun _ _ e => e.opsB = true) (fun _ _ s => s.opsB = true) p) : p.opsB = true := by
  simp only [Program.opsB, Bool.and_eq_true, List.all_eq_true, Rule.opsB]
  refine ⟨fun r hr => ⟨(h.1 r hr).1, ?_⟩, h.2⟩
  cases hp : r.pattern with
  | none => rfl
  | some e => exact (h.1 r hr).2 e hp

theorem parseProgramSrc_ops (htbl : TblOps tbl) (src : Bytes) (prog : Program)
    (h : parseProgramSrc tbl src = .ok prog) : prog.opsB = true :=
  opsB_of_progIn (parseProgramSrc_closed (fun _ _ h => h) (fun _ _ h => h) (ops_closed htbl)
    (fun _ h => h) h)

theorem parseExpressionSrc_ops (htbl : TblOps tbl) (src : Bytes) (e : Expr)
    (h : parseExpressionSrc tbl src = .ok e) : e.opsB = true :=
  parseExpressionSrc_closed (fun _ _ h => h) (fun _ _ h => h) (ops_closed htbl) (fun _ h => h) h

theorem parse_ops (src : Bytes) (prog : Program)
    (h : parseProgramSrc expectedRuleTable src = .ok prog) : prog.opsB = true :=
  parseProgramSrc_ops expectedRuleTable_ops src prog h

theorem parseExpr_ops (src : Bytes) (e : Expr)
    (h : parseExpressionSrc expectedRuleTable src = .ok e) : e.opsB = true :=
  parseExpressionSrc_ops expectedRuleTable_ops src e h

end Jqawk
