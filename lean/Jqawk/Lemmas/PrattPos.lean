/-
  C06: token positions do not matter to `parseToks` (from the parametricity theorem of
  Lemmas/Param.lean), so results proved for position-0 renderings hold for every token list with
  the same tags and texts.
-/
import Jqawk.Lemmas.Param
import Jqawk.Lemmas.PrattSrc
import Jqawk.Lemmas.PrattMain

namespace Jqawk

theorem tokSrc_isSimE :
    PM.IsSimE tokSrc tokSrc (fun a b : List Token => erase a = erase b) where
  next := by
    intro a b h
    cases a with
    | nil =>
      cases b with
      | nil => exact ⟨rfl, rfl, rfl⟩
      | cons t ts => simp at h
    | cons t ts =>
      cases b with
      | nil => simp at h
      | cons u us =>
        simp only [erase_cons, List.cons.injEq] at h
        exact ⟨h.1, rfl, h.2⟩
  regex := by
    intro a b _
    exact rfl

theorem parseToks_sim (ts₁ ts₂ : List Token) (h : erase ts₁ = erase ts₂) :
    ParseRes.Sim (parseToks ts₁) (parseToks ts₂) := by
  have hlen : ts₁.length = ts₂.length := by
    have := congrArg List.length h
    simpa [erase] using this
  have hsim := parseExpression_sim expectedRuleTable (toksFuel ts₁) (toksFuel ts₂)
    (by unfold toksFuel; omega) PS.init PS.init rfl
  have := PM.run_sim tokSrc_isSimE hsim ts₁ ts₂ h
  unfold parseToks
  cases h₁ : PM.runWith tokSrc (Parser.parseExpression expectedRuleTable (toksFuel ts₁) PS.init) ts₁ <;>
    cases h₂ : PM.runWith tokSrc (Parser.parseExpression expectedRuleTable (toksFuel ts₂) PS.init) ts₂ <;>
    rw [h₁, h₂] at this <;> cases this
  · rename_i a b hab
    obtain ⟨a1, a2⟩ := a; obtain ⟨b1, b2⟩ := b
    simp only [erase_pair, Prod.mk.injEq] at hab
    exact .ok hab.1
  · rename_i hmsg; exact .syntaxErr hmsg
  · exact .oofL
  · exact .oofL
  · exact .oofL

theorem parseToks_ok_of_erase (ts₁ ts₂ : List Token) (e : Expr) (h : erase ts₁ = erase ts₂)
    (hp : parseToks ts₂ = .ok e) : ∃ e', parseToks ts₁ = .ok e' ∧ e'.erase = e.erase := by
  have := parseToks_sim ts₂ ts₁ h.symm
  rw [hp] at this
  cases h₁ : parseToks ts₁ <;> rw [h₁] at this <;> cases this
  rename_i e' hab
  exact ⟨e', rfl, hab.symm⟩

theorem Token.erase_erase (t : Token) : t.erase.erase = t.erase := rfl

open Grammar

theorem eraseExprs_toExprs (es : List PE) (h : ∀ a ∈ es, (toExpr a).erase = toExpr a) :
    eraseExprs (toExprs es) = toExprs es := by
  induction es with
  | nil => rfl
  | cons a as ih =>
    simp only [toExprs, eraseExprs, h a List.mem_cons_self,
      ih fun b hb => h b (List.mem_cons_of_mem _ hb)]

/-- the trees of the specification carry position 0 everywhere -/
theorem toExpr_erase (e : PE) : (toExpr e).erase = toExpr e := by
  induction e using Pratt.PE.induct with
  | ident n => rfl
  | dollar => rfl
  | lit l => cases l <;> rfl
  | bin op l r hl hr => simp only [toExpr, Expr.erase, hl, hr]; rfl
  | un op e he => simp only [toExpr, Expr.erase, he]; rfl
  | preInc op e he => simp only [toExpr, Expr.erase, he]; rfl
  | postf op e he => simp only [toExpr, Expr.erase, he]; rfl
  | isType e ty he => cases ty <;> (simp only [toExpr, Expr.erase, he]; rfl)
  | member e n he => simp only [toExpr, Expr.erase, he]; rfl
  | index e i he hi => simp only [toExpr, Expr.erase, he, hi]; rfl
  | call f args hf hargs => simp only [toExpr, Expr.erase, hf, eraseExprs_toExprs args hargs]
  | arr items hitems => simp only [toExpr, Expr.erase, eraseExprs_toExprs items hitems]; rfl
  | obj items hitems =>
    have : eraseKVs (toKVs items) = toKVs items := by
      induction items with
      | nil => rfl
      | cons a as ih =>
        obtain ⟨k, e⟩ := a
        simp only [toKVs, eraseKVs, hitems (k, e) List.mem_cons_self,
          ih fun b hb => hitems b (List.mem_cons_of_mem _ hb)]
    simp only [toExpr, Expr.erase, this]; rfl
  | assign op t v ht hv => cases op <;> (simp only [toExpr, AsgOp.binTag, Expr.erase, ht, hv]; rfl)

end Jqawk
