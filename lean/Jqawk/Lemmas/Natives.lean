/-
  `callNative` as a whole.  A call is a builtin, a method on a receiver of its own kind, or a
  method on anything else (`native_cases`, one row per native); the last does the same for every
  argument list (`Native.recvKind`, `Native.offKind`, `callNative_offKind`).  From it: which
  outcomes a native can have (`callNative_outcome`: a returned value or error value, out of fuel
  only for printf/json, "unmodelled" only for lower/upper).  Also the byte step of `lower ∘ upper`.
-/
import Jqawk.Lemmas.Heap
import Jqawk.Lemmas.EvalNodes

namespace Jqawk

theorem lower_upper_byte (c : UInt8) :
    (let u := if 97 ≤ c && c ≤ 122 then c - 32 else c; if 65 ≤ u && u ≤ 90 then u + 32 else u)
      = (if 65 ≤ c && c ≤ 90 then c + 32 else c) := by
  by_cases h : 97 ≤ c ∧ c ≤ 122
  · have h1 : (c - 32).toNat = c.toNat - 32 := UInt8.toNat_sub_of_le c 32 (UInt8.le_trans (by decide) h.1)
    have h2 : ¬ (65 ≤ c ∧ c ≤ 90) := fun h' => absurd (UInt8.le_trans h.1 h'.2) (by decide)
    have h3 : 65 ≤ c - 32 ∧ c - 32 ≤ 90 := by
      simp only [UInt8.le_iff_toNat_le, UInt8.toNat_ofNat, h1] at h ⊢; omega
    simp only [Bool.and_eq_true, decide_eq_true_eq, if_pos h, if_pos h3, if_neg h2, UInt8.sub_add_cancel]
  · simp only [Bool.and_eq_true, decide_eq_true_eq, if_neg h]

/-- the kind of receiver a prototype method works on; `none` for the builtin functions -/
def Native.recvKind : Native → Option Kind
  | .arrLength | .arrPush | .arrPop | .arrPopfirst | .arrContains | .arrSort => some .arr
  | .objLength | .objPluck => some .obj
  | .strLength | .strSplit | .strLower | .strUpper => some .str
  | .numFloor | .numCeil | .numRound => some .num
  | .printf | .json | .num => none

/-- what a method does on a receiver of another kind (or without one) -/
def Native.offKind : Native → EM NativeRes
  | .strSplit => do let r ← newArrayOf []; pure (.ok (some r))
  | .arrLength | .objLength | .strLength | .strLower | .strUpper => pure (.ok (some (.num F64.zero)))
  | .numFloor | .numCeil | .numRound => pure (.ok (some (.nil none)))
  | _ => pure (.ok none)

theorem callNative_offKind {f : Native} {k : Kind} (hf : f.recvKind = some k) (args : List Val)
    {this : Option Val} (h : ∀ v, this = some v → v.kind ≠ k) :
    callNative f args this = (getHeap >>= fun _ => f.offKind) := by
  funext s
  unfold callNative
  rw [getHeap_bind, getHeap_bind]
  split
  all_goals cases hf
  all_goals (split; exact absurd rfl (h _ rfl); rfl)

theorem kind_arr {v : Val} (h : v.kind = .arr) : ∃ a, v = .arr a := by
  cases v <;> first | exact ⟨_, rfl⟩ | cases h
theorem kind_obj {v : Val} (h : v.kind = .obj) : ∃ o, v = .obj o := by
  cases v <;> first | exact ⟨_, rfl⟩ | cases h
theorem kind_str {v : Val} (h : v.kind = .str) : ∃ s sp, v = .str s sp := by
  cases v <;> first | exact ⟨_, _, rfl⟩ | cases h
theorem kind_num {v : Val} (h : v.kind = .num) : ∃ x, v = .num x := by
  cases v <;> first | exact ⟨_, rfl⟩ | cases h

/-- a call of a native is a builtin, a method on a receiver of its kind, or a method on anything
    else, which does `Native.offKind` -/
@[elab_as_elim]
theorem native_cases {M : Native → Option Val → Prop} (f : Native) (this : Option Val)
    (printf : M .printf this) (json : M .json this) (num : M .num this)
    (arrLength : ∀ a, M .arrLength (some (.arr a))) (arrPush : ∀ a, M .arrPush (some (.arr a)))
    (arrPop : ∀ a, M .arrPop (some (.arr a))) (arrPopfirst : ∀ a, M .arrPopfirst (some (.arr a)))
    (arrContains : ∀ a, M .arrContains (some (.arr a))) (arrSort : ∀ a, M .arrSort (some (.arr a)))
    (objLength : ∀ o, M .objLength (some (.obj o))) (objPluck : ∀ o, M .objPluck (some (.obj o)))
    (strLength : ∀ s sp, M .strLength (some (.str s sp))) (strSplit : ∀ s sp, M .strSplit (some (.str s sp)))
    (strLower : ∀ s sp, M .strLower (some (.str s sp))) (strUpper : ∀ s sp, M .strUpper (some (.str s sp)))
    (numFloor : ∀ x, M .numFloor (some (.num x))) (numCeil : ∀ x, M .numCeil (some (.num x)))
    (numRound : ∀ x, M .numRound (some (.num x)))
    (off : ∀ k, f.recvKind = some k → (∀ v, this = some v → v.kind ≠ k) → M f this) : M f this := by
  cases hk : f.recvKind with
  | none =>
    cases f with
    | printf => exact printf
    | json => exact json
    | num => exact num
    | _ => cases hk
  | some k =>
    by_cases hoff : ∀ v, this = some v → v.kind ≠ k
    · exact off k hk hoff
    · obtain ⟨v, rfl, hv⟩ : ∃ v, this = some v ∧ v.kind = k := by
        cases this with
        | none => exact absurd (fun _ h => nomatch h) hoff
        | some v =>
          exact ⟨v, rfl, Decidable.byContradiction fun hv => hoff fun _ h => Option.some.inj h ▸ hv⟩
      cases f with
      | printf | json | num => cases hk
      | arrLength => cases hk; obtain ⟨a, rfl⟩ := kind_arr hv; exact arrLength a
      | arrPush => cases hk; obtain ⟨a, rfl⟩ := kind_arr hv; exact arrPush a
      | arrPop => cases hk; obtain ⟨a, rfl⟩ := kind_arr hv; exact arrPop a
      | arrPopfirst => cases hk; obtain ⟨a, rfl⟩ := kind_arr hv; exact arrPopfirst a
      | arrContains => cases hk; obtain ⟨a, rfl⟩ := kind_arr hv; exact arrContains a
      | arrSort => cases hk; obtain ⟨a, rfl⟩ := kind_arr hv; exact arrSort a
      | objLength => cases hk; obtain ⟨o, rfl⟩ := kind_obj hv; exact objLength o
      | objPluck => cases hk; obtain ⟨o, rfl⟩ := kind_obj hv; exact objPluck o
      | strLength => cases hk; obtain ⟨x, sp, rfl⟩ := kind_str hv; exact strLength x sp
      | strSplit => cases hk; obtain ⟨x, sp, rfl⟩ := kind_str hv; exact strSplit x sp
      | strLower => cases hk; obtain ⟨x, sp, rfl⟩ := kind_str hv; exact strLower x sp
      | strUpper => cases hk; obtain ⟨x, sp, rfl⟩ := kind_str hv; exact strUpper x sp
      | numFloor => cases hk; obtain ⟨x, rfl⟩ := kind_num hv; exact numFloor x
      | numCeil => cases hk; obtain ⟨x, rfl⟩ := kind_num hv; exact numCeil x
      | numRound => cases hk; obtain ⟨x, rfl⟩ := kind_num hv; exact numRound x

theorem callNative_outcome {f : Native} {s : St} {P : Res NativeRes → Prop} (ok : ∀ r s', P (.ok r s'))
    (oof : f = .printf ∨ f = .json → P .oof)
    (unmodelled : f = .strLower ∨ f = .strUpper → ∀ why, P (.err (.unmodelled why) s))
    (args : List Val) (this : Option Val) : P (callNative f args this s) := by
  unfold callNative
  rw [getHeap_bind]
  induction f, this using native_cases with
  | off k hk hoff =>
    show P (callNative f args this s)
    rw [callNative_offKind hk args hoff, getHeap_bind]
    cases f <;> first
      | exact ok _ _
      | cases hk
      | (rw [Native.offKind, EM.bind_ok (newArrayOf_eq _ _)]; exact ok _ _)
  | printf =>
    dsimp only
    cases printfFormat (prettyTop s.heap) args with
    | none => exact oof (.inl rfl)
    | some r => cases r <;> exact ok _ _
  | json =>
    dsimp only
    cases checkArgCount args 1 with
    | error m => exact ok _ _
    | ok _ =>
      cases toJValTop s.heap (args.getD 0 .unknown) with
      | oof => exact oof (.inr rfl)
      | _ => exact ok _ _
  | num =>
    dsimp only
    cases checkArgCount args 1 with
    | error m => exact ok _ _
    | ok _ => (repeat' split) <;> exact ok _ _
  | arrLength a | objLength o | strLength x sp | numFloor x | numCeil x | numRound x => exact ok _ _
  | arrPush a | arrContains a =>
    dsimp only
    cases checkArgCount args 1 <;> exact ok _ _
  | arrPop a | arrPopfirst a =>
    dsimp only
    cases checkArgCount args 0 with
    | error m => exact ok _ _
    | ok _ => dsimp only; split <;> exact ok _ _
  | arrSort a =>
    dsimp only
    rw [EM.bind_ok (newArrayOf_eq _ _)]; exact ok _ _
  | objPluck o =>
    dsimp only
    cases pluckCollect s.heap _ args [] with
    | error m => exact ok _ _
    | ok kvs => dsimp only; rw [EM.bind_ok (allocCells_eq _ _)]; exact ok _ _
  | strSplit x sp =>
    dsimp only
    cases checkArg args 0 .str with
    | error m => exact ok _ _
    | ok sep => dsimp only; rw [EM.bind_ok (newArrayOf_eq _ _)]; exact ok _ _
  | strLower x sp =>
    dsimp only
    split
    · exact ok _ _
    · exact unmodelled (.inl rfl) _
  | strUpper x sp =>
    dsimp only
    split
    · exact ok _ _
    · exact unmodelled (.inr rfl) _

end Jqawk
