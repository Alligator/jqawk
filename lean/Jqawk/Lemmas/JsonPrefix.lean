import Jqawk.Lemmas.JsonStep
/-!
  Prefix stability of `decodeOne`: an answer other than "need more bytes" on the bytes read so far
  is the answer on every extension, with the further bytes left unread (`decodeOne_prefix`;
  `decodeOne_prefix_value`, `decodeOne_prefix_error` are its two readings).  `decodeOne_eq`:
  `decodeOne` is `run` from the initial state unless only white space has been read.
  `decodeOne_progress`: a decoded value consumes at least one byte.
-/
namespace Jqawk.Json

/-- the answer for `pre ++ m`, given an answer for `pre` that did not ask for more bytes -/
def DecodeRes.extend (m : Bytes) : DecodeRes → DecodeRes
  | .value v rest => .value v (rest ++ m)
  | r => r

theorem run_more {f : Bytes → Bool} (m : Bytes) (t : Tail) :
    ∀ (pre : Bytes) (s : St), run f s pre .more ≠ .needMore → run f s (pre ++ m) t = (run f s pre .more).extend m
  | [], s, h => absurd rfl h
  | c :: cs, s, h => by
    simp only [run, List.cons_append] at h ⊢
    cases hs : step f s c with
    | cont s' => rw [hs] at h; exact run_more m t cs s' h
    | err => rfl
    | done w bad consumed => cases bad <;> cases consumed <;> rfl

theorem of_mem_takeWhile {α : Type} (p : α → Bool) : ∀ {l : List α} {x : α}, x ∈ l.takeWhile p → p x = true
  | a :: l, x, h => by
    rw [List.takeWhile_cons] at h
    split at h
    · rcases List.mem_cons.1 h with rfl | h
      · assumption
      · exact of_mem_takeWhile p h
    · cases h

theorem decodeOne_eq_run {f : Bytes → Bool} {inp : Bytes} {t : Tail} (h : inp.dropWhile isSpace ≠ []) :
    decodeOne f inp t = run f St.init (inp.dropWhile isSpace) t := by
  unfold decodeOne; split <;> simp_all

theorem dropWhile_eq_nil {α : Type} (p : α → Bool) : ∀ l : List α, l.dropWhile p = [] ↔ l.all p = true
  | [] => ⟨fun _ => rfl, fun _ => rfl⟩
  | x :: xs => by
    rw [List.dropWhile_cons, List.all_cons, Bool.and_eq_true]
    by_cases hx : p x = true
    · rw [if_pos hx, dropWhile_eq_nil p xs]; exact ⟨fun h => ⟨hx, h⟩, fun h => h.2⟩
    · rw [if_neg hx]; exact ⟨nofun, fun h => absurd h.1 hx⟩

/-- `decodeOne` is `run` from the initial state — which skips leading white space itself —
    except on white space only, where the answer is the reader's. -/
theorem decodeOne_eq (f : Bytes → Bool) (inp : Bytes) (t : Tail) :
    decodeOne f inp t = if inp.all isSpace then (match t with | .more => .needMore | .eof => .eof | .ioerr => .error)
      else run f St.init inp t := by
  by_cases h : inp.dropWhile isSpace = []
  · rw [if_pos ((dropWhile_eq_nil _ _).1 h)]
    unfold decodeOne; rw [h]; cases t <;> rfl
  · have := JsonBytes.run_ws f t .beginValue (.inl rfl) [] 0 [] false (inp.takeWhile isSpace)
      (inp.dropWhile isSpace) fun _ => of_mem_takeWhile isSpace
    rw [List.takeWhile_append_dropWhile] at this
    rw [if_neg (mt (dropWhile_eq_nil _ _).2 h), decodeOne_eq_run h]
    exact this.symm

theorem decodeOne_ws (f : Bytes → Bool) {w : Bytes} (hw : ∀ x ∈ w, isSpace x = true) (b : UInt8) (tl : Bytes)
    (hb : isSpace b = false) (t : Tail) :
    decodeOne f (w ++ b :: tl) t = run f ⟨.beginValue, [], 0, [], false⟩ (b :: tl) t := by
  rw [decodeOne_eq, if_neg (by simp [hb])]
  exact JsonBytes.run_ws f t .beginValue (.inl rfl) [] 0 [] false w _ hw

theorem decodeOne_prefix {f : Bytes → Bool} {pre : Bytes} (m : Bytes) (t : Tail)
    (h : decodeOne f pre .more ≠ .needMore) : decodeOne f (pre ++ m) t = (decodeOne f pre .more).extend m := by
  rw [decodeOne_eq] at h ⊢
  by_cases hp : pre.all isSpace = true
  · rw [if_pos hp] at h; exact absurd rfl h
  · rw [if_neg hp] at h
    rw [decodeOne_eq, if_neg hp,
      if_neg (by rw [List.all_append, Bool.and_eq_true]; exact fun h' => hp h'.1)]
    exact run_more m t _ _ h

theorem decodeOne_prefix_value {f : Bytes → Bool} {pre rest : Bytes} {v : JVal} (m : Bytes) (t : Tail)
    (h : decodeOne f pre .more = .value v rest) : decodeOne f (pre ++ m) t = .value v (rest ++ m) := by
  rw [decodeOne_prefix m t (by rw [h]; nofun), h]; rfl

theorem decodeOne_prefix_error {f : Bytes → Bool} {pre : Bytes} (m : Bytes) (t : Tail)
    (h : decodeOne f pre .more = .error) : decodeOne f (pre ++ m) t = .error := by
  rw [decodeOne_prefix m t (by rw [h]; nofun), h]; rfl

theorem run_rest_le {f : Bytes → Bool} {v : JVal} {rest : Bytes} (t : Tail) :
    ∀ (inp : Bytes) (s : Json.St), run f s inp t = .value v rest → rest.length ≤ inp.length := by
  intro inp s h
  obtain ⟨pre, s', c, consumed, _, _, ⟨cs, rfl, rfl⟩ | ⟨_, _, rfl⟩⟩ := JsonBytes.run_value inp s h
  · cases consumed <;> simp <;> omega
  · exact Nat.zero_le _

/-- every decoded value consumes at least one byte: the scanner does not answer on the first -/
theorem decodeOne_progress {f : Bytes → Bool} {data rest : Bytes} {t : Tail} {v : JVal}
    (h : decodeOne f data t = .value v rest) : rest.length < data.length := by
  rw [decodeOne_eq] at h
  split at h
  · cases t <;> cases h
  · obtain ⟨pre, s', c, consumed, h1, h2, h3⟩ := JsonBytes.run_value _ _ h
    have hpre : 0 < pre.length := List.length_pos_iff.2 (by rintro rfl; cases h1; exact beginValue_ne_done h2)
    rcases h3 with ⟨cs, rfl, rfl⟩ | ⟨rfl, _, rfl⟩
    · cases consumed <;> simp <;> omega
    · exact hpre

end Jqawk.Json

#print axioms Jqawk.Json.decodeOne_prefix_value
#print axioms Jqawk.Json.decodeOne_prefix_error
