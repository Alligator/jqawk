/-
  Every evaluator function is `Shaped` (`allShaped`), with the signals and the positions read off
  the syntax: `Conf S (canE · e)` says that the signals `canE` lets out of `e` are in `S`,
  `TokOK G (e.tokens false)` that the positions of its tokens are in `G`.  One pass over the text
  of the 15 mutually recursive functions, by induction on the fuel; `AllSafe`, `AllNoSig`, `AllRt`
  are read off it field by field (`Lemmas/Invariant.lean`, `Signals.lean`, `ProvenanceEval.lean`).
-/
import Jqawk.Lemmas.Shaped
import Jqawk.Lemmas.ProvenanceTokens


namespace Jqawk

/-! ### side condition on the signals -/

/-- the signals that the syntactic check `b` (`canE · e`, `canS · st`, …) lets out are in `S` -/
def Conf (S : Sig → Prop) (b : Sig → Bool) : Prop := ∀ g, b g = true → S g

section
variable {S : Sig → Prop}

@[simp] theorem Conf_false : Conf S (fun _ => false) := fun _ h => nomatch h

@[simp] theorem Conf_or (a b : Sig → Bool) : Conf S (fun g => a g || b g) ↔ Conf S a ∧ Conf S b := by
  simp only [Conf, Bool.or_eq_true]
  exact ⟨fun h => ⟨fun g ha => h g (.inl ha), fun g hb => h g (.inr hb)⟩,
    fun h g hab => hab.elim (h.1 g) (h.2 g)⟩

@[simp] theorem Conf_beq (g0 : Sig) : Conf S (fun g => g == g0) ↔ S g0 := by
  simp [Conf]

/-- what may leave a loop body: also `break` and `continue` -/
abbrev InLoop (S : Sig → Prop) : Sig → Prop := fun g => g.loopSig = true ∨ S g

@[simp] theorem Conf_loop (b : Sig → Bool) : Conf S (fun g => !g.loopSig && b g) ↔ Conf (InLoop S) b := by
  simp only [Conf, Bool.and_eq_true, Bool.not_eq_true', and_imp, InLoop]
  exact ⟨fun h g hb => (Bool.eq_false_or_eq_true g.loopSig).elim .inl fun hl => .inr (h g hl hb),
    fun h g hl hb => (h g hb).resolve_left (by simp [hl])⟩

theorem Conf.of_false {b : Sig → Bool} {g : Sig} (h : b g = false) : Conf (· ≠ g) b :=
  fun g' h' e => by subst e; simp [h] at h'

theorem Conf.all {b : Sig → Bool} (h : ∀ g, S g) : Conf S b := fun g _ => h g

theorem Conf.top {b : Sig → Bool} : Conf (fun _ => True) b := .all fun _ => trivial

end

/-- what `canS` says of a loop body (`(!l && c) = false`), as the loop fields take it -/
theorem Conf.inLoop {b : Sig → Bool} {g : Sig} (h : g.loopSig = false → b g = false) :
    Conf (InLoop (· ≠ g)) b := fun g' h' =>
  (Bool.eq_false_or_eq_true g'.loopSig).elim .inl fun hl => .inr fun e => by
    subst e; simp [h hl] at h'

/-- the signals that a call can let out of a function body: all but `return` -/
def Program.FnConf (S : Sig → Prop) (prog : Program) : Prop :=
  ∀ f ∈ prog.functions, Conf (fun g => g = .ret ∨ S g) (canS · f.body)

/-- every token the evaluator can blame in a function body carries an offset in `G` -/
def Program.FnTok (G : Nat → Prop) (prog : Program) : Prop :=
  ∀ f ∈ prog.functions, TokOK G (f.body.tokens false)

structure AllShaped (D : Prop) (G : Nat → Prop) (S : Sig → Prop) (prog : Program) (n : Nat) : Prop where
  expr : ∀ e, Conf S (canE · e) → TokOK G (e.tokens false) → Shaped D G S (evalExpr prog n e)
  objItems : ∀ pos items acc, G pos → Conf S (canKVs · items) → TokOK G (tokensKVs false items) →
    Shaped D G S (evalObjItems prog n pos items acc)
  exprList : ∀ es c, Conf S (canEs · es) → TokOK G (tokensEs false es) →
    Shaped D G S (evalExprList prog n es c)
  matchCases : ∀ pos v cs, G pos → Conf S (canCases · cs) → TokOK G (tokensCases false cs) →
    Shaped D G S (evalMatchCases prog n pos v cs)
  caseMatch : ∀ v ps, Conf S (canEs · ps) → TokOK G (tokensEs false ps) →
    Shaped D G S (evalCaseMatch prog n v ps)
  arrayCaseMatch : ∀ v ps, Conf S (canEs · ps) → TokOK G (tokensEs false ps) →
    Shaped D G S (evalArrayCaseMatch prog n v ps)
  matchElems : ∀ cs ps acc, Conf S (canEs · ps) → TokOK G (tokensEs false ps) →
    Shaped D G S (Jqawk.matchElems prog n cs ps acc)
  call : ∀ pos f args, G pos → Shaped D G S (callFunction prog n pos f args)
  unary : ∀ e op p, Conf S (canE · e) → TokOK G (e.tokens false) → G op.pos →
    Shaped D G S (evalUnary prog n e op p)
  binary : ∀ l r op, Conf S (canE · l) → Conf S (canE · r) → TokOK G (l.tokens false) →
    TokOK G (r.tokens false) → G op.pos → Shaped D G S (evalBinary prog n l r op)
  stmt : ∀ st, Conf S (canS · st) → TokOK G (st.tokens false) → Shaped D G S (evalStmt prog n st)
  block : ∀ sts, Conf S (canSs · sts) → TokOK G (tokensSs false sts) → Shaped D G S (evalBlock prog n sts)
  whileL : ∀ c b, Conf S (canE · c) → Conf (InLoop S) (canS · b) → TokOK G (c.tokens false) →
    TokOK G (b.tokens false) → Shaped D G S (whileLoop prog n c b)
  forL : ∀ c p b, Conf S (canE · c) → Conf S (canE · p) → Conf (InLoop S) (canS · b) →
    TokOK G (c.tokens false) → TokOK G (p.tokens false) → TokOK G (b.tokens false) →
    Shaped D G S (forLoop prog n c p b)
  forInL : ∀ l il b items, Conf (InLoop S) (canS · b) → TokOK G (b.tokens false) →
    Shaped D G S (forInLoop prog n l il b items)

variable {D : Prop} {G : Nat → Prop} {prog : Program}

theorem Program.FnConf.all {S : Sig → Prop} (h : ∀ g, S g) : prog.FnConf S := fun _ _ g _ => .inr (h g)

theorem Program.fnTok_top (prog : Program) : prog.FnTok fun _ => True := fun _ _ _ _ => trivial

theorem Program.FnConf.mono {S S' : Sig → Prop} (hf : prog.FnConf S) (h : ∀ g, S g → S' g) :
    prog.FnConf S' := fun f hm g hg => (hf f hm g hg).imp_right (h g)

theorem allShaped_zero (S : Sig → Prop) : AllShaped D G S prog 0 := by
  constructor <;> intros <;> unfold_eval <;> exact .oof

/-- One pass over the text of the evaluator.  `ihS` is taken at every `S`: a loop body runs under
    `InLoop S`, a function body under `S` with `return`. -/
theorem allShaped_succ (hfG : prog.FnTok G) (n : Nat)
    (ihS : ∀ S, prog.FnConf S → AllShaped D G S prog n) (S : Sig → Prop) (hfS : prog.FnConf S) :
    AllShaped D G S prog (n + 1) := by
  have ih := ihS S hfS
  have ihLoop := ihS (InLoop S) (hfS.mono fun _ => .inr)
  constructor
  · intro e hS hG
    unfold evalExpr
    cases e
    all_goals simp only [canE, Conf_or, Conf_false, Expr.tokens, TokOK_cons, TokOK_append, TokOK_nil,
      and_true] at hS hG
    case lit t =>
      dsimp only
      split <;> first
        | exact .newCell _
        | exact .throwPanic _
        | (split <;> first | exact .throwRt hG _ | exact .newCell _)
    case ident t => exact .getIdentifier prog hG
    case arr t items =>
      exact .bind (ih.exprList items true hS hG.2) fun _ => .bind (.allocArrM _) fun _ => .newCell _
    case obj t items =>
      exact .bind (ih.objItems _ items [] hG.1 hS hG.2) fun _ => .bind (.allocObjM _) fun _ => .newCell _
    case unary e op p => exact ih.unary e op p hS hG.2 hG.1
    case binary l r op => exact ih.binary l r op hS.1 hS.2 hG.2.1 hG.2.2 hG.1
    case call f args =>
      exact .bind (ih.expr f hS.1 hG.1) fun _ => .bind (ih.exprList args true hS.2 hG.2) fun _ =>
        ih.call _ _ _ hG.1.token
    case match_ t v cs =>
      exact .bind (ih.expr v hS.1 hG.2.1) fun _ => ih.matchCases _ _ cs hG.1 hS.2 hG.2.2
  · intro pos items acc hp hS hG
    cases items with
    | nil => unfold evalObjItems; exact .pure _
    | cons kv rest =>
      obtain ⟨k, e⟩ := kv
      simp only [canKVs, Conf_or] at hS
      simp only [tokensKVs, TokOK_append] at hG
      unfold evalObjItems
      refine .bind (ih.expr e hS.1 hG.1) fun _ => .bind (.newCell _) fun _ => .bind (.copyValue ..) fun _ => ?_
      split
      · exact .throwRt hp _
      · exact ih.objItems _ _ _ hp hS.2 hG.2
  · intro es c hS hG
    cases es with
    | nil => unfold evalExprList; exact .pure _
    | cons e rest =>
      simp only [canEs, Conf_or] at hS
      simp only [tokensEs, TokOK_append] at hG
      unfold evalExprList
      refine .bind (ih.expr e hS.1 hG.1) fun _ => .bind ?_ fun _ =>
        .bind (ih.exprList rest c hS.2 hG.2) fun _ => .pure _
      split
      · refine .bind (.newCell _) fun _ => .bind (.copyValue ..) fun _ => ?_
        split
        · exact .throwRt hG.1.token _
        · exact .pure _
      · exact .pure _
  · intro pos v cs hp hS hG
    cases cs with
    | nil => unfold evalMatchCases; exact .newCell _
    | cons c rest =>
      obtain ⟨pats, body⟩ := c
      simp only [canCases, Conf_or] at hS
      simp only [tokensCases, TokOK_append] at hG
      unfold evalMatchCases; dsimp only
      refine .bind (ih.caseMatch v pats hS.1.1 hG.1.1) fun _ => ?_
      split
      · exact ih.matchCases _ _ _ hp hS.2 hG.2
      · refine .framed _ hp (.bind (.bindAll _) fun _ => ?_)
        -- for a body `.expr be`, `canS · (.expr be)` and `(Stmt.expr be).tokens` unfold to those of `be`
        split
        · exact ih.expr _ hS.1.2 hG.1.2
        · exact .bind (ih.stmt body hS.1.2 hG.1.2) fun _ => .newCell _
  · intro v ps hS hG
    cases ps with
    | nil => unfold evalCaseMatch; exact .pure _
    | cons p rest =>
      simp only [canEs, Conf_or] at hS
      simp only [tokensEs, TokOK_append] at hG
      unfold evalCaseMatch
      cases p with
      | lit t =>
        refine .bind (ih.expr _ hS.1 hG.1) fun _ => .bind (.readCell _) fun _ => .bind (.readCell _) fun _ => ?_
        split
        · exact ih.caseMatch _ _ hS.2 hG.2
        · split
          · exact .throwRt hG.1.token _
          · split
            · exact .pure _
            · exact ih.caseMatch _ _ hS.2 hG.2
      | arr t items =>
        simp only [canE] at hS
        simp only [Expr.tokens, TokOK_cons] at hG
        refine .bind (ih.arrayCaseMatch v items hS.1 hG.1.2) fun _ => ?_
        split
        · exact .pure _
        · exact ih.caseMatch _ _ hS.2 hG.2
      | ident t => exact .pure _
      | _ => exact .throwRt hG.1.token _
  · intro v ps hS hG
    unfold evalArrayCaseMatch
    refine .bind (.readCell _) fun _ => ?_
    split
    · exact .bind .getHeap fun _ => .ite (.pure _) (ih.matchElems _ _ _ hS hG)
    · exact .pure _
  · intro cs ps acc hS hG
    cases cs with
    | nil => unfold Jqawk.matchElems; exact .pure _
    | cons c cs =>
      cases ps with
      | nil => unfold Jqawk.matchElems; exact .pure _
      | cons p ps =>
        simp only [canEs, Conf_or] at hS
        simp only [tokensEs, TokOK_append] at hG
        unfold Jqawk.matchElems
        refine .bind (ih.caseMatch c [p] (by simpa [canEs] using hS.1) (by simpa [tokensEs] using hG.1))
          fun _ => ?_
        split
        · exact .pure _
        · exact ih.matchElems _ _ _ hS.2 hG.2
  · intro pos f args hp
    unfold callFunction; dsimp only
    refine .bind (.readCell _) fun _ => .bind .getHeap fun _ => ?_
    split
    · refine .bind (.callNative ..) fun _ => ?_
      split
      · exact .throwRt hp _
      · exact .newCell _
      · exact .newCell _
    · split
      · exact .throwPanic _
      · rename_i fd hfd
        have hmem := List.mem_of_getElem? hfd
        -- the body runs under `S` with `return`, which the call catches (`hfS`)
        exact .framed _ hp (.bind (.bindParams ..) fun _ => .bind (.catchReturn
          ((ihS _ (hfS.mono fun _ => .inr)).stmt fd.body (hfS fd hmem) (hfG fd hmem))) fun _ => .newCell _)
    · exact .throwRt hp _
  · intro e op p hS hG hop
    unfold evalUnary; dsimp only
    refine .bind (ih.expr e hS hG) fun _ => .bind (.readCell _) fun _ => ?_
    have incr : ∀ (x : F64) (nv : Val) (val : CellId), Shaped D G S (do
        let nc ← newCell nv
        let assigned ← evalAssignment op.pos val nc
        if p then newCell (.num x) else newCell (← readCell assigned) : EM CellId) := fun _ _ _ =>
      .bind (.newCell _) fun _ => .bind (.evalAssignment hop _ _) fun _ =>
        .ite (.newCell _) (.bind (.readCell _) fun _ => .newCell _)
    split
    · exact .newCell _
    · exact .newCell _
    · exact .newCell _
    · exact incr ..
    · exact incr ..
    · exact .throwRt hop _
  · intro l r op hSl hSr hGl hGr hop
    unfold evalBinary
    have hr := ih.expr r hSr hGr
    refine .bind (ih.expr l hSl hGl) fun _ => ?_
    split
    · exact .bind (.readCell _) fun _ => .ite (.bind hr fun _ => .bind (.readCell _) fun _ => .newCell _) (.newCell _)
    · exact .bind (.readCell _) fun _ => .ite (.newCell _) (.bind hr fun _ => .bind (.readCell _) fun _ => .newCell _)
    · split
      · exact .bind (.readCell _) fun _ => .newCell _
      · exact .throwRt hGr.token _
    · refine .bind hr fun _ => ?_
      split
      · exact .memberStep hGl.token _ _
      · exact .memberStep hGl.token _ _
      · exact .evalAssignment hGl.token _ _
      · split
        · refine .bind (.readCell _) fun _ => .bind (.readCell _) fun _ => ?_
          split
          · exact .newCell _
          · refine .throwRt ?_ _
            split
            · exact hGr.token
            · split
              · exact hGl.token
              · exact hop
          · exact .throwUnmodelled _
        · exact .throwRt hop _
  · intro st hS hG
    unfold evalStmt
    rcases st with _ | _ | _ | ⟨_ | _⟩ | _ | _ | _ | _ | ⟨_, _, _ | _⟩ | _ | _ | _
    all_goals simp only [canS, Conf_or, Conf_loop, Conf_beq, Stmt.tokens, TokOK_append, TokOK_cons,
      TokOK_kwTok_false, TokOK_toList, TokOK_nil, true_and] at hS hG
    case block t body => exact ih.block body hS hG
    case print t args =>
      refine .bind (ih.exprList args false hS hG) fun _ => .bind .getSt fun _ => ?_
      split
      · split
        · exact .throwPanic _
        · split
          · exact .oof
          · exact .emit _
      · split
        · exact .oof
        · exact .emit _
    case expr e => exact .bind (ih.expr e hS hG) fun _ => .pure _
    case ret.none => exact .bind (.setReturnVal _) fun _ => .throwSig hS
    case ret.some e =>
      exact .bind (ih.expr e hS.2 hG) fun _ => .bind (.setReturnVal _) fun _ => .throwSig hS.1
    case brk t => exact .throwSig hS
    case cont t => exact .throwSig hS
    case next t => exact .throwSig hS
    case exit t => exact .throwSig hS
    case if_.none c b =>
      exact .bind (ih.expr c hS.1 hG.1) fun _ => .bind (.readCell _) fun _ => .ite (ih.stmt b hS.2 hG.2) (.pure _)
    case if_.some c b eb =>
      exact .bind (ih.expr c hS.1.1 hG.1.1) fun _ => .bind (.readCell _) fun _ =>
        .ite (ih.stmt b hS.1.2 hG.1.2) (ih.stmt eb hS.2 hG.2)
    case while_ c b => exact ih.whileL c b hS.1 hS.2 hG.1 hG.2
    case for_ pre c post b =>
      exact .bind (ih.expr pre hS.1.1.1 hG.1.1.1) fun _ =>
        ih.forL c post b hS.1.1.2 hS.1.2 hS.2 hG.1.1.2 hG.1.2 hG.2
    case forIn id idx iter b =>
      refine .bind (.bind (.getVariable _) fun _ => ?_) fun _ => .bind ?_ fun _ =>
        .bind (ih.expr iter hS.1 hG.2.2.1) fun _ => .bind .getHeap fun _ => ?_
      · split
        · exact .pure _
        · exact .throwRt hG.1 _
      · split
        · exact .pure _
        · refine .bind (.getVariable _) fun _ => ?_
          split
          · exact .pure _
          · exact .throwRt hG.1 _
      · split
        · exact ih.forInL _ _ b _ hS.2 hG.2.2.2
        · exact ih.forInL _ _ b _ hS.2 hG.2.2.2
        · exact ih.forInL _ _ b _ hS.2 hG.2.2.2
        · exact .throwRt hG.2.2.1.token _
  · intro sts hS hG
    cases sts with
    | nil => unfold evalBlock; exact .pure _
    | cons st rest =>
      simp only [canSs, Conf_or] at hS
      simp only [tokensSs, TokOK_append] at hG
      unfold evalBlock
      exact .bind (ih.stmt st hS.1 hG.1) fun _ => ih.block rest hS.2 hG.2
  · intro c b hSc hSb hGc hGb
    unfold whileLoop
    exact .bind (ih.expr c hSc hGc) fun _ => .bind (.readCell _) fun _ =>
      .ite (.loopIter (ihLoop.stmt b hSb hGb) (ih.whileL c b hSc hSb hGc hGb)) (.pure _)
  · intro c p b hSc hSp hSb hGc hGp hGb
    unfold forLoop
    exact .bind (ih.expr c hSc hGc) fun _ => .bind (.readCell _) fun _ =>
      .ite (.loopIter (ihLoop.stmt b hSb hGb)
        (.bind (ih.expr p hSp hGp) fun _ => ih.forL c p b hSc hSp hSb hGc hGp hGb)) (.pure _)
  · intro l il b items hSb hGb
    cases items with
    | nil => unfold forInLoop; exact .pure _
    | cons it rest =>
      rw [Spec.forInLoop_succ_cons]
      exact .bind (.bindRaw ..) fun _ => .loopIter (ihLoop.stmt b hSb hGb) (ih.forInL _ _ b _ hSb hGb)

/-- **every evaluator function is shaped**, with the signals and positions read off the syntax -/
theorem allShaped (hfG : prog.FnTok G) : ∀ n S, prog.FnConf S → AllShaped D G S prog n
  | 0 => fun S _ => allShaped_zero S
  | n + 1 => allShaped_succ hfG n (allShaped hfG n)

end Jqawk
