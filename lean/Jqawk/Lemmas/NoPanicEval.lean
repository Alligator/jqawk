/-
  Panic freedom (C01), part 3: what the evaluator calls that is not itself part of the mutual
  recursion — the natives (`NP.callNative`), `createSpeculative` and `evalAssignment`, the member
  step.  The induction over the evaluator functions is `NoPanicAll.lean`.
-/
import Jqawk.Lemmas.NoPanicLogic
import Jqawk.Model.WF
import Jqawk.Lemmas.CreateSpec


namespace Jqawk

variable {P : Region} {K : Option CellId → Prop}

theorem RegL.empty : RegL P (#[] : Array CellId).toList := by intro c h; simp at h
theorem RegL.nil : RegL P [] := by intro c h; cases h

theorem GoodVs.getD {vs : List Val} (h : GoodVs P vs) (i : Nat) : GoodV P (vs.getD i .unknown) := by
  rw [List.getD_eq_getElem?_getD]
  cases hi : vs[i]? with
  | none => trivial
  | some v => exact h v (List.mem_of_getElem? hi)

theorem GoodVs.nil : GoodVs P [] := by intro v h; cases h

theorem checkArg_good {vs : List Val} (h : GoodVs P vs) {i : Nat} {k : Kind} {v : Val}
    (hc : checkArg vs i k = .ok v) : GoodV P v := by
  unfold checkArg at hc
  split at hc
  · cases hc
  · rename_i w hw
    split at hc
    · cases hc; exact h _ (List.mem_of_getElem? hw)
    · cases hc

theorem containsLoop_ok (h : Heap) (v : Val) (cs : List CellId) : NatResOK P (containsLoop h v cs) := by
  induction cs with
  | nil => trivial
  | cons c cs ih =>
    unfold containsLoop
    dsimp only
    split
    · exact ih
    · split
      · trivial
      · split
        · trivial
        · exact ih

theorem pluckCollect_good {h : Heap} (ok : HeapOK P h) {members : List (Bytes × CellId)}
    (hm : RegM P members) : ∀ (ks : List Val) (acc : List (Bytes × Val)) (r : List (Bytes × Val)),
      (∀ kv ∈ acc, GoodV P kv.2) → pluckCollect h members ks acc = .ok r → ∀ kv ∈ r, GoodV P kv.2
  | [], acc, r, hacc, hr => by
    simp only [pluckCollect, Except.ok.injEq] at hr
    subst hr
    intro kv hkv
    exact hacc kv (List.mem_reverse.mp hkv)
  | k :: ks, acc, r, hacc, hr => by
    have key : ∀ key : Bytes, (match objLookup members key with
        | some c => pluckCollect h members ks ((key, h.get c) :: acc)
        | none => pluckCollect h members ks ((key, .nil none) :: acc)) = .ok r →
        ∀ kv ∈ r, GoodV P kv.2 := by
      intro key hr
      split at hr
      · rename_i c hc
        refine pluckCollect_good ok hm ks _ r ?_ hr
        intro kv hkv
        rcases List.mem_cons.mp hkv with hkv | hkv
        · subst hkv; exact ok.cells c (hm.lookup hc)
        · exact hacc kv hkv
      · refine pluckCollect_good ok hm ks _ r ?_ hr
        intro kv hkv
        rcases List.mem_cons.mp hkv with hkv | hkv
        · subst hkv; trivial
        · exact hacc kv hkv
    unfold pluckCollect at hr
    cases k <;> first | exact key _ hr | (simp at hr)

theorem regM_zip_fold {ks : List Bytes} {cells : List CellId} (hc : RegL P cells) :
    RegM P ((ks.zip cells).foldl (fun m kc => objInsert m kc.1 kc.2) []) := by
  apply RegM.foldInsert _ RegM.nil
  intro kc hkc
  exact hc kc.2 (List.of_mem_zip hkc).2

theorem sortCopies_good {h : Heap} (ok : HeapOK P h) {cs : List CellId} (hcs : RegL P cs) :
    GoodVs P ((cs.map h.get).map fun v => match copyVal v with | .ok w => w | .error _ => Val.str [] none) := by
  intro v hv
  simp only [List.map_map, List.mem_map, Function.comp] at hv
  obtain ⟨c, hc, rfl⟩ := hv
  split
  · rename_i w hw; exact copyVal_good hw (ok.cells c (hcs c hc))
  · trivial

theorem GoodVs.mergeSort {vs : List Val} (h : GoodVs P vs) (le : Val → Val → Bool) :
    GoodVs P (vs.mergeSort le) := by
  intro v hv
  exact h v (List.mem_mergeSort.mp hv)

theorem regL_pop {items : Array CellId} (h : RegL P items.toList) : RegL P items.pop.toList := by
  intro c hc
  rw [Array.toList_pop] at hc
  exact h c (List.dropLast_subset _ hc)

theorem regL_extract {items : Array CellId} (h : RegL P items.toList) (i j : Nat) :
    RegL P (items.extract i j).toList := by
  intro c hc
  simp only [Array.toList_extract] at hc
  exact h c (List.mem_of_mem_drop (List.mem_of_mem_take hc))

theorem regL_push {items : Array CellId} (h : RegL P items.toList) {c : CellId} (hc : P.N ≤ c) :
    RegL P (items.push c).toList := by
  intro d hd
  simp only [Array.toList_push, List.mem_append, List.mem_singleton] at hd
  rcases hd with hd | hd
  · exact h d hd
  · subst hd; exact hc

theorem NP.callNative (f : Native) {args : List Val} (hargs : GoodVs P args) {this : Option Val}
    (hthis : ∀ v, this = some v → GoodV P v) :
    NP P K (Jqawk.callNative f args this) (NatResOK P) := by
  unfold Jqawk.callNative
  apply NP.bind NP.getHeap
  intro h hh
  have harg0 : GoodV P (args.getD 0 .unknown) := hargs.getD 0
  -- `split`, not `cases f`: that would simplify the whole match once more in each of the 18 cases
  split
  -- `h_k`: the k-th alternative of `callNative`'s `match`, in the order of `Native`'s constructors
  case h_5 => -- push
    split
    · rename_i a
      have ha : P.A ≤ a := hthis _ rfl
      split
      · exact NP.pure trivial
      · refine NP.bind (NP.newCell harg0) (fun c hc => NP.bind NP.getHeap (fun h2 hh2 => ?_))
        exact NP.bind (NP.setHeap (hh2.setArr a (fun _ => regL_push (hh2.arrs a ha) hc)))
          (fun _ _ => NP.pure ha)
    · exact NP.pure trivial
  case h_6 => -- pop
    split
    · rename_i a
      have ha : P.A ≤ a := hthis _ rfl
      split
      · exact NP.pure trivial
      · dsimp only
        split
        · exact NP.pure trivial
        · rename_i hne
          have hlt : (h.arr a).size - 1 < (h.arr a).size := by
            have : (h.arr a).size ≠ 0 := by simpa using hne
            omega
          exact NP.bind (NP.setHeap (hh.setArr a (fun _ => regL_pop (hh.arrs a ha))))
            (fun _ _ => NP.pure (hh.cells _ (hh.arr_getD ha hlt)))
    · exact NP.pure trivial
  case h_7 => -- popfirst
    split
    · rename_i a
      have ha : P.A ≤ a := hthis _ rfl
      split
      · exact NP.pure trivial
      · dsimp only
        split
        · exact NP.pure trivial
        · rename_i hne
          have hlt : 0 < (h.arr a).size := by
            have : (h.arr a).size ≠ 0 := by simpa using hne
            omega
          exact NP.bind (NP.setHeap (hh.setArr a (fun _ => regL_extract (hh.arrs a ha) _ _)))
            (fun _ _ => NP.pure (hh.cells _ (hh.arr_getD ha hlt)))
    · exact NP.pure trivial
  case h_8 => -- contains
    split
    · split
      · exact NP.pure trivial
      · exact NP.pure (containsLoop_ok _ _ _)
    · exact NP.pure trivial
  case h_9 => -- sort
    split
    · rename_i a
      have ha : P.A ≤ a := hthis _ rfl
      refine NP.bind (NP.newArrayOf ?_) (fun r hr => NP.pure hr)
      split
      · exact (sortCopies_good hh (hh.arrs a ha)).mergeSort _
      · exact (sortCopies_good hh (hh.arrs a ha)).mergeSort _
    · exact NP.pure trivial
  case h_11 => -- pluck
    split
    · rename_i o
      have ho : P.O ≤ o := hthis _ rfl
      dsimp only
      split
      · exact NP.pure trivial
      · rename_i kvs hkvs
        have hg := pluckCollect_good hh (hh.objs o ho) args [] kvs (by intro kv h; cases h) hkvs
        refine NP.bind (NP.allocCells (vs := kvs.map (·.2)) ?_) (fun cells hcells =>
          NP.bind NP.getHeap (fun h2 hh2 => ?_))
        · intro v hv
          obtain ⟨kv, hkv, rfl⟩ := List.mem_map.mp hv
          exact hg kv hkv
        · have hao := hh2.allocObj (m := ((kvs.map (·.1)).zip cells).foldl
            (fun m kc => objInsert m kc.1 kc.2) []) (regM_zip_fold hcells)
          exact NP.bind (NP.setHeap hao.1) (fun _ _ => NP.pure hao.2)
    · exact NP.pure trivial
  case h_13 => -- split
    split
    · split
      · exact NP.pure trivial
      · refine NP.bind (NP.newArrayOf ?_) (fun r hr => NP.pure hr)
        intro v hv
        obtain ⟨x, _, rfl⟩ := List.mem_map.mp hv
        trivial
    · exact NP.bind (NP.newArrayOf GoodVs.nil) (fun r hr => NP.pure hr)
  -- the remaining natives only compute a scalar (`printf` also writes output)
  all_goals repeat' first
    | split
    | exact NP.pure trivial
    | exact NP.oof
    | exact NP.throwUnmodelled _
    | exact NP.bind (NP.emit _) (fun _ _ => NP.pure trivial)

/-- the value carries speculative-member information (`ParentObj != nil`) -/
def HasSpec : Val → Prop
  | .nil (some _) => True
  | .native _ _ (some _) => True
  | .str _ (some _) => True
  | _ => False

/-- allocate a cell and continue with a computation that may rely on the cell's content -/
theorem NP.newCell_then {β : Type} {v : Val} (hv : GoodV P v) {f : CellId → EM β} {R : β → Prop}
    (hf : ∀ c s, InvK P K s → P.N ≤ c → s.heap.get c = v → NPat P K (f c) R s) :
    NP P K (Jqawk.newCell v >>= f) R := by
  intro s hs
  have h := NP.newCell (K := K) hv s hs
  show NPres P K R (EM.bind (Jqawk.newCell v) f s)
  unfold EM.bind
  unfold NPat Jqawk.newCell at h
  simp only [Jqawk.newCell]
  exact hf _ _ h.1 h.2 (Heap.get_alloc_new s.heap v)

theorem HasSpec.specOf {sv : Val} (h : HasSpec sv) (hg : GoodV P sv) :
    ∃ spec, Jqawk.specOf sv = some spec ∧ P.N ≤ spec.parent := by
  cases sv with
  | nil sp => cases sp with
    | none => exact h.elim
    | some spec => exact ⟨spec, rfl, hg⟩
  | native f b sp => cases sp with
    | none => exact h.elim
    | some spec => exact ⟨spec, rfl, hg.2⟩
  | str x sp => cases sp with
    | none => exact h.elim
    | some spec => exact ⟨spec, rfl, hg⟩
  | _ => exact h.elim

theorem NP.newContainer (b : Bool) : NP P K (Jqawk.newContainer b) (GoodV P) := by
  unfold Jqawk.newContainer
  split
  · exact NP.bind (NP.allocArrM RegL.empty) (fun a ha => NP.pure ha)
  · exact NP.bind (NP.allocObjM RegM.nil) (fun o ho => NP.pure ho)

theorem NP.setMemberM {target : Val} (ht : GoodV P target) (m : Val) {cell : CellId} (hc : P.N ≤ cell) :
    NP P K (Jqawk.setMemberM target m cell) (ExReg P) := by
  intro s hs
  unfold NPat Jqawk.setMemberM
  split
  · exact ⟨hs, trivial⟩
  · rename_i c' h' hsm
    have := setMember_ok hs.heap ht hc hsm
    exact ⟨⟨⟨this.1, hs.frames, hs.ret⟩, hs.rr⟩, this.2⟩

/-- stated at one state (`NPat`): the precondition `HasSpec (s.heap.get c)` is about the current heap -/
theorem createSpeculative_np : ∀ (n : Nat) (c : CellId) (s : St), InvK P K s → P.N ≤ c →
    HasSpec (s.heap.get c) → NPat P K (createSpeculative n c) (ExReg P) s
  | 0, c, s, hs, hc, hsp => trivial
  | n + 1, c, s, hs, hc, hsp => by
    rw [createSpeculative_eq]
    refine NP.bindAt (R1 := fun sv => GoodV P sv ∧ HasSpec sv) ⟨hs, hs.heap.cells c hc, hsp⟩ ?_
    intro sv ⟨hg, hsv⟩
    obtain ⟨spec, hspec, hpar⟩ := hsv.specOf hg
    rw [hspec]
    refine NP.bind (NP.readCell hpar) (fun pv hpv => ?_)
    have fill : ∀ {o : Val}, GoodV P o → NP P K (do
        writeCell spec.parent o
        setMemberM o (keyVal spec.key) c) (ExReg P) :=
      fun ho => NP.bind (NP.writeCell _ ho) (fun _ _ => NP.setMemberM ho _ hc)
    split
    · exact NP.pure trivial
    · exact NP.bind (NP.newContainer _) (fun o ho => fill ho)
    · refine NP.newCell_then hpv (fun pc s1 hs1 hpc hget => ?_)
      refine NP.bindAt (createSpeculative_np n pc s1 hs1 hpc (by rw [hget]; trivial)) (fun r hr => ?_)
      split
      · exact NP.pure trivial
      · exact NP.bind (NP.newContainer _) (fun o ho => NP.bind (NP.writeCell _ ho) (fun _ _ => fill ho))
    · exact NP.setMemberM hpv _ hc

theorem NPat.readCell_bind {β : Type} {c : CellId} {f : Val → EM β} {R : β → Prop} {s : St}
    (h : NPat P K (f (s.heap.get c)) R s) : NPat P K (readCell c >>= f) R s := h

theorem NPat.getHeap_bind {β : Type} {f : Heap → EM β} {R : β → Prop} {s : St}
    (h : NPat P K (f s.heap) R s) : NPat P K (getHeap >>= f) R s := h

theorem needsCreate_hasSpec {lv : Val}
    (h : (match lv with
      | .nil (some _) => true
      | .native _ _ (some _) => true
      | .str _ (some _) => true
      | _ => false) = true) : HasSpec lv := by
  split at h <;> first | trivial | cases h

/-- `evalAssignment`: a speculative target is materialised first — it always has a parent -/
theorem NP.evalAssignment (pos : Nat) {l r : CellId} (hl : P.N ≤ l) (hr : P.N ≤ r) :
    NP P K (Jqawk.evalAssignment pos l r) (InR P) := by
  intro s hs
  unfold Jqawk.evalAssignment
  apply NPat.readCell_bind
  dsimp only
  refine NP.bindAt (R1 := InR P) ?_ (fun target ht => NP.bind (NP.copyValue hr ht) (fun x hx => ?_))
  · have create : HasSpec (s.heap.get l) → NPat P K (do
          let h ← Jqawk.getHeap
          match (← createSpeculative (h.cells.size + 2) l) with
          | .error m => Jqawk.throwRt pos m
          | .ok c => Pure.pure c : EM CellId) (InR P) s := by
      intro hsp
      apply NPat.getHeap_bind
      refine NP.bindAt (createSpeculative_np _ l s hs hl hsp) (fun x hx => ?_)
      split
      · exact NP.throwRt _ _
      · exact NP.pure hx
    split
    · rename_i heq; simp only [↓reduceIte]; exact create (by rw [heq]; trivial)
    · rename_i heq; simp only [↓reduceIte]; exact create (by rw [heq]; trivial)
    · rename_i heq; simp only [↓reduceIte]; exact create (by rw [heq]; trivial)
    · simp only [Bool.false_eq_true, ↓reduceIte]; exact NP.pure hl s hs
  · split
    · exact NP.throwRt _ _
    · exact NP.pure hx

/-- the member / index step: every cell it hands out lies in the region; an unset base is only
    read (it yields a speculative null whose parent is the base cell) -/
theorem NP.memberStep (pos : Nat) {l r : CellId} (hl : P.N ≤ l) (hr : P.N ≤ r) :
    NP P K (Jqawk.memberStep pos l r) (InR P) := by
  unfold Jqawk.memberStep
  refine NP.bind (NP.readCell hr) (fun rv hrv => NP.bind (NP.readCell hl) (fun lv hlv => ?_))
  split
  · exact NP.newCell hl
  · refine NP.bind NP.getHeap (fun h hh => ?_)
    split
    · exact NP.throwRt _ _
    · exact NP.newCell hl
    · exact NP.newCell ⟨hl, hl⟩
    · exact NP.newCell hl
    · exact NP.newCell hl
    · rename_i c hgm
      have hc := getMember_cell hh hlv hgm
      split
      · exact NP.newCell ⟨hl, hl⟩
      · exact NP.pure hc

end Jqawk
