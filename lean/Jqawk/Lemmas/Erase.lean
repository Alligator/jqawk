/-
  Position erasure on tokens, ASTs and parse results, and the relational ("up to positions")
  version of the bisimulation principle for the parser monad (`PM.run_sim`): this is the working
  tool of the layout theorems, which compare runs on two texts, so with different positions and,
  the texts having different lengths, different fuel: hence `PM.Sim.oofL`.  (Fuel monotonicity for
  one text, with positions, is Lemmas/ParserMono.lean.)
-/
import Jqawk.Lemmas.PM

namespace Jqawk

def Token.erase (t : Token) : Token := { t with pos := 0 }

mutual
def Expr.erase : Expr → Expr
  | .lit t => .lit t.erase
  | .ident t => .ident t.erase
  | .arr t items => .arr t.erase (eraseExprs items)
  | .obj t items => .obj t.erase (eraseKVs items)
  | .unary e op p => .unary e.erase op.erase p
  | .binary l r op => .binary l.erase r.erase op.erase
  | .call f args => .call f.erase (eraseExprs args)
  | .match_ t v cases => .match_ t.erase v.erase (eraseCases cases)
def eraseExprs : List Expr → List Expr
  | [] => []
  | e :: es => e.erase :: eraseExprs es
def eraseKVs : List (Bytes × Expr) → List (Bytes × Expr)
  | [] => []
  | (k, e) :: es => (k, e.erase) :: eraseKVs es
def eraseCases : List MatchCase → List MatchCase
  | [] => []
  | (.mk pats body) :: cs => .mk (eraseExprs pats) body.erase :: eraseCases cs
def Stmt.erase : Stmt → Stmt
  | .block t body => .block t.erase (eraseStmts body)
  | .print t args => .print t.erase (eraseExprs args)
  | .expr e => .expr e.erase
  | .ret none => .ret none
  | .ret (some e) => .ret (some e.erase)
  | .brk t => .brk t.erase
  | .cont t => .cont t.erase
  | .next t => .next t.erase
  | .exit t => .exit t.erase
  | .if_ c b none => .if_ c.erase b.erase none
  | .if_ c b (some e) => .if_ c.erase b.erase (some e.erase)
  | .while_ c b => .while_ c.erase b.erase
  | .for_ pre c post b => .for_ pre.erase c.erase post.erase b.erase
  | .forIn id idx iter body => .forIn id.erase (idx.map Token.erase) iter.erase body.erase
def eraseStmts : List Stmt → List Stmt
  | [] => []
  | s :: ss => s.erase :: eraseStmts ss
end

def MatchCase.erase : MatchCase → MatchCase
  | .mk pats body => .mk (eraseExprs pats) body.erase

def Rule.erase (r : Rule) : Rule := ⟨r.kind, r.pattern.map Expr.erase, r.body.erase⟩
def FuncDef.erase (f : FuncDef) : FuncDef := ⟨f.ident.erase, f.args, f.body.erase⟩
def Program.erase (p : Program) : Program := ⟨p.rules.map Rule.erase, p.functions.map FuncDef.erase⟩
def PS.erase (s : PS) : PS := { s with cur := s.cur.erase, prev := s.prev.erase }

class Erase (α : Type) where
  erase : α → α

export Erase (erase)

instance : Erase Unit := ⟨id⟩
instance : Erase Bool := ⟨id⟩
instance : Erase Tag := ⟨id⟩
instance : Erase Bytes := ⟨id⟩
instance : Erase RuleKind := ⟨id⟩
instance : Erase Token := ⟨Token.erase⟩
instance : Erase Expr := ⟨Expr.erase⟩
instance : Erase Stmt := ⟨Stmt.erase⟩
instance : Erase MatchCase := ⟨MatchCase.erase⟩
instance : Erase Rule := ⟨Rule.erase⟩
instance : Erase FuncDef := ⟨FuncDef.erase⟩
instance : Erase Program := ⟨Program.erase⟩
instance : Erase PS := ⟨PS.erase⟩
instance {α : Type} [Erase α] : Erase (List α) := ⟨List.map erase⟩
instance {α : Type} [Erase α] : Erase (Option α) := ⟨Option.map erase⟩
instance {α β : Type} [Erase α] [Erase β] : Erase (α × β) := ⟨fun p => (erase p.1, erase p.2)⟩

section simp_lemmas
variable {α β : Type} [Erase α] [Erase β]

@[simp] theorem erase_unit (u : Unit) : erase u = u := rfl
@[simp] theorem erase_bool (b : Bool) : erase b = b := rfl
@[simp] theorem erase_tag (t : Tag) : erase t = t := rfl
@[simp] theorem erase_bytes (b : Bytes) : erase b = b := rfl
@[simp] theorem erase_ruleKind (b : RuleKind) : erase b = b := rfl
@[simp] theorem erase_pair (a : α) (b : β) : erase (a, b) = (erase a, erase b) := rfl
@[simp] theorem erase_nil : erase ([] : List α) = [] := rfl
@[simp] theorem erase_cons (a : α) (l : List α) : erase (a :: l) = erase a :: erase l := rfl
@[simp] theorem erase_reverse (l : List α) : erase l.reverse = (erase l).reverse := by
  show List.map _ _ = _; rw [List.map_reverse]; rfl
@[simp] theorem erase_none : erase (none : Option α) = none := rfl
@[simp] theorem erase_some (a : α) : erase (some a) = some (erase a) := rfl
theorem erase_token (t : Token) : erase t = ⟨t.tag, 0, t.text⟩ := rfl
theorem erase_token_eq_iff (t u : Token) : erase t = erase u ↔ t.tag = u.tag ∧ t.text = u.text := by
  cases t; cases u; simp [erase_token]
theorem erase_listBytes (l : List Bytes) : erase l = l := by
  show List.map _ _ = _; simp [show (erase : Bytes → Bytes) = id from rfl]

theorem eraseExprs_eq (l : List Expr) : eraseExprs l = erase l := by
  induction l with
  | nil => rfl
  | cons e es ih => simp only [eraseExprs, ih]; rfl
theorem eraseStmts_eq (l : List Stmt) : eraseStmts l = erase l := by
  induction l with
  | nil => rfl
  | cons e es ih => simp only [eraseStmts, ih]; rfl
theorem eraseKVs_eq (l : List (Bytes × Expr)) : eraseKVs l = erase l := by
  induction l with
  | nil => rfl
  | cons e es ih => obtain ⟨k, v⟩ := e; simp only [eraseKVs, ih]; rfl
theorem eraseCases_eq (l : List MatchCase) : eraseCases l = erase l := by
  induction l with
  | nil => rfl
  | cons e es ih => cases e; simp only [eraseCases, ih]; rfl

theorem erase_ps_eq_iff (s t : PS) : erase s = erase t ↔
    s.cur.tag = t.cur.tag ∧ s.cur.text = t.cur.text ∧ s.prev.tag = t.prev.tag ∧
    s.prev.text = t.prev.text ∧ s.didEnd = t.didEnd ∧ s.inFn = t.inFn ∧ s.inLoop = t.inLoop := by
  obtain ⟨⟨a1, a2, a3⟩, ⟨b1, b2, b3⟩, c, d, e⟩ := s
  obtain ⟨⟨a1', a2', a3'⟩, ⟨b1', b2', b3'⟩, c', d', e'⟩ := t
  simp [erase, PS.erase, Token.erase]
  constructor
  · rintro ⟨⟨h1, h2⟩, ⟨h3, h4⟩, h5, h6, h7⟩; exact ⟨h1, h2, h3, h4, h5, h6, h7⟩
  · rintro ⟨h1, h2, h3, h4, h5, h6, h7⟩; exact ⟨⟨h1, h2⟩, ⟨h3, h4⟩, h5, h6, h7⟩

end simp_lemmas

namespace PM

/-- The left program may run out of fuel at any point (`oofL`): this is what lets the relation
    compare different amounts of fuel. -/
inductive Sim {α : Type} [Erase α] : PM α → PM α → Prop
  | pure {a b : α} : erase a = erase b → Sim (.pure a) (.pure b)
  | fail {e₁ e₂ : SynErr} : e₁.msg = e₂.msg → Sim (.fail e₁) (.fail e₂)
  | oofL {m : PM α} : Sim .oof m
  | next {k₁ k₂ : Token → Bool → PM α} :
      (∀ t₁ t₂ nl, erase t₁ = erase t₂ → Sim (k₁ t₁ nl) (k₂ t₂ nl)) → Sim (.next k₁) (.next k₂)
  | regex {k₁ k₂ : Token → PM α} :
      (∀ t₁ t₂, erase t₁ = erase t₂ → Sim (k₁ t₁) (k₂ t₂)) → Sim (.regex k₁) (.regex k₂)

theorem Sim.bind {α β : Type} [Erase α] [Erase β] {m₁ m₂ : PM α} {f g : α → PM β}
    (h : Sim m₁ m₂) (hf : ∀ a b, erase a = erase b → Sim (f a) (g b)) :
    Sim (m₁.bind f) (m₂.bind g) := by
  induction h with
  | pure hab => exact hf _ _ hab
  | fail he => exact .fail he
  | oofL => exact .oofL
  | next _ ih => exact .next fun t₁ t₂ nl ht => ih t₁ t₂ nl ht
  | regex _ ih => exact .regex fun t₁ t₂ ht => ih t₁ t₂ ht

end PM

inductive ParseRes.Sim {α : Type} [Erase α] : ParseRes α → ParseRes α → Prop
  | ok {a b : α} : erase a = erase b → ParseRes.Sim (.ok a) (.ok b)
  | syntaxErr {e₁ e₂ : SynErr} : e₁.msg = e₂.msg → ParseRes.Sim (.syntaxErr e₁) (.syntaxErr e₂)
  | oofL {r : ParseRes α} : ParseRes.Sim .oof r

namespace PM

def AnsNextE {σ₁ σ₂ : Type} (R : σ₁ → σ₂ → Prop) :
    Except SynErr (Token × Bool × σ₁) → Except SynErr (Token × Bool × σ₂) → Prop
  | .error e₁, .error e₂ => e₁.msg = e₂.msg
  | .ok (t₁, nl₁, s₁), .ok (t₂, nl₂, s₂) => erase t₁ = erase t₂ ∧ nl₁ = nl₂ ∧ R s₁ s₂
  | _, _ => False

def AnsRegexE {σ₁ σ₂ : Type} (R : σ₁ → σ₂ → Prop) :
    Except SynErr (Token × σ₁) → Except SynErr (Token × σ₂) → Prop
  | .error e₁, .error e₂ => e₁.msg = e₂.msg
  | .ok (t₁, s₁), .ok (t₂, s₂) => erase t₁ = erase t₂ ∧ R s₁ s₂
  | _, _ => False

structure IsSimE {σ₁ σ₂ : Type} (src₁ : TokSrc σ₁) (src₂ : TokSrc σ₂) (R : σ₁ → σ₂ → Prop) :
    Prop where
  next : ∀ s₁ s₂, R s₁ s₂ → AnsNextE R (src₁.next s₁) (src₂.next s₂)
  regex : ∀ s₁ s₂, R s₁ s₂ → AnsRegexE R (src₁.regex s₁) (src₂.regex s₂)

theorem run_sim {σ₁ σ₂ α : Type} [Erase α] {src₁ : TokSrc σ₁} {src₂ : TokSrc σ₂}
    {R : σ₁ → σ₂ → Prop} (hR : IsSimE src₁ src₂ R) {m₁ m₂ : PM α} (hm : Sim m₁ m₂)
    (s₁ : σ₁) (s₂ : σ₂) (h : R s₁ s₂) :
    ParseRes.Sim (m₁.runWith src₁ s₁) (m₂.runWith src₂ s₂) := by
  induction hm generalizing s₁ s₂ with
  | pure hab => exact .ok hab
  | fail he => exact .syntaxErr he
  | oofL => exact .oofL
  | next _ ih =>
    have hn := hR.next s₁ s₂ h
    simp only [runWith]
    cases h₁ : src₁.next s₁ with
    | error e₁ =>
      cases h₂ : src₂.next s₂ with
      | error e₂ => rw [h₁, h₂] at hn; exact .syntaxErr hn
      | ok r₂ => rw [h₁, h₂] at hn; simp [AnsNextE] at hn
    | ok r₁ =>
      obtain ⟨t₁, nl₁, s₁'⟩ := r₁
      cases h₂ : src₂.next s₂ with
      | error e₂ => rw [h₁, h₂] at hn; simp [AnsNextE] at hn
      | ok r₂ =>
        obtain ⟨t₂, nl₂, s₂'⟩ := r₂
        rw [h₁, h₂] at hn
        obtain ⟨ht, rfl, hs⟩ := hn
        exact ih _ _ _ ht _ _ hs
  | regex _ ih =>
    have hn := hR.regex s₁ s₂ h
    simp only [runWith]
    cases h₁ : src₁.regex s₁ with
    | error e₁ =>
      cases h₂ : src₂.regex s₂ with
      | error e₂ => rw [h₁, h₂] at hn; exact .syntaxErr hn
      | ok r₂ => rw [h₁, h₂] at hn; simp [AnsRegexE] at hn
    | ok r₁ =>
      obtain ⟨t₁, s₁'⟩ := r₁
      cases h₂ : src₂.regex s₂ with
      | error e₂ => rw [h₁, h₂] at hn; simp [AnsRegexE] at hn
      | ok r₂ =>
        obtain ⟨t₂, s₂'⟩ := r₂
        rw [h₁, h₂] at hn
        obtain ⟨ht, hs⟩ := hn
        exact ih _ _ ht _ _ hs

end PM

def PSim {α : Type} [Erase α] (p₁ p₂ : P α) : Prop :=
  ∀ s₁ s₂ : PS, erase s₁ = erase s₂ → PM.Sim (p₁ s₁) (p₂ s₂)

namespace PSim
variable {α β : Type} [Erase α] [Erase β]

theorem bind {p₁ p₂ : P α} {f g : α → P β} (h : PSim p₁ p₂)
    (hf : ∀ a b, erase a = erase b → PSim (f a) (g b)) : PSim (p₁ >>= f) (p₂ >>= g) := by
  intro s₁ s₂ hs
  show PM.Sim ((p₁ s₁).bind _) ((p₂ s₂).bind _)
  refine PM.Sim.bind (h s₁ s₂ hs) ?_
  rintro ⟨a, t₁⟩ ⟨b, t₂⟩ hab
  simp only [erase_pair, Prod.mk.injEq] at hab
  exact hf a b hab.1 t₁ t₂ hab.2

theorem pure {a b : α} (h : erase a = erase b) : PSim (Pure.pure a : P α) (Pure.pure b) := by
  intro s₁ s₂ hs
  exact PM.Sim.pure (by simp [h, hs])

theorem get : PSim (MonadState.get : P PS) MonadState.get := by
  intro s₁ s₂ hs
  exact PM.Sim.pure (by simp [hs])

theorem modify {f g : PS → PS} (h : ∀ s₁ s₂, erase s₁ = erase s₂ → erase (f s₁) = erase (g s₂)) :
    PSim (modify f : P Unit) (modify g) := by
  intro s₁ s₂ hs
  exact PM.Sim.pure (by simp [h s₁ s₂ hs])

theorem fail {p₁ p₂ : Nat} {msg : String} : PSim (Parser.fail p₁ msg : P α) (Parser.fail p₂ msg) := by
  intro s₁ s₂ _
  exact PM.Sim.fail rfl

theorem oofL {p : P α} : PSim (Parser.oof : P α) p := by
  intro s₁ s₂ _
  exact PM.Sim.oofL

theorem advance : PSim Parser.advance Parser.advance := by
  intro s₁ s₂ hs
  refine PM.Sim.next fun t₁ t₂ nl ht => PM.Sim.pure ?_
  rw [erase_ps_eq_iff] at hs
  rw [erase_token_eq_iff] at ht
  simp only [erase_pair, erase_unit, Prod.mk.injEq, true_and]
  rw [erase_ps_eq_iff]
  simp [hs, ht]

end PSim

end Jqawk
