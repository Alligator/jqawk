/-
  C06: the Pratt parser inverts the renderings of `Spec/Grammar.lean`, at any depth.
  Main lemma (`RenderOK e`): parsing, in a context of level `p`, a rendering of `e` for a context
  of level `q ≥ p` that is followed by a token `c` which cannot continue `e`, reaches the
  operator loop `infixLoop p` with left operand `toExpr e` and current token `c`
  (`Reaches`, Lemmas/PrattChain.lean).  Each construct of the grammar is one step `body_*` from
  the same fact about its operands.
  `level` and `R` here are those of the whole grammar `PE` at position 0; PrattChain has the same
  two notions for its operator trees `TE` over arbitrary tokens: two independent uses of `Reaches`.
-/
import Jqawk.Spec.Grammar
import Jqawk.Lemmas.PrattChain

namespace Jqawk.Pratt
open Jqawk Jqawk.Grammar Jqawk.Parser

/-- right-openness: the largest precedence a token following `e` (not in parentheses) may have
    without being absorbed by `e`'s last operand (`topLevel`: `e` ends with a closed construct) -/
def R : PE → Nat
  | .bin op _ _ => op.level
  | .un _ _ | .preInc _ _ => 6
  | .assign _ _ _ => 0
  | _ => topLevel

mutual
/-- fuel sufficient to parse a rendering of `e` -/
def cost : PE → Nat
  | .ident _ | .dollar | .lit _ => 1
  | .bin _ l r => cost l + cost r + 8
  | .un _ e => cost e + 8
  | .preInc _ e => cost e + 8
  | .postfix _ e => cost e + 8
  | .isType e _ => cost e + 8
  | .member e _ => cost e + 8
  | .index e i => cost e + cost i + 8
  | .call f args => cost f + costs args + 8
  | .arr items => costs items + 8
  | .obj items => costsKV items + 8
  | .assign _ t v => cost t + cost v + 8
def costs : List PE → Nat
  | [] => 0
  | e :: es => cost e + 4 + costs es
def costsKV : List (ObjKey × PE) → Nat
  | [] => 0
  | (_, e) :: r => cost e + 4 + costsKV r
end

theorem BinOp.level_range (op : BinOp) : 2 ≤ op.level ∧ op.level ≤ 5 := by cases op <;> decide

theorem level_ge (e : PE) : 1 ≤ e.level := by
  cases e <;> simp [PE.level, topLevel]
  exact Nat.le_trans (by decide) (BinOp.level_range _).1

theorem level_le (e : PE) : e.level ≤ 10 := by
  cases e <;> simp [PE.level, topLevel]
  exact Nat.le_trans (BinOp.level_range _).2 (by decide)

theorem R_spec (e : PE) :
    e.level ≤ R e ∨ (e.level = 7 ∧ R e = 6) ∨ (e.level = 1 ∧ R e = 0) := by
  cases e <;> simp [PE.level, R, topLevel]

theorem R_target (e : PE) (h : 8 ≤ e.level) : R e = 10 := by
  cases e <;> simp [PE.level, R, topLevel] at h ⊢
  have := (BinOp.level_range ‹_›).2; omega

theorem lv_cases (force : Bool) (n : Nat) : lv force n = n ∨ lv force n = 10 := by
  cases force <;> simp [lv, topLevel]

theorem precT_bin (op : BinOp) : precT op.tag = op.level := by cases op <;> rfl
theorem inf_bin (op : BinOp) : (lookupRule T op.tag).inf = some .binary := by cases op <;> rfl

theorem pre_un (op : UnOp) : (lookupRule T op.tag).pre = some .unary := by cases op <;> rfl
theorem pre_inc (op : IncOp) : (lookupRule T op.tag).pre = some .unary := by cases op <;> rfl
theorem inf_inc (op : IncOp) : (lookupRule T op.tag).inf = some .postfixOp := by cases op <;> rfl
theorem precT_inc (op : IncOp) : precT op.tag = 6 := by cases op <;> rfl
theorem precT_asg (op : AsgOp) : precT op.tag = 1 := by cases op <;> rfl
theorem inf_asg (op : AsgOp) : (lookupRule T op.tag).inf = some .assign := by cases op <;> rfl

/-- parsing a rendering of `e` for a level-`q` context, in a context of level `p ≤ q` -/
def RenderOK (e : PE) : Prop :=
  e.wf = true → ∀ (pol : PE → Bool) (q : Nat),
    Reaches (render pol q e) (toExpr e) q (fun m => e.level < q ∨ m ≤ R e) (cost e + 2)

/-- the same for the rendering without parentheses around the whole -/
def BodyOK (e : PE) : Prop :=
  e.wf = true → ∀ pol : PE → Bool, Reaches (body pol e) (toExpr e) e.level (· ≤ R e) (cost e)

theorem render_of_body (e : PE) (hb : BodyOK e) : RenderOK e := by
  intro hwf pol q
  unfold render wrapAt
  split
  · exact (reaches_paren (hb hwf pol) rfl rfl (level_ge e) (Nat.zero_le _) q).mono (Nat.le_refl _)
      (fun _ _ => trivial) (Nat.le_refl _)
  · exact (hb hwf pol).mono (by omega) (fun m h => by omega) (Nat.le_add_right _ 2)

namespace RenderOK

/-- a subexpression as the left operand of an operator of level `k`: it is rendered for level
    `k` and does not absorb the operator -/
theorem left {e : PE} (he : RenderOK e) (hwf : e.wf = true) (pol : PE → Bool) (k : Nat)
    (hk : 2 ≤ k ∧ k ≤ 6) :
    Reaches (render pol (lv (pol e) k) e) (toExpr e) k (· ≤ k) (cost e + 2) := by
  have := lv_cases (pol e) k; have := R_spec e; have := level_le e
  exact (he hwf pol _).mono (by omega) (fun m hm => by omega) (Nat.le_refl _)

/-- a subexpression as the target of a call, member, index, postfix or assignment operator: it is
    rendered for level 8 and absorbs nothing -/
theorem target {e : PE} (he : RenderOK e) (hwf : e.wf = true) (pol : PE → Bool) :
    Reaches (render pol (lv (pol e) 8) e) (toExpr e) 8 (· ≤ 10) (cost e + 2) := by
  have := lv_cases (pol e) 8; have := level_le e
  refine (he hwf pol _).mono (by omega) (fun m hm => ?_) (Nat.le_refl _)
  by_cases h : e.level < lv (pol e) 8
  · exact .inl h
  · exact .inr (by rw [R_target e (by omega)]; exact hm)

/-- a subexpression as an operand parsed at level `k` of its own: it ends at any token below `k` -/
theorem operand {e : PE} (he : RenderOK e) (hwf : e.wf = true) (pol : PE → Bool) (k : Nat)
    (hk : k ≤ 10) :
    Reaches (render pol (lv (pol e) k) e) (toExpr e) k (· < k) (cost e + 2) := by
  have := lv_cases (pol e) k; have := R_spec e; have := level_le e
  exact (he hwf pol _).mono (by omega) (fun m hm => by omega) (Nat.le_refl _)

end RenderOK

theorem body_ident (n : Bytes) : BodyOK (.ident n) := fun _ _ =>
  reaches_atom (t := identTok n) _ _ fun n p s c more hs => by
    rw [expr_ident n p s c more (by rw [hs]; exact .inl rfl), hs]; rfl

theorem body_dollar : BodyOK .dollar := fun _ _ =>
  reaches_atom (t := opTok .dollar) _ _ fun n p s c more hs => by
    rw [expr_ident n p s c more (by rw [hs]; exact .inr rfl), hs]; rfl

theorem body_lit (l : Lit) : BodyOK (.lit l) := fun _ _ =>
  reaches_atom (t := l.tok) _ _ fun n p s c more hs => by
    rw [expr_lit n p s c more (by rw [hs]; cases l <;> simp [Lit.tok, opTok]), hs]; rfl

theorem body_bin (op : BinOp) (l r : PE) (hl : RenderOK l) (hr : RenderOK r) :
    BodyOK (.bin op l r) := by
  intro hwf pol
  simp only [PE.wf, Bool.and_eq_true] at hwf
  have := BinOp.level_range op
  have hp : precT (opTok op.tag).tag = op.level := precT_bin op
  have h := reaches_bin (o := opTok op.tag) (hl.left hwf.1 pol op.level (by omega))
    (hr.operand hwf.2 pol (op.level + 1) (by omega)) (inf_bin op) (Nat.le_of_eq hp)
    (Nat.lt_succ_of_le (Nat.le_of_eq hp)) (fun m hm => Nat.lt_succ_of_le (hp ▸ hm))
  rw [hp] at h
  exact h.mono (Nat.le_of_eq (Nat.min_self _).symm) (fun _ h => h) (by simp only [cost]; omega)

theorem assignable_target (t : PE) (h : t.isTarget = true) : assignable (toExpr t) = true := by
  cases t <;> simp [PE.isTarget] at h <;> simp [toExpr, assignable, opTok]

section
variable {ts ti : List Token} {x xi : Expr} {lev li : Nat} {fol fi : Nat → Prop} {k ki : Nat}

/-- a prefix operator: the operand is taken whole at level 7; `++ --` want a target -/
theorem reaches_prefix {o : Token} (h : Reaches ts x lev fol k)
    (ho : (lookupRule T o.tag).pre = some .unary) (h7 : 7 ≤ lev) (hf : ∀ m, m < 7 → fol m)
    (hinc : ((o.tag == .plusPlus || o.tag == .minusMinus) && !assignable x) = false) (lev' : Nat) :
    Reaches ([o] ++ ts) (.unary x o false) lev' (· < 7) (k + 2) := by
  intro p c more s rest F hs _ hc hF
  simp only [List.cons_append, List.nil_append] at hs
  obtain ⟨hcur, rfl⟩ := List.cons.inj hs
  obtain ⟨t, ts', hcons⟩ := exists_cons ts c more
  obtain ⟨n, rfl⟩ := Nat.exists_eq_add_of_le' (show 2 ≤ F by omega)
  obtain ⟨s1, hs1, e1⟩ := h.stop (s := adv s t) hcons.symm h7 (hf _ hc) hc (show k < n by omega)
  rw [hcons, expr_unary n p s t ts' (by rw [hcur]; exact ho),
    show Prec.unary = 7 from rfl, e1]
  simp only [ParseRes.bind_ok, hcur, hinc, Bool.false_eq_true, if_false]
  exact ⟨n + 1, s1, hs1, by omega, rfl⟩

theorem reaches_index {o rb : Token} (h : Reaches ts x lev fol k) (hi : Reaches ti xi li fi ki)
    (ho : o.tag = .lsquare) (hrb : rb.tag = .rsquare) (hfo : fol 8) (h1 : 1 ≤ li) (h0 : fi 0) :
    Reaches (ts ++ [o] ++ ti ++ [rb]) (.binary x xi o) (min 8 lev) (fun _ => True) (k + ki + 3) := by
  intro p c more s rest F hs hp _ hF
  simp only [List.append_assoc, List.cons_append, List.nil_append] at hs
  obtain ⟨hp8, hpl⟩ := Nat.le_min.1 hp
  have hpo : precT o.tag = 8 := by rw [ho]; rfl
  have hp0 : precT rb.tag = 0 := by rw [hrb]; rfl
  obtain ⟨F1, s1, hs1, hF1, e1⟩ := h p o _ s rest F hs hpl (by rw [hpo]; exact hfo) (by omega)
  obtain ⟨t, ts', hcons⟩ := exists_cons ti rb (c :: more)
  obtain ⟨n, rfl⟩ := Nat.exists_eq_add_of_le' (show 2 ≤ F1 by omega)
  obtain ⟨s2, hs2, e2⟩ := hi.stop (s := adv s1 t) hcons.symm h1 (by rw [hp0]; exact h0)
    (by rw [hp0]; decide) (show ki < n by omega)
  rw [e1, hcons, loop_index n p _ s1 t ts' (by rw [hs1, hpo]; exact hp8) (by rw [hs1]; exact ho),
    show Prec.assign = 1 from rfl, e2, hs1]
  simp only [ParseRes.bind_ok]
  rw [run_consume_cons _ _ _ _ (by rw [hs2]; exact hrb)]
  exact ⟨n + 1, adv s2 c, rfl, by omega, rfl⟩

end

theorem body_un (op : UnOp) (e : PE) (he : RenderOK e) : BodyOK (.un op e) := fun hwf pol =>
  (reaches_prefix (o := opTok op.tag) (he.operand hwf pol 7 (by decide)) (pre_un op) (Nat.le_refl 7)
    (fun _ h => h) (by cases op <;> rfl) 7).mono (Nat.le_refl 7) (fun _ h => Nat.lt_succ_of_le h)
    (by simp only [cost]; omega)

theorem body_preInc (op : IncOp) (e : PE) (he : RenderOK e) : BodyOK (.preInc op e) := by
  intro hwf pol
  simp only [PE.wf, Bool.and_eq_true] at hwf
  exact (reaches_prefix (o := opTok op.tag) (he.operand hwf.2 pol 7 (by decide)) (pre_inc op)
    (Nat.le_refl 7) (fun _ h => h) (by rw [assignable_target e hwf.1]; exact Bool.and_false _)
    7).mono (Nat.le_refl 7) (fun _ h => Nat.lt_succ_of_le h) (by simp only [cost]; omega)

theorem body_postfix (op : IncOp) (e : PE) (he : RenderOK e) : BodyOK (.postfix op e) := by
  intro hwf pol
  simp only [PE.wf, Bool.and_eq_true] at hwf
  have hp : precT (opTok op.tag).tag = 6 := precT_inc op
  refine (reaches_suffix (o := opTok op.tag) (extra := []) (he.target hwf.2 pol)
    (by rw [hp]; decide) fun n p s c more hs hp' => ⟨adv s c, rfl, ?_⟩).mono
    (by rw [hp]; exact Nat.le_refl 6) (fun _ _ => trivial) (by simp only [cost]; omega)
  rw [List.nil_append, loop_postfix n p _ s c more (hs ▸ hp') (hs ▸ inf_inc op)
    (assignable_target e hwf.1), hs]
  rfl

theorem body_isType (e : PE) (ty : TypeName) (he : RenderOK e) : BodyOK (.isType e ty) := by
  intro hwf pol
  refine (reaches_suffix (o := opTok .is) (extra := [ty.tok]) (he.left hwf pol 3 (by decide))
    (by decide) fun n p s c more hs hp' => ⟨adv (adv s ty.tok) c, rfl, ?_⟩).mono
    (Nat.le_refl 3) (fun _ _ => trivial) (by simp only [cost]; omega)
  rw [show [ty.tok] ++ c :: more = ty.tok :: c :: more from rfl,
    loop_is n p _ s ty.tok c more (hs ▸ hp') (hs ▸ rfl)
      (by cases ty <;> simp [TypeName.tok, identTok, opTok]), hs]
  rfl

theorem body_member (e : PE) (name : Bytes) (he : RenderOK e) : BodyOK (.member e name) := by
  intro hwf pol
  refine (reaches_suffix (o := opTok .dot) (extra := [identTok name]) (he.target hwf pol)
    (by decide) fun n p s c more hs hp' => ⟨adv (adv s (identTok name)) c, rfl, ?_⟩).mono
    (Nat.le_refl 8) (fun _ _ => trivial) (by simp only [cost]; omega)
  rw [show [identTok name] ++ c :: more = identTok name :: c :: more from rfl,
    loop_member n p _ s (identTok name) c more (hs ▸ hp') (hs ▸ rfl) rfl, hs]
  rfl

theorem body_index (e i : PE) (he : RenderOK e) (hi : RenderOK i) : BodyOK (.index e i) := by
  intro hwf pol
  simp only [PE.wf, Bool.and_eq_true] at hwf
  exact (reaches_index (o := opTok .lsquare) (rb := opTok .rsquare) (he.target hwf.1 pol)
    (hi.operand hwf.2 pol 1 (by decide)) rfl rfl (by decide) (Nat.le_refl 1) (by decide)).mono
    (Nat.le_refl 8) (fun _ _ => trivial) (by simp only [cost]; omega)

theorem body_assign (op : AsgOp) (t v : PE) (ht : RenderOK t) (hv : RenderOK v) :
    BodyOK (.assign op t v) := by
  intro hwf pol
  simp only [PE.wf, Bool.and_eq_true] at hwf
  have hp : precT (opTok op.tag).tag = 1 := precT_asg op
  have h := reaches_asg (o := opTok op.tag) (ht.target hwf.1.2 pol)
    (hv.operand hwf.2 pol 1 (by decide)) (inf_asg op) (assignable_target t hwf.1.1)
    (by rw [hp]; decide) (Nat.le_of_eq hp) (fun m hm => hp ▸ hm)
  rw [hp] at h
  have hx : toExpr (.assign op t v) = if isCompound (opTok op.tag).tag
      then rewriteCompound (toExpr t) (toExpr v) (opTok op.tag)
      else .binary (toExpr t) (toExpr v) (opTok op.tag) := by cases op <;> rfl
  rw [hx]
  exact h.mono (Nat.le_refl 1) (fun m hm => Nat.lt_succ_of_le hm) (by simp only [cost]; omega)

/-- what `exprList` needs to take the rendering for an argument and not for the end of the list -/
def HeadOK (e : PE) : Prop :=
  ∀ (pol : PE → Bool) (q : Nat), ∃ hd tl, render pol q e = hd :: tl ∧ hd.tag ≠ .eof ∧ hd.tag ≠ .rparen ∧ hd.tag ≠ .rsquare

theorem headOK_of_body (e : PE)
    (h : ∀ pol, ∃ hd tl, body pol e = hd :: tl ∧ hd.tag ≠ .eof ∧ hd.tag ≠ .rparen ∧ hd.tag ≠ .rsquare) : HeadOK e := by
  intro pol q
  unfold render wrapAt
  split
  · exact ⟨opTok .lparen, _, rfl, by decide, by decide, by decide⟩
  · exact h pol

theorem headOK_of_first (e first : PE) (q : Nat) (hf : HeadOK first)
    (h : ∀ pol, ∃ rest, body pol e = render pol (lv (pol first) q) first ++ rest) : HeadOK e := by
  apply headOK_of_body
  intro pol
  obtain ⟨hd, tl, h1, h2⟩ := hf pol (lv (pol first) q)
  obtain ⟨rest, h⟩ := h pol
  exact ⟨hd, tl ++ rest, by rw [h, h1]; rfl, h2⟩

/-- parsing the arguments of a call up to and including the closing parenthesis -/
theorem args_ok (endTag : Tag) (hend : endTag = .rparen ∨ endTag = .rsquare) (es : List PE)
    (hes : ∀ e ∈ es, RenderOK e ∧ HeadOK e) (hwf : wfs es = true) (pol : PE → Bool) :
    ∀ (acc : List Expr) (c : Token) (more : List Token) (s : PS) (ts : List Token) (F : Nat),
      s.cur :: ts = bodyArgs pol es ++ opTok endTag :: c :: more → costs es + 2 ≤ F →
      ∃ s', s'.cur = c ∧
        run (exprList T F endTag acc) s ts = .ok ((acc.reverse ++ toExprs es, s'), more) := by
  have hprec : precT (opTok endTag).tag = 0 := by rcases hend with rfl | rfl <;> rfl
  have hnc : (opTok endTag).tag ≠ .comma := by rcases hend with rfl | rfl <;> decide
  induction es with
  | nil =>
    intro acc c more s ts F hs hF
    obtain ⟨hcur, rfl⟩ := List.cons.inj hs
    obtain ⟨n, rfl⟩ := Nat.exists_eq_add_of_le' (show 1 ≤ F by omega)
    rw [exprList_end n _ acc s c more (by rw [hcur]; rfl)]
    exact ⟨adv s c, rfl, by simp [toExprs]⟩
  | cons e es ih =>
    intro acc c more s ts F hs hF
    simp only [wfs, Bool.and_eq_true] at hwf
    simp only [costs] at hF
    obtain ⟨hre, hhe⟩ := hes e (by simp)
    replace hre := hre.operand hwf.1 pol 1 (by decide)
    have ih := ih (fun a ha => hes a (by simp [ha])) hwf.2
    obtain ⟨n, rfl⟩ := Nat.exists_eq_add_of_le' (show 1 ≤ F by omega)
    obtain ⟨hd, tl, hrd, hd1, hd2, hd3⟩ := hhe pol (lv (pol e) 1)
    have hcur : s.cur = hd := by
      simp only [bodyArgs, render] at hs hrd
      rw [hrd] at hs
      exact (List.cons.inj hs).1
    rw [exprList_arg n _ acc s ts (by rw [hcur]; exact hd1)
      (by rw [hcur]; rcases hend with rfl | rfl <;> assumption), show Prec.assign = 1 from rfl]
    -- the argument ends at a comma or at the closing token
    cases es with
    | nil =>
      have hs' : s.cur :: ts = render pol (lv (pol e) 1) e ++ opTok endTag :: c :: more := by
        simpa only [bodyArgs, bodyArgsTail, render, List.append_nil] using hs
      obtain ⟨s1, hs1, e1⟩ := hre.stop hs' (Nat.le_refl 1) (by rw [hprec]; decide)
        (by rw [hprec]; decide) (show cost e + 2 < n by omega)
      rw [e1]
      simp only [ParseRes.bind_ok]
      rw [if_neg (by rw [hs1]; exact hnc), run_consume_cons _ _ _ _ (by rw [hs1]; rfl)]
      exact ⟨adv s1 c, rfl, by simp [toExprs]⟩
    | cons e2 es2 =>
      have hs' : s.cur :: ts = render pol (lv (pol e) 1) e
          ++ opTok .comma :: (bodyArgs pol (e2 :: es2) ++ opTok endTag :: c :: more) := by
        simpa only [bodyArgs, bodyArgsTail, render, List.append_assoc, List.cons_append,
          List.nil_append] using hs
      obtain ⟨s1, hs1, e1⟩ := hre.stop hs' (Nat.le_refl 1) (by decide) (by decide)
        (show cost e + 2 < n by omega)
      obtain ⟨t, ts', hcons⟩ := exists_cons (bodyArgs pol (e2 :: es2)) (opTok endTag) (c :: more)
      rw [e1]
      simp only [ParseRes.bind_ok]
      rw [if_pos (by rw [hs1]; rfl), hcons, run_consume_cons _ _ _ _ (by rw [hs1]; rfl)]
      obtain ⟨s2, hs2, e2'⟩ := ih (toExpr e :: acc) c more (adv s1 t) ts' n hcons.symm (by omega)
      simp only [ParseRes.bind_ok]
      rw [e2']
      exact ⟨s2, hs2, by simp [toExprs]⟩

theorem body_call (f : PE) (args : List PE) (hf : RenderOK f)
    (hargs : ∀ a ∈ args, RenderOK a ∧ HeadOK a) : BodyOK (.call f args) := by
  intro hwf pol p c more s ts F hs hp _ hF
  simp only [PE.wf, Bool.and_eq_true] at hwf
  simp only [cost] at hF
  simp only [body, List.append_assoc, List.cons_append, List.nil_append] at hs
  obtain ⟨F1, s1, hs1, hF1, e1⟩ := hf.target hwf.1 pol p (opTok .lparen) _ s ts F hs hp
    (by decide) (by omega)
  obtain ⟨t, ts', hcons⟩ := exists_cons (bodyArgs pol args) (opTok .rparen) (c :: more)
  obtain ⟨n, rfl⟩ := Nat.exists_eq_add_of_le' (show 2 ≤ F1 by omega)
  obtain ⟨s2, hs2, e2⟩ := args_ok .rparen (.inl rfl) args hargs hwf.2 pol [] c more (adv s1 t) ts' n
    hcons.symm (by omega)
  rw [e1, hcons, loop_call n p _ s1 t ts' (by rw [hs1]; exact Nat.le_trans hp (show 8 ≤ precT (opTok .lparen).tag by decide))
    (by rw [hs1]; rfl), e2]
  exact ⟨n + 1, s2, hs2, by simp only [cost]; omega, rfl⟩

theorem body_arr (items : List PE) (hitems : ∀ a ∈ items, RenderOK a ∧ HeadOK a) :
    BodyOK (.arr items) := by
  intro hwf pol p c more s ts F hs _ _ hF
  simp only [PE.wf] at hwf
  simp only [cost] at hF
  simp only [body, List.append_assoc, List.cons_append, List.nil_append] at hs
  obtain ⟨hcur, rfl⟩ := List.cons.inj hs
  obtain ⟨t, ts', hcons⟩ := exists_cons (bodyArgs pol items) (opTok .rsquare) (c :: more)
  obtain ⟨n, rfl⟩ := Nat.exists_eq_add_of_le' (show 2 ≤ F by omega)
  obtain ⟨s2, hs2, e2⟩ := args_ok .rsquare (.inr rfl) items hitems hwf pol [] c more (adv s t) ts' n
    hcons.symm (by omega)
  rw [hcons, expr_array n p s t ts' (by rw [hcur]; rfl), e2, hcur]
  exact ⟨n + 1, s2, hs2, by simp only [cost]; omega, rfl⟩

/-- parsing the entries of an object literal up to (not including) the closing brace -/
theorem kvs_ok (items : List (ObjKey × PE)) (hes : ∀ kv ∈ items, RenderOK kv.2)
    (hwf : wfKVs items = true) (pol : PE → Bool) :
    ∀ (acc : List (Bytes × Expr)) (c : Token) (more : List Token) (s : PS) (ts : List Token)
      (F : Nat),
      s.cur :: ts = bodyKVs pol items ++ opTok .rcurly :: c :: more → costsKV items + 2 ≤ F →
      ∃ s', s'.cur = opTok .rcurly ∧
        run (objectLoop T F acc) s ts = .ok ((acc.reverse ++ toKVs items, s'), c :: more) := by
  induction items with
  | nil =>
    intro acc c more s ts F hs hF
    obtain ⟨hcur, rfl⟩ := List.cons.inj hs
    obtain ⟨n, rfl⟩ := Nat.exists_eq_add_of_le' (show 1 ≤ F by omega)
    rw [objectLoop_end n acc s _ (by rw [hcur]; rfl)]
    exact ⟨s, hcur, by simp [toKVs]⟩
  | cons kv rest ih =>
    obtain ⟨k, e⟩ := kv
    intro acc c more s ts F hs hF
    simp only [wfKVs, Bool.and_eq_true] at hwf
    simp only [costsKV] at hF
    have hre := (hes (k, e) (by simp)).operand hwf.1 pol 1 (by decide)
    have ih := ih (fun a ha => hes a (by simp [ha])) hwf.2
    obtain ⟨n, rfl⟩ := Nat.exists_eq_add_of_le' (show 1 ≤ F by omega)
    have hk : s.cur = k.tok := by
      simp only [bodyKVs, List.cons_append, List.nil_append] at hs; exact (List.cons.inj hs).1
    have htext : s.cur.text = k.text := by rw [hk]; cases k <;> rfl
    -- the entry, up to a token `c'` that ends its value
    have entry : ∀ c' more', precT c'.tag = 0 →
        s.cur :: ts = k.tok :: opTok .colon :: (render pol (lv (pol e) 1) e ++ c' :: more') →
        ∃ s1, s1.cur = c' ∧ run (objectLoop T (n + 1) acc) s ts
          = (if s1.cur.tag = .comma then run (consume .comma) s1 more'
             else .ok (((), s1), more')).bind fun r' =>
              run (objectLoop T n ((k.text, toExpr e) :: acc)) r'.1.2 r'.2 := by
      intro c' more' hc' hs'
      obtain ⟨_, rfl⟩ := List.cons.inj hs'
      obtain ⟨t2, ts', hcons⟩ := exists_cons (render pol (lv (pol e) 1) e) c' more'
      obtain ⟨s1, hs1, e1⟩ := hre.stop (s := adv (adv s (opTok .colon)) t2) hcons.symm
        (Nat.le_refl 1) (by rw [hc']; decide) (by rw [hc']; decide) (show cost e + 2 < n by omega)
      rw [hcons, objectLoop_item n acc s _ t2 ts'
        (by rw [hk]; cases k <;> simp [ObjKey.tok, identTok]) rfl, show Prec.assign = 1 from rfl,
        e1, htext]
      exact ⟨s1, hs1, rfl⟩
    cases rest with
    | nil =>
      obtain ⟨s1, hs1, e1⟩ := entry (opTok .rcurly) (c :: more) rfl (by
        simpa only [bodyKVs, bodyKVsTail, render, List.append_nil, List.cons_append,
          List.nil_append, List.append_assoc] using hs)
      obtain ⟨s2, hs2, e2⟩ := ih ((k.text, toExpr e) :: acc) c more s1 (c :: more) n
        (by rw [hs1]; rfl) (by simp only [costsKV]; omega)
      rw [e1, if_neg (by rw [hs1]; decide)]
      simp only [ParseRes.bind_ok]
      rw [e2]
      exact ⟨s2, hs2, by simp [toKVs]⟩
    | cons kv2 rest2 =>
      obtain ⟨s1, hs1, e1⟩ := entry (opTok .comma)
        (bodyKVs pol (kv2 :: rest2) ++ opTok .rcurly :: c :: more) rfl (by
        obtain ⟨k2, e2v⟩ := kv2
        simpa only [bodyKVs, bodyKVsTail, render, List.cons_append, List.nil_append,
          List.append_assoc] using hs)
      obtain ⟨t3, ts3, hcons3⟩ := exists_cons (bodyKVs pol (kv2 :: rest2)) (opTok .rcurly)
        (c :: more)
      obtain ⟨s2, hs2, e2⟩ := ih ((k.text, toExpr e) :: acc) c more (adv s1 t3) ts3 n
        hcons3.symm (by omega)
      rw [e1, if_pos (by rw [hs1]; rfl), hcons3, run_consume_cons _ _ _ _ (by rw [hs1]; rfl)]
      simp only [ParseRes.bind_ok]
      rw [e2]
      exact ⟨s2, hs2, by simp [toKVs]⟩

theorem body_obj (items : List (ObjKey × PE)) (hitems : ∀ kv ∈ items, RenderOK kv.2) :
    BodyOK (.obj items) := by
  intro hwf pol p c more s ts F hs _ _ hF
  simp only [PE.wf] at hwf
  simp only [cost] at hF
  simp only [body, List.append_assoc, List.cons_append, List.nil_append] at hs
  obtain ⟨hcur, rfl⟩ := List.cons.inj hs
  obtain ⟨t, ts', hcons⟩ := exists_cons (bodyKVs pol items) (opTok .rcurly) (c :: more)
  obtain ⟨n, rfl⟩ := Nat.exists_eq_add_of_le' (show 2 ≤ F by omega)
  obtain ⟨s2, hs2, e2⟩ := kvs_ok items hitems hwf pol [] c more (adv s t) ts' n hcons.symm
    (by omega)
  rw [hcons, expr_object n p s t ts' (by rw [hcur]; rfl), e2, hcur]
  simp only [ParseRes.bind_ok]
  rw [run_consume_cons _ _ _ _ (by rw [hs2]; rfl)]
  exact ⟨n + 1, adv s2 c, rfl, by simp only [cost]; omega, rfl⟩

/-! ### structural induction over `PE` (a nested inductive type) -/

theorem PE.induct {P : PE → Prop}
    (ident : ∀ n, P (.ident n)) (dollar : P .dollar) (lit : ∀ l, P (.lit l))
    (bin : ∀ op l r, P l → P r → P (.bin op l r))
    (un : ∀ op e, P e → P (.un op e))
    (preInc : ∀ op e, P e → P (.preInc op e))
    (postf : ∀ op e, P e → P (.postfix op e))
    (isType : ∀ e ty, P e → P (.isType e ty))
    (member : ∀ e n, P e → P (.member e n))
    (index : ∀ e i, P e → P i → P (.index e i))
    (call : ∀ f args, P f → (∀ a ∈ args, P a) → P (.call f args))
    (arr : ∀ items, (∀ a ∈ items, P a) → P (.arr items))
    (obj : ∀ items, (∀ kv ∈ items, P kv.2) → P (.obj items))
    (assign : ∀ op t v, P t → P v → P (.assign op t v)) : ∀ e, P e :=
  fun e => PE.rec (motive_1 := P) (motive_2 := fun es => ∀ a ∈ es, P a)
    (motive_3 := fun l => ∀ kv ∈ l, P kv.2) (motive_4 := fun kv => P kv.2)
    ident dollar lit bin un preInc postf isType member index call arr obj assign
    (by intro a ha; cases ha)
    (by intro hd tl h1 h2 a ha
        rcases List.mem_cons.mp ha with rfl | h
        · exact h1
        · exact h2 a h)
    (by intro a ha; cases ha)
    (by intro hd tl h1 h2 a ha
        rcases List.mem_cons.mp ha with rfl | h
        · exact h1
        · exact h2 a h)
    (by intro k e h; exact h) e

theorem headOK (e : PE) : HeadOK e := by
  induction e using PE.induct with
  | ident n => exact headOK_of_body _ fun pol => ⟨identTok n, [], rfl, by simp [identTok], by simp [identTok], by simp [identTok]⟩
  | dollar => exact headOK_of_body _ fun pol => ⟨opTok .dollar, [], rfl, by decide, by decide, by decide⟩
  | lit l =>
    refine headOK_of_body _ fun pol => ⟨l.tok, [], rfl, ?_, ?_, ?_⟩ <;>
      cases l <;> simp [Lit.tok, opTok]
  | bin op l r hl _ => exact headOK_of_first _ l op.level hl fun pol => ⟨_, by simp only [body, render, List.append_assoc]; rfl⟩
  | un op e _ =>
    refine headOK_of_body _ fun pol => ⟨opTok op.tag, _, by simp only [body]; rfl, ?_, ?_, ?_⟩ <;>
      cases op <;> simp [opTok, UnOp.tag]
  | preInc op e _ =>
    refine headOK_of_body _ fun pol => ⟨opTok op.tag, _, by simp only [body]; rfl, ?_, ?_, ?_⟩ <;>
      cases op <;> simp [opTok, IncOp.tag]
  | postf op e he => exact headOK_of_first _ e 8 he fun pol => ⟨_, by simp only [body, render]; rfl⟩
  | isType e ty he => exact headOK_of_first _ e 3 he fun pol => ⟨_, by simp only [body, render]; rfl⟩
  | member e n he => exact headOK_of_first _ e 8 he fun pol => ⟨_, by simp only [body, render]; rfl⟩
  | index e i he _ => exact headOK_of_first _ e 8 he fun pol => ⟨_, by simp only [body, render, List.append_assoc]; rfl⟩
  | arr items _ =>
    exact headOK_of_body _ fun pol => ⟨opTok .lsquare, _, by simp only [body]; rfl, by decide, by decide, by decide⟩
  | obj items _ =>
    exact headOK_of_body _ fun pol => ⟨opTok .lcurly, _, by simp only [body]; rfl, by decide, by decide, by decide⟩
  | call f args hf _ => exact headOK_of_first _ f 8 hf fun pol => ⟨_, by simp only [body, render, List.append_assoc]; rfl⟩
  | assign op t v ht _ => exact headOK_of_first _ t 8 ht fun pol => ⟨_, by simp only [body, render, List.append_assoc]; rfl⟩

theorem renderOK (e : PE) : RenderOK e := by
  induction e using PE.induct with
  | ident n => exact render_of_body _ (body_ident n)
  | dollar => exact render_of_body _ body_dollar
  | lit l => exact render_of_body _ (body_lit l)
  | bin op l r hl hr => exact render_of_body _ (body_bin op l r hl hr)
  | un op e he => exact render_of_body _ (body_un op e he)
  | preInc op e he => exact render_of_body _ (body_preInc op e he)
  | postf op e he => exact render_of_body _ (body_postfix op e he)
  | isType e ty he => exact render_of_body _ (body_isType e ty he)
  | member e n he => exact render_of_body _ (body_member e n he)
  | index e i he hi => exact render_of_body _ (body_index e i he hi)
  | call f args hf hargs =>
    exact render_of_body _ (body_call f args hf fun a ha => ⟨hargs a ha, headOK a⟩)
  | arr items hitems =>
    exact render_of_body _ (body_arr items fun a ha => ⟨hitems a ha, headOK a⟩)
  | obj items hitems => exact render_of_body _ (body_obj items hitems)
  | assign op t v ht hv => exact render_of_body _ (body_assign op t v ht hv)

/-! ### fuel: `toksFuel` is enough -/

theorem wrapAt_length (q l : Nat) (ts : List Token) :
    (wrapAt q l ts).length = ts.length + if l < q then 2 else 0 := by
  unfold wrapAt paren; split <;> simp

theorem costs_len (pol : PE → Bool) (es : List PE)
    (h : ∀ a ∈ es, ∀ pol, cost a + 7 ≤ 8 * (body pol a).length) :
    costs es ≤ 8 * (bodyArgsTail pol es).length ∧ costs es ≤ 8 * (bodyArgs pol es).length := by
  induction es with
  | nil => simp [costs]
  | cons e es ih =>
    have ih := (ih fun a ha => h a (by simp [ha])).1
    have he := h e (by simp) pol
    simp only [costs, bodyArgsTail, bodyArgs, wrapAt_length, List.length_append, List.length_cons,
      List.length_nil]
    omega

theorem costsKV_len (pol : PE → Bool) (items : List (ObjKey × PE))
    (h : ∀ kv ∈ items, ∀ pol, cost kv.2 + 7 ≤ 8 * (body pol kv.2).length) :
    costsKV items ≤ 8 * (bodyKVsTail pol items).length
      ∧ costsKV items ≤ 8 * (bodyKVs pol items).length := by
  induction items with
  | nil => simp [costsKV]
  | cons kv r ih =>
    obtain ⟨k, e⟩ := kv
    have ih := (ih fun a ha => h a (by simp [ha])).1
    have he : cost e + 7 ≤ 8 * (body pol e).length := h (k, e) (by simp) pol
    simp only [costsKV, bodyKVsTail, bodyKVs, wrapAt_length, List.length_append, List.length_cons,
      List.length_nil]
    omega

theorem cost_len (e : PE) : ∀ pol, cost e + 7 ≤ 8 * (body pol e).length := by
  induction e using PE.induct with
  | ident | dollar | lit => intro pol; simp [cost, body]
  | bin _ l r hl hr | index l r hl hr | assign _ l r hl hr =>
    intro pol
    have := hl pol; have := hr pol
    simp only [cost, body, wrapAt_length, List.length_append, List.length_cons, List.length_nil]
    omega
  | un _ e he | preInc _ e he | postf _ e he | isType e _ he | member e _ he =>
    intro pol
    have := he pol
    simp only [cost, body, wrapAt_length, List.length_append, List.length_cons, List.length_nil]
    omega
  | call f args hf hargs =>
    intro pol
    have := hf pol; have := (costs_len pol args hargs).2
    simp only [cost, body, wrapAt_length, List.length_append, List.length_cons, List.length_nil]
    omega
  | arr items hitems =>
    intro pol
    have := (costs_len pol items hitems).2
    simp only [cost, body, List.length_append, List.length_cons, List.length_nil]; omega
  | obj items hitems =>
    intro pol
    have := (costsKV_len pol items hitems).2
    simp only [cost, body, List.length_append, List.length_cons, List.length_nil]; omega

/-- the parser inverts every rendering (any level `q ≥ 1`, minimal, full, or any redundant parenthesisation) -/
theorem parseToks_render (e : PE) (hwf : e.wf = true) (pol : PE → Bool) (q : Nat) (hq : 1 ≤ q) :
    parseToks (render pol q e) = .ok (toExpr e) := by
  have := cost_len e pol
  exact (renderOK e hwf pol q).parse hq (.inr (Nat.zero_le _))
    (by rw [toksFuel, render, wrapAt_length]; omega)

/-! ### rendering equations (for reading off concrete token lists) -/

theorem wrapAt_ge (q lev : Nat) (ts : List Token) (h : q ≤ lev) : wrapAt q lev ts = ts := by
  unfold wrapAt; rw [if_neg (by omega)]

theorem wrapAt_lt (q lev : Nat) (ts : List Token) (h : lev < q) : wrapAt q lev ts = paren ts := by
  unfold wrapAt; rw [if_pos h]

theorem renderMin_bin (q : Nat) (op : BinOp) (l r : PE) :
    renderMin q (.bin op l r) = wrapAt q op.level
      (renderMin op.level l ++ [opTok op.tag] ++ renderMin (op.level + 1) r) := by
  simp only [renderMin, render, body, lv]; rfl

theorem renderMin_assign (q : Nat) (op : AsgOp) (t v : PE) :
    renderMin q (.assign op t v) = wrapAt q 1
      (renderMin 8 t ++ [opTok op.tag] ++ renderMin 1 v) := by
  simp only [renderMin, render, body, lv]; rfl

theorem renderMin_ident (q : Nat) (n : Bytes) (hq : q ≤ 10) : renderMin q (.ident n) = [identTok n] := by
  simp only [renderMin, render, body]; exact wrapAt_ge _ _ _ hq

end Jqawk.Pratt
