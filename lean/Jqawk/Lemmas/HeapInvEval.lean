/-
  `Unshared` / `ElemsPlain` (as part of `HeapInv.Inv`) are invariants of the whole evaluator (C15):
  the mutual induction over the 15 evaluator functions, organised like `Lemmas/Invariant.lean`.
-/
import Jqawk.Lemmas.HeapInvAssign
import Jqawk.Lemmas.HeapInvNatives
import Jqawk.Lemmas.NewValue
import Jqawk.Lemmas.LoopsEval


namespace Jqawk.HeapInv
open Jqawk Jqawk.IndexWrite

/-- sequencing at a given state: the claim about `m`, run from `s1`, is relative to a heap `h1` that
    is `Trans`-related to the base heap `h0` (usually `h1 = s1.heap`; `h1 = h0` when the step is related
    to the base heap only, as the allocation of an array of fresh cells); the continuation is run
    from a state related to `h1` -/
theorem Post.bind' {α β : Type} {m : EM α} {f : α → EM β} {s1 : St} {h0 h1 : Heap}
    {R1 : α → Heap → Prop} {R : β → Heap → Prop} (t : Trans h0 h1)
    (hm : Post R1 h1 (m s1))
    (hf : ∀ a s2, Inv s2.heap → Trans h1 s2.heap → R1 a s2.heap → Post R h0 (f a s2)) :
    Post R h0 ((m >>= f) s1) := by
  show Post R h0 (EM.bind m f s1)
  unfold EM.bind
  cases hr : m s1 with
  | ok a s2 => rw [hr] at hm; exact hf a s2 hm.1 hm.2.1 hm.2.2
  | err e s2 =>
    rw [hr] at hm
    cases e with
    | sig g => exact ⟨hm.1, t.trans hm.2⟩
    | runtime p m => exact hm
    | panic m => exact hm
    | unmodelled w => exact hm
  | oof => trivial

theorem Post.of_good {α : Type} {m : EM α} (g : Good m) {h0 : Heap} {s2 : St} (i2 : Inv s2.heap)
    (t : Trans h0 s2.heap) : Post (fun _ _ => True) h0 (m s2) :=
  Post.trans t (g s2 i2 trivial)

theorem readCell_ht (c : CellId) :
    HT (fun _ => True) (Jqawk.readCell c) (fun h v h' => h' = h ∧ v = h.get c) :=
  fun _ i _ => ⟨i, Trans.refl _, rfl, rfl⟩

theorem getHeap_ht : HT (fun _ => True) Jqawk.getHeap (fun h v h' => h' = h ∧ v = h) :=
  fun _ i _ => ⟨i, Trans.refl _, rfl, rfl⟩

theorem newCell_ht (v : Val) : HT (fun _ => True) (Jqawk.newCell v)
    (fun h c h' => c = h.cells.size ∧ h'.cells.size = h.cells.size + 1 ∧ h'.get c = v ∧
      h'.arrs = h.arrs) :=
  fun _ i _ => ⟨inv_alloc i v, trans_alloc _ v, rfl, Heap.size_alloc _ v, Heap.get_alloc_new _ v, rfl⟩

theorem copyValue_ht (src dst : CellId) :
    HT (fun _ => True) (Jqawk.copyValue src dst)
      (fun h r h' => h'.arrs = h.arrs ∧ h'.cells.size = h.cells.size ∧
        ∀ c, r = .ok c → c = dst ∧ Plain (h'.get dst)) := by
  intro s i _
  unfold Jqawk.copyValue
  simp only [bind, EM.bind, Jqawk.readCell]
  cases hv : copyVal (s.heap.get src) with
  | error m => exact ⟨i, Trans.refl _, rfl, rfl, fun c hc => by cases hc⟩
  | ok w =>
    have hw := plain_of_copyVal hv
    refine ⟨inv_set i dst hw, trans_set _ dst hw, rfl, Heap.size_set _ _ _, fun c hc => ?_⟩
    simp only [Except.ok.injEq] at hc
    refine ⟨hc.symm, ?_⟩
    show Plain ((s.heap.set dst w).get dst)
    rw [Heap.get_set]
    split
    · exact hw
    · rename_i hn
      have : ¬ dst < s.heap.cells.size := fun h => hn ⟨rfl, h⟩
      rw [Heap.get_of_not_valid _ _ this]; exact plain_unknown

theorem Good.copyValue (src dst : CellId) : Good (Jqawk.copyValue src dst) :=
  Good.of_HT (copyValue_ht src dst)

theorem Good.getVariable (name : Bytes) : Good (Jqawk.getVariable name) := by
  unfold Jqawk.getVariable
  refine Good.bind Good.getSt (fun s => ?_)
  split
  · exact Good.pure _
  · split
    · exact Good.pure _
    · exact Good.bind (Good.newCell _) (fun c => Good.bind (Good.setLocal _ _) (fun _ => Good.pure _))

theorem Good.bindAll (l : List (Bytes × CellId)) : Good (Jqawk.bindAll l) := by
  induction l with
  | nil => exact Good.pure ()
  | cons kv rest ih =>
    obtain ⟨k, c⟩ := kv
    exact Good.bind (Good.setLocal k c) (fun _ => ih)

theorem Good.bindParams (ps : List Bytes) (as : List Val) : Good (Jqawk.bindParams ps as) := by
  induction ps generalizing as with
  | nil => exact Good.pure ()
  | cons p ps ih =>
    cases as with
    | nil => exact Good.bind (Good.newCell _) (fun c => Good.bind (Good.setLocal _ _) (fun _ => ih []))
    | cons a as => exact Good.bind (Good.newCell _) (fun c => Good.bind (Good.setLocal _ _) (fun _ => ih as))

theorem Good.memberStep (pos : Nat) (l r : CellId) : Good (Jqawk.memberStep pos l r) := by
  unfold Jqawk.memberStep
  refine Good.bind (Good.readCell _) (fun rv => Good.bind (Good.readCell _) (fun lv => ?_))
  split
  · exact Good.newCell _
  · refine Good.bind Good.getHeap (fun h => ?_)
    split
    case h_1 => exact Good.throwRt _ _ -- `getMember` fails (`h_k`: the k-th alternative of the `match`)
    case h_6 => -- a live cell
      split
      · exact Good.newCell _
      · exact Good.pure _
    all_goals exact Good.newCell _

theorem Good.loopVar (pos : Nat) (name : Bytes) : Good (Jqawk.Spec.loopVar pos name) := by
  unfold Jqawk.Spec.loopVar
  refine Good.bind (Good.getVariable _) (fun r => ?_)
  split
  · exact Good.pure _
  · exact Good.throwRt _ _

theorem Good.getIdentifier (prog : Program) (t : Token) : Good (Jqawk.getIdentifier prog t) := by
  unfold Jqawk.getIdentifier
  split
  · refine Good.bind Good.getSt (fun s => ?_)
    split
    · exact Good.pure _
    · exact Good.throwRt _ _
  · exact Good.loopVar _ _

/-- a loop iteration whose continuation needs a `Trans`-stable fact about the heap -/
theorem loopIter_ht {body k : EM Unit} {P : Heap → Prop} (hP : ∀ h h', Trans h h' → P h → P h')
    (hb : Good body) (hk : HT P k (fun _ _ _ => True)) :
    HT P (Jqawk.loopIter body k) (fun _ _ _ => True) := by
  rw [loopIter_eq_handle]
  refine HT.handle (R1 := fun _ _ _ => True) (fun s i _ => hb s i trivial)
    (fun s _ s1 i p i1 t _ => Post.trans t (hk s1 i1 (hP _ _ t p)))
    (fun g k' hg s s1 i p i1 t => ?_)
  cases g <;> cases hg
  · exact Post.trans t (hk s1 i1 (hP _ _ t p))
  · exact ⟨i1, t, trivial⟩

theorem Good.loopIter {body k : EM Unit} (hb : Good body) (hk : Good k) :
    Good (Jqawk.loopIter body k) :=
  loopIter_ht (fun _ _ _ p => p) hb hk

theorem Good.catchReturn {body : EM Unit} (hb : Good body) : Good (Jqawk.catchReturn body) := by
  rw [catchReturn_eq_handle]
  refine Good.handle hb (fun _ => Good.pure _) (fun g k hg => ?_)
  cases g <;> cases hg
  exact Good.of_heap_eq _ (fun _ => rfl)

theorem Good.catchSig {α : Type} {m : EM α} (g : Sig) (d : α) (hm : Good m) :
    Good (Jqawk.catchSig g d m) := by
  rw [catchSig_eq_handle]
  refine Good.handle hm Good.pure (fun g' k hg => ?_)
  split at hg <;> cases hg
  exact Good.pure d

theorem Good.framed {α : Type} (name : Bytes) (pos : Nat) (body : EM α) (hb : Good body) :
    Good (Jqawk.framed name pos body) := by
  intro s i _
  rw [framed_eq]
  split
  · exact i.weak
  · have h := hb { s with frames := ⟨name, []⟩ :: s.frames,
                          maxDepth := max s.maxDepth (s.frames.length + 1) } i trivial
    unfold Jqawk.withFrames
    split
    · rename_i hr; rw [hr] at h; exact h
    · rename_i e s1 hr
      rw [hr] at h
      cases e <;> exact h
    · trivial

/-- the cells `evalExprList … true` returns: pairwise different, allocated during the evaluation,
    holding plain values, and nobody's elements -/
def FreshCells (h : Heap) (cells : List CellId) (h' : Heap) : Prop :=
  cells.Nodup ∧ ∀ c ∈ cells, h.cells.size ≤ c ∧ c < h'.cells.size ∧ Plain (h'.get c) ∧ NotElem h' c

def MembersOK (m : List (Bytes × CellId)) (h : Heap) : Prop :=
  ∀ kc ∈ m, kc.2 < h.cells.size ∧ Plain (h.get kc.2)

theorem MembersOK.trans {m : List (Bytes × CellId)} {h h' : Heap} (t : Trans h h') (p : MembersOK m h) :
    MembersOK m h' :=
  fun kc hkc => ⟨Nat.lt_of_lt_of_le (p kc hkc).1 t.size, t.plain _ (p kc hkc).1 (p kc hkc).2⟩

/-- what `forInLoop` needs of its item list: the values written to the loop variables are plain,
    the cells read are allocated and hold plain values -/
def ItemOK (h : Heap) (it : Option Val × (CellId ⊕ (Val × Option CellId))) : Prop :=
  (∀ iv, it.1 = some iv → Plain iv) ∧
  match it.2 with
  | .inl c => c < h.cells.size ∧ Plain (h.get c)
  | .inr (v, mc?) => Plain v ∧ ∀ mc, mc? = some mc → mc < h.cells.size ∧ Plain (h.get mc)

def ItemsOK (items : List (Option Val × (CellId ⊕ (Val × Option CellId)))) (h : Heap) : Prop :=
  ∀ it ∈ items, ItemOK h it

theorem ItemOK.trans {h h' : Heap} (t : Trans h h') {it} (p : ItemOK h it) : ItemOK h' it := by
  obtain ⟨iv, item⟩ := it
  refine ⟨p.1, ?_⟩
  have p2 := p.2
  cases item with
  | inl c => exact ⟨Nat.lt_of_lt_of_le p2.1 t.size, t.plain _ p2.1 p2.2⟩
  | inr vm =>
    obtain ⟨v, mc?⟩ := vm
    exact ⟨p2.1, fun mc hmc => ⟨Nat.lt_of_lt_of_le (p2.2 mc hmc).1 t.size,
      t.plain _ (p2.2 mc hmc).1 (p2.2 mc hmc).2⟩⟩

theorem ItemsOK.trans {items} {h h' : Heap} (t : Trans h h') (p : ItemsOK items h) : ItemsOK items h' :=
  fun it hit => (p it hit).trans t

/-- the induction hypothesis.  Four fields are `HT` with side conditions rather than `Good`, because
    literals and calls build containers from what these functions return: `objItems` keeps its
    accumulator's members allocated and plain (`MembersOK`), `exprList … true` returns cells that
    are fresh, plain and nobody's elements (`FreshCells`), `call` needs plain argument values (a
    native may store them in an array), `forInLoop` plain items (`ItemsOK`). -/
structure AllGood (prog : Program) (n : Nat) : Prop where
  expr : ∀ e, Good (evalExpr prog n e)
  objItems : ∀ pos items acc, HT (MembersOK acc) (evalObjItems prog n pos items acc)
    (fun _ r h' => MembersOK r h')
  exprList : ∀ es c, HT (fun _ => True) (evalExprList prog n es c)
    (fun h r h' => c = true → FreshCells h r h')
  matchCases : ∀ pos v cs, Good (evalMatchCases prog n pos v cs)
  caseMatch : ∀ v ps, Good (evalCaseMatch prog n v ps)
  arrayCaseMatch : ∀ v ps, Good (evalArrayCaseMatch prog n v ps)
  matchElems : ∀ cs ps acc, Good (Jqawk.matchElems prog n cs ps acc)
  call : ∀ pos f args, HT (fun h => ∀ c ∈ args, Plain (h.get c)) (callFunction prog n pos f args)
    (fun _ _ _ => True)
  unary : ∀ e op p, Good (evalUnary prog n e op p)
  binary : ∀ l r op, Good (evalBinary prog n l r op)
  stmt : ∀ st, Good (evalStmt prog n st)
  block : ∀ sts, Good (evalBlock prog n sts)
  whileL : ∀ c b, Good (whileLoop prog n c b)
  forL : ∀ c p b, Good (forLoop prog n c p b)
  forInL : ∀ l il b items, HT (ItemsOK items) (forInLoop prog n l il b items) (fun _ _ _ => True)

theorem AllGood.exprListG {prog : Program} {n : Nat} (a : AllGood prog n) (es : List Expr) (c : Bool) :
    Good (evalExprList prog n es c) := Good.of_HT (a.exprList es c)

theorem allGood_zero (prog : Program) : AllGood prog 0 := by
  constructor <;> intros <;> unfold_eval <;> first | exact Good.oof | exact fun _ _ _ => trivial

theorem freshCopy_post (v : CellId) (pos : Nat) (s : St) (i : Inv s.heap) :
    Post (fun c h' => s.heap.cells.size ≤ c ∧ c < h'.cells.size ∧ Plain (h'.get c) ∧ NotElem h' c)
      s.heap ((do
        let fresh ← Jqawk.newCell (.str [] none)
        match (← Jqawk.copyValue v fresh) with
        | .error m => Jqawk.throwRt pos m
        | .ok c => pure c : EM CellId) s) := by
  refine Post.bind' (Trans.refl _) (newCell_ht _ s i trivial) (fun fresh s1 i1 t1 hf => ?_)
  refine Post.bind' t1 (copyValue_ht v fresh s1 i1 trivial) (fun r s2 i2 t2 hr => ?_)
  cases r with
  | error m => exact i2.weak
  | ok c =>
    obtain ⟨hc, hpl⟩ := hr.2.2 c rfl
    subst hc
    refine ⟨i2, t1.trans t2, ?_, ?_, hpl, ?_⟩
    · rw [hf.1]; exact Nat.le_refl _
    · rw [hr.2.1, hf.2.1, hf.1]; exact Nat.lt_succ_self _
    · intro b hb
      have e : s2.heap.arr b = s.heap.arr b := by
        simp only [Heap.arr, hr.1, hf.2.2.2]
      rw [e] at hb
      have := i.wf.arrs b c hb
      rw [hf.1] at this
      exact absurd this (Nat.lt_irrefl _)

theorem bindRaw_post (loc : CellId) (il : Option CellId) (it : Jqawk.Spec.RawItem) (s : St)
    (i : Inv s.heap) (p : ItemOK s.heap it) :
    Post (fun _ _ => True) s.heap (Jqawk.Spec.bindRaw loc il it s) := by
  obtain ⟨iv, item⟩ := it
  unfold Jqawk.Spec.bindRaw
  have two : ∀ (ic : CellId) (v : Val), Plain v → ∀ item', ItemOK s.heap (iv, item') →
      Post (fun _ _ => True) s.heap
        ((match item' with
          | .inl c => do Jqawk.writeCell loc (← Jqawk.readCell c)
          | .inr (v, _) => Jqawk.writeCell loc v : EM Unit) { s with heap := s.heap.set ic v }) := by
    intro ic v hv item' p'
    have i1 := inv_set i ic hv
    have t1 := trans_set s.heap ic hv
    have p1 := p'.trans t1
    cases item' with
    | inl c => exact ⟨inv_set i1 _ p1.2.2, t1.trans (trans_set _ _ p1.2.2), trivial⟩
    | inr q => obtain ⟨w, mc⟩ := q; exact ⟨inv_set i1 _ p1.2.1, t1.trans (trans_set _ _ p1.2.1), trivial⟩
  have one : ∀ item', ItemOK s.heap (iv, item') →
      Post (fun _ _ => True) s.heap
        ((match item' with
          | .inl c => do Jqawk.writeCell loc (← Jqawk.readCell c)
          | .inr (v, _) => Jqawk.writeCell loc v : EM Unit) s) := by
    intro item' p'
    cases item' with
    | inl c => exact ⟨inv_set i _ p'.2.2, trans_set _ _ p'.2.2, trivial⟩
    | inr q => obtain ⟨w, mc⟩ := q; exact ⟨inv_set i _ p'.2.1, trans_set _ _ p'.2.1, trivial⟩
  cases il with
  | none => exact one item p
  | some ic =>
    cases iv with
    | some v => exact two ic v (p.1 v rfl) item p
    | none =>
      cases item with
      | inl c => exact one _ p
      | inr q =>
        obtain ⟨w, mc⟩ := q
        cases mc with
        | none => exact one _ p
        | some mc => exact two ic _ (p.2.2 mc rfl).2 _ p

theorem forInHeader_ht {evalE : Expr → EM CellId} (id : Token) (idx : Option Token) (iter : Expr)
    (hE : Good (evalE iter)) :
    HT (fun _ => True) (Spec.forInHeader evalE id idx iter) (fun _ hd h' => ItemsOK hd.2.2 h') := by
  intro s i _
  unfold Spec.forInHeader
  refine Post.bind' (Trans.refl _) (Good.loopVar _ _ s i trivial) (fun loc s1 i1 t1 _ => ?_)
  refine Post.bind' t1 ((?g2 : Good _) s1 i1 trivial) (fun il s2 i2 t2 _ => ?_)
  case g2 =>
    split
    · exact Good.pure _
    · exact Good.bind (Good.loopVar _ _) (fun _ => Good.pure _)
  refine Post.bind' (t1.trans t2) (hE s2 i2 trivial) (fun it s3 i3 t3 _ => ?_)
  refine Post.bind' ((t1.trans t2).trans t3) (getHeap_ht s3 i3 trivial) (fun h s4 i4 t4 h4 => ?_)
  obtain ⟨e4, rfl⟩ := h4
  have t04 := ((t1.trans t2).trans t3).trans t4
  generalize hv : s3.heap.get it = val
  cases val with
  | arr a =>
    refine ⟨i4, t04, ?_⟩
    rw [e4]
    intro x hx
    unfold Spec.arrayItems at hx
    obtain ⟨⟨c, k⟩, hck, rfl⟩ := List.mem_map.mp hx
    have hc : c ∈ (s3.heap.arr a).toList := List.mem_of_getElem? (List.mem_zipIdx_iff_getElem?.mp hck)
    exact ⟨fun iv hiv => (by cases hiv; exact plain_num _), i3.wf.arrs a c hc, i3.ep a c hc⟩
  | obj o =>
    refine ⟨i4, t04, ?_⟩
    rw [e4]
    intro x hx
    unfold Spec.objectItems at hx
    obtain ⟨⟨k, c⟩, hkc, rfl⟩ := List.mem_map.mp hx
    have hm := mem_sortByKey hkc
    exact ⟨fun iv hiv => (by cases hiv), plain_strNone _, fun mc hmc => (by
      cases hmc; exact ⟨i3.wf.objs o k c hm, i3.mp o k c hm⟩)⟩
  | str sb sp =>
    refine ⟨i4, t04, ?_⟩
    intro x hx
    unfold Spec.stringItems at hx
    obtain ⟨⟨off, r⟩, hkc, rfl⟩ := List.mem_map.mp hx
    exact ⟨fun iv hiv => (by cases hiv; exact plain_num _), plain_strNone _, fun mc hmc => (by cases hmc)⟩
  | _ => exact i4.weak

theorem allGood_succ (prog : Program) (n : Nat) (ih : AllGood prog n) : AllGood prog (n + 1) := by
  have cond : ∀ {c : Expr} {a b : EM Unit}, Good a → Good b → Good (do
      let cell ← evalExpr prog n c
      if (← Jqawk.readCell cell).truthy then a else b) := by
    intro c a b ha hb
    refine Good.bind (ih.expr c) (fun cell => Good.bind (Good.readCell _) (fun v => ?_))
    split
    · exact ha
    · exact hb
  constructor
  case expr =>
    intro e
    unfold evalExpr
    cases e with
    | lit t =>
      dsimp only
      split
      case h_1 | h_2 | h_4 => -- str, ident, num (`h_k`: the k-th alternative of the `match` on `t.tag`)
        split
        · exact Good.throwRt _ _
        · exact Good.newCell _
      case h_8 => exact Good.throwPanic _ -- any other tag
      all_goals exact Good.newCell _
    | ident t => exact Good.getIdentifier _ _
    | unary e op p => exact ih.unary e op p
    | binary l r op => exact ih.binary l r op
    | match_ t v cases => exact Good.bind (ih.expr v) (fun c => ih.matchCases _ c cases)
    | call f args =>
      dsimp only
      intro s i _
      refine Post.bind' (Trans.refl _) (ih.expr f s i trivial) (fun fc s1 i1 t1 _ => ?_)
      refine Post.bind' t1 (ih.exprList args true s1 i1 trivial) (fun cells s2 i2 t2 r => ?_)
      exact Post.trans (t1.trans t2) (ih.call _ fc cells s2 i2 (fun c hc => ((r rfl).2 c hc).2.2.1))
    | arr t items =>
      dsimp only
      intro s i _
      refine Post.bind' (Trans.refl _) (ih.exprList items true s i trivial) (fun cells s1 i1 t1 r => ?_)
      obtain ⟨nd, hc⟩ := r rfl
      refine Post.bind' (R1 := fun _ _ => True) (Trans.refl _) ?_
        (fun a s2 i2 t2 _ => Post.of_good (Good.newCell _) i2 t2)
      have hinv := inv_allocArr i1 cells nd (fun c hcc => ⟨(hc c hcc).2.1, (hc c hcc).2.2.1, (hc c hcc).2.2.2⟩)
      have htr := trans_allocArr t1 cells (fun c hcc => (hc c hcc).1)
      exact ⟨hinv, htr, trivial⟩
    | obj t items =>
      dsimp only
      intro s i _
      refine Post.bind' (Trans.refl _) (ih.objItems t.pos items [] s i (fun _ h => by cases h))
        (fun members s1 i1 t1 r => ?_)
      refine Post.bind' (R1 := fun _ _ => True) t1 ?_
        (fun a s2 i2 t2 _ => Post.of_good (Good.newCell _) i2 (t1.trans t2))
      exact ⟨inv_allocObj i1 members r, trans_allocObj _ _, trivial⟩
  case objItems =>
    intro pos items acc
    cases items with
    | nil =>
      unfold evalObjItems
      exact fun s i p => ⟨i, Trans.refl _, p⟩
    | cons kv rest =>
      obtain ⟨k, e⟩ := kv
      unfold evalObjItems
      intro s i p
      refine Post.bind' (Trans.refl _) (ih.expr e s i trivial) (fun value s1 i1 t1 _ => ?_)
      refine Post.bind' t1 (newCell_ht .unknown s1 i1 trivial) (fun cell s2 i2 t2 hf => ?_)
      refine Post.bind' (t1.trans t2) (copyValue_ht value cell s2 i2 trivial) (fun r s3 i3 t3 hr => ?_)
      cases r with
      | error m => exact i3.weak
      | ok c =>
        obtain ⟨hc, hpl⟩ := hr.2.2 c rfl
        subst hc
        have t03 := (t1.trans t2).trans t3
        refine Post.trans t03 (ih.objItems pos rest _ s3 i3 ?_)
        intro kc hkc
        rcases mem_objInsert hkc with h | h
        · exact (MembersOK.trans t03 p) kc h
        · rw [h]
          refine ⟨?_, hpl⟩
          rw [hr.2.1, hf.2.1, hf.1]; exact Nat.lt_succ_self _
  case exprList =>
    intro es c
    cases es with
    | nil =>
      unfold evalExprList
      exact fun s i _ => ⟨i, Trans.refl _, fun _ => ⟨List.nodup_nil, fun _ h => by cases h⟩⟩
    | cons e rest =>
      unfold evalExprList
      cases c with
      | false =>
        apply HT.bind (R1 := fun _ _ _ => True) (ih.expr e)
        intro s v s1 i _ i1 t1 _
        refine Post.mono (R := fun _ _ => True) ?_ (fun _ _ _ _ _ h => by cases h)
        refine Post.of_good ?_ i1 t1
        simp only [Bool.false_eq_true, ↓reduceIte]
        exact Good.bind (Good.pure _) (fun c => Good.bind (ih.exprListG rest false) (fun cs => Good.pure _))
      | true =>
        simp only [↓reduceIte]
        intro s i _
        refine Post.bind' (Trans.refl _) (ih.expr e s i trivial) (fun v s1 i1 t1 _ => ?_)
        refine Post.bind' t1 (freshCopy_post v e.token.pos s1 i1) (fun c s2 i2 t2 hc => ?_)
        refine Post.bind' (t1.trans t2) (ih.exprList rest true s2 i2 trivial) (fun cs s3 i3 t3 hcs => ?_)
        obtain ⟨nd, hall⟩ := hcs rfl
        refine ⟨i3, (t1.trans t2).trans t3, fun _ => ⟨?_, ?_⟩⟩
        · refine List.nodup_cons.mpr ⟨fun hmem => ?_, nd⟩
          have := (hall c hmem).1
          exact absurd hc.2.1 (Nat.not_lt.mpr this)
        · intro c' hc'
          rcases List.mem_cons.mp hc' with rfl | hc'
          · exact ⟨Nat.le_trans t1.size hc.1, Nat.lt_of_lt_of_le hc.2.1 t3.size,
              t3.plain _ hc.2.1 hc.2.2.1, t3.notElem hc.2.1 hc.2.2.2⟩
          · have := hall c' hc'
            exact ⟨Nat.le_trans (t1.trans t2).size this.1, this.2⟩
  case matchCases =>
    intro pos v cs
    cases cs with
    | nil => unfold evalMatchCases; exact Good.newCell _
    | cons c rest =>
      obtain ⟨pats, body⟩ := c
      unfold evalMatchCases
      refine Good.bind (ih.caseMatch v pats) (fun r => ?_)
      split
      · exact ih.matchCases _ _ _
      · apply Good.framed
        refine Good.bind (Good.bindAll _) (fun _ => ?_)
        split
        · exact ih.expr _
        · exact Good.bind (ih.stmt _) (fun _ => Good.newCell _)
  case caseMatch =>
    intro v ps
    cases ps with
    | nil => unfold evalCaseMatch; exact Good.pure _
    | cons p rest =>
      have hrest := ih.caseMatch v rest
      unfold evalCaseMatch
      cases p with
      | lit t =>
        dsimp only
        refine Good.bind (ih.expr _) (fun cv =>
          Good.bind (Good.readCell _) (fun x => Good.bind (Good.readCell _) (fun y => ?_)))
        split
        · exact hrest
        · split
          · exact Good.throwRt _ _
          · split
            · exact Good.pure _
            · exact hrest
      | arr t items =>
        dsimp only
        refine Good.bind (ih.arrayCaseMatch v items) (fun r => ?_)
        split
        · exact Good.pure _
        · exact hrest
      | ident t => exact Good.pure _
      | _ => exact Good.throwRt _ _
  case arrayCaseMatch =>
    intro v ps
    unfold evalArrayCaseMatch
    refine Good.bind (Good.readCell _) (fun x => ?_)
    split
    · refine Good.bind Good.getHeap (fun h => ?_)
      dsimp only
      split
      · exact Good.pure _
      · exact ih.matchElems _ _ _
    · exact Good.pure _
  case matchElems =>
    intro cs ps acc
    cases cs with
    | nil => unfold Jqawk.matchElems; exact Good.pure _
    | cons c cs =>
      cases ps with
      | nil => unfold Jqawk.matchElems; exact Good.pure _
      | cons p ps =>
        unfold Jqawk.matchElems
        refine Good.bind (ih.caseMatch c [p]) (fun r => ?_)
        split
        · exact Good.pure _
        · exact ih.matchElems _ _ _
  case call =>
    intro pos f args
    unfold callFunction
    intro s i p
    refine Post.bind' (Trans.refl _) (readCell_ht f s i trivial) (fun fv s1 i1 t1 h1 => ?_)
    refine Post.bind' t1 (getHeap_ht s1 i1 trivial) (fun h s2 i2 t2 h2 => ?_)
    obtain ⟨e2, rfl⟩ := h2
    have e1 : s1.heap = s.heap := h1.1
    have hargs : ∀ v ∈ args.map s1.heap.get, Plain v := by
      intro v hv
      obtain ⟨c, hc, rfl⟩ := List.mem_map.mp hv
      rw [e1]; exact p c hc
    dsimp only
    split
    · refine Post.of_good (Good.bind (Good.callNative _ _ _ hargs) (fun r => ?_)) i2 (t1.trans t2)
      split
      · exact Good.throwRt _ _
      · exact Good.newCell _
      · exact Good.newCell _
    · refine Post.of_good ?_ i2 (t1.trans t2)
      split
      · exact Good.throwPanic _
      · apply Good.framed
        exact Good.bind (Good.bindParams _ _) (fun _ =>
          Good.bind (Good.catchReturn (ih.stmt _)) (fun rv => Good.newCell rv))
    · exact i2.weak
  case unary =>
    intro e op p
    unfold evalUnary
    refine Good.bind (ih.expr e) (fun val => Good.bind (Good.readCell _) (fun v => ?_))
    split
    case h_4 | h_5 => -- `++`, `--` (`h_k`: the k-th alternative of the `match` on `op.tag`)
      refine Good.bind (Good.newCell _) (fun nc => Good.bind (Good.evalAssignment _ _ _) (fun a => ?_))
      split
      · exact Good.newCell _
      · exact Good.bind (Good.readCell _) (fun w => Good.newCell _)
    case h_6 => exact Good.throwRt _ _ -- any other operator
    all_goals exact Good.newCell _
  case binary =>
    intro l r op
    unfold evalBinary
    refine Good.bind (ih.expr l) (fun left => ?_)
    have truthyR : Good (do
        let right ← evalExpr prog n r
        Jqawk.newCell (.bool (← Jqawk.readCell right).truthy)) :=
      Good.bind (ih.expr r) (fun right => Good.bind (Good.readCell _) (fun _ => Good.newCell _))
    split
    · refine Good.bind (Good.readCell _) (fun v => ?_)
      split
      · exact truthyR
      · exact Good.newCell _
    · refine Good.bind (Good.readCell _) (fun v => ?_)
      split
      · exact Good.newCell _
      · exact truthyR
    · split
      · exact Good.bind (Good.readCell _) (fun _ => Good.newCell _)
      · exact Good.throwRt _ _
    · refine Good.bind (ih.expr r) (fun right => ?_)
      split
      · exact Good.memberStep _ _ _
      · exact Good.memberStep _ _ _
      · exact Good.evalAssignment _ _ _
      · split
        · refine Good.bind (Good.readCell _) (fun lv => Good.bind (Good.readCell _) (fun rv => ?_))
          split
          · exact Good.newCell _
          · exact Good.throwRt _ _
          · exact Good.throwUnmodelled _
        · exact Good.throwRt _ _
  case stmt =>
    intro st
    cases st
    case forIn id idx iter body =>
      rw [Spec.evalStmt_forIn]
      exact HT.bind (forInHeader_ht id idx iter (ih.expr iter))
        (fun s hd s1 i _ i1 t1 r => Post.trans t1 (ih.forInL _ _ _ _ s1 i1 r))
    all_goals unfold evalStmt
    case block t body => exact ih.block body
    case print t args =>
      dsimp only
      refine Good.bind (ih.exprListG args false) (fun cells => Good.bind Good.getSt (fun s => ?_))
      split
      · split
        · exact Good.throwPanic _
        · split
          · exact Good.oof
          · exact Good.emit _
      · split
        · exact Good.oof
        · exact Good.emit _
    case expr e => exact Good.bind (ih.expr e) (fun _ => Good.pure _)
    case ret e =>
      cases e with
      | none => exact Good.bind (Good.setReturnVal _) (fun _ => Good.throwSig _)
      | some e =>
        exact Good.bind (ih.expr e) (fun c => Good.bind (Good.setReturnVal _) (fun _ => Good.throwSig _))
    case brk t => exact Good.throwSig _
    case cont t => exact Good.throwSig _
    case next t => exact Good.throwSig _
    case exit t => exact Good.throwSig _
    case if_ c b els =>
      cases els with
      | none => exact cond (ih.stmt b) (Good.pure _)
      | some eb => exact cond (ih.stmt b) (ih.stmt eb)
    case while_ c b => exact ih.whileL c b
    case for_ pre c post b => exact Good.bind (ih.expr pre) (fun _ => ih.forL c post b)
  case block =>
    intro sts
    cases sts with
    | nil => unfold evalBlock; exact Good.pure _
    | cons st rest => unfold evalBlock; exact Good.bind (ih.stmt st) (fun _ => ih.block rest)
  case whileL =>
    intro c b
    unfold whileLoop
    exact cond (Good.loopIter (ih.stmt b) (ih.whileL c b)) (Good.pure _)
  case forL =>
    intro c p b
    unfold forLoop
    exact cond (Good.loopIter (ih.stmt b) (Good.bind (ih.expr p) (fun _ => ih.forL c p b))) (Good.pure _)
  case forInL =>
    intro l il b items
    cases items with
    | nil => unfold forInLoop; exact fun s i _ => ⟨i, Trans.refl _, trivial⟩
    | cons it rest =>
      rw [Jqawk.Spec.forInLoop_succ_cons]
      intro s i p
      have p0 : ItemOK s.heap it := p _ List.mem_cons_self
      have prest : ItemsOK rest s.heap := fun x hx => p x (List.mem_cons_of_mem _ hx)
      refine Post.bind' (Trans.refl _) (bindRaw_post l il it s i p0) (fun _ s1 i1 t1 _ => ?_)
      exact Post.trans t1
        (loopIter_ht (fun _ _ t p => ItemsOK.trans t p) (ih.stmt b) (ih.forInL l il b rest) s1 i1
          (prest.trans t1))

/-- **`Inv` is an invariant of the whole evaluator**: every evaluator function, at every fuel. -/
theorem allGood (prog : Program) : ∀ n, AllGood prog n
  | 0 => allGood_zero prog
  | n + 1 => allGood_succ prog n (allGood prog n)

end Jqawk.HeapInv
