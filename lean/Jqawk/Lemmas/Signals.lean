/-
  Signal discipline (C01, C07): which of the internal signals break / continue / return can
  leave a construct is decided by its syntax.  `canE g e` / `canS g st` over-approximate
  syntactically ("a `break` occurs outside any loop body of the construct", …); the theorem
  `allNoSig` shows that a construct for which the answer is `false` never yields that signal,
  provided no function body of the program lets `break`/`continue` escape (functions absorb
  `return`, loops absorb `break`/`continue`).  `NoSig g m` is read off `Shaped D G S m` for every
  `g` outside `S` (`NoSig.of_shaped`); `allNoSig` is `allShaped` at `S := (· ≠ g)`, field by field.
-/
import Jqawk.Lemmas.ShapedEval


namespace Jqawk

/-- no function body lets `break` or `continue` escape (what the parser enforces by parsing
    function bodies with `inLoop = false`) -/
def Program.FnScoped (prog : Program) : Prop :=
  ∀ f ∈ prog.functions, canS .brk f.body = false ∧ canS .cont f.body = false

def NoSig {α : Type} (g : Sig) (m : EM α) : Prop := ∀ s s', m s ≠ .err (.sig g) s'

namespace NoSig

/-- the one rule for the control combinators (`Lemmas/EvalSteps.lean`): `g` can come out of the
    computation handled only where it is not caught, of a continuation always -/
theorem handle {α β : Type} {g : Sig} {m : EM α} {onOk : α → EM β} {onSig : Sig → Option (EM β)}
    (hm : onSig g = none → NoSig g m) (hok : ∀ a, NoSig g (onOk a))
    (hsig : ∀ g' k, onSig g' = some k → NoSig g k) : NoSig g (Jqawk.handle m onOk onSig) := by
  intro s s' h
  unfold Jqawk.handle at h
  split at h
  · exact hok _ _ _ h
  · split at h
    · exact hsig _ _ ‹_› _ _ h
    · cases h; exact hm ‹_› _ _ ‹_›
  · cases h; simp_all
  · cases h

theorem bind {α β : Type} {g : Sig} {m : EM α} {f : α → EM β} (hm : NoSig g m)
    (hf : ∀ a, NoSig g (f a)) : NoSig g (m >>= f) :=
  bind_eq_handle m f ▸ handle (fun _ => hm) hf (fun _ _ h => nomatch h)

/-- a shaped computation does not raise a signal outside `S` -/
theorem of_shaped {D : Prop} {G : Nat → Prop} {S : Sig → Prop} {α : Type} {m : EM α} {g : Sig}
    (h : Shaped D G S m) (hg : ¬ S g) : NoSig g m := fun _ _ he => hg (h.errs he)

/-- the reading of a `Shaped` fact about a computation that raises no signal at all -/
theorem of_quiet {α : Type} {m : EM α} (g : Sig) (h : Shaped False (fun _ => True) (fun _ => False) m) :
    NoSig g m := of_shaped h id

theorem pure {α : Type} (g : Sig) (a : α) : NoSig g (Pure.pure a : EM α) := of_quiet g (.pure a)
theorem newCell (g : Sig) (v : Val) : NoSig g (Jqawk.newCell v) := of_quiet g (.newCell v)

theorem modifySt (g : Sig) (f : St → St) : NoSig g (Jqawk.modifySt f) := by intro s s' h; cases h

theorem pushFrame (g : Sig) (name : Bytes) : NoSig g (Jqawk.pushFrame name) := by
  intro s s' h
  unfold Jqawk.pushFrame at h
  split at h <;> cases h

theorem copyValue (g : Sig) (a b : CellId) : NoSig g (Jqawk.copyValue a b) := of_quiet g (.copyValue a b)

end NoSig

theorem NoSig.createSpeculative (g : Sig) (n : Nat) (c : CellId) :
    NoSig g (Jqawk.createSpeculative n c) := .of_quiet g (.createSpeculative n c)

macro "nosig_step" : tactic => `(tactic| em_step)

macro "nosig_auto_with" t:term : tactic =>
  `(tactic| repeat' (first
      | nosig_step
      | (with_reducible_and_instances first
          | exact $t | exact $t _ | exact $t _ _ | exact $t _ _ _ | exact $t _ _ _ _
          | exact $t _ _ _ _ _)))

theorem NoSig.memberStep (g : Sig) (pos : Nat) (l r : CellId) :
    NoSig g (Jqawk.memberStep pos l r) := .of_quiet g (.memberStep trivial l r)

theorem NoSig.evalAssignment (g : Sig) (pos : Nat) (l r : CellId) :
    NoSig g (Jqawk.evalAssignment pos l r) := .of_quiet g (.evalAssignment trivial l r)

theorem NoSig.withFrames {α : Type} {g : Sig} (saved : List Frame) {m : EM α} (hm : NoSig g m) :
    NoSig g (Jqawk.withFrames saved m) := by
  intro s s' h
  unfold Jqawk.withFrames at h
  split at h <;> cases h
  exact hm _ _ ‹_›

structure AllNoSig (prog : Program) (g : Sig) (n : Nat) : Prop where
  expr : ∀ e, canE g e = false → NoSig g (evalExpr prog n e)
  objItems : ∀ pos items acc, canKVs g items = false → NoSig g (evalObjItems prog n pos items acc)
  exprList : ∀ es c, canEs g es = false → NoSig g (evalExprList prog n es c)
  matchCases : ∀ pos v cs, canCases g cs = false → NoSig g (evalMatchCases prog n pos v cs)
  caseMatch : ∀ v ps, canEs g ps = false → NoSig g (evalCaseMatch prog n v ps)
  arrayCaseMatch : ∀ v ps, canEs g ps = false → NoSig g (evalArrayCaseMatch prog n v ps)
  matchElems : ∀ cs ps acc, canEs g ps = false → NoSig g (Jqawk.matchElems prog n cs ps acc)
  call : ∀ pos f args, NoSig g (callFunction prog n pos f args)
  unary : ∀ e op p, canE g e = false → NoSig g (evalUnary prog n e op p)
  binary : ∀ l r op, canE g l = false → canE g r = false → NoSig g (evalBinary prog n l r op)
  stmt : ∀ st, canS g st = false → NoSig g (evalStmt prog n st)
  block : ∀ sts, canSs g sts = false → NoSig g (evalBlock prog n sts)
  whileL : ∀ c b, canE g c = false → (g.loopSig = false → canS g b = false) →
    NoSig g (whileLoop prog n c b)
  forL : ∀ c p b, canE g c = false → canE g p = false → (g.loopSig = false → canS g b = false) →
    NoSig g (forLoop prog n c p b)
  forInL : ∀ l il b items, (g.loopSig = false → canS g b = false) →
    NoSig g (forInLoop prog n l il b items)

/-- **Signal discipline**: for a signal the parser confines (break, continue, return), a
    construct that syntactically cannot let it escape never yields it — at any fuel, from any
    state — in a program whose function bodies confine break and continue. -/
theorem allNoSig (prog : Program) (g : Sig) (hgc : g.confined = true) (hfs : prog.FnScoped) (n : Nat) :
    AllNoSig prog g n :=
  have h : AllShaped False (fun _ => True) (· ≠ g) prog n :=
    allShaped (fun _ _ _ _ => trivial) n _ fun f hf g' hg' => by
      -- a function body lets out neither `break` nor `continue` (`hfs`); the call catches `return`
      have := hfs f hf
      cases g <;> cases g' <;> simp_all [Sig.confined]
  have tok : ∀ {l : List Token}, TokOK (fun _ => True) l := fun _ _ => trivial
  have ne : ¬ g ≠ g := fun h => h rfl
  { expr e := fun he => .of_shaped (h.expr e (.of_false he) tok) ne
    objItems pos items acc := fun hi => .of_shaped (h.objItems pos items acc trivial (.of_false hi) tok) ne
    exprList es c := fun he => .of_shaped (h.exprList es c (.of_false he) tok) ne
    matchCases pos v cs := fun hc => .of_shaped (h.matchCases pos v cs trivial (.of_false hc) tok) ne
    caseMatch v ps := fun hp => .of_shaped (h.caseMatch v ps (.of_false hp) tok) ne
    arrayCaseMatch v ps := fun hp => .of_shaped (h.arrayCaseMatch v ps (.of_false hp) tok) ne
    matchElems cs ps acc := fun hp => .of_shaped (h.matchElems cs ps acc (.of_false hp) tok) ne
    call pos f args := .of_shaped (h.call pos f args trivial) ne
    unary e op p := fun he => .of_shaped (h.unary e op p (.of_false he) tok trivial) ne
    binary l r op := fun hl hr => .of_shaped (h.binary l r op (.of_false hl) (.of_false hr) tok tok trivial) ne
    stmt st := fun hs => .of_shaped (h.stmt st (.of_false hs) tok) ne
    block sts := fun hs => .of_shaped (h.block sts (.of_false hs) tok) ne
    whileL c b := fun hc hb => .of_shaped (h.whileL c b (.of_false hc) (.inLoop hb) tok tok) ne
    forL c p b := fun hc hp hb =>
      .of_shaped (h.forL c p b (.of_false hc) (.of_false hp) (.inLoop hb) tok tok tok) ne
    forInL l il b items := fun hb => .of_shaped (h.forInL l il b items (.inLoop hb) tok) ne }

end Jqawk
