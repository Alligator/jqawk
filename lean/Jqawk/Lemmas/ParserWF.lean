/-
  The parser only produces well-formed ASTs (`Model/WF.lean`): literal nodes carry literal
  tokens, assignment / `++` / `--` targets are assignable, `is` has a type name on the right and
  `.` a field name.  An instance of `Lemmas/ParserClosed.lean`.
-/
import Jqawk.Lemmas.ParserClosed
import Jqawk.Model.WF

namespace Jqawk
open Parser

theorem wfEs_iff {l : List Expr} : wfEs l = true ↔ ∀ e ∈ l, e.wfB = true := by
  induction l with
  | nil => simp [wfEs]
  | cons e es ih => simp [wfEs, ih]

theorem wfSs_iff {l : List Stmt} : wfSs l = true ↔ ∀ s ∈ l, s.wfB = true := by
  induction l with
  | nil => simp [wfSs]
  | cons e es ih => simp [wfSs, ih]

theorem wfKVs_iff {l : List (Bytes × Expr)} : wfKVs l = true ↔ ∀ kv ∈ l, kv.2.wfB = true := by
  induction l with
  | nil => simp [wfKVs]
  | cons e es ih => obtain ⟨k, v⟩ := e; simp [wfKVs, ih]

theorem wfCases_iff {l : List MatchCase} :
    wfCases l = true ↔ ∀ c ∈ l, (∀ p ∈ c.1, p.wfB = true) ∧ c.2.wfB = true := by
  induction l with
  | nil => simp [wfCases]
  | cons e es ih => obtain ⟨p, b⟩ := e; simp [wfCases, ih, wfEs_iff]

mutual
theorem Expr.nodeOK_of_wfB : ∀ (e : Expr), e.wfB = true → ∀ x ∈ e.subs, x.nodeOK = true
  | .lit t, h, x, hx => by
    simp only [Expr.subs, List.mem_singleton] at hx; subst hx; simpa [Expr.wfB] using h
  | .ident t, _, x, hx => by
    simp only [Expr.subs, List.mem_singleton] at hx; subst hx; rfl
  | .arr t items, h, x, hx => by
    simp only [Expr.subs, List.mem_cons] at hx
    simp only [Expr.wfB] at h
    rcases hx with rfl | hx
    · rfl
    · exact nodeOK_of_wfEs items h x hx
  | .obj t items, h, x, hx => by
    simp only [Expr.subs, List.mem_cons] at hx
    simp only [Expr.wfB] at h
    rcases hx with rfl | hx
    · rfl
    · exact nodeOK_of_wfKVs items h x hx
  | .unary e op p, h, x, hx => by
    simp only [Expr.subs, List.mem_cons] at hx
    simp only [Expr.wfB, Bool.and_eq_true] at h
    rcases hx with rfl | hx
    · exact h.1
    · exact Expr.nodeOK_of_wfB e h.2 x hx
  | .binary l r op, h, x, hx => by
    simp only [Expr.subs, List.mem_cons, List.mem_append] at hx
    simp only [Expr.wfB, Bool.and_eq_true] at h
    rcases hx with rfl | hx | hx
    · exact h.1.1
    · exact Expr.nodeOK_of_wfB l h.1.2 x hx
    · exact Expr.nodeOK_of_wfB r h.2 x hx
  | .call f args, h, x, hx => by
    simp only [Expr.subs, List.mem_cons, List.mem_append] at hx
    simp only [Expr.wfB, Bool.and_eq_true] at h
    rcases hx with rfl | hx | hx
    · rfl
    · exact Expr.nodeOK_of_wfB f h.1 x hx
    · exact nodeOK_of_wfEs args h.2 x hx
  | .match_ t v cases, h, x, hx => by
    simp only [Expr.subs, List.mem_cons, List.mem_append] at hx
    simp only [Expr.wfB, Bool.and_eq_true] at h
    rcases hx with rfl | hx | hx
    · rfl
    · exact Expr.nodeOK_of_wfB v h.1 x hx
    · exact nodeOK_of_wfCases cases h.2 x hx
termination_by structural x => x
theorem nodeOK_of_wfEs : ∀ (l : List Expr), wfEs l = true → ∀ x ∈ subsEs l, x.nodeOK = true
  | [], _, x, hx => by simp [subsEs] at hx
  | e :: es, h, x, hx => by
    simp only [subsEs, List.mem_append] at hx
    simp only [wfEs, Bool.and_eq_true] at h
    rcases hx with hx | hx
    · exact Expr.nodeOK_of_wfB e h.1 x hx
    · exact nodeOK_of_wfEs es h.2 x hx
termination_by structural x => x
theorem nodeOK_of_wfKVs : ∀ (l : List (Bytes × Expr)), wfKVs l = true →
    ∀ x ∈ subsKVs l, x.nodeOK = true
  | [], _, x, hx => by simp [subsKVs] at hx
  | (_, e) :: es, h, x, hx => by
    simp only [subsKVs, List.mem_append] at hx
    simp only [wfKVs, Bool.and_eq_true] at h
    rcases hx with hx | hx
    · exact Expr.nodeOK_of_wfB e h.1 x hx
    · exact nodeOK_of_wfKVs es h.2 x hx
termination_by structural x => x
theorem nodeOK_of_wfCases : ∀ (l : List MatchCase), wfCases l = true →
    ∀ x ∈ subsCases l, x.nodeOK = true
  | [], _, x, hx => by simp [subsCases] at hx
  | (.mk pats body) :: cs, h, x, hx => by
    simp only [subsCases, List.mem_append] at hx
    simp only [wfCases, Bool.and_eq_true] at h
    rcases hx with (hx | hx) | hx
    · exact nodeOK_of_wfEs pats h.1.1 x hx
    · exact Stmt.nodeOK_of_wfB body h.1.2 x hx
    · exact nodeOK_of_wfCases cs h.2 x hx
termination_by structural x => x
theorem Stmt.nodeOK_of_wfB : ∀ (s : Stmt), s.wfB = true → ∀ x ∈ s.subs, x.nodeOK = true
  | .block _ body, h, x, hx => by
    simp only [Stmt.subs] at hx; simp only [Stmt.wfB] at h
    exact nodeOK_of_wfSs body h x hx
  | .print _ args, h, x, hx => by
    simp only [Stmt.subs] at hx; simp only [Stmt.wfB] at h
    exact nodeOK_of_wfEs args h x hx
  | .expr e, h, x, hx => by
    simp only [Stmt.subs] at hx; simp only [Stmt.wfB] at h
    exact Expr.nodeOK_of_wfB e h x hx
  | .ret none, _, x, hx => by simp [Stmt.subs] at hx
  | .ret (some e), h, x, hx => by
    simp only [Stmt.subs] at hx; simp only [Stmt.wfB] at h
    exact Expr.nodeOK_of_wfB e h x hx
  | .brk _, _, x, hx => by simp [Stmt.subs] at hx
  | .cont _, _, x, hx => by simp [Stmt.subs] at hx
  | .next _, _, x, hx => by simp [Stmt.subs] at hx
  | .exit _, _, x, hx => by simp [Stmt.subs] at hx
  | .if_ c b none, h, x, hx => by
    simp only [Stmt.subs, List.mem_append] at hx
    simp only [Stmt.wfB, Bool.and_eq_true] at h
    rcases hx with hx | hx
    · exact Expr.nodeOK_of_wfB c h.1 x hx
    · exact Stmt.nodeOK_of_wfB b h.2 x hx
  | .if_ c b (some e), h, x, hx => by
    simp only [Stmt.subs, List.mem_append] at hx
    simp only [Stmt.wfB, Bool.and_eq_true] at h
    rcases hx with (hx | hx) | hx
    · exact Expr.nodeOK_of_wfB c h.1.1 x hx
    · exact Stmt.nodeOK_of_wfB b h.1.2 x hx
    · exact Stmt.nodeOK_of_wfB e h.2 x hx
  | .while_ c b, h, x, hx => by
    simp only [Stmt.subs, List.mem_append] at hx
    simp only [Stmt.wfB, Bool.and_eq_true] at h
    rcases hx with hx | hx
    · exact Expr.nodeOK_of_wfB c h.1 x hx
    · exact Stmt.nodeOK_of_wfB b h.2 x hx
  | .for_ pre c post b, h, x, hx => by
    simp only [Stmt.subs, List.mem_append] at hx
    simp only [Stmt.wfB, Bool.and_eq_true] at h
    rcases hx with ((hx | hx) | hx) | hx
    · exact Expr.nodeOK_of_wfB pre h.1.1.1 x hx
    · exact Expr.nodeOK_of_wfB c h.1.1.2 x hx
    · exact Expr.nodeOK_of_wfB post h.1.2 x hx
    · exact Stmt.nodeOK_of_wfB b h.2 x hx
  | .forIn _ _ iter b, h, x, hx => by
    simp only [Stmt.subs, List.mem_append] at hx
    simp only [Stmt.wfB, Bool.and_eq_true] at h
    rcases hx with hx | hx
    · exact Expr.nodeOK_of_wfB iter h.1 x hx
    · exact Stmt.nodeOK_of_wfB b h.2 x hx
termination_by structural x => x
theorem nodeOK_of_wfSs : ∀ (l : List Stmt), wfSs l = true → ∀ x ∈ subsSs l, x.nodeOK = true
  | [], _, x, hx => by simp [subsSs] at hx
  | s :: ss, h, x, hx => by
    simp only [subsSs, List.mem_append] at hx
    simp only [wfSs, Bool.and_eq_true] at h
    rcases hx with hx | hx
    · exact Stmt.nodeOK_of_wfB s h.1 x hx
    · exact nodeOK_of_wfSs ss h.2 x hx
termination_by structural x => x
end

theorem Program.nodeOK_of_wfB (p : Program) (h : p.wfB = true) :
    ∀ x ∈ p.subExprs, x.nodeOK = true := by
  intro x hx
  simp only [Program.wfB, Bool.and_eq_true, List.all_eq_true] at h
  simp only [Program.subExprs, List.mem_append, List.mem_flatMap] at hx
  rcases hx with ⟨r, hr, hx⟩ | ⟨f, hf, hx⟩
  · have hw := h.1 r hr
    simp only [Rule.wfB, Bool.and_eq_true] at hw
    simp only [Rule.subs, List.mem_append] at hx
    rcases hx with hx | hx
    · exact Stmt.nodeOK_of_wfB _ hw.1 x hx
    · cases hp : r.pattern with
      | none => rw [hp] at hx; simp at hx
      | some e => rw [hp] at hx hw; exact Expr.nodeOK_of_wfB e hw.2 x hx
  · exact Stmt.nodeOK_of_wfB _ (h.2 f hf) x hx

structure TblOK (tbl : RuleTable) : Prop where
    literal : ∀ t, (lookupRule tbl t).pre = some .literal → litTag t = true
    assign : ∀ t, (lookupRule tbl t).inf = some .assign → t ≠ .is ∧ t ≠ .dot
    binary : ∀ t, (lookupRule tbl t).inf = some .binary →
    t ≠ .equal ∧ t ≠ .is ∧ t ≠ .dot ∧ isCompound t = false

theorem expectedRuleTable_ok : TblOK expectedRuleTable := by
  constructor <;> intro t <;> cases t <;> decide

def RegexTok (t : Token) : Prop := t.tag = .regex

theorem rewriteCompound_wf (l e : Expr) (op : Token) (hl : l.wfB = true) (he : e.wfB = true)
    (ha : assignable l = true) : (rewriteCompound l e op).wfB = true := by
  simp only [rewriteCompound, Expr.wfB, Expr.nodeOK, hl, he, ha, Expr.isIdent, Expr.isIdentLit, isCompound]
  split <;> simp

structure AllWF (tbl : RuleTable) (n : Nat) : Prop where
  statement : ∀ ps, PM.AllR RegexTok (fun r => r.1.wfB = true) (statement tbl n ps)
  loopBody : ∀ ps, PM.AllR RegexTok (fun r => r.1.wfB = true) (loopBody tbl n ps)
  block : ∀ ps, PM.AllR RegexTok (fun r => r.1.wfB = true) (block tbl n ps)
  blockLoop : ∀ acc ps, wfSs acc = true →
    PM.AllR RegexTok (fun r => wfSs r.1 = true) (blockLoop tbl n acc ps)
  printStatement : ∀ ps, PM.AllR RegexTok (fun r => r.1.wfB = true) (printStatement tbl n ps)
  printLoop : ∀ acc ps, wfEs acc = true →
    PM.AllR RegexTok (fun r => wfEs r.1.1 = true) (printLoop tbl n acc ps)
  expressionWithPrec : ∀ prec ps,
    PM.AllR RegexTok (fun r => r.1.wfB = true) (expressionWithPrec tbl n prec ps)
  infixLoop : ∀ prec lhs ps, lhs.wfB = true →
    PM.AllR RegexTok (fun r => r.1.wfB = true) (infixLoop tbl n prec lhs ps)
  prefixFn : ∀ pk ps, (lookupRule tbl ps.cur.tag).pre = some pk →
    PM.AllR RegexTok (fun r => r.1.wfB = true) (prefixFn tbl n pk ps)
  exprList : ∀ endTag acc ps, wfEs acc = true →
    PM.AllR RegexTok (fun r => wfEs r.1 = true) (exprList tbl n endTag acc ps)
  objectLoop : ∀ acc ps, wfKVs acc = true →
    PM.AllR RegexTok (fun r => wfKVs r.1 = true) (objectLoop tbl n acc ps)
  matchCases : ∀ acc ps, wfCases acc = true →
    PM.AllR RegexTok (fun r => wfCases r.1 = true) (matchCases tbl n acc ps)
  matchPats : ∀ acc ps, wfEs acc = true →
    PM.AllR RegexTok (fun r => wfEs r.1 = true) (matchPats tbl n acc ps)
  infixFn : ∀ ik lhs ps, (lookupRule tbl ps.cur.tag).inf = some ik → lhs.wfB = true →
    PM.AllR RegexTok (fun r => r.1.wfB = true) (infixFn tbl n ik lhs ps)

variable {tbl : RuleTable}

theorem wf_closed (htbl : TblOK tbl) :
    ParseClosed RegexTok (fun t k => (lookupRule tbl t).pre = some k)
      (fun t k => (lookupRule tbl t).inf = some k) (fun _ _ e => e.wfB = true)
      (fun _ _ s => s.wfB = true) where
  lit h := by simpa [Expr.wfB, Expr.nodeOK] using htbl.literal _ h
  regex h := by simp [Expr.wfB, Expr.nodeOK, litTag, show _ = Tag.regex from h]
  ident _ := rfl
  arr _ h := by simpa [Expr.wfB] using wfEs_iff.mpr h
  obj _ h := by simpa [Expr.wfB] using wfKVs_iff.mpr h
  unary _ ha he := by
    have : ∀ b c : Bool, (b && !c) = false → (!b || c) = true := by decide
    simp only [Expr.wfB, Expr.nodeOK, he, this _ _ ha, Bool.and_self]
  match_ _ hv hc := by simp [Expr.wfB, hv, wfCases_iff.mpr hc]
  index ho ha he := by simp [Expr.wfB, Expr.nodeOK, isCompound, ha, he, ho]
  member ho hi ha := by
    simp [Expr.wfB, Expr.nodeOK, Expr.isIdentLit, isCompound, ha, ho, hi, litTag]
  call ha hs := by simp [Expr.wfB, ha, wfEs_iff.mpr hs]
  postfixOp _ hl ha := by simp [Expr.wfB, Expr.nodeOK, ha, hl]
  binary h ha he := by simp [Expr.wfB, Expr.nodeOK, ha, he, htbl.binary _ h]
  is _ ho ha := by simp [Expr.wfB, Expr.nodeOK, Expr.isIdent, isCompound, ha, ho]
  assign h hc hl ha he := by simp [Expr.wfB, Expr.nodeOK, ha, he, hl, hc, htbl.assign _ h]
  compound _ _ hl ha he := rewriteCompound_wf _ _ _ ha he hl
  print _ h := by simpa [Stmt.wfB] using wfEs_iff.mpr h
  ret h := by simpa [Stmt.wfB] using h
  retNone := rfl
  if_ hc hb := by simp [Stmt.wfB, hc, hb]
  ifElse hc hb he := by simp [Stmt.wfB, hc, hb, he]
  while_ hc hb := by simp [Stmt.wfB, hc, hb]
  forIn _ _ hi hb := by simp [Stmt.wfB, hi, hb]
  for_ h1 h2 h3 hb := by simp [Stmt.wfB, h1, h2, h3, hb]
  block _ h := by simpa [Stmt.wfB] using wfSs_iff.mpr h
  brk _ := rfl
  cont _ := rfl
  next _ := rfl
  exit _ := rfl
  expr h := by simpa [Stmt.wfB] using h

theorem allWF (htbl : TblOK tbl) (n : Nat) : AllWF tbl n :=
  have h := allClosed (fun _ _ h => h) (fun _ _ h => h) (wf_closed htbl) n
  { statement := fun ps => (h.statement ps rfl rfl).mono fun _ hr => hr.2.2
    loopBody := fun ps => (h.loopBody ps rfl rfl).mono fun _ hr => hr.2.2
    block := fun ps => (h.block ps rfl rfl).mono fun _ hr => hr.2.2
    blockLoop := fun acc ps ha =>
      (h.blockLoop acc ps rfl rfl (wfSs_iff.mp ha)).mono fun _ hr => wfSs_iff.mpr hr.2.2
    printStatement := fun ps => (h.printStatement ps rfl rfl).mono fun _ hr => hr.2.2
    printLoop := fun acc ps ha =>
      (h.printLoop acc ps rfl rfl (wfEs_iff.mp ha)).mono fun _ hr => wfEs_iff.mpr hr.2.2
    expressionWithPrec := fun prec ps =>
      (h.expressionWithPrec prec ps rfl rfl).mono fun _ hr => hr.2.2
    infixLoop := fun prec lhs ps ha =>
      (h.infixLoop prec lhs ps rfl rfl ha).mono fun _ hr => hr.2.2
    prefixFn := fun pk ps hpk => (h.prefixFn pk ps rfl rfl hpk).mono fun _ hr => hr.2.2
    exprList := fun t acc ps ha =>
      (h.exprList t acc ps rfl rfl (wfEs_iff.mp ha)).mono fun _ hr => wfEs_iff.mpr hr.2.2
    objectLoop := fun acc ps ha =>
      (h.objectLoop acc ps rfl rfl (wfKVs_iff.mp ha)).mono fun _ hr => wfKVs_iff.mpr hr.2.2
    matchCases := fun acc ps ha =>
      (h.matchCases acc ps rfl rfl (wfCases_iff.mp ha)).mono fun _ hr => wfCases_iff.mpr hr.2.2
    matchPats := fun acc ps ha =>
      (h.matchPats acc ps rfl rfl (wfEs_iff.mp ha)).mono fun _ hr => wfEs_iff.mpr hr.2.2
    infixFn := fun ik lhs ps hik ha =>
      (h.infixFn ik lhs ps rfl rfl hik ha).mono fun _ hr => hr.2.2 }

theorem wfB_mk (rules : List Rule) (fns : List FuncDef) :
    Program.wfB ⟨rules, fns⟩ = (rules.all Rule.wfB && fns.all (fun f => f.body.wfB)) := rfl

theorem wfB_of_progIn {p : Program}
    (h : ProgIn (fun _ _ e => e.wfB = true) (fun _ _ s => s.wfB = true) p) : p.wfB = true := by
  simp only [Program.wfB, Bool.and_eq_true, List.all_eq_true, Rule.wfB]
  refine ⟨fun r hr => ⟨(h.1 r hr).1, ?_⟩, h.2⟩
  cases hp : r.pattern with
  | none => rfl
  | some e => exact (h.1 r hr).2 e hp

theorem parseProgramSrc_wf (htbl : TblOK tbl) (src : Bytes) (prog : Program)
    (h : parseProgramSrc tbl src = .ok prog) : prog.wfB = true :=
  wfB_of_progIn (parseProgramSrc_closed (fun _ _ h => h) (fun _ _ h => h) (wf_closed htbl)
    (fun _ h => h) h)

theorem parseExpressionSrc_wf (htbl : TblOK tbl) (src : Bytes) (e : Expr)
    (h : parseExpressionSrc tbl src = .ok e) : e.wfB = true :=
  parseExpressionSrc_closed (fun _ _ h => h) (fun _ _ h => h) (wf_closed htbl) (fun _ h => h) h

theorem infixFn_assign_invalid (tbl : RuleTable) (n : Nat) (left : Expr) (ps : PS)
    (h : assignable left = false) :
    infixFn tbl (n + 1) .assign left ps = .fail ⟨left.token.pos, "invalid assignment"⟩ := by
  unfold infixFn
  simp only [h]
  rfl

theorem infixFn_postfix_invalid (tbl : RuleTable) (n : Nat) (left : Expr) (ps : PS)
    (h : assignable left = false) :
    infixFn tbl (n + 1) .postfixOp left ps =
      .fail ⟨left.token.pos, "invalid increment target"⟩ := by
  unfold infixFn
  simp only [h]
  rfl

theorem parse_wf (src : Bytes) (prog : Program)
    (h : parseProgramSrc expectedRuleTable src = .ok prog) : prog.wfB = true :=
  parseProgramSrc_wf expectedRuleTable_ok src prog h

theorem parseExpr_wf (src : Bytes) (e : Expr)
    (h : parseExpressionSrc expectedRuleTable src = .ok e) : e.wfB = true :=
  parseExpressionSrc_wf expectedRuleTable_ok src e h

end Jqawk
