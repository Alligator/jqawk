/-
  The Go JSON decoder model (`Json.decodeOne`) reads back the rendering of a flat array of
  booleans and nulls (fragment of C17 "the rendering of a container is JSON equal to the value"):
  the rendering is a JSON text (`Txt`, Lemmas/JsonGrammar.lean) of that array.
-/
import Jqawk.Model.Render
import Jqawk.Lemmas.JsonGrammar

namespace Jqawk
namespace Reparse
open Json JsonBytes

/-- an element of the fragment: `some b` = boolean, `none` = null -/
abbrev Elem := Option Bool

def word : Elem → Bytes
  | some true => b!"true"
  | some false => b!"false"
  | none => b!"null"

def tree : Elem → JVal
  | some b => .bool b
  | none => .null

theorem txt_word (f : Bytes → Bool) : ∀ e : Elem, Txt f (word e) (tree e) 0
  | some true => .leaf .tru
  | some false => .leaf .fls
  | none => .leaf .null

/-- an element as `pretty` writes it after the first: a space before it -/
def spaced (e : Elem) : Item := ⟨[0x20], word e, [], tree e⟩

theorem joinSep_words (e : Elem) : ∀ es : List Elem,
    joinSep b!", " ((e :: es).map word) = word e ++ moreItems (es.map spaced)
  | [] => by simp [joinSep, moreItems]
  | e' :: es => by
    show word e ++ [44, 32] ++ joinSep [44, 32] ((e' :: es).map word) = _
    rw [joinSep_words e' es]
    simp [moreItems, Item.bytes, spaced]

theorem decode_flat (numOk : Bytes → Bool) (es : List Elem) :
    decodeOne numOk ([91] ++ joinSep b!", " (es.map word) ++ [93]) .eof
      = .value (.arr (es.map tree)) [] := by
  cases es with
  | nil => rfl
  | cons e es =>
    have ht := Txt.arr (f := numOk) (n := 0) (its := ⟨[], word e, [], tree e⟩ :: es.map spaced) (w := []) .nil
      (fun p hp => by
        rcases List.mem_cons.1 hp with rfl | hp
        · exact ⟨.nil, .nil⟩
        · obtain ⟨x, _, rfl⟩ := List.mem_map.1 hp
          exact ⟨fun y hy => List.mem_singleton.1 hy ▸ rfl, .nil⟩)
      (fun p hp => by
        rcases List.mem_cons.1 hp with rfl | hp
        · exact txt_word _ _
        · obtain ⟨x, _, rfl⟩ := List.mem_map.1 hp
          exact txt_word _ _)
    have := ht.top (by decide) .nil (rest := []) trivial .eof
    simp only [itemsBytes, Item.bytes, List.nil_append, List.append_nil, List.map_cons, List.map_map] at this
    rw [joinSep_words]
    simpa [spaced, OneByte.composite, Function.comp_def] using this

end Reparse
end Jqawk
