/-
  The lexer as a token source.  One `advance` request in closed form (`nextNN_closed`: skip the
  vertical trivia — blanks, comments, newlines — in front, answer with one `Lexer.next`, raise the
  flag iff a newline was skipped; every text splits that way, `vsplit`), and what is read off it:
  what `advance` consumes, that trivia in front only shifts positions and sets the flag
  (`nextNN_vappend`, `nextNN_vtrivia`), and that lexing depends on the absolute offset only through
  the positions it reports (`sameRest_isSimE`).
-/
import Jqawk.Lemmas.Lexer
import Jqawk.Lemmas.Erase

namespace Jqawk

theorem PM.run_sim_ok {σ₁ σ₂ α : Type} [Erase α] {src₁ : TokSrc σ₁} {src₂ : TokSrc σ₂}
    {R : σ₁ → σ₂ → Prop} (hR : PM.IsSimE src₁ src₂ R) {m₁ m₂ : PM (α × PS)} (hm : PM.Sim m₁ m₂)
    {s₁ : σ₁} {s₂ : σ₂} (h : R s₁ s₂) {a : α} {st : PS} (hr : m₁.runWith src₁ s₁ = .ok (a, st)) :
    ∃ a' st', m₂.runWith src₂ s₂ = .ok (a', st') ∧ erase a = erase a' := by
  have hA := PM.run_sim hR hm s₁ s₂ h
  rw [hr] at hA
  generalize m₂.runWith src₂ s₂ = r at hA
  cases hA with
  | ok hab => exact ⟨_, _, rfl, (Prod.mk.inj hab).1⟩

theorem PM.AnsNextE.symm {σ₁ σ₂ : Type} {R : σ₁ → σ₂ → Prop}
    {x : Except SynErr (Token × Bool × σ₁)} {y : Except SynErr (Token × Bool × σ₂)}
    (h : PM.AnsNextE R x y) : PM.AnsNextE (fun a b => R b a) y x := by
  cases x <;> cases y <;> first | exact Eq.symm h | exact h | exact ⟨h.1.symm, h.2.1.symm, h.2.2⟩

theorem PM.AnsRegexE.symm {σ₁ σ₂ : Type} {R : σ₁ → σ₂ → Prop}
    {x : Except SynErr (Token × σ₁)} {y : Except SynErr (Token × σ₂)}
    (h : PM.AnsRegexE R x y) : PM.AnsRegexE (fun a b => R b a) y x := by
  cases x <;> cases y <;> first | exact Eq.symm h | exact h | exact ⟨h.1.symm, h.2⟩

theorem PM.IsSimE.symm {σ₁ σ₂ : Type} {src₁ : TokSrc σ₁} {src₂ : TokSrc σ₂} {R : σ₁ → σ₂ → Prop}
    (hR : PM.IsSimE src₁ src₂ R) : PM.IsSimE src₂ src₁ (fun a b => R b a) :=
  ⟨fun s₂ s₁ h => (hR.next s₁ s₂ h).symm, fun s₂ s₁ h => (hR.regex s₁ s₂ h).symm⟩

theorem PM.AnsNextE.mono {σ₁ σ₂ : Type} {R R' : σ₁ → σ₂ → Prop} (hRR : ∀ a b, R a b → R' a b)
    {x : Except SynErr (Token × Bool × σ₁)} {y : Except SynErr (Token × Bool × σ₂)}
    (h : PM.AnsNextE R x y) : PM.AnsNextE R' x y := by
  cases x <;> cases y <;> first | exact h | exact ⟨h.1, h.2.1, hRR _ _ h.2.2⟩

theorem PM.AnsRegexE.mono {σ₁ σ₂ : Type} {R R' : σ₁ → σ₂ → Prop} (hRR : ∀ a b, R a b → R' a b)
    {x : Except SynErr (Token × σ₁)} {y : Except SynErr (Token × σ₂)}
    (h : PM.AnsRegexE R x y) : PM.AnsRegexE R' x y := by
  cases x <;> cases y <;> first | exact h | exact ⟨h.1, hRR _ _ h.2⟩

namespace Lexer

def SameRest (s s' : LexState) : Prop := s.rest = s'.rest

abbrev ShiftRel := PM.AnsRegexE SameRest

theorem shiftRel_ok {t t' : Token} {s s' : LexState} (h1 : t.tag = t'.tag) (h2 : t.text = t'.text)
    (h3 : s.rest = s'.rest) : ShiftRel (.ok (t, s)) (.ok (t', s')) :=
  ⟨(erase_token_eq_iff _ _).mpr ⟨h1, h2⟩, h3⟩

theorem identifier_shift (pre : Bytes) (p p' : Nat) (r : Bytes) :
    ShiftRel (.ok (identifier pre p r)) (.ok (identifier pre p' r)) := by
  rw [identifier_eq, identifier_eq]
  cases keyword (pre ++ (spanB isIdentB r).1) <;> exact shiftRel_ok rfl rfl rfl

theorem number_shift (p p' : Nat) (r : Bytes) :
    ShiftRel (.ok (number p r)) (.ok (number p' r)) := by
  rw [number_eq, number_eq]
  split
  · split <;> exact shiftRel_ok rfl rfl rfl
  · exact shiftRel_ok rfl rfl rfl

theorem string_shift (q : UInt8) (p p' : Nat) (r : Bytes) :
    ShiftRel (string q p r) (string q p' r) := by
  unfold string
  cases scanTo q r with
  | none => exact rfl
  | some br => exact shiftRel_ok rfl rfl rfl

theorem lexAt_shift (c : UInt8) (cs : Bytes) (p p' : Nat) :
    ShiftRel (lexAt c cs p) (lexAt c cs p') := by
  unfold lexAt
  conv => zeta
  refine ite_elim₂ (fun _ => shiftRel_ok rfl rfl rfl) (fun _ => ?_)
  refine ite_elim₂ (fun _ => identifier_shift _ _ _ _) (fun _ => ?_)
  refine ite_elim₂ (fun _ => number_shift _ _ _) (fun _ => ?_)
  refine ite_elim₂ (fun _ => identifier_shift _ _ _ _) (fun _ => ?_)
  iterate 12 refine ite_elim₂ (fun _ => shiftRel_ok rfl rfl rfl) (fun _ => ?_)
  iterate 10
    refine ite_elim₂ (fun _ => ?_) (fun _ => ?_)
    · split <;> first | exact shiftRel_ok rfl rfl rfl | exact rfl
  refine ite_elim₂ (fun _ => string_shift _ _ _ _) (fun _ => rfl)

theorem regex_shift (s s' : LexState) (h : SameRest s s') : ShiftRel (regex s) (regex s') := by
  unfold regex
  unfold SameRest at h
  rw [← h]
  cases scanTo 47 s.rest with
  | none => exact rfl
  | some br => exact shiftRel_ok rfl rfl rfl

/-- `VTrivia w rest`: `w` consists of blanks, tabs, CRs, `#` comments (each running up to a
    newline or the end of the text) and newlines; `rest` is what follows. -/
inductive VTrivia : Bytes → Bytes → Prop
  | nil (rest : Bytes) : VTrivia [] rest
  | blank (c : UInt8) (t rest : Bytes) : isBlankB c = true → VTrivia t rest → VTrivia (c :: t) rest
  | comment (body t rest : Bytes) : (10 : UInt8) ∉ body →
      (t ++ rest = [] ∨ (t ++ rest).head? = some 10) → VTrivia t rest →
      VTrivia (35 :: body ++ t) rest
  | newline (t rest : Bytes) : VTrivia t rest → VTrivia (10 :: t) rest

theorem Trivia.vtrivia {t rest : Bytes} (h : Trivia t rest) : VTrivia t rest ∧ (10 : UInt8) ∉ t := by
  induction h with
  | nil _ => exact ⟨.nil _, List.not_mem_nil⟩
  | blank c t _ hc _ ih =>
    refine ⟨.blank c t _ hc ih.1, List.not_mem_cons_of_ne_of_not_mem (fun e => ?_) ih.2⟩
    rw [← e] at hc; cases hc
  | comment body t _ hb hr _ ih => exact ⟨.comment body t _ hb hr ih.1, by simp [hb, ih.2]⟩

theorem VTrivia.append {w w₂ x : Bytes} (h : VTrivia w (w₂ ++ x)) (h₂ : VTrivia w₂ x) :
    VTrivia (w ++ w₂) x := by
  generalize hy : w₂ ++ x = y at h
  induction h with
  | nil _ => exact h₂
  | blank c t _ hc _ ih => exact .blank c _ _ hc (ih hy)
  | comment body t _ hb hr _ ih =>
    subst hy
    simpa using VTrivia.comment body (t ++ w₂) x hb (by simpa using hr) (ih rfl)
  | newline t _ _ ih => exact .newline _ _ (ih hy)

/-- only the first byte behind the trivia matters (a comment wants a newline or the end there) -/
theorem VTrivia.cons_congr {w a a' : Bytes} {c : UInt8} (h : VTrivia w (c :: a)) :
    VTrivia w (c :: a') := by
  generalize hz : c :: a = z at h
  induction h with
  | nil _ => exact .nil _
  | blank d t _ hd _ ih => exact .blank d _ _ hd (ih hz)
  | comment body t _ hb hr _ ih =>
    subst hz
    refine .comment body t _ hb ?_ (ih rfl)
    cases t with
    | nil => simpa using hr
    | cons d t => simpa using hr
  | newline t _ _ ih => exact .newline _ _ (ih hz)

/-- every text is vertical trivia followed by a text with nothing to skip -/
theorem vsplit (r : Bytes) : ∃ w x, r = w ++ x ∧ VTrivia w x ∧ Solid x := by
  suffices H : ∀ n (r : Bytes), r.length ≤ n → ∃ w x, r = w ++ x ∧ VTrivia w x ∧ Solid x from
    H _ r (Nat.le_refl _)
  intro n
  induction n with
  | zero =>
    intro r hr
    obtain rfl := List.eq_nil_of_length_eq_zero (Nat.le_zero.mp hr)
    exact ⟨[], [], rfl, .nil _, fun _ h => nomatch h⟩
  | succ n ih =>
    intro r hr
    cases r with
    | nil => exact ⟨[], [], rfl, .nil _, fun _ h => nomatch h⟩
    | cons c cs =>
      have hcs : cs.length ≤ n := Nat.le_of_succ_le_succ hr
      by_cases hb : isBlankB c = true
      · obtain ⟨w, x, rfl, hw, hx⟩ := ih cs hcs
        exact ⟨c :: w, x, rfl, .blank c w x hb hw, hx⟩
      by_cases h10 : c = 10
      · subst h10
        obtain ⟨w, x, rfl, hw, hx⟩ := ih cs hcs
        exact ⟨10 :: w, x, rfl, .newline w x hw, hx⟩
      by_cases h35 : c = 35
      · -- a comment: up to the newline that ends it (or the end of the text), then the rest
        subst h35
        obtain ⟨body, b1, _, hbody, hrest⟩ := skipComment_decomp cs 0
        have hl : (skipComment cs 0).1.length ≤ n := by
          have := congrArg List.length b1
          rw [List.length_append] at this; omega
        obtain ⟨w, x, e, hw, hx⟩ := ih _ hl
        refine ⟨35 :: body ++ w, x, ?_, .comment body w x hbody (e ▸ hrest) hw, hx⟩
        show 35 :: cs = 35 :: ((body ++ w) ++ x)
        rw [List.append_assoc, ← e, ← b1]
      · exact ⟨[], c :: cs, rfl, .nil _, fun d hd => by
          cases hd; exact ⟨Bool.of_not_eq_true hb, h35, h10⟩⟩

/-! ### one `advance` request (`nextNN`) in closed form -/

/-- `tokenStart` behind the vertical trivia `w` standing at offset `p`: the offset of its last
    newline (a newline token is the last token the lexer produced), else unchanged -/
def vts : Bytes → Nat → Nat → Nat
  | [], _, ts => ts
  | c :: w, p, ts => vts w (p + 1) (if c == 10 then p else ts)

theorem vts_noNl (a w : Bytes) (h : (10 : UInt8) ∉ a) (p ts : Nat) :
    vts (a ++ w) p ts = vts w (p + a.length) ts := by
  induction a generalizing p with
  | nil => rfl
  | cons c a ih =>
    rw [List.cons_append, vts, if_neg (by simpa using (List.ne_of_not_mem_cons h).symm),
      ih (List.not_mem_of_not_mem_cons h), List.length_cons, Nat.add_assoc, Nat.add_comm 1]

theorem vts_append (a b : Bytes) (p ts : Nat) :
    vts (a ++ b) p ts = vts b (p + a.length) (vts a p ts) := by
  induction a generalizing p ts with
  | nil => rfl
  | cons c a ih => simp [vts, ih, Nat.add_assoc, Nat.add_comm 1]

/-- an answer of `next` as an answer to `advance`, with newline flag `nl` -/
def withFlag (nl : Bool) : Except SynErr (Token × LexState) → Except SynErr (Token × Bool × LexState)
  | .ok (t, s') => .ok (t, nl, s')
  | .error e => .error e

theorem withFlag_ok {nl nl' : Bool} {r : Except SynErr (Token × LexState)} {t : Token} {s' : LexState}
    (h : withFlag nl r = .ok (t, nl', s')) : r = .ok (t, s') ∧ nl' = nl := by
  cases r with
  | error e => cases h
  | ok x => obtain ⟨t₁, s₁⟩ := x; cases h; exact ⟨rfl, rfl⟩

theorem withFlag_error {nl : Bool} {r : Except SynErr (Token × LexState)} {e : SynErr}
    (h : withFlag nl r = .error e) : r = .error e := by
  cases r with
  | error e' => cases h; rfl
  | ok x => obtain ⟨t₁, s₁⟩ := x; cases h

theorem nextNN_congr {s s₂ : LexState} (h : next s = next s₂) (f : Nat) (nl : Bool) :
    nextNN f s nl = nextNN f s₂ nl := by
  cases f with
  | zero => rfl
  | succ f => simp only [nextNN, h]

theorem next_newline (r : Bytes) (p ts : Nat) :
    next ⟨10 :: r, p, ts⟩ = .ok (⟨.newline, p, []⟩, ⟨r, p + 1, p⟩) := by
  rw [next_eq]; dsimp only
  rw [skipWs_succ_cons]
  rfl

theorem nextNN_solid {x : Bytes} (hx : Solid x) (q ts : Nat) (nl : Bool) (f : Nat) :
    nextNN (f + 1) ⟨x, q, ts⟩ nl = withFlag nl (next ⟨x, q, ts⟩) := by
  rw [nextNN]
  cases x with
  | nil => rfl
  | cons c cs =>
    rw [next_solid hx]
    cases h : lexAt c cs q with
    | error e => rfl
    | ok r =>
      obtain ⟨t, s'⟩ := r
      have : (t.tag == Tag.newline) = false := by
        cases hb : t.tag == Tag.newline with
        | false => rfl
        | true => exact absurd (lexAt_newline h (eq_of_beq hb)) (hx c rfl).2.2
      simp only [this]; rfl

/-- **An `advance` request in closed form**, for every amount of fuel: the vertical trivia `w` in
    front is skipped, ONE `next` answers on the text `x` behind it, and the flag is raised iff `w`
    holds a newline.  The fuel needed is one unit per newline of `w` and one for the token. -/
theorem nextNN_closed {w x : Bytes} (hw : VTrivia w x) (hx : Solid x) (p ts : Nat) (nl : Bool)
    (f : Nat) :
    nextNN f ⟨w ++ x, p, ts⟩ nl
      = if w.count 10 < f then
          withFlag (nl || w.contains 10) (next ⟨x, p + w.length, vts w p ts⟩)
        else .error ⟨0, "fuel"⟩ := by
  induction hw generalizing p ts nl f with
  | nil x =>
    cases f with
    | zero => rfl
    | succ f => simpa [vts] using nextNN_solid hx p ts nl f
  | blank c t x hc _ ih =>
    have h1 : next ⟨(c :: t) ++ x, p, ts⟩ = next ⟨t ++ x, p + 1, ts⟩ :=
      next_trivia (t := [c]) (.blank c [] _ hc (.nil _)) p ts
    have hne : c ≠ 10 := fun e => by rw [e] at hc; cases hc
    rw [nextNN_congr h1, ih hx]
    simp [vts, hne, hne.symm, Nat.add_assoc, Nat.add_comm 1]
  | comment body t x hb hr _ ih =>
    have ht : Trivia (35 :: body) (t ++ x) := by
      simpa using Trivia.comment body [] (t ++ x) hb (by simpa using hr) (.nil _)
    have h1 : next ⟨(35 :: body ++ t) ++ x, p, ts⟩ = next ⟨t ++ x, p + (35 :: body).length, ts⟩ := by
      simpa only [List.cons_append, List.append_assoc] using next_trivia ht p ts
    have hv : vts (35 :: body ++ t) p ts = vts t (p + (35 :: body).length) ts :=
      vts_noNl (35 :: body) t (by simp [hb]) p ts
    have hc : (35 :: body ++ t).contains 10 = t.contains 10 := by simp [hb]
    have hn : (35 :: body ++ t).count 10 = t.count 10 := by
      simp [List.count_append, List.count_eq_zero_of_not_mem hb]
    rw [nextNN_congr h1, ih hx, hv, hc, hn]
    simp [Nat.add_assoc, Nat.add_comm 1]
  | newline t x _ ih =>
    cases f with
    | zero => rfl
    | succ f =>
      rw [List.cons_append, nextNN, next_newline]
      show nextNN f ⟨t ++ x, p + 1, p⟩ true = _
      rw [ih hx]
      simp [vts, Nat.add_assoc, Nat.add_comm 1]

/-- … with the fuel `PM.run` supplies, or any amount above the length of the text -/
theorem nextNN_closed' {w x : Bytes} (hw : VTrivia w x) (hx : Solid x) (p ts : Nat) (nl : Bool)
    (f : Nat) (hf : (w ++ x).length < f) :
    nextNN f ⟨w ++ x, p, ts⟩ nl
      = withFlag (nl || w.contains 10) (next ⟨x, p + w.length, vts w p ts⟩) := by
  rw [nextNN_closed hw hx, if_pos]
  have := List.count_le_length (a := (10 : UInt8)) (l := w)
  rw [List.length_append] at hf
  omega

/-- a token delivered to `advance`, whatever the fuel: what `next` yields behind the vertical trivia
    in front (an answer other than EOF does not depend on `tokenStart`) -/
theorem nextNN_ok {f : Nat} {s : LexState} {nl₀ : Bool} {t : Token} {nl : Bool} {s' : LexState}
    (h : nextNN f s nl₀ = .ok (t, nl, s')) :
    ∃ w x, s.rest = w ++ x ∧ VTrivia w x ∧ Solid x ∧ nl = (nl₀ || w.contains 10) ∧ w.count 10 < f ∧
      ∀ ts, t.tag ≠ .eof ∨ ts = vts w s.pos s.tokenStart →
        next ⟨x, s.pos + w.length, ts⟩ = .ok (t, s') := by
  obtain ⟨r, p, ts⟩ := s
  obtain ⟨w, x, rfl, hw, hx⟩ := vsplit r
  rw [nextNN_closed hw hx] at h
  split at h
  · obtain ⟨hn, rfl⟩ := withFlag_ok h
    refine ⟨w, x, rfl, hw, hx, rfl, ‹_›, fun ts' hts => ?_⟩
    rcases hts with ht | rfl
    · exact next_ts _ _ _ _ _ _ hn ht
    · exact hn
  · cases h

/-- vertical trivia in front of ANY text: the request is the request behind it -/
theorem nextNN_vappend {w x : Bytes} (hw : VTrivia w x) (p ts : Nat) (nl : Bool) (f f' : Nat)
    (hf : (w ++ x).length < f) (hf' : x.length < f') :
    nextNN f ⟨w ++ x, p, ts⟩ nl = nextNN f' ⟨x, p + w.length, vts w p ts⟩ (nl || w.contains 10) := by
  obtain ⟨w₂, x₂, rfl, hw₂, hx₂⟩ := vsplit x
  rw [nextNN_closed' hw₂ hx₂ _ _ _ f' hf', ← List.append_assoc,
    nextNN_closed' (hw.append hw₂) hx₂ p ts nl f (by simpa using hf)]
  simp [vts_append, Nat.add_assoc, Bool.or_assoc]

theorem nextNN_trivia {t rest : Bytes} (ht : Trivia t rest) (p ts : Nat) (nl : Bool) :
    nextNN ((t ++ rest).length + 1) ⟨t ++ rest, p, ts⟩ nl
      = nextNN (rest.length + 1) ⟨rest, p + t.length, ts⟩ nl := by
  have h := nextNN_vappend ht.vtrivia.1 p ts nl _ (rest.length + 1) (Nat.lt_succ_self _)
    (Nat.lt_succ_self _)
  have hv := vts_noNl t [] ht.vtrivia.2 p ts
  rw [List.append_nil] at hv
  rw [h, hv, List.contains_eq_mem, decide_eq_false ht.vtrivia.2, Bool.or_false]; rfl

theorem nextNN_at_newline (b : Bytes) (p ts : Nat) (nl : Bool) :
    nextNN ((10 :: b).length + 1) ⟨10 :: b, p, ts⟩ nl = nextNN (b.length + 1) ⟨b, p + 1, p⟩ true := by
  simp only [List.length_cons]
  rw [nextNN, next_newline]
  rfl

theorem withFlag_shift {r r' : Except SynErr (Token × LexState)} (h : ShiftRel r r') (nl : Bool) :
    PM.AnsNextE SameRest (withFlag nl r) (withFlag nl r') := by
  cases r <;> cases r' <;> first | exact h | exact ⟨h.1, rfl, h.2⟩

theorem next_solid_shift {x : Bytes} (hx : Solid x) (q ts q' ts' : Nat) :
    ShiftRel (next ⟨x, q, ts⟩) (next ⟨x, q', ts'⟩) := by
  cases x with
  | nil => exact shiftRel_ok (t := ⟨.eof, ts, []⟩) (t' := ⟨.eof, ts', []⟩) rfl rfl rfl
  | cons c cs => rw [next_solid hx, next_solid hx]; exact lexAt_shift c cs q q'

theorem nextNN_shift (fuel : Nat) (s s' : LexState) (nl : Bool) (h : SameRest s s') :
    PM.AnsNextE SameRest (nextNN fuel s nl) (nextNN fuel s' nl) := by
  obtain ⟨r, p, ts⟩ := s
  obtain ⟨r', p', ts'⟩ := s'
  obtain rfl : r = r' := h
  obtain ⟨w, x, rfl, hw, hx⟩ := vsplit r
  rw [nextNN_closed hw hx, nextNN_closed hw hx]
  split
  · exact withFlag_shift (next_solid_shift hx _ _ _ _) _
  · rfl

/-- vertical trivia in front of any text changes what `advance` receives only in positions and in
    the newline flag -/
theorem nextNN_vtrivia {w x : Bytes} (hw : VTrivia w x) (p ts p' ts' : Nat) (nl : Bool) :
    PM.AnsNextE SameRest (nextNN ((w ++ x).length + 1) ⟨w ++ x, p, ts⟩ nl)
      (nextNN (x.length + 1) ⟨x, p', ts'⟩ (nl || w.contains 10)) := by
  rw [nextNN_vappend hw p ts nl _ (x.length + 1) (Nat.lt_succ_self _) (Nat.lt_succ_self _)]
  exact nextNN_shift _ _ _ _ rfl

theorem nextNN_or_flag (f : Nat) (s : LexState) (c : Bool) :
    nextNN f s c = match nextNN f s false with
      | .ok (t, nl, s') => .ok (t, nl || c, s')
      | .error e => .error e := by
  obtain ⟨r, p, ts⟩ := s
  obtain ⟨w, x, rfl, hw, hx⟩ := vsplit r
  rw [nextNN_closed hw hx, nextNN_closed hw hx]
  split
  · cases next ⟨x, p + w.length, vts w p ts⟩ with
    | error e => rfl
    | ok r => obtain ⟨t, s'⟩ := r; simp [withFlag, Bool.or_comm]
  · rfl

/-- what `advance` receives never lengthens the unread text; the end of the text is reached only
    with the EOF token, and any other token costs at least a byte -/
theorem nextNN_suffix (f : Nat) (s : LexState) (nl₀ : Bool) (t : Token) (nl : Bool) (s' : LexState)
    (h : nextNN f s nl₀ = .ok (t, nl, s')) :
    (∃ pre, s.rest = pre ++ s'.rest) ∧ (t.tag = .eof → s'.rest = []) ∧
      (t.tag ≠ .eof → s'.rest.length < s.rest.length) := by
  obtain ⟨w, x, e, _, _, _, _, hn⟩ := nextNN_ok h
  replace hn := hn _ (.inr rfl)
  obtain ⟨pre, (hp : x = _)⟩ := next_suffix _ _ _ hn
  refine ⟨⟨w ++ pre, by rw [e, hp, List.append_assoc]⟩, fun ht => (Prov.next_eof hn ht).2,
    fun ht => ?_⟩
  have := next_progress _ _ _ hn ht
  rw [e, List.length_append]; exact Nat.lt_add_left _ this

/-- with the fuel `PM.run` supplies the model's own out-of-fuel error of `nextNN` never shows: a
    reported error is one of the lexer -/
theorem nextNN_error (f : Nat) (s : LexState) (nl : Bool) (e : SynErr) (hf : s.rest.length < f)
    (h : nextNN f s nl = .error e) : ∃ s₁, next s₁ = .error e := by
  obtain ⟨r, p, ts⟩ := s
  obtain ⟨w, x, rfl, hw, hx⟩ := vsplit r
  rw [nextNN_closed' hw hx _ _ _ f hf] at h
  exact ⟨_, withFlag_error h⟩

theorem nextNN_ts (f : Nat) (r : Bytes) (q ts₁ ts₂ : Nat) (nl₀ : Bool) (t : Token) (nl : Bool)
    (s' : LexState) (h : nextNN f ⟨r, q, ts₁⟩ nl₀ = .ok (t, nl, s')) (ht : t.tag ≠ .eof) :
    nextNN f ⟨r, q, ts₂⟩ nl₀ = .ok (t, nl, s') := by
  obtain ⟨w, x, rfl, hw, hx⟩ := vsplit r
  rw [nextNN_closed hw hx] at h ⊢
  split at h
  · rename_i hf
    obtain ⟨hn, rfl⟩ := withFlag_ok h
    rw [if_pos hf, next_ts _ _ _ (vts w q ts₂) _ _ hn ht]; rfl
  · cases h

end Lexer

/-- C13: the lexer, as the parser's token source, depends on absolute offsets only through the
    positions it reports: "same unread text" is a simulation up to positions. -/
theorem sameRest_isSimE : PM.IsSimE lexerSrc lexerSrc Lexer.SameRest where
  next := fun s s' h => by
    show PM.AnsNextE _ (Lexer.nextNN (s.rest.length + 1) s false)
      (Lexer.nextNN (s'.rest.length + 1) s' false)
    have h' : s.rest = s'.rest := h
    rw [← h']
    exact Lexer.nextNN_shift _ s s' false h
  regex := fun s s' h => Lexer.regex_shift s s' h

theorem sameRest_or_isSimE (s₁ s₂ : LexState)
    (hn : PM.AnsNextE Lexer.SameRest (lexerSrc.next s₁) (lexerSrc.next s₂))
    (hr : PM.AnsRegexE Lexer.SameRest (lexerSrc.regex s₁) (lexerSrc.regex s₂)) :
    PM.IsSimE lexerSrc lexerSrc (fun a b => Lexer.SameRest a b ∨ (a = s₁ ∧ b = s₂)) where
  next := by
    rintro a b (h | ⟨rfl, rfl⟩)
    · exact (sameRest_isSimE.next a b h).mono fun _ _ => .inl
    · exact hn.mono fun _ _ => .inl
  regex := by
    rintro a b (h | ⟨rfl, rfl⟩)
    · exact (sameRest_isSimE.regex a b h).mono fun _ _ => .inl
    · exact hr.mono fun _ _ => .inl

end Jqawk
