/-
  C13, `;` for a newline: from the program tree (`Semi.BTree`) to runs on flagged token lists.
-/
import Jqawk.Lemmas.NewlineSemiParser
import Jqawk.Lemmas.NewlineSrc

namespace Jqawk
namespace Semi
open Nl

variable {α : Type} {t₀ semi : Token}

theorem dead_run {β σ : Type} {m : PM β} (h : isDead m) (src : TokSrc σ) (s : σ) (x : β) :
    m.runWith src s ≠ .ok x := by
  cases m <;> first | exact h.elim | (intro hh; cases hh)

/-- the three runs from the boundary on: L and Z go on from the state `s'` after `t₀`, R from the
    state `sR` after the `;`, in which `t₀` is delivered next (with any flag `b`) -/
theorem T3.run {σ : Type} (src : TokSrc σ) {Q : α → PS → PS → Prop} {l z r : PM (α × PS)}
    (h : T3 t₀ semi Q l z r) {s' sR : σ} {b : Bool} (hR : src.next sR = .ok (t₀, b, s'))
    {x : α × PS} (hr : l.runWith src s' = .ok x) :
    (∃ x', z.runWith src s' = .ok x' ∧ x'.1 = x.1) ∨ (∃ x', r.runWith src sR = .ok x' ∧ x'.1 = x.1) := by
  rcases h with h | h | ⟨k', hk, hA⟩ | ⟨a, s, hl, hz, _, _, _⟩
  · left; rw [← h]; exact ⟨x, hr, rfl⟩
  · exact absurd hr (dead_run h _ _ _)
  · right
    rw [hk]
    simp only [PM.runWith, hR]
    rcases hA b with h | h | ⟨a, s, s₂, hl, hr', _⟩
    · rw [← h]; exact ⟨x, hr, rfl⟩
    · exact absurd hr (dead_run h _ _ _)
    · rw [hl] at hr
      cases hr
      rw [hr']
      exact ⟨(a, s₂), rfl, rfl⟩
  · left
    rw [hl] at hr
    cases hr
    rw [hz]
    exact ⟨_, rfl, rfl⟩

/-- the three runs: on `A ++ (t₀, newline) :: B`, on `A ++ t₀ :: B`, on `A ++ ; :: t₀ :: B` -/
theorem run_btree {Q : α → PS → PS → Prop} (A B : List (Token × Bool)) (b : Bool) :
    ∀ (m : PM (α × PS)), BTree t₀ semi Q m → ∀ x,
      m.runWith flagSrc (A ++ (t₀, true) :: B) = .ok x →
      (∃ x', m.runWith flagSrc (A ++ (t₀, false) :: B) = .ok x' ∧ x'.1 = x.1) ∨
      (∃ x', m.runWith flagSrc (A ++ (semi, false) :: (t₀, b) :: B) = .ok x' ∧ x'.1 = x.1) := by
  induction A with
  | nil =>
    intro m hb x hr
    cases m with
    | pure a => exact .inl ⟨a, rfl, by cases hr; rfl⟩
    | fail e => cases hr
    | oof => cases hr
    | next k => exact hb.2.run flagSrc (sR := (t₀, b) :: B) rfl hr
    | regex k =>
      simp only [List.nil_append, PM.runWith, flagSrc] at hr ⊢
      exact .inl ⟨x, hr, rfl⟩
  | cons y A ih =>
    intro m hb x hr
    obtain ⟨t, nl⟩ := y
    cases m with
    | pure a => exact .inl ⟨a, rfl, by cases hr; rfl⟩
    | fail e => cases hr
    | oof => cases hr
    | next k => exact ih (k t nl) (hb.1 t nl) x hr
    | regex k =>
      simp only [List.cons_append, PM.runWith, flagSrc] at hr ⊢
      by_cases ht : t.tag = .regex
      · simp only [ht, ↓reduceIte] at hr ⊢
        exact ih (k t) (hb t) x hr
      · simp only [ht, ↓reduceIte] at hr
        cases hr

theorem parseFlags_semi {tbl : RuleTable} (H : Hyp t₀ semi)
    (hprec : (lookupRule tbl .semiColon).prec = 0) (n : Nat) (A B : List (Token × Bool)) (b : Bool)
    (p : Program) (hp : parseFlags tbl n (A ++ (t₀, true) :: B) = .ok p) :
    parseFlags tbl n (A ++ (t₀, false) :: B) = .ok p ∨
    parseFlags tbl n (A ++ (semi, false) :: (t₀, b) :: B) = .ok p := by
  obtain ⟨st, hr⟩ := parseFlags_ok_iff.mp hp
  rcases run_btree A B b _ (parseProgram_btree H hprec n PS.init) (p, st) hr with
    ⟨⟨p', st'⟩, h, he⟩ | ⟨⟨p', st'⟩, h, he⟩
  · left
    dsimp only at he; subst he
    exact parseFlags_ok_iff.mpr ⟨st', h⟩
  · right
    dsimp only at he; subst he
    exact parseFlags_ok_iff.mpr ⟨st', h⟩

end Semi
end Jqawk
