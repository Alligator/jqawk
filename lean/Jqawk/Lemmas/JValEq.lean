/-
  `JVal.beq` (the model's structural equality test) is sound: concrete equations between JSON
  trees can be checked by evaluating it.
-/
import Jqawk.Model.Json

/-- for the list and member variants of the predicates on JSON trees -/
theorem Jqawk.forall_mem_iff_of_rec {α : Type _} {P : α → Prop} {PL : List α → Prop} (nil : PL [])
    (cons : ∀ x xs, PL (x :: xs) ↔ P x ∧ PL xs) : ∀ l, PL l ↔ ∀ x ∈ l, P x
  | [] => ⟨fun _ _ h => (nomatch h), fun _ => nil⟩
  | x :: xs => by rw [cons, forall_mem_iff_of_rec nil cons xs, List.forall_mem_cons]

/-- structural induction on JSON trees, the containers through their elements -/
theorem Jqawk.JVal.induct {P : JVal → Prop} (null : P .null) (bool : ∀ b, P (.bool b)) (num : ∀ l, P (.num l))
    (str : ∀ s, P (.str s)) (arr : ∀ xs, (∀ x ∈ xs, P x) → P (.arr xs))
    (obj : ∀ ms : List (Bytes × JVal), (∀ kv ∈ ms, P kv.2) → P (.obj ms)) : ∀ j, P j :=
  JVal.rec (motive_1 := P) (motive_2 := fun xs => ∀ x ∈ xs, P x) (motive_3 := fun ms => ∀ kv ∈ ms, P kv.2)
    (motive_4 := fun kv => P kv.2) null bool num str arr obj nofun
    (fun _ _ h1 h2 => List.forall_mem_cons.2 ⟨h1, h2⟩) nofun (fun _ _ h1 h2 => List.forall_mem_cons.2 ⟨h1, h2⟩)
    fun _ _ h => h

namespace Jqawk.JVal

mutual
theorem eq_of_beq : ∀ a b : JVal, beq a b = true → a = b
  | .null, b, h => by cases b <;> first | rfl | cases h
  | .bool x, b, h => by
    cases b <;> first | (simp only [beq, beq_iff_eq] at h; rw [h]) | cases h
  | .num x, b, h => by
    cases b <;> first | (simp only [beq, beq_iff_eq] at h; rw [h]) | cases h
  | .str x, b, h => by
    cases b <;> first | (simp only [beq, beq_iff_eq] at h; rw [h]) | cases h
  | .arr xs, b, h => by
    cases b <;> first | (rw [eq_of_beqItems xs _ (by simpa only [beq] using h)]) | cases h
  | .obj xs, b, h => by
    cases b <;> first | (rw [eq_of_beqMembers xs _ (by simpa only [beq] using h)]) | cases h
theorem eq_of_beqItems : ∀ a b : List JVal, beqItems a b = true → a = b
  | [], b, h => by cases b <;> first | rfl | cases h
  | x :: xs, b, h => by
    cases b with
    | nil => cases h
    | cons y ys =>
      simp only [beqItems, Bool.and_eq_true] at h
      rw [eq_of_beq x y h.1, eq_of_beqItems xs ys h.2]
theorem eq_of_beqMembers : ∀ a b : List (Bytes × JVal), beqMembers a b = true → a = b
  | [], b, h => by cases b <;> first | rfl | cases h
  | (k, x) :: xs, b, h => by
    cases b with
    | nil => cases h
    | cons ly ys =>
      obtain ⟨l, y⟩ := ly
      simp only [beqMembers, Bool.and_eq_true, beq_iff_eq] at h
      rw [h.1.1, eq_of_beq x y h.1.2, eq_of_beqMembers xs ys h.2]
end

end Jqawk.JVal

theorem Jqawk.Json.DecodeRes.eq_value_of {r : DecodeRes} {v : JVal} {rest : Bytes}
    (h : (match r with | .value w r' => w.beq v && r' == rest | _ => false) = true) :
    r = .value v rest := by
  cases r with
  | value w r' =>
    simp only [Bool.and_eq_true, beq_iff_eq] at h
    rw [JVal.eq_of_beq w v h.1, h.2]
  | _ => cases h
