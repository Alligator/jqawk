/-
  Heaps above the store equations of HeapOps, the base of C09, C15 and C16: the `rfl` projections
  of `set` / `setArr` / `allocMany`, index resolution (`resolveIndex_nonneg`, `resolveIndex_neg`),
  well-formedness (`Heap.WF`), an array as the list of values it denotes (`absArr`), closed forms of
  `push` / `pop` / `popfirst` / `pluck` and of the allocation of several cells.
-/
import Jqawk.Model.Natives
import Jqawk.Spec.ListArr
import Jqawk.Lemmas.HeapOps
import Jqawk.Lemmas.Order

namespace Jqawk
open Jqawk

def absArr (h : Heap) (a : ArrId) : List Val := (h.arr a).toList.map h.get

structure Heap.WF (h : Heap) : Prop where
  arrs : ∀ (a : ArrId) (c : CellId), c ∈ (h.arr a).toList → c < h.cells.size
  objs : ∀ (o : ObjId) (k : Bytes) (c : CellId), (k, c) ∈ h.obj o → c < h.cells.size

theorem Heap.WF.empty : Heap.empty.WF := by
  constructor <;> simp [Heap.empty, Heap.arr, Heap.obj]

theorem Heap.get_setArr (h : Heap) (a : ArrId) (items : Array CellId) (c : CellId) :
    (h.setArr a items).get c = h.get c := rfl

theorem Heap.get_setArr_fun (h : Heap) (a : ArrId) (items : Array CellId) :
    (h.setArr a items).get = h.get := rfl

theorem Heap.obj_setArr (h : Heap) (a : ArrId) (items : Array CellId) (o : ObjId) :
    (h.setArr a items).obj o = h.obj o := rfl

theorem Heap.cells_setArr (h : Heap) (a : ArrId) (items : Array CellId) :
    (h.setArr a items).cells = h.cells := rfl

theorem Heap.objs_setArr (h : Heap) (a : ArrId) (items : Array CellId) :
    (h.setArr a items).objs = h.objs := rfl

theorem Heap.arrs_set (h : Heap) (c : CellId) (v : Val) : (h.set c v).arrs = h.arrs := rfl

theorem Heap.objs_set (h : Heap) (c : CellId) (v : Val) : (h.set c v).objs = h.objs := rfl

theorem Heap.arr_set (h : Heap) (c : CellId) (w : Val) (a : ArrId) : (h.set c w).arr a = h.arr a := rfl
theorem Heap.obj_set (h : Heap) (c : CellId) (w : Val) (o : ObjId) : (h.set c w).obj o = h.obj o := rfl

theorem resolveIndex_nonneg (len : Nat) (i : Int) (h : 0 ≤ i) : resolveIndex len i = some i.toNat := by
  have : ¬ i < 0 := by omega
  simp [resolveIndex, this]

theorem resolveIndex_neg (len : Nat) (i : Int) (h : i < 0) :
    resolveIndex len i = if (-i).toNat ≤ len then some (len - (-i).toNat) else none := by
  simp only [resolveIndex, h, ↓reduceIte]
  split <;> split <;> first | rfl | omega | (simp only [Option.some.injEq]; omega)

theorem Heap.WF.setArr {h : Heap} (wf : h.WF) (a : ArrId) (items : Array CellId)
    (hi : ∀ c ∈ items.toList, c < h.cells.size) : (h.setArr a items).WF := by
  constructor
  · intro b c hc
    by_cases hb : b = a
    · subst hb
      by_cases ha : b < h.arrs.size
      · rw [Heap.arr_setArr_same h b items ha] at hc; exact hi c hc
      · rw [Heap.arr_of_not_valid _ b (by rw [Heap.size_arrs_setArr]; exact ha)] at hc; simp at hc
    · rw [Heap.arr_setArr_other h a b items hb] at hc; exact wf.arrs b c hc
  · exact wf.objs

theorem absArr_setArr_other (h : Heap) (a b : ArrId) (items : Array CellId) (hb : b ≠ a) :
    absArr (h.setArr a items) b = absArr h b := by
  simp only [absArr, Heap.arr_setArr_other h a b items hb]; rfl

def pushHeap (h : Heap) (a : ArrId) (v : Val) : Heap :=
  { cells := h.cells.push v, arrs := h.arrs.setIfInBounds a ((h.arr a).push h.cells.size), objs := h.objs }

theorem callNative_arrPush (a : ArrId) (v : Val) (s : St) :
    callNative .arrPush [v] (some (.arr a)) s
      = .ok (.ok (some (.arr a))) { s with heap := pushHeap s.heap a v } := by
  simp [callNative, bind, EM.bind, getHeap, checkArgCount, newCell, Heap.alloc, setHeap, pure, EM.pure,
    pushHeap, Heap.setArr, Heap.arr]

theorem pushHeap_eq (h : Heap) (a : ArrId) (v : Val) :
    pushHeap h a v = ({ h with cells := h.cells.push v } : Heap).setArr a ((h.arr a).push h.cells.size) := rfl

theorem map_get_push_old (h : Heap) (v : Val) (cs : List CellId) (hcs : ∀ c ∈ cs, c < h.cells.size) :
    cs.map ({ h with cells := h.cells.push v } : Heap).get = cs.map h.get := by
  apply List.map_congr_left
  intro c hc
  exact Heap.get_push_old h v c (hcs c hc)

theorem absArr_pushHeap_same_of_allocated (h : Heap) (a : ArrId) (v : Val) (ha : a < h.arrs.size)
    (hcs : ∀ c, c ∈ (h.arr a).toList → c < h.cells.size) :
    absArr (pushHeap h a v) a = absArr h a ++ [v] := by
  rw [pushHeap_eq]
  simp only [absArr]
  rw [Heap.arr_setArr_same _ _ _ (by simpa using ha)]
  simp only [Array.toList_push, List.map_append, List.map_cons, List.map_nil, Heap.get_setArr_fun]
  rw [Heap.get_push_new, map_get_push_old h v _ hcs]

theorem absArr_pushHeap_same (h : Heap) (wf : h.WF) (a : ArrId) (v : Val) (ha : a < h.arrs.size) :
    absArr (pushHeap h a v) a = absArr h a ++ [v] :=
  absArr_pushHeap_same_of_allocated h a v ha (wf.arrs a)

theorem absArr_pushHeap_other (h : Heap) (wf : h.WF) (a b : ArrId) (v : Val) (hb : b ≠ a) :
    absArr (pushHeap h a v) b = absArr h b := by
  rw [pushHeap_eq, absArr_setArr_other _ _ _ _ hb]
  simp only [absArr]
  exact map_get_push_old h v _ (wf.arrs b)

theorem Heap.WF.pushHeap {h : Heap} (wf : h.WF) (a : ArrId) (v : Val) : (pushHeap h a v).WF := by
  rw [pushHeap_eq]
  have wf1 : ({ h with cells := h.cells.push v } : Heap).WF := by
    constructor
    · intro b c hc
      have := wf.arrs b c hc
      show c < (h.cells.push v).size
      simp only [Array.size_push]; exact Nat.lt_succ_of_lt this
    · intro o k c hc
      have := wf.objs o k c hc
      show c < (h.cells.push v).size
      simp only [Array.size_push]; exact Nat.lt_succ_of_lt this
  apply wf1.setArr
  intro c hc
  simp only [Array.toList_push, List.mem_append, List.mem_singleton] at hc
  show c < (h.cells.push v).size
  simp only [Array.size_push]
  rcases hc with hc | rfl
  · exact Nat.lt_succ_of_lt (wf.arrs a c hc)
  · exact Nat.lt_succ_self _

theorem pushHeap_arrs_size (h : Heap) (a : ArrId) (v : Val) : (pushHeap h a v).arrs.size = h.arrs.size := by
  simp [pushHeap]

theorem callNative_arrPop (a : ArrId) (s : St) :
    callNative .arrPop [] (some (.arr a)) s =
      if (s.heap.arr a).size = 0 then .ok (.ok (some (.nil none))) s
      else .ok (.ok (some (s.heap.get ((s.heap.arr a).getD ((s.heap.arr a).size - 1) 0))))
        { s with heap := s.heap.setArr a (s.heap.arr a).pop } := by
  simp only [callNative, bind, EM.bind, getHeap, checkArgCount, List.length_nil, beq_self_eq_true, ↓reduceIte]
  split <;> simp_all [pure, EM.pure, setHeap, EM.bind]

theorem callNative_arrPopfirst (a : ArrId) (s : St) :
    callNative .arrPopfirst [] (some (.arr a)) s =
      if (s.heap.arr a).size = 0 then .ok (.ok (some (.nil none))) s
      else .ok (.ok (some (s.heap.get ((s.heap.arr a).getD 0 0))))
        { s with heap := s.heap.setArr a ((s.heap.arr a).extract 1 (s.heap.arr a).size) } := by
  simp only [callNative, bind, EM.bind, getHeap, checkArgCount, List.length_nil, beq_self_eq_true, ↓reduceIte]
  split <;> simp_all [pure, EM.pure, setHeap, EM.bind]

theorem absArr_pop (h : Heap) (a : ArrId) (ha : a < h.arrs.size) :
    absArr (h.setArr a (h.arr a).pop) a = (absArr h a).dropLast := by
  simp only [absArr, Heap.arr_setArr_same h a _ ha, Array.toList_pop, Heap.get_setArr_fun]
  simp [List.map_dropLast]

theorem absArr_last (h : Heap) (a : ArrId) (hne : (h.arr a).size ≠ 0) :
    (absArr h a).getLast? = some (h.get ((h.arr a).getD ((h.arr a).size - 1) 0)) := by
  simp only [absArr, List.getLast?_eq_getElem?, List.length_map, Array.length_toList, List.getElem?_map,
    Array.getElem?_toList, Array.getD_eq_getD_getElem?]
  have : (h.arr a).size - 1 < (h.arr a).size := by omega
  simp [this]

theorem absArr_popfirst (h : Heap) (a : ArrId) (ha : a < h.arrs.size) :
    absArr (h.setArr a ((h.arr a).extract 1 (h.arr a).size)) a = (absArr h a).drop 1 := by
  simp only [absArr, Heap.arr_setArr_same h a _ ha, Array.toList_extract, Heap.get_setArr_fun]
  simp only [List.extract, List.map_take, List.map_drop]
  rw [List.take_of_length_le (by simp)]

theorem absArr_head (h : Heap) (a : ArrId) (hne : (h.arr a).size ≠ 0) :
    (absArr h a).head? = some (h.get ((h.arr a).getD 0 0)) := by
  simp only [absArr, List.head?_eq_getElem?, List.getElem?_map, Array.getElem?_toList,
    Array.getD_eq_getD_getElem?]
  have : 0 < (h.arr a).size := by omega
  simp [this]

theorem absArr_eq_nil (h : Heap) (a : ArrId) (he : (h.arr a).size = 0) : absArr h a = [] := by
  simp [absArr, Array.eq_empty_of_size_eq_zero he]

theorem Heap.WF.pop {h : Heap} (wf : h.WF) (a : ArrId) : (h.setArr a (h.arr a).pop).WF := by
  apply wf.setArr
  intro c hc
  rw [Array.toList_pop] at hc
  exact wf.arrs a c (List.dropLast_subset _ hc)

theorem Heap.WF.popfirst {h : Heap} (wf : h.WF) (a : ArrId) :
    (h.setArr a ((h.arr a).extract 1 (h.arr a).size)).WF := by
  apply wf.setArr
  intro c hc
  rw [Array.toList_extract] at hc
  simp only [List.extract] at hc
  exact wf.arrs a c (List.mem_of_mem_drop (List.mem_of_mem_take hc))

def Heap.allocMany (h : Heap) (vs : List Val) : Heap := { h with cells := h.cells ++ vs.toArray }

theorem allocCells_eq (vs : List Val) (s : St) :
    allocCells vs s = .ok (List.range' s.heap.cells.size vs.length)
      { s with heap := s.heap.allocMany vs } := by
  induction vs generalizing s with
  | nil => simp [allocCells, pure, EM.pure, Heap.allocMany]
  | cons v vs ih =>
    simp only [allocCells, bind, EM.bind, newCell, Heap.alloc, ih, pure, EM.pure, List.length_cons,
      List.range'_succ, Array.size_push]
    congr 2
    simp only [Heap.allocMany]
    congr 1
    apply Array.toList_inj.mp
    simp

theorem newArrayOf_eq (vs : List Val) (s : St) :
    newArrayOf vs s = .ok (.arr s.heap.arrs.size)
      { s with heap := { s.heap.allocMany vs with
          arrs := s.heap.arrs.push (List.range' s.heap.cells.size vs.length).toArray } } := by
  simp [newArrayOf, bind, EM.bind, allocCells_eq, getHeap, Heap.allocArr, setHeap, pure, EM.pure,
    Heap.allocMany]

theorem Heap.size_allocMany (h : Heap) (vs : List Val) :
    (h.allocMany vs).cells.size = h.cells.size + vs.length := by
  simp only [Heap.allocMany, Array.size_append, List.size_toArray]

theorem Heap.arrs_allocMany (h : Heap) (vs : List Val) : (h.allocMany vs).arrs = h.arrs := rfl

theorem Heap.objs_allocMany (h : Heap) (vs : List Val) : (h.allocMany vs).objs = h.objs := rfl

theorem Heap.arr_allocMany (h : Heap) (vs : List Val) (a : ArrId) : (h.allocMany vs).arr a = h.arr a := rfl

theorem Heap.get_allocMany_old (h : Heap) (vs : List Val) (c : CellId) (hc : c < h.cells.size) :
    (h.allocMany vs).get c = h.get c := by
  simp [Heap.get, Heap.allocMany, Array.getD_eq_getD_getElem?, Array.getElem?_append, hc]

theorem Heap.get_allocMany_new (h : Heap) (vs : List Val) (i : Nat) (hi : i < vs.length) :
    (h.allocMany vs).get (h.cells.size + i) = vs[i] := by
  simp [Heap.get, Heap.allocMany, Array.getD_eq_getD_getElem?, hi]

theorem Heap.map_get_allocMany (h : Heap) (vs : List Val) :
    (List.range' h.cells.size vs.length).map (h.allocMany vs).get = vs := by
  apply List.ext_getElem
  · simp
  · intro i h1 h2
    simp only [List.getElem_map, List.getElem_range', Nat.one_mul]
    exact Heap.get_allocMany_new h vs i h2

def pluckVal (h : Heap) (members : List (Bytes × CellId)) (key : Bytes) : Val :=
  match objLookup members key with
  | some c => h.get c
  | none => .nil none

def isKeyVal : Val → Bool
  | .num _ | .str .. => true
  | _ => false

theorem pluckCollect_eq (h : Heap) (members : List (Bytes × CellId)) (ks : List Val)
    (acc : List (Bytes × Val)) :
    pluckCollect h members ks acc =
      if ks.all isKeyVal then .ok (acc.reverse ++ ks.map fun k => (k.str!, pluckVal h members k.str!))
      else .error "objects can only be indexed with numbers or strings" := by
  induction ks generalizing acc with
  | nil => simp [pluckCollect]
  | cons k ks ih =>
    have key : ∀ (k : Val), isKeyVal k = true →
        (match objLookup members k.str! with
          | some c => pluckCollect h members ks ((k.str!, h.get c) :: acc)
          | none => pluckCollect h members ks ((k.str!, .nil none) :: acc)) =
        if (ks.all isKeyVal) = true then
          .ok (acc.reverse ++ (k.str!, pluckVal h members k.str!) :: ks.map fun k => (k.str!, pluckVal h members k.str!))
        else .error "objects can only be indexed with numbers or strings" := by
      intro k _
      cases hl : objLookup members k.str! with
      | none =>
        have hv : pluckVal h members k.str! = .nil none := by simp only [pluckVal, hl]
        rw [hv]; simp only [ih]; split <;> simp
      | some c =>
        have hv : pluckVal h members k.str! = h.get c := by simp only [pluckVal, hl]
        rw [hv]; simp only [ih]; split <;> simp
    cases k
    case str s sp =>
      rw [pluckCollect]
      simp only [List.all_cons, show isKeyVal (.str s sp) = true from rfl, Bool.true_and, List.map_cons]
      exact key _ rfl
    case num x =>
      rw [pluckCollect]
      simp only [List.all_cons, show isKeyVal (.num x) = true from rfl, Bool.true_and, List.map_cons]
      exact key _ rfl
    all_goals simp [pluckCollect, isKeyVal]

theorem objLookup_objInsert (m : List (Bytes × CellId)) (k : Bytes) (c : CellId) (k' : Bytes) :
    objLookup (objInsert m k c) k' = if k = k' then some c else objLookup m k' := by
  induction m with
  | nil => simp [objInsert, objLookup]
  | cons x m ih =>
    obtain ⟨k0, c0⟩ := x
    simp only [objInsert]
    by_cases h0 : k0 = k
    · subst h0
      simp only [beq_self_eq_true, ↓reduceIte, objLookup, beq_iff_eq]
      split <;> rfl
    · have : (k0 == k) = false := by simpa using h0
      simp only [this, Bool.false_eq_true, ↓reduceIte, objLookup, beq_iff_eq, ih]
      by_cases h1 : k0 = k'
      · have : k ≠ k' := fun e => h0 (h1.trans e.symm)
        simp [h1, this]
      · simp [h1]

theorem objLookup_objInsert_same (m : List (Bytes × CellId)) (k : Bytes) (c : CellId) :
    objLookup (objInsert m k c) k = some c :=
  (objLookup_objInsert m k c k).trans (if_pos rfl)

def pluckMembers (kcs : List (Bytes × CellId)) (m0 : List (Bytes × CellId)) : List (Bytes × CellId) :=
  kcs.foldl (fun m kc => objInsert m kc.1 kc.2) m0

theorem mem_pluckMembers {kcs m0 : List (Bytes × CellId)} {kc : Bytes × CellId}
    (h : kc ∈ pluckMembers kcs m0) : kc ∈ m0 ∨ ∃ kc' ∈ kcs, kc.2 = kc'.2 := by
  induction kcs generalizing m0 with
  | nil => exact .inl h
  | cons x kcs ih =>
    simp only [pluckMembers, List.foldl_cons] at h
    rcases ih h with h | ⟨kc', h1, h2⟩
    · rcases mem_objInsert h with h | h
      · exact .inl h
      · exact .inr ⟨x, List.mem_cons_self, h⟩
    · exact .inr ⟨kc', List.mem_cons_of_mem _ h1, h2⟩

theorem objLookup_pluckMembers_inv (P : Bytes → CellId → Prop) (kcs m0 : List (Bytes × CellId))
    (h0 : ∀ k c, objLookup m0 k = some c → P k c) (hk : ∀ kc ∈ kcs, P kc.1 kc.2) :
    ∀ k c, objLookup (pluckMembers kcs m0) k = some c → P k c := by
  induction kcs generalizing m0 with
  | nil => exact h0
  | cons kc kcs ih =>
    simp only [pluckMembers, List.foldl_cons]
    apply ih
    · intro k c hl
      rw [objLookup_objInsert] at hl
      split at hl
      · rename_i he; cases hl; subst he; exact hk kc List.mem_cons_self
      · exact h0 k c hl
    · exact fun x hx => hk x (List.mem_cons_of_mem _ hx)

theorem objLookup_pluckMembers_isSome (kcs m0 : List (Bytes × CellId)) (k : Bytes)
    (h : (∃ c, (k, c) ∈ kcs) ∨ (objLookup m0 k).isSome = true) :
    (objLookup (pluckMembers kcs m0) k).isSome = true := by
  induction kcs generalizing m0 with
  | nil => simpa [pluckMembers] using h
  | cons kc kcs ih =>
    simp only [pluckMembers, List.foldl_cons]
    apply ih
    rcases h with ⟨c, hc⟩ | h
    · rcases List.mem_cons.mp hc with rfl | hc
      · right; simp [objLookup_objInsert]
      · exact .inl ⟨c, hc⟩
    · right; rw [objLookup_objInsert]; split <;> simp [h]

theorem callNative_objPluck (o : ObjId) (args : List Val) (s : St) :
    callNative .objPluck args (some (.obj o)) s =
      match pluckCollect s.heap (s.heap.obj o) args [] with
      | .error m => .ok (.error m) s
      | .ok kvs => .ok (.ok (some (.obj s.heap.objs.size)))
          { s with heap := { s.heap.allocMany (kvs.map (·.2)) with
              objs := s.heap.objs.push
                (pluckMembers ((kvs.map (·.1)).zip (List.range' s.heap.cells.size kvs.length)) []) } } := by
  simp only [callNative, bind, EM.bind, getHeap]
  cases pluckCollect s.heap (s.heap.obj o) args [] with
  | error m => rfl
  | ok kvs =>
    simp [allocCells_eq, EM.bind, getHeap, Heap.allocObj, setHeap, pure, EM.pure, pluckMembers, Heap.allocMany]

end Jqawk
