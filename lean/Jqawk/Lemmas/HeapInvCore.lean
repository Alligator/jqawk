/-
  `Unshared` / `ElemsPlain` as invariants of evaluation (C15): definitions and the heap-level steps.

  The invariant `Inv h` is `Heap.WF`, `Unshared`, `ElemsPlain` and `MembersPlain` (object members
  are plain too: needed because `for (v, k in obj)` copies a member's raw value into the index
  variable, whose cell may be an array element).  Between two states of one evaluation the relation
  `Trans h h'` holds: the heap only grows, a cell holding a plain value keeps holding plain values,
  and no cell that existed in `h` becomes an array element in `h'` unless it was one in `h`.

  Second half, the program logic every `HeapInv*` file works with: `Post R h r` (what holds of a
  result `r` relative to a base heap `h`), `HT P m R` (Hoare triple: `Inv` and `P` before, `Post`
  after), `Good m` (`HT` without pre- and postcondition), the rule `HT.handle` with `HT.bind` and
  `Good.bind`/`Good.handle` as its instances, and the rules of the primitives.  The state-level
  forms used inside the long cases of the induction (`Post.bind'`, `Post.of_good`, `*_ht`) are at
  the head of `HeapInvEval.lean`; `Good.okInv`/`sigInv` (HeapInvNest) and `Good.postI`
  (HeapInvDriver) read a `Good` off at one state.
-/
import Jqawk.Lemmas.IndexWrite
import Jqawk.Lemmas.EvalSteps


namespace Jqawk.HeapInv
open Jqawk Jqawk.IndexWrite

def MembersPlain (h : Heap) : Prop := ∀ o k c, (k, c) ∈ h.obj o → Plain (h.get c)

structure Inv (h : Heap) : Prop where
  wf : h.WF
  un : Unshared h
  ep : ElemsPlain h
  mp : MembersPlain h

/-- what holds in every end state, also after a runtime error -/
def Weak (h : Heap) : Prop := h.WF ∧ Unshared h

theorem Inv.weak {h : Heap} (i : Inv h) : Weak h := ⟨i.wf, i.un⟩

def NotElem (h : Heap) (c : CellId) : Prop := ∀ b, c ∉ (h.arr b).toList

structure Trans (h h' : Heap) : Prop where
  size : h.cells.size ≤ h'.cells.size
  plain : ∀ c : Nat, c < h.cells.size → Plain (h.get c) → Plain (h'.get c)
  elems : ∀ b (c : Nat), c ∈ (h'.arr b).toList → c < h.cells.size → ∃ b', c ∈ (h.arr b').toList

theorem Trans.refl (h : Heap) : Trans h h := ⟨Nat.le_refl _, fun _ _ p => p, fun b _ hc _ => ⟨b, hc⟩⟩

theorem Trans.trans {a b c : Heap} (h1 : Trans a b) (h2 : Trans b c) : Trans a c :=
  ⟨Nat.le_trans h1.size h2.size,
   fun d hd p => h2.plain d (Nat.lt_of_lt_of_le hd h1.size) (h1.plain d hd p),
   fun x d hd hlt => by
     obtain ⟨b', hb'⟩ := h2.elems x d hd (Nat.lt_of_lt_of_le hlt h1.size)
     exact h1.elems b' d hb' hlt⟩

theorem Trans.notElem {h h' : Heap} (t : Trans h h') {c : Nat} (hc : c < h.cells.size)
    (ne : NotElem h c) : NotElem h' c := fun b hb => by
  obtain ⟨b', hb'⟩ := t.elems b c hb hc
  exact ne b' hb'

theorem plain_unknown : Plain .unknown := ⟨rfl, fun _ _ _ h => by cases h⟩
theorem plain_nilNone : Plain (.nil none) := ⟨rfl, fun _ _ _ h => by cases h⟩
theorem plain_num (x : F64) : Plain (.num x) := ⟨rfl, fun _ _ _ h => by cases h⟩
theorem plain_bool (x : Bool) : Plain (.bool x) := ⟨rfl, fun _ _ _ h => by cases h⟩
theorem plain_strNone (x : Bytes) : Plain (.str x none) := ⟨rfl, fun _ _ _ h => by cases h⟩
theorem plain_arr (x : ArrId) : Plain (.arr x) := ⟨rfl, fun _ _ _ h => by cases h⟩
theorem plain_obj (x : ObjId) : Plain (.obj x) := ⟨rfl, fun _ _ _ h => by cases h⟩

theorem inv_empty : Inv Heap.empty :=
  ⟨Heap.WF.empty,
   fun a b i j hi _ _ => by simp [Heap.empty, Heap.arr] at hi,
   fun a c hc => by simp [Heap.empty, Heap.arr] at hc,
   fun o k c hc => by simp [Heap.empty, Heap.obj] at hc⟩

theorem inv_alloc {h : Heap} (i : Inv h) (v : Val) : Inv (h.alloc v).2 :=
  ⟨wf_alloc h i.wf v, unshared_alloc h i.un v, elemsPlain_alloc h i.wf i.ep v,
   fun o k c hc => by
     have : (h.alloc v).2.get c = h.get c := Heap.get_push_old h v c (i.wf.objs o k c hc)
     rw [this]; exact i.mp o k c hc⟩

theorem trans_alloc (h : Heap) (v : Val) : Trans h (h.alloc v).2 :=
  ⟨by rw [Heap.size_alloc]; exact Nat.le_succ _,
   fun c hc p => by rw [Heap.get_alloc_old h v c hc]; exact p,
   fun b c hc _ => ⟨b, hc⟩⟩

theorem plain_get_set {h : Heap} {c d : Nat} {w : Val} (hw : Plain w) (hp : Plain (h.get c)) :
    Plain ((h.set d w).get c) := by
  rw [Heap.get_set]; split
  · exact hw
  · exact hp

theorem inv_set {h : Heap} (i : Inv h) (d : Nat) {w : Val} (hw : Plain w) : Inv (h.set d w) :=
  ⟨Heap.WF.set' i.wf d w, i.un,
   fun a c hc => plain_get_set hw (i.ep a c hc),
   fun o k c hc => plain_get_set hw (i.mp o k c hc)⟩

theorem inv_set_notElem {h : Heap} (i : Inv h) (d : Nat) (w : Val) (ne : NotElem h d)
    (nm : ∀ o k, (k, d) ∉ h.obj o) : Inv (h.set d w) :=
  ⟨Heap.WF.set' i.wf d w, i.un,
   fun a c hc => by
     rw [Heap.get_set]; split
     · next e => exact absurd (e.1 ▸ hc) (ne a)
     · exact i.ep a c hc,
   fun o k c hc => by
     rw [Heap.get_set]; split
     · next e => exact absurd (e.1 ▸ hc) (nm o k)
     · exact i.mp o k c hc⟩

theorem trans_set (h : Heap) (d : Nat) {w : Val} (hw : Plain w) : Trans h (h.set d w) :=
  ⟨by rw [Heap.size_set]; exact Nat.le_refl _,
   fun c _ p => plain_get_set hw p,
   fun b c hc _ => ⟨b, hc⟩⟩

theorem set_set (h : Heap) (d : Nat) (v w : Val) : (h.set d v).set d w = h.set d w := by
  simp [Heap.set, Array.setIfInBounds_setIfInBounds]

theorem weak_set {h : Heap} (k : Weak h) (d : Nat) (w : Val) : Weak (h.set d w) :=
  ⟨Heap.WF.set' k.1 d w, k.2⟩

theorem weak_of_set {h : Heap} {d : Nat} {w : Val} (k : Weak (h.set d w)) : Weak h :=
  ⟨⟨fun a c hc => by have := k.1.arrs a c hc; rwa [Heap.size_set] at this,
    fun o x c hc => by have := k.1.objs o x c hc; rwa [Heap.size_set] at this⟩, k.2⟩

theorem getD_mem_of_lt (xs : Array CellId) (i : Nat) (hi : i < xs.size) : xs.getD i 0 ∈ xs.toList := by
  simp only [Array.getD_eq_getD_getElem?, Array.getElem?_eq_getElem hi, Option.getD_some]
  exact Array.mem_toList_iff.mpr (Array.getElem_mem hi)

theorem inv_allocArr {h : Heap} (i : Inv h) (cells : List CellId) (nd : cells.Nodup)
    (hc : ∀ c ∈ cells, c < h.cells.size ∧ Plain (h.get c) ∧ NotElem h c) :
    Inv (h.allocArr cells.toArray).2 := by
  have hget : ∀ c, (h.allocArr cells.toArray).2.get c = h.get c := fun _ => rfl
  have hobj : ∀ o, (h.allocArr cells.toArray).2.obj o = h.obj o := fun _ => rfl
  have hsz : (h.allocArr cells.toArray).2.cells.size = h.cells.size := rfl
  refine ⟨⟨?_, ?_⟩, ?_, ?_, ?_⟩
  · intro a c hca
    by_cases ha : a = h.arrs.size
    · subst ha; rw [Heap.arr_allocArr_new] at hca
      exact (hc c (by simpa using hca)).1
    · rw [Heap.arr_allocArr_old h _ a ha] at hca; exact i.wf.arrs a c hca
  · intro o k c hco; exact i.wf.objs o k c hco
  · intro a b x y hx hy e
    by_cases ha : a = h.arrs.size <;> by_cases hb : b = h.arrs.size
    · subst ha; subst hb
      refine ⟨rfl, ?_⟩
      rw [Heap.arr_allocArr_new] at hx hy e
      have hx' : x < cells.length := by simpa using hx
      have hy' : y < cells.length := by simpa using hy
      simp only [Array.getD_eq_getD_getElem?, List.getElem?_toArray, List.getElem?_eq_getElem hx',
        List.getElem?_eq_getElem hy', Option.getD_some] at e
      exact (List.getElem_inj nd).mp e
    · subst ha
      rw [Heap.arr_allocArr_new] at hx e
      rw [Heap.arr_allocArr_old h _ b hb] at hy e
      have m1 : cells.toArray.getD x 0 ∈ cells := by
        have := getD_mem_of_lt cells.toArray x hx; simpa using this
      rw [e] at m1
      exact absurd (getD_mem_of_lt _ y hy) ((hc _ m1).2.2 b)
    · subst hb
      rw [Heap.arr_allocArr_new] at hy e
      rw [Heap.arr_allocArr_old h _ a ha] at hx e
      have m1 : cells.toArray.getD y 0 ∈ cells := by
        have := getD_mem_of_lt cells.toArray y hy; simpa using this
      rw [← e] at m1
      exact absurd (getD_mem_of_lt _ x hx) ((hc _ m1).2.2 a)
    · rw [Heap.arr_allocArr_old h _ a ha] at hx e
      rw [Heap.arr_allocArr_old h _ b hb] at hy e
      exact i.un a b x y hx hy e
  · intro a c hca
    rw [hget]
    by_cases ha : a = h.arrs.size
    · subst ha; rw [Heap.arr_allocArr_new] at hca
      exact (hc c (by simpa using hca)).2.1
    · rw [Heap.arr_allocArr_old h _ a ha] at hca; exact i.ep a c hca
  · intro o k c hco; rw [hget]; exact i.mp o k c hco

/-- relative to an earlier heap `h0` in which none of the cells existed -/
theorem trans_allocArr {h0 h : Heap} (t : Trans h0 h) (cells : List CellId)
    (hc : ∀ c ∈ cells, h0.cells.size ≤ c) : Trans h0 (h.allocArr cells.toArray).2 :=
  ⟨t.size, t.plain, fun b c hcb hlt => by
    by_cases hb : b = h.arrs.size
    · subst hb; rw [Heap.arr_allocArr_new] at hcb
      have := hc c (by simpa using hcb)
      exact absurd hlt (Nat.not_lt.mpr this)
    · rw [Heap.arr_allocArr_old h _ b hb] at hcb; exact t.elems b c hcb hlt⟩

theorem inv_allocObj {h : Heap} (i : Inv h) (m : List (Bytes × CellId))
    (hm : ∀ kc ∈ m, kc.2 < h.cells.size ∧ Plain (h.get kc.2)) : Inv (h.allocObj m).2 := by
  refine ⟨⟨fun a c hc => i.wf.arrs a c hc, ?_⟩, i.un, i.ep, ?_⟩
  · intro o k c hc
    by_cases ho : o = h.objs.size
    · subst ho; rw [Heap.obj_allocObj_new] at hc; exact (hm _ hc).1
    · rw [Heap.obj_allocObj_old h m o ho] at hc; exact i.wf.objs o k c hc
  · intro o k c hc
    show Plain (h.get c)
    by_cases ho : o = h.objs.size
    · subst ho; rw [Heap.obj_allocObj_new] at hc; exact (hm _ hc).2
    · rw [Heap.obj_allocObj_old h m o ho] at hc; exact i.mp o k c hc

theorem trans_allocObj (h : Heap) (m : List (Bytes × CellId)) : Trans h (h.allocObj m).2 :=
  ⟨Nat.le_refl _, fun _ _ p => p, fun b _ hc _ => ⟨b, hc⟩⟩

/-- on a normal result or a control signal (break/continue/return/next/exit — evaluation goes on
    after these) the invariant holds again and the state is `Trans`-related to the start; after a
    runtime error, panic or unmodelled construct (evaluation stops) only the weak invariant is
    claimed (`ElemsPlain` can fail there) -/
def Post {α : Type} (R : α → Heap → Prop) (h : Heap) : Res α → Prop
  | .ok a s' => Inv s'.heap ∧ Trans h s'.heap ∧ R a s'.heap
  | .err (.sig _) s' => Inv s'.heap ∧ Trans h s'.heap
  | .err _ s' => Weak s'.heap
  | .oof => True

def HT {α : Type} (P : Heap → Prop) (m : EM α) (R : Heap → α → Heap → Prop) : Prop :=
  ∀ s, Inv s.heap → P s.heap → Post (R s.heap) s.heap (m s)

def Good {α : Type} (m : EM α) : Prop := HT (fun _ => True) m (fun _ _ _ => True)

theorem Good.of_HT {α : Type} {m : EM α} {R : Heap → α → Heap → Prop}
    (h : HT (fun _ => True) m R) : Good m := by
  intro s i _
  have := h s i trivial
  cases hr : m s with
  | ok a s' => rw [hr] at this; exact ⟨this.1, this.2.1, trivial⟩
  | err e s' => rw [hr] at this; cases e <;> exact this
  | oof => trivial

theorem Post.mono {α : Type} {R R' : α → Heap → Prop} {h : Heap} {r : Res α}
    (hr : Post R h r) (imp : ∀ a h', Inv h' → Trans h h' → R a h' → R' a h') : Post R' h r := by
  cases r with
  | ok a s' => exact ⟨hr.1, hr.2.1, imp a _ hr.1 hr.2.1 hr.2.2⟩
  | err e s' => cases e <;> exact hr
  | oof => trivial

theorem Post.trans {α : Type} {R : α → Heap → Prop} {h h1 : Heap} {r : Res α} (t : Trans h h1)
    (hr : Post R h1 r) : Post R h r := by
  cases r with
  | ok a s' => exact ⟨hr.1, t.trans hr.2.1, hr.2.2⟩
  | err e s' =>
    cases e with
    | sig g => exact ⟨hr.1, t.trans hr.2⟩
    | runtime p m => exact hr
    | panic m => exact hr
    | unmodelled w => exact hr
  | oof => trivial

/-- a continuation is run from a state that satisfies the invariant and is `Trans`-related to the
    start; after a normal result the first computation's claim holds too -/
theorem HT.handle {α β : Type} {P : Heap → Prop} {m : EM α} {onOk : α → EM β}
    {onSig : Sig → Option (EM β)} {R1 : Heap → α → Heap → Prop} {R : Heap → β → Heap → Prop}
    (hm : HT P m R1)
    (hok : ∀ (s : St) (a : α) (s1 : St), Inv s.heap → P s.heap → Inv s1.heap → Trans s.heap s1.heap →
      R1 s.heap a s1.heap → Post (R s.heap) s.heap (onOk a s1))
    (hsig : ∀ g k, onSig g = some k → ∀ s s1 : St, Inv s.heap → P s.heap → Inv s1.heap →
      Trans s.heap s1.heap → Post (R s.heap) s.heap (k s1)) :
    HT P (Jqawk.handle m onOk onSig) R := by
  intro s i p
  unfold Jqawk.handle
  have h := hm s i p
  cases hr : m s with
  | ok a s1 => rw [hr] at h; exact hok s a s1 i p h.1 h.2.1 h.2.2
  | err e s1 =>
    rw [hr] at h
    cases e with
    | sig g =>
      dsimp only
      cases hg : onSig g with
      | some k => exact hsig g k hg s s1 i p h.1 h.2
      | none => exact h
    | runtime p m => exact h
    | panic m => exact h
    | unmodelled w => exact h
  | oof => trivial

theorem HT.bind {α β : Type} {P : Heap → Prop} {m : EM α} {f : α → EM β}
    {R1 : Heap → α → Heap → Prop} {R : Heap → β → Heap → Prop}
    (hm : HT P m R1)
    (hf : ∀ (s : St) (a : α) (s1 : St), Inv s.heap → P s.heap → Inv s1.heap → Trans s.heap s1.heap →
      R1 s.heap a s1.heap → Post (R s.heap) s.heap (f a s1)) :
    HT P (m >>= f) R := by
  rw [bind_eq_handle]
  exact HT.handle hm hf (fun _ _ hg => by cases hg)

namespace Good

theorem bind {α β : Type} {m : EM α} {f : α → EM β} (hm : Good m) (hf : ∀ a, Good (f a)) :
    Good (m >>= f) :=
  HT.bind hm (fun _ a s1 _ _ i1 t _ => Post.trans t (hf a s1 i1 trivial))

theorem handle {α β : Type} {m : EM α} {onOk : α → EM β} {onSig : Sig → Option (EM β)} (hm : Good m)
    (hok : ∀ a, Good (onOk a)) (hsig : ∀ g k, onSig g = some k → Good k) :
    Good (Jqawk.handle m onOk onSig) :=
  HT.handle hm (fun _ a s1 _ _ i1 t _ => Post.trans t (hok a s1 i1 trivial))
    (fun g k hg _ s1 _ _ i1 t => Post.trans t (hsig g k hg s1 i1 trivial))

theorem of_heap_eq {α : Type} (m : EM α)
    (h : ∀ s, match m s with
      | .ok _ s' => s'.heap = s.heap
      | .err _ s' => s'.heap = s.heap
      | .oof => True) : Good m := by
  intro s i _
  have := h s
  cases hr : m s with
  | ok a s' => rw [hr] at this; simp only at this; exact ⟨by rw [this]; exact i, by rw [this]; exact Trans.refl _, trivial⟩
  | err e s' =>
    rw [hr] at this; simp only at this
    cases e with
    | sig g => exact ⟨by rw [this]; exact i, by rw [this]; exact Trans.refl _⟩
    | runtime p m => show Weak s'.heap; rw [this]; exact i.weak
    | panic m => show Weak s'.heap; rw [this]; exact i.weak
    | unmodelled w => show Weak s'.heap; rw [this]; exact i.weak
  | oof => trivial

theorem pure {α : Type} (a : α) : Good (Pure.pure a : EM α) := of_heap_eq _ (fun _ => rfl)
theorem oof {α : Type} : Good (Jqawk.oof : EM α) := fun _ _ _ => trivial
theorem getSt : Good Jqawk.getSt := of_heap_eq _ (fun _ => rfl)
theorem getHeap : Good Jqawk.getHeap := of_heap_eq _ (fun _ => rfl)
theorem readCell (c : CellId) : Good (Jqawk.readCell c) := of_heap_eq _ (fun _ => rfl)
theorem throwSig {α : Type} (g : Sig) : Good (Jqawk.throwSig g : EM α) := of_heap_eq _ (fun _ => rfl)
theorem throwPanic {α : Type} (m : String) : Good (Jqawk.throwPanic m : EM α) := fun _ i _ => i.weak
theorem throwUnmodelled {α : Type} (m : String) : Good (Jqawk.throwUnmodelled m : EM α) :=
  fun _ i _ => i.weak
theorem throwRt {α : Type} (p : Nat) (m : String) : Good (Jqawk.throwRt p m : EM α) := fun _ i _ => i.weak
theorem liftExcept {α : Type} (p : Nat) (e : Except String α) : Good (Jqawk.liftExcept p e) := by
  cases e with
  | ok a => exact pure a
  | error m => exact throwRt p m
theorem emit (b : Bytes) : Good (Jqawk.emit b) := of_heap_eq _ (fun _ => rfl)
theorem setReturnVal (c : Option CellId) :
    Good (Jqawk.modifySt fun s => { s with returnVal := c }) := of_heap_eq _ (fun _ => rfl)

theorem newCell (v : Val) : Good (Jqawk.newCell v) :=
  fun _ i _ => ⟨inv_alloc i v, trans_alloc _ v, trivial⟩

theorem writeCell (c : CellId) (v : Val) (hv : Plain v) : Good (Jqawk.writeCell c v) :=
  fun _ i _ => ⟨inv_set i c hv, trans_set _ c hv, trivial⟩

theorem allocObjEmpty : Good (Jqawk.allocObjM []) :=
  fun s i _ => ⟨inv_allocObj i [] (fun _ h => by cases h), trans_allocObj _ _, trivial⟩

theorem allocArrEmpty : Good (Jqawk.allocArrM #[]) :=
  fun s i _ => ⟨inv_allocArr i [] List.nodup_nil (fun _ h => by cases h),
    trans_allocArr (Trans.refl _) [] (fun _ h => by cases h), trivial⟩

theorem setLocal (name : Bytes) (c : CellId) : Good (Jqawk.setLocal name c) := by
  apply of_heap_eq
  intro s
  unfold Jqawk.setLocal
  cases s.frames <;> rfl

end Good

end Jqawk.HeapInv
